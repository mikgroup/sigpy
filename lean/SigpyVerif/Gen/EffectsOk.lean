/- GENERATED by harness/translate/gen_c02.py from sigpy/{linop,prox,util,fourier,interp,conv,block,wavelet,thresh}.py and sigpy/mri/util.py — do not edit; regenerated on every check. -/

import SigpyVerif.Gen.Effects
import SigpyVerif.Lemmas.C02Check
namespace SigpyVerif.Gen.Effects
open SigpyVerif.C02

theorem prog_util__normalize_axes_chk : cleanWithSummary prog_util__normalize_axes summ_util__normalize_axes = true := (cleanWithSummary_eq_bits _ _).trans (by decide +kernel)

theorem prog_util__normalize_shape_chk : cleanWithSummary prog_util__normalize_shape summ_util__normalize_shape = true := (cleanWithSummary_eq_bits _ _).trans (by decide +kernel)

theorem prog_util__expand_shapes_chk : cleanWithSummary prog_util__expand_shapes summ_util__expand_shapes = true := (cleanWithSummary_eq_bits _ _).trans (by decide +kernel)

theorem prog_util__check_same_dtype_chk : cleanWithSummary prog_util__check_same_dtype summ_util__check_same_dtype = true := (cleanWithSummary_eq_bits _ _).trans (by decide +kernel)

theorem prog_util_prod_chk : cleanWithSummary prog_util_prod summ_util_prod = true := (cleanWithSummary_eq_bits _ _).trans (by decide +kernel)

theorem prog_util_vec_chk : cleanWithSummary prog_util_vec summ_util_vec = true := (cleanWithSummary_eq_bits _ _).trans (by decide +kernel)

theorem prog_util_split_chk : cleanWithSummary prog_util_split summ_util_split = true := (cleanWithSummary_eq_bits _ _).trans (by decide +kernel)

theorem prog_util_rss_chk : cleanWithSummary prog_util_rss summ_util_rss = true := (cleanWithSummary_eq_bits _ _).trans (by decide +kernel)

theorem prog_util_resize_chk : cleanWithSummary prog_util_resize summ_util_resize = true := (cleanWithSummary_eq_bits _ _).trans (by decide +kernel)

theorem prog_util_flip_chk : cleanWithSummary prog_util_flip summ_util_flip = true := (cleanWithSummary_eq_bits _ _).trans (by decide +kernel)

theorem prog_util_circshift_chk : cleanWithSummary prog_util_circshift summ_util_circshift = true := (cleanWithSummary_eq_bits _ _).trans (by decide +kernel)

theorem prog_util_downsample_chk : cleanWithSummary prog_util_downsample summ_util_downsample = true := (cleanWithSummary_eq_bits _ _).trans (by decide +kernel)

theorem prog_util_upsample_chk : cleanWithSummary prog_util_upsample summ_util_upsample = true := (cleanWithSummary_eq_bits _ _).trans (by decide +kernel)

theorem prog_util_dirac_chk : cleanWithSummary prog_util_dirac summ_util_dirac = true := (cleanWithSummary_eq_bits _ _).trans (by decide +kernel)

theorem prog_util_randn_chk : cleanWithSummary prog_util_randn summ_util_randn = true := (cleanWithSummary_eq_bits _ _).trans (by decide +kernel)

theorem prog_util_triang_chk : cleanWithSummary prog_util_triang summ_util_triang = true := (cleanWithSummary_eq_bits _ _).trans (by decide +kernel)

theorem prog_util_hanning_chk : cleanWithSummary prog_util_hanning summ_util_hanning = true := (cleanWithSummary_eq_bits _ _).trans (by decide +kernel)

theorem prog_util_leja_chk : cleanWithSummary prog_util_leja summ_util_leja = true := (cleanWithSummary_eq_bits _ _).trans (by decide +kernel)

theorem prog_fourier__fftc_chk : cleanWithSummary prog_fourier__fftc summ_fourier__fftc = true := (cleanWithSummary_eq_bits _ _).trans (by decide +kernel)

theorem prog_fourier_fft_chk : cleanWithSummary prog_fourier_fft summ_fourier_fft = true := (cleanWithSummary_eq_bits _ _).trans (by decide +kernel)

theorem prog_fourier__ifftc_chk : cleanWithSummary prog_fourier__ifftc summ_fourier__ifftc = true := (cleanWithSummary_eq_bits _ _).trans (by decide +kernel)

theorem prog_fourier_ifft_chk : cleanWithSummary prog_fourier_ifft summ_fourier_ifft = true := (cleanWithSummary_eq_bits _ _).trans (by decide +kernel)

theorem prog_fourier__get_oversamp_shape_chk : cleanWithSummary prog_fourier__get_oversamp_shape summ_fourier__get_oversamp_shape = true := (cleanWithSummary_eq_bits _ _).trans (by decide +kernel)

theorem prog_fourier__scale_coord_chk : cleanWithSummary prog_fourier__scale_coord summ_fourier__scale_coord = true := (cleanWithSummary_eq_bits _ _).trans (by decide +kernel)

theorem prog_interp_interpolate_chk : cleanWithSummary prog_interp_interpolate summ_interp_interpolate = true := (cleanWithSummary_eq_bits _ _).trans (by decide +kernel)

theorem prog_fourier_nufft_chk : cleanWithSummary prog_fourier_nufft summ_fourier_nufft = true := (cleanWithSummary_eq_bits _ _).trans (by decide +kernel)

theorem prog_fourier_estimate_shape_chk : cleanWithSummary prog_fourier_estimate_shape summ_fourier_estimate_shape = true := (cleanWithSummary_eq_bits _ _).trans (by decide +kernel)

theorem prog_interp_gridding_chk : cleanWithSummary prog_interp_gridding summ_interp_gridding = true := (cleanWithSummary_eq_bits _ _).trans (by decide +kernel)

theorem prog_fourier_nufft_adjoint_chk : cleanWithSummary prog_fourier_nufft_adjoint summ_fourier_nufft_adjoint = true := (cleanWithSummary_eq_bits _ _).trans (by decide +kernel)

theorem prog_fourier_toeplitz_psf_chk : cleanWithSummary prog_fourier_toeplitz_psf summ_fourier_toeplitz_psf = true := (cleanWithSummary_eq_bits _ _).trans (by decide +kernel)

theorem prog_conv__get_convolve_params_chk : cleanWithSummary prog_conv__get_convolve_params summ_conv__get_convolve_params = true := (cleanWithSummary_eq_bits _ _).trans (by decide +kernel)

theorem prog_conv__convolve_chk : cleanWithSummary prog_conv__convolve summ_conv__convolve = true := (cleanWithSummary_eq_bits _ _).trans (by decide +kernel)

theorem prog_conv_convolve_chk : cleanWithSummary prog_conv_convolve summ_conv_convolve = true := (cleanWithSummary_eq_bits _ _).trans (by decide +kernel)

theorem prog_conv__convolve_data_adjoint_chk : cleanWithSummary prog_conv__convolve_data_adjoint summ_conv__convolve_data_adjoint = true := (cleanWithSummary_eq_bits _ _).trans (by decide +kernel)

theorem prog_conv_convolve_data_adjoint_chk : cleanWithSummary prog_conv_convolve_data_adjoint summ_conv_convolve_data_adjoint = true := (cleanWithSummary_eq_bits _ _).trans (by decide +kernel)

theorem prog_conv__convolve_filter_adjoint_chk : cleanWithSummary prog_conv__convolve_filter_adjoint summ_conv__convolve_filter_adjoint = true := (cleanWithSummary_eq_bits _ _).trans (by decide +kernel)

theorem prog_conv_convolve_filter_adjoint_chk : cleanWithSummary prog_conv_convolve_filter_adjoint summ_conv_convolve_filter_adjoint = true := (cleanWithSummary_eq_bits _ _).trans (by decide +kernel)

theorem prog_block_array_to_blocks_chk : cleanWithSummary prog_block_array_to_blocks summ_block_array_to_blocks = true := (cleanWithSummary_eq_bits _ _).trans (by decide +kernel)

theorem prog_block_blocks_to_array_chk : cleanWithSummary prog_block_blocks_to_array summ_block_blocks_to_array = true := (cleanWithSummary_eq_bits _ _).trans (by decide +kernel)

theorem prog_wavelet_get_wavelet_shape_chk : cleanWithSummary prog_wavelet_get_wavelet_shape summ_wavelet_get_wavelet_shape = true := (cleanWithSummary_eq_bits _ _).trans (by decide +kernel)

theorem prog_wavelet_fwt_chk : cleanWithSummary prog_wavelet_fwt summ_wavelet_fwt = true := (cleanWithSummary_eq_bits _ _).trans (by decide +kernel)

theorem prog_wavelet_iwt_chk : cleanWithSummary prog_wavelet_iwt summ_wavelet_iwt = true := (cleanWithSummary_eq_bits _ _).trans (by decide +kernel)

theorem prog_thresh_soft_thresh_chk : cleanWithSummary prog_thresh_soft_thresh summ_thresh_soft_thresh = true := (cleanWithSummary_eq_bits _ _).trans (by decide +kernel)

theorem prog_thresh_hard_thresh_chk : cleanWithSummary prog_thresh_hard_thresh summ_thresh_hard_thresh = true := (cleanWithSummary_eq_bits _ _).trans (by decide +kernel)

theorem prog_thresh_l1_proj_chk : cleanWithSummary prog_thresh_l1_proj summ_thresh_l1_proj = true := (cleanWithSummary_eq_bits _ _).trans (by decide +kernel)

theorem prog_thresh_l2_proj_chk : cleanWithSummary prog_thresh_l2_proj summ_thresh_l2_proj = true := (cleanWithSummary_eq_bits _ _).trans (by decide +kernel)

theorem prog_thresh_linf_proj_chk : cleanWithSummary prog_thresh_linf_proj summ_thresh_linf_proj = true := (cleanWithSummary_eq_bits _ _).trans (by decide +kernel)

theorem prog_thresh_psd_proj_chk : cleanWithSummary prog_thresh_psd_proj summ_thresh_psd_proj = true := (cleanWithSummary_eq_bits _ _).trans (by decide +kernel)

theorem prog_mri_util_get_cov_chk : cleanWithSummary prog_mri_util_get_cov summ_mri_util_get_cov = true := (cleanWithSummary_eq_bits _ _).trans (by decide +kernel)

theorem prog_mri_util_whiten_chk : cleanWithSummary prog_mri_util_whiten summ_mri_util_whiten = true := (cleanWithSummary_eq_bits _ _).trans (by decide +kernel)

theorem prog_mri_util_tseg_off_res_b_ct_chk : cleanWithSummary prog_mri_util_tseg_off_res_b_ct summ_mri_util_tseg_off_res_b_ct = true := (cleanWithSummary_eq_bits _ _).trans (by decide +kernel)

theorem prog_mri_util_apply_tseg_chk : cleanWithSummary prog_mri_util_apply_tseg summ_mri_util_apply_tseg = true := (cleanWithSummary_eq_bits _ _).trans (by decide +kernel)

theorem prog_mri_app__estimate_weights_chk : cleanWithSummary prog_mri_app__estimate_weights summ_mri_app__estimate_weights = true := (cleanWithSummary_eq_bits _ _).trans (by decide +kernel)

theorem prog_util__normalize_axes_ok : noMutation prog_util__normalize_axes = true := (cleanWithSummary_iff.mp prog_util__normalize_axes_chk).1

theorem prog_util__normalize_shape_ok : noMutation prog_util__normalize_shape = true := (cleanWithSummary_iff.mp prog_util__normalize_shape_chk).1

theorem prog_util__expand_shapes_ok : noMutation prog_util__expand_shapes = true := (cleanWithSummary_iff.mp prog_util__expand_shapes_chk).1

theorem prog_util__check_same_dtype_ok : noMutation prog_util__check_same_dtype = true := (cleanWithSummary_iff.mp prog_util__check_same_dtype_chk).1

theorem prog_util_prod_ok : noMutation prog_util_prod = true := (cleanWithSummary_iff.mp prog_util_prod_chk).1

theorem prog_util_vec_ok : noMutation prog_util_vec = true := (cleanWithSummary_iff.mp prog_util_vec_chk).1

theorem prog_util_split_ok : noMutation prog_util_split = true := (cleanWithSummary_iff.mp prog_util_split_chk).1

theorem prog_util_rss_ok : noMutation prog_util_rss = true := (cleanWithSummary_iff.mp prog_util_rss_chk).1

theorem prog_util_resize_ok : noMutation prog_util_resize = true := (cleanWithSummary_iff.mp prog_util_resize_chk).1

theorem prog_util_flip_ok : noMutation prog_util_flip = true := (cleanWithSummary_iff.mp prog_util_flip_chk).1

theorem prog_util_circshift_ok : noMutation prog_util_circshift = true := (cleanWithSummary_iff.mp prog_util_circshift_chk).1

theorem prog_util_downsample_ok : noMutation prog_util_downsample = true := (cleanWithSummary_iff.mp prog_util_downsample_chk).1

theorem prog_util_upsample_ok : noMutation prog_util_upsample = true := (cleanWithSummary_iff.mp prog_util_upsample_chk).1

theorem prog_util_dirac_ok : noMutation prog_util_dirac = true := (cleanWithSummary_iff.mp prog_util_dirac_chk).1

theorem prog_util_randn_ok : noMutation prog_util_randn = true := (cleanWithSummary_iff.mp prog_util_randn_chk).1

theorem prog_util_triang_ok : noMutation prog_util_triang = true := (cleanWithSummary_iff.mp prog_util_triang_chk).1

theorem prog_util_hanning_ok : noMutation prog_util_hanning = true := (cleanWithSummary_iff.mp prog_util_hanning_chk).1

theorem prog_util_leja_ok : noMutation prog_util_leja = true := (cleanWithSummary_iff.mp prog_util_leja_chk).1

theorem prog_fourier__fftc_ok : noMutation prog_fourier__fftc = true := (cleanWithSummary_iff.mp prog_fourier__fftc_chk).1

theorem prog_fourier_fft_ok : noMutation prog_fourier_fft = true := (cleanWithSummary_iff.mp prog_fourier_fft_chk).1

theorem prog_fourier__ifftc_ok : noMutation prog_fourier__ifftc = true := (cleanWithSummary_iff.mp prog_fourier__ifftc_chk).1

theorem prog_fourier_ifft_ok : noMutation prog_fourier_ifft = true := (cleanWithSummary_iff.mp prog_fourier_ifft_chk).1

theorem prog_fourier__get_oversamp_shape_ok : noMutation prog_fourier__get_oversamp_shape = true := (cleanWithSummary_iff.mp prog_fourier__get_oversamp_shape_chk).1

theorem prog_fourier__scale_coord_ok : noMutation prog_fourier__scale_coord = true := (cleanWithSummary_iff.mp prog_fourier__scale_coord_chk).1

theorem prog_interp_interpolate_ok : noMutation prog_interp_interpolate = true := (cleanWithSummary_iff.mp prog_interp_interpolate_chk).1

theorem prog_fourier_nufft_ok : noMutation prog_fourier_nufft = true := (cleanWithSummary_iff.mp prog_fourier_nufft_chk).1

theorem prog_fourier_estimate_shape_ok : noMutation prog_fourier_estimate_shape = true := (cleanWithSummary_iff.mp prog_fourier_estimate_shape_chk).1

theorem prog_interp_gridding_ok : noMutation prog_interp_gridding = true := (cleanWithSummary_iff.mp prog_interp_gridding_chk).1

theorem prog_fourier_nufft_adjoint_ok : noMutation prog_fourier_nufft_adjoint = true := (cleanWithSummary_iff.mp prog_fourier_nufft_adjoint_chk).1

theorem prog_fourier_toeplitz_psf_ok : noMutation prog_fourier_toeplitz_psf = true := (cleanWithSummary_iff.mp prog_fourier_toeplitz_psf_chk).1

theorem prog_conv__get_convolve_params_ok : noMutation prog_conv__get_convolve_params = true := (cleanWithSummary_iff.mp prog_conv__get_convolve_params_chk).1

theorem prog_conv__convolve_ok : noMutation prog_conv__convolve = true := (cleanWithSummary_iff.mp prog_conv__convolve_chk).1

theorem prog_conv_convolve_ok : noMutation prog_conv_convolve = true := (cleanWithSummary_iff.mp prog_conv_convolve_chk).1

theorem prog_conv__convolve_data_adjoint_ok : noMutation prog_conv__convolve_data_adjoint = true := (cleanWithSummary_iff.mp prog_conv__convolve_data_adjoint_chk).1

theorem prog_conv_convolve_data_adjoint_ok : noMutation prog_conv_convolve_data_adjoint = true := (cleanWithSummary_iff.mp prog_conv_convolve_data_adjoint_chk).1

theorem prog_conv__convolve_filter_adjoint_ok : noMutation prog_conv__convolve_filter_adjoint = true := (cleanWithSummary_iff.mp prog_conv__convolve_filter_adjoint_chk).1

theorem prog_conv_convolve_filter_adjoint_ok : noMutation prog_conv_convolve_filter_adjoint = true := (cleanWithSummary_iff.mp prog_conv_convolve_filter_adjoint_chk).1

theorem prog_block_array_to_blocks_ok : noMutation prog_block_array_to_blocks = true := (cleanWithSummary_iff.mp prog_block_array_to_blocks_chk).1

theorem prog_block_blocks_to_array_ok : noMutation prog_block_blocks_to_array = true := (cleanWithSummary_iff.mp prog_block_blocks_to_array_chk).1

theorem prog_wavelet_get_wavelet_shape_ok : noMutation prog_wavelet_get_wavelet_shape = true := (cleanWithSummary_iff.mp prog_wavelet_get_wavelet_shape_chk).1

theorem prog_wavelet_fwt_ok : noMutation prog_wavelet_fwt = true := (cleanWithSummary_iff.mp prog_wavelet_fwt_chk).1

theorem prog_wavelet_iwt_ok : noMutation prog_wavelet_iwt = true := (cleanWithSummary_iff.mp prog_wavelet_iwt_chk).1

theorem prog_thresh_soft_thresh_ok : noMutation prog_thresh_soft_thresh = true := (cleanWithSummary_iff.mp prog_thresh_soft_thresh_chk).1

theorem prog_thresh_hard_thresh_ok : noMutation prog_thresh_hard_thresh = true := (cleanWithSummary_iff.mp prog_thresh_hard_thresh_chk).1

theorem prog_thresh_l1_proj_ok : noMutation prog_thresh_l1_proj = true := (cleanWithSummary_iff.mp prog_thresh_l1_proj_chk).1

theorem prog_thresh_l2_proj_ok : noMutation prog_thresh_l2_proj = true := (cleanWithSummary_iff.mp prog_thresh_l2_proj_chk).1

theorem prog_thresh_linf_proj_ok : noMutation prog_thresh_linf_proj = true := (cleanWithSummary_iff.mp prog_thresh_linf_proj_chk).1

theorem prog_thresh_psd_proj_ok : noMutation prog_thresh_psd_proj = true := (cleanWithSummary_iff.mp prog_thresh_psd_proj_chk).1

theorem prog_mri_util_get_cov_ok : noMutation prog_mri_util_get_cov = true := (cleanWithSummary_iff.mp prog_mri_util_get_cov_chk).1

theorem prog_mri_util_whiten_ok : noMutation prog_mri_util_whiten = true := (cleanWithSummary_iff.mp prog_mri_util_whiten_chk).1

theorem prog_mri_util_tseg_off_res_b_ct_ok : noMutation prog_mri_util_tseg_off_res_b_ct = true := (cleanWithSummary_iff.mp prog_mri_util_tseg_off_res_b_ct_chk).1

theorem prog_mri_util_apply_tseg_ok : noMutation prog_mri_util_apply_tseg = true := (cleanWithSummary_iff.mp prog_mri_util_apply_tseg_chk).1

theorem prog_linop_Linop_apply_ok : noMutation prog_linop_Linop_apply = true := (noMutation_eq_bits _).trans (by decide +kernel)

theorem prog_linop_Identity__apply_ok : noMutation prog_linop_Identity__apply = true := (noMutation_eq_bits _).trans (by decide +kernel)

theorem prog_linop_ToDevice__apply_ok : noMutation prog_linop_ToDevice__apply = true := (noMutation_eq_bits _).trans (by decide +kernel)

theorem prog_linop_AllReduceAdjoint__apply_ok : noMutation prog_linop_AllReduceAdjoint__apply = true := (noMutation_eq_bits _).trans (by decide +kernel)

theorem prog_linop_Conj__apply_ok : noMutation prog_linop_Conj__apply = true := (noMutation_eq_bits _).trans (by decide +kernel)

theorem prog_linop_Add__apply_ok : noMutation prog_linop_Add__apply = true := (noMutation_eq_bits _).trans (by decide +kernel)

theorem prog_linop_Compose__apply_ok : noMutation prog_linop_Compose__apply = true := (noMutation_eq_bits _).trans (by decide +kernel)

theorem prog_linop_Hstack__apply_ok : noMutation prog_linop_Hstack__apply = true := (noMutation_eq_bits _).trans (by decide +kernel)

theorem prog_linop_Vstack__apply_ok : noMutation prog_linop_Vstack__apply = true := (noMutation_eq_bits _).trans (by decide +kernel)

theorem prog_linop_Diag__apply_ok : noMutation prog_linop_Diag__apply = true := (noMutation_eq_bits _).trans (by decide +kernel)

theorem prog_linop_Reshape__apply_ok : noMutation prog_linop_Reshape__apply = true := (noMutation_eq_bits _).trans (by decide +kernel)

theorem prog_linop_Transpose__apply_ok : noMutation prog_linop_Transpose__apply = true := (noMutation_eq_bits _).trans (by decide +kernel)

theorem prog_linop_FFT__apply_ok : noMutation prog_linop_FFT__apply = true := (noMutation_eq_bits _).trans (by decide +kernel)

theorem prog_linop_IFFT__apply_ok : noMutation prog_linop_IFFT__apply = true := (noMutation_eq_bits _).trans (by decide +kernel)

theorem prog_linop_MatMul__apply_ok : noMutation prog_linop_MatMul__apply = true := (noMutation_eq_bits _).trans (by decide +kernel)

theorem prog_linop_RightMatMul__apply_ok : noMutation prog_linop_RightMatMul__apply = true := (noMutation_eq_bits _).trans (by decide +kernel)

theorem prog_linop_Multiply__apply_ok : noMutation prog_linop_Multiply__apply = true := (noMutation_eq_bits _).trans (by decide +kernel)

theorem prog_linop_Interpolate__apply_ok : noMutation prog_linop_Interpolate__apply = true := (noMutation_eq_bits _).trans (by decide +kernel)

theorem prog_linop_Gridding__apply_ok : noMutation prog_linop_Gridding__apply = true := (noMutation_eq_bits _).trans (by decide +kernel)

theorem prog_linop_Resize__apply_ok : noMutation prog_linop_Resize__apply = true := (noMutation_eq_bits _).trans (by decide +kernel)

theorem prog_linop_Flip__apply_ok : noMutation prog_linop_Flip__apply = true := (noMutation_eq_bits _).trans (by decide +kernel)

theorem prog_linop_Downsample__apply_ok : noMutation prog_linop_Downsample__apply = true := (noMutation_eq_bits _).trans (by decide +kernel)

theorem prog_linop_Upsample__apply_ok : noMutation prog_linop_Upsample__apply = true := (noMutation_eq_bits _).trans (by decide +kernel)

theorem prog_linop_Circshift__apply_ok : noMutation prog_linop_Circshift__apply = true := (noMutation_eq_bits _).trans (by decide +kernel)

theorem prog_linop_Wavelet__apply_ok : noMutation prog_linop_Wavelet__apply = true := (noMutation_eq_bits _).trans (by decide +kernel)

theorem prog_linop_InverseWavelet__apply_ok : noMutation prog_linop_InverseWavelet__apply = true := (noMutation_eq_bits _).trans (by decide +kernel)

theorem prog_linop_Sum__apply_ok : noMutation prog_linop_Sum__apply = true := (noMutation_eq_bits _).trans (by decide +kernel)

theorem prog_linop_Tile__apply_ok : noMutation prog_linop_Tile__apply = true := (noMutation_eq_bits _).trans (by decide +kernel)

theorem prog_linop_ArrayToBlocks__apply_ok : noMutation prog_linop_ArrayToBlocks__apply = true := (noMutation_eq_bits _).trans (by decide +kernel)

theorem prog_linop_BlocksToArray__apply_ok : noMutation prog_linop_BlocksToArray__apply = true := (noMutation_eq_bits _).trans (by decide +kernel)

theorem prog_linop_NUFFT__apply_ok : noMutation prog_linop_NUFFT__apply = true := (noMutation_eq_bits _).trans (by decide +kernel)

theorem prog_linop_NUFFTAdjoint__apply_ok : noMutation prog_linop_NUFFTAdjoint__apply = true := (noMutation_eq_bits _).trans (by decide +kernel)

theorem prog_linop_ConvolveData__apply_ok : noMutation prog_linop_ConvolveData__apply = true := (noMutation_eq_bits _).trans (by decide +kernel)

theorem prog_linop_ConvolveDataAdjoint__apply_ok : noMutation prog_linop_ConvolveDataAdjoint__apply = true := (noMutation_eq_bits _).trans (by decide +kernel)

theorem prog_linop_ConvolveFilter__apply_ok : noMutation prog_linop_ConvolveFilter__apply = true := (noMutation_eq_bits _).trans (by decide +kernel)

theorem prog_linop_ConvolveFilterAdjoint__apply_ok : noMutation prog_linop_ConvolveFilterAdjoint__apply = true := (noMutation_eq_bits _).trans (by decide +kernel)

theorem prog_linop_Slice__apply_ok : noMutation prog_linop_Slice__apply = true := (noMutation_eq_bits _).trans (by decide +kernel)

theorem prog_linop_Embed__apply_ok : noMutation prog_linop_Embed__apply = true := (noMutation_eq_bits _).trans (by decide +kernel)

theorem prog_prox_Prox___call___ok : noMutation prog_prox_Prox___call__ = true := (noMutation_eq_bits _).trans (by decide +kernel)

theorem prog_prox_Conj__prox_ok : noMutation prog_prox_Conj__prox = true := (noMutation_eq_bits _).trans (by decide +kernel)

theorem prog_prox_NoOp__prox_ok : noMutation prog_prox_NoOp__prox = true := (noMutation_eq_bits _).trans (by decide +kernel)

theorem prog_prox_Stack__prox_ok : noMutation prog_prox_Stack__prox = true := (noMutation_eq_bits _).trans (by decide +kernel)

theorem prog_prox_UnitaryTransform__prox_ok : noMutation prog_prox_UnitaryTransform__prox = true := (noMutation_eq_bits _).trans (by decide +kernel)

theorem prog_prox_L2Reg__prox_ok : noMutation prog_prox_L2Reg__prox = true := (noMutation_eq_bits _).trans (by decide +kernel)

theorem prog_prox_L2Proj__prox_ok : noMutation prog_prox_L2Proj__prox = true := (noMutation_eq_bits _).trans (by decide +kernel)

theorem prog_prox_LInfProj__prox_ok : noMutation prog_prox_LInfProj__prox = true := (noMutation_eq_bits _).trans (by decide +kernel)

theorem prog_prox_PsdProj__prox_ok : noMutation prog_prox_PsdProj__prox = true := (noMutation_eq_bits _).trans (by decide +kernel)

theorem prog_prox_L1Reg__prox_ok : noMutation prog_prox_L1Reg__prox = true := (noMutation_eq_bits _).trans (by decide +kernel)

theorem prog_prox_L1Proj__prox_ok : noMutation prog_prox_L1Proj__prox = true := (noMutation_eq_bits _).trans (by decide +kernel)

theorem prog_prox_BoxConstraint__prox_ok : noMutation prog_prox_BoxConstraint__prox = true := (noMutation_eq_bits _).trans (by decide +kernel)

/-- `app.LinearLeastSquares._get_ConjugateGradient` writes only fresh arrays, the object itself and: self.x -/
theorem prog_app_LinearLeastSquares__get_ConjugateGradient_ok : writesOnly prog_app_LinearLeastSquares__get_ConjugateGradient [.captured 0, .captured 5] = true := (writesOnly_eq_bits _ _).trans (by decide +kernel)

/-- `app.LinearLeastSquares._get_GradientMethod` writes only fresh arrays, the object itself and: self.x -/
theorem prog_app_LinearLeastSquares__get_GradientMethod_ok : writesOnly prog_app_LinearLeastSquares__get_GradientMethod [.captured 0, .captured 4] = true := (writesOnly_eq_bits _ _).trans (by decide +kernel)

/-- `app.LinearLeastSquares._get_GradientMethod.gradf` writes only fresh arrays, the object itself and: self.x -/
theorem prog_app_LinearLeastSquares__get_GradientMethod_gradf_ok : writesOnly prog_app_LinearLeastSquares__get_GradientMethod_gradf [.captured 0, .captured 4] = true := (writesOnly_eq_bits _ _).trans (by decide +kernel)

/-- `app.LinearLeastSquares._get_PrimalDualHybridGradient` writes only fresh arrays, the object itself and: self.x -/
theorem prog_app_LinearLeastSquares__get_PrimalDualHybridGradient_ok : writesOnly prog_app_LinearLeastSquares__get_PrimalDualHybridGradient [.captured 0, .captured 6] = true := (writesOnly_eq_bits _ _).trans (by decide +kernel)

/-- `app.LinearLeastSquares._get_ADMM` writes only fresh arrays, the object itself and: self.x -/
theorem prog_app_LinearLeastSquares__get_ADMM_ok : writesOnly prog_app_LinearLeastSquares__get_ADMM [.captured 0, .captured 4] = true := (writesOnly_eq_bits _ _).trans (by decide +kernel)

/-- `app.LinearLeastSquares._get_ADMM.minL_x` writes only fresh arrays, the object itself and: self.x -/
theorem prog_app_LinearLeastSquares__get_ADMM_minL_x_ok : writesOnly prog_app_LinearLeastSquares__get_ADMM_minL_x [.captured 0, .captured 4] = true := (writesOnly_eq_bits _ _).trans (by decide +kernel)

/-- `app.LinearLeastSquares._get_ADMM.minL_v` writes only fresh arrays, the object itself and: self.x -/
theorem prog_app_LinearLeastSquares__get_ADMM_minL_v_ok : writesOnly prog_app_LinearLeastSquares__get_ADMM_minL_v [.captured 0, .captured 4] = true := (writesOnly_eq_bits _ _).trans (by decide +kernel)

/-- `app.LinearLeastSquares.objective` writes only fresh arrays, the object itself and: self.x -/
theorem prog_app_LinearLeastSquares_objective_ok : writesOnly prog_app_LinearLeastSquares_objective [.captured 0, .captured 6] = true := (writesOnly_eq_bits _ _).trans (by decide +kernel)

theorem prog_mri_app__estimate_weights_ok : noMutation prog_mri_app__estimate_weights = true := (cleanWithSummary_iff.mp prog_mri_app__estimate_weights_chk).1

/-- `mri.app.SenseRecon.__init__` writes only fresh arrays, the object itself and: **kwargs -/
theorem prog_mri_app_SenseRecon___init___ok : writesOnly prog_mri_app_SenseRecon___init__ [.captured 0, .param 11] = true := (writesOnly_eq_bits _ _).trans (by decide +kernel)

/-- `mri.app.L1WaveletRecon.__init__` writes only fresh arrays, the object itself and: **kwargs -/
theorem prog_mri_app_L1WaveletRecon___init___ok : writesOnly prog_mri_app_L1WaveletRecon___init__ [.captured 0, .param 11] = true := (writesOnly_eq_bits _ _).trans (by decide +kernel)

/-- `mri.app.L1WaveletRecon.__init__.g` writes only fresh arrays, the object itself and: **kwargs of the enclosing constructor -/
theorem prog_mri_app_L1WaveletRecon___init___g_ok : writesOnly prog_mri_app_L1WaveletRecon___init___g [.captured 0, .captured 12] = true := (writesOnly_eq_bits _ _).trans (by decide +kernel)

/-- `mri.app.TotalVariationRecon.__init__` writes only fresh arrays, the object itself and: **kwargs -/
theorem prog_mri_app_TotalVariationRecon___init___ok : writesOnly prog_mri_app_TotalVariationRecon___init__ [.captured 0, .param 10] = true := (writesOnly_eq_bits _ _).trans (by decide +kernel)

/-- `mri.app.TotalVariationRecon.__init__.g` writes only fresh arrays, the object itself and: **kwargs of the enclosing constructor -/
theorem prog_mri_app_TotalVariationRecon___init___g_ok : writesOnly prog_mri_app_TotalVariationRecon___init___g [.captured 0, .captured 11] = true := (writesOnly_eq_bits _ _).trans (by decide +kernel)

/-- `mri.app.JsenseRecon._get_data` writes only fresh arrays, the object itself and: nothing else -/
theorem prog_mri_app_JsenseRecon__get_data_ok : writesOnly prog_mri_app_JsenseRecon__get_data [.captured 0] = true := (writesOnly_eq_bits _ _).trans (by decide +kernel)

/-- `mri.app.JsenseRecon._get_vars` writes only fresh arrays, the object itself and: self.mps_ker, self.img_ker -/
theorem prog_mri_app_JsenseRecon__get_vars_ok : writesOnly prog_mri_app_JsenseRecon__get_vars [.captured 0, .captured 5, .captured 1] = true := (writesOnly_eq_bits _ _).trans (by decide +kernel)

/-- `mri.app.JsenseRecon._get_alg` writes only fresh arrays, the object itself and: self.mps_ker, self.img_ker, self.comm -/
theorem prog_mri_app_JsenseRecon__get_alg_ok : writesOnly prog_mri_app_JsenseRecon__get_alg [.captured 0, .captured 5, .captured 4, .captured 9] = true := (writesOnly_eq_bits _ _).trans (by decide +kernel)

/-- `mri.app.JsenseRecon._get_alg.min_mps_ker` writes only fresh arrays, the object itself and: self.mps_ker, self.img_ker, self.comm -/
theorem prog_mri_app_JsenseRecon__get_alg_min_mps_ker_ok : writesOnly prog_mri_app_JsenseRecon__get_alg_min_mps_ker [.captured 0, .captured 5, .captured 4, .captured 9] = true := (writesOnly_eq_bits _ _).trans (by decide +kernel)

/-- `mri.app.JsenseRecon._get_alg.min_img_ker` writes only fresh arrays, the object itself and: self.mps_ker, self.img_ker, self.comm -/
theorem prog_mri_app_JsenseRecon__get_alg_min_img_ker_ok : writesOnly prog_mri_app_JsenseRecon__get_alg_min_img_ker [.captured 0, .captured 5, .captured 4, .captured 9] = true := (writesOnly_eq_bits _ _).trans (by decide +kernel)

/-- `mri.app.JsenseRecon._output` writes only fresh arrays, the object itself and: self.mps_ker, self.comm -/
theorem prog_mri_app_JsenseRecon__output_ok : writesOnly prog_mri_app_JsenseRecon__output [.captured 0, .captured 6, .captured 3] = true := (writesOnly_eq_bits _ _).trans (by decide +kernel)

/-- `mri.app.EspiritCalib.__init__` writes only fresh arrays, the object itself and: self.mps -/
theorem prog_mri_app_EspiritCalib___init___ok : writesOnly prog_mri_app_EspiritCalib___init__ [.captured 0, .captured 4] = true := (writesOnly_eq_bits _ _).trans (by decide +kernel)

/-- `mri.app.EspiritCalib.__init__.forward` writes only fresh arrays, the object itself and: self.mps -/
theorem prog_mri_app_EspiritCalib___init___forward_ok : writesOnly prog_mri_app_EspiritCalib___init___forward [.captured 0, .captured 4] = true := (writesOnly_eq_bits _ _).trans (by decide +kernel)

/-- `mri.app.EspiritCalib.__init__.normalize` writes only fresh arrays, the object itself and: self.mps -/
theorem prog_mri_app_EspiritCalib___init___normalize_ok : writesOnly prog_mri_app_EspiritCalib___init___normalize [.captured 0, .captured 4] = true := (writesOnly_eq_bits _ _).trans (by decide +kernel)

/-- `mri.app.EspiritCalib._output` writes only fresh arrays, the object itself and: self.mps -/
theorem prog_mri_app_EspiritCalib__output_ok : writesOnly prog_mri_app_EspiritCalib__output [.captured 0, .captured 5] = true := (writesOnly_eq_bits _ _).trans (by decide +kernel)

/-! call sites use the literal `summ_<f>`; these theorems tie it to the callee's own analysis -/

theorem summ_util__normalize_axes_eq : summaryOf prog_util__normalize_axes = summ_util__normalize_axes := (cleanWithSummary_iff.mp prog_util__normalize_axes_chk).2

theorem summ_util__normalize_shape_eq : summaryOf prog_util__normalize_shape = summ_util__normalize_shape := (cleanWithSummary_iff.mp prog_util__normalize_shape_chk).2

theorem summ_util__expand_shapes_eq : summaryOf prog_util__expand_shapes = summ_util__expand_shapes := (cleanWithSummary_iff.mp prog_util__expand_shapes_chk).2

theorem summ_util__check_same_dtype_eq : summaryOf prog_util__check_same_dtype = summ_util__check_same_dtype := (cleanWithSummary_iff.mp prog_util__check_same_dtype_chk).2

theorem summ_util_prod_eq : summaryOf prog_util_prod = summ_util_prod := (cleanWithSummary_iff.mp prog_util_prod_chk).2

theorem summ_util_vec_eq : summaryOf prog_util_vec = summ_util_vec := (cleanWithSummary_iff.mp prog_util_vec_chk).2

theorem summ_util_split_eq : summaryOf prog_util_split = summ_util_split := (cleanWithSummary_iff.mp prog_util_split_chk).2

theorem summ_util_rss_eq : summaryOf prog_util_rss = summ_util_rss := (cleanWithSummary_iff.mp prog_util_rss_chk).2

theorem summ_util_resize_eq : summaryOf prog_util_resize = summ_util_resize := (cleanWithSummary_iff.mp prog_util_resize_chk).2

theorem summ_util_flip_eq : summaryOf prog_util_flip = summ_util_flip := (cleanWithSummary_iff.mp prog_util_flip_chk).2

theorem summ_util_circshift_eq : summaryOf prog_util_circshift = summ_util_circshift := (cleanWithSummary_iff.mp prog_util_circshift_chk).2

theorem summ_util_downsample_eq : summaryOf prog_util_downsample = summ_util_downsample := (cleanWithSummary_iff.mp prog_util_downsample_chk).2

theorem summ_util_upsample_eq : summaryOf prog_util_upsample = summ_util_upsample := (cleanWithSummary_iff.mp prog_util_upsample_chk).2

theorem summ_util_dirac_eq : summaryOf prog_util_dirac = summ_util_dirac := (cleanWithSummary_iff.mp prog_util_dirac_chk).2

theorem summ_util_randn_eq : summaryOf prog_util_randn = summ_util_randn := (cleanWithSummary_iff.mp prog_util_randn_chk).2

theorem summ_util_triang_eq : summaryOf prog_util_triang = summ_util_triang := (cleanWithSummary_iff.mp prog_util_triang_chk).2

theorem summ_util_hanning_eq : summaryOf prog_util_hanning = summ_util_hanning := (cleanWithSummary_iff.mp prog_util_hanning_chk).2

theorem summ_util_monte_carlo_sure_eq : summaryOf prog_util_monte_carlo_sure = summ_util_monte_carlo_sure := (summaryOf_eq_bits _).trans (by decide +kernel)

theorem summ_util_leja_eq : summaryOf prog_util_leja = summ_util_leja := (cleanWithSummary_iff.mp prog_util_leja_chk).2

theorem summ_util_axpy_eq : summaryOf prog_util_axpy = summ_util_axpy := (summaryOf_eq_bits _).trans (by decide +kernel)

theorem summ_util_xpay_eq : summaryOf prog_util_xpay = summ_util_xpay := (summaryOf_eq_bits _).trans (by decide +kernel)

theorem summ_fourier__fftc_eq : summaryOf prog_fourier__fftc = summ_fourier__fftc := (cleanWithSummary_iff.mp prog_fourier__fftc_chk).2

theorem summ_fourier_fft_eq : summaryOf prog_fourier_fft = summ_fourier_fft := (cleanWithSummary_iff.mp prog_fourier_fft_chk).2

theorem summ_fourier__ifftc_eq : summaryOf prog_fourier__ifftc = summ_fourier__ifftc := (cleanWithSummary_iff.mp prog_fourier__ifftc_chk).2

theorem summ_fourier_ifft_eq : summaryOf prog_fourier_ifft = summ_fourier_ifft := (cleanWithSummary_iff.mp prog_fourier_ifft_chk).2

theorem summ_fourier__get_oversamp_shape_eq : summaryOf prog_fourier__get_oversamp_shape = summ_fourier__get_oversamp_shape := (cleanWithSummary_iff.mp prog_fourier__get_oversamp_shape_chk).2

theorem summ_fourier__apodize_eq : summaryOf prog_fourier__apodize = summ_fourier__apodize := (summaryOf_eq_bits _).trans (by decide +kernel)

theorem summ_fourier__scale_coord_eq : summaryOf prog_fourier__scale_coord = summ_fourier__scale_coord := (cleanWithSummary_iff.mp prog_fourier__scale_coord_chk).2

theorem summ_interp_interpolate_eq : summaryOf prog_interp_interpolate = summ_interp_interpolate := (cleanWithSummary_iff.mp prog_interp_interpolate_chk).2

theorem summ_fourier_nufft_eq : summaryOf prog_fourier_nufft = summ_fourier_nufft := (cleanWithSummary_iff.mp prog_fourier_nufft_chk).2

theorem summ_fourier_estimate_shape_eq : summaryOf prog_fourier_estimate_shape = summ_fourier_estimate_shape := (cleanWithSummary_iff.mp prog_fourier_estimate_shape_chk).2

theorem summ_interp_gridding_eq : summaryOf prog_interp_gridding = summ_interp_gridding := (cleanWithSummary_iff.mp prog_interp_gridding_chk).2

theorem summ_fourier_nufft_adjoint_eq : summaryOf prog_fourier_nufft_adjoint = summ_fourier_nufft_adjoint := (cleanWithSummary_iff.mp prog_fourier_nufft_adjoint_chk).2

theorem summ_fourier_toeplitz_psf_eq : summaryOf prog_fourier_toeplitz_psf = summ_fourier_toeplitz_psf := (cleanWithSummary_iff.mp prog_fourier_toeplitz_psf_chk).2

theorem summ_conv__get_convolve_params_eq : summaryOf prog_conv__get_convolve_params = summ_conv__get_convolve_params := (cleanWithSummary_iff.mp prog_conv__get_convolve_params_chk).2

theorem summ_conv__convolve_eq : summaryOf prog_conv__convolve = summ_conv__convolve := (cleanWithSummary_iff.mp prog_conv__convolve_chk).2

theorem summ_conv_convolve_eq : summaryOf prog_conv_convolve = summ_conv_convolve := (cleanWithSummary_iff.mp prog_conv_convolve_chk).2

theorem summ_conv__convolve_data_adjoint_eq : summaryOf prog_conv__convolve_data_adjoint = summ_conv__convolve_data_adjoint := (cleanWithSummary_iff.mp prog_conv__convolve_data_adjoint_chk).2

theorem summ_conv_convolve_data_adjoint_eq : summaryOf prog_conv_convolve_data_adjoint = summ_conv_convolve_data_adjoint := (cleanWithSummary_iff.mp prog_conv_convolve_data_adjoint_chk).2

theorem summ_conv__convolve_filter_adjoint_eq : summaryOf prog_conv__convolve_filter_adjoint = summ_conv__convolve_filter_adjoint := (cleanWithSummary_iff.mp prog_conv__convolve_filter_adjoint_chk).2

theorem summ_conv_convolve_filter_adjoint_eq : summaryOf prog_conv_convolve_filter_adjoint = summ_conv_convolve_filter_adjoint := (cleanWithSummary_iff.mp prog_conv_convolve_filter_adjoint_chk).2

theorem summ_block_array_to_blocks_eq : summaryOf prog_block_array_to_blocks = summ_block_array_to_blocks := (cleanWithSummary_iff.mp prog_block_array_to_blocks_chk).2

theorem summ_block_blocks_to_array_eq : summaryOf prog_block_blocks_to_array = summ_block_blocks_to_array := (cleanWithSummary_iff.mp prog_block_blocks_to_array_chk).2

theorem summ_wavelet_get_wavelet_shape_eq : summaryOf prog_wavelet_get_wavelet_shape = summ_wavelet_get_wavelet_shape := (cleanWithSummary_iff.mp prog_wavelet_get_wavelet_shape_chk).2

theorem summ_wavelet_fwt_eq : summaryOf prog_wavelet_fwt = summ_wavelet_fwt := (cleanWithSummary_iff.mp prog_wavelet_fwt_chk).2

theorem summ_wavelet_iwt_eq : summaryOf prog_wavelet_iwt = summ_wavelet_iwt := (cleanWithSummary_iff.mp prog_wavelet_iwt_chk).2

theorem summ_thresh_soft_thresh_eq : summaryOf prog_thresh_soft_thresh = summ_thresh_soft_thresh := (cleanWithSummary_iff.mp prog_thresh_soft_thresh_chk).2

theorem summ_thresh_hard_thresh_eq : summaryOf prog_thresh_hard_thresh = summ_thresh_hard_thresh := (cleanWithSummary_iff.mp prog_thresh_hard_thresh_chk).2

theorem summ_thresh_l1_proj_eq : summaryOf prog_thresh_l1_proj = summ_thresh_l1_proj := (cleanWithSummary_iff.mp prog_thresh_l1_proj_chk).2

theorem summ_thresh_l2_proj_eq : summaryOf prog_thresh_l2_proj = summ_thresh_l2_proj := (cleanWithSummary_iff.mp prog_thresh_l2_proj_chk).2

theorem summ_thresh_linf_proj_eq : summaryOf prog_thresh_linf_proj = summ_thresh_linf_proj := (cleanWithSummary_iff.mp prog_thresh_linf_proj_chk).2

theorem summ_thresh_psd_proj_eq : summaryOf prog_thresh_psd_proj = summ_thresh_psd_proj := (cleanWithSummary_iff.mp prog_thresh_psd_proj_chk).2

theorem summ_mri_util_get_cov_eq : summaryOf prog_mri_util_get_cov = summ_mri_util_get_cov := (cleanWithSummary_iff.mp prog_mri_util_get_cov_chk).2

theorem summ_mri_util_whiten_eq : summaryOf prog_mri_util_whiten = summ_mri_util_whiten := (cleanWithSummary_iff.mp prog_mri_util_whiten_chk).2

theorem summ_mri_util_tseg_off_res_b_ct_eq : summaryOf prog_mri_util_tseg_off_res_b_ct = summ_mri_util_tseg_off_res_b_ct := (cleanWithSummary_iff.mp prog_mri_util_tseg_off_res_b_ct_chk).2

theorem summ_mri_util_apply_tseg_eq : summaryOf prog_mri_util_apply_tseg = summ_mri_util_apply_tseg := (cleanWithSummary_iff.mp prog_mri_util_apply_tseg_chk).2

theorem summ_mri_app__estimate_weights_eq : summaryOf prog_mri_app__estimate_weights = summ_mri_app__estimate_weights := (cleanWithSummary_iff.mp prog_mri_app__estimate_weights_chk).2

/-- in-place by documented contract (no obligation; callers use the computed summary) -/
def inplaceByContract : List (String × String) := [
  ("fourier._apodize", "private helper, apodises its argument in place (callers must pass a copy)"),
  ("util.axpy", "documented output argument y"),
  ("util.xpay", "documented output argument y")]

/-- new private helpers that write a parameter: no obligation of their own, callers use the summary -/
def privateInplaceHelpers : List (String × String) := [
]

/-- not provable by the analysis: covered by the runtime stream only -/
def needsRuntime : List (String × String) := [
  ("linop.AllReduce._apply", "MPI all-reduce writes its buffer in place; in_place=True is a documented in-place API"),
  ("util.monte_carlo_sure", "calls the user callback f on y (an arbitrary callable may write its argument)")]

end SigpyVerif.Gen.Effects
