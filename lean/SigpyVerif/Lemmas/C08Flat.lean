import SigpyVerif.Model.C08
import SigpyVerif.Lemmas.C08
import SigpyVerif.Lemmas.C09
/-
  The flat-array executable layer of Model/C08.lean (`sumList` over `allIdx`, zero-extended reads, `convNDAt`,
  `corrNDAt`, `loopSumL`) equals the recursive index-level layer the adjoint theorems are about (`sumD`, `convD`,
  `corrD`, `stuffD`, `loopSum`).
-/
namespace SigpyVerif.C08
open SigpyVerif

section sums
variable {α : Type} [CommRing α]

theorem sumList_eq_sum {β : Type} (l : List β) (g : β → α) : sumList l g = (l.map g).sum := by
  unfold sumList
  rw [List.sum_eq_foldl, List.foldl_map]

theorem sumList_flatMap_range {β : Type} (N : Nat) (F : Int → List β) (g : β → α) :
    sumList (((List.range N).map (fun k : Nat => (k : Int))).flatMap F) g = sumTo N (fun i => sumList (F i) g) := by
  induction N with
  | zero => simp [sumList, sumTo]
  | succ k ih =>
    rw [sumList_eq_sum] at ih ⊢
    rw [List.range_succ, List.map_append, List.flatMap_append, List.map_append, List.sum_append, ih]
    simp [sumTo, sumList_eq_sum]

/-- the flat enumeration of a shape sums like the nested loops -/
theorem sumList_allIdx (ns : List Int) (g : List Int → α) : sumList (allIdx ns) g = sumD ns g := by
  induction ns generalizing g with
  | nil => simp [allIdx, sumList, sumD]
  | cons n ns ih =>
    rw [C09.allIdx_cons, C09.pyRange0_eq, sumList_flatMap_range]
    simp only [sumD]
    congr 1
    funext i
    rw [sumList_eq_sum, List.map_map, ← sumList_eq_sum, ih]
    rfl

theorem loopSumL_eq (B co ci : Int) (acc : Gen.ConvDim × Gen.ConvDim) (s1 s2 : Int) (term : Int → Int → Int → α) :
    loopSumL B co ci acc s1 s2 term = loopSum B.toNat co.toNat ci.toNat acc s1 s2 term := by
  unfold loopSumL loopSum
  rw [sumList_allIdx]
  simp only [sumD]

end sums

theorem inBounds_cons (n : Int) (ns : List Int) (i : Int) (is : List Int) :
    inBounds (n :: ns) (i :: is) = (decide (0 ≤ i ∧ i < n) && inBounds ns is) := by
  unfold inBounds
  rw [List.zip_cons_cons, List.all_cons, List.length_cons, List.length_cons, Bool.and_left_comm]
  congr 2
  exact Bool.eq_iff_iff.mpr (by simp only [beq_iff_eq, Nat.add_right_cancel_iff])

theorem inBounds_iff_mem_allIdx (sh k : List Int) : inBounds sh k = true ↔ k ∈ allIdx sh := by
  induction sh generalizing k with
  | nil => cases k <;> simp [inBounds, allIdx]
  | cons n sh ih =>
    cases k with
    | nil => simp [inBounds, C09.mem_allIdx]
    | cons i k =>
      rw [inBounds_cons, Bool.and_eq_true, ih, C09.mem_allIdx, C09.mem_allIdx, List.forall₂_cons]
      simp

section conv
variable {α : Type} [CommRing α]

theorem convD_zero_right (A : List Axis) (x v : List Int → α) (k : List Int) (hv : ∀ js, v js = 0) :
    convD A x v k = 0 := by
  induction A generalizing x v k with
  | nil => simp [convD, hv]
  | cons a R ih =>
    have : ∀ i1 j1 : Int, convD R (fun is => x (i1 :: is)) (fun js => v (j1 :: js)) k.tail = 0 :=
      fun i1 j1 => ih _ _ _ (fun js => hv _)
    simp [convD, this, sumTo_eq_sum]

/-- **flat convolution = recursive definition.**  `convNDAt` (one sum over all data multi-indices, the filter read
    zero-extended at `k·s + off - i`) is the D-dimensional convolution `convD` by definition (on every axis a sum over
    the index pairs with `i + j = k·s + off`), for a filter function that vanishes outside its box. -/
theorem convNDAt_eq_convD (A : List Axis) (x v : List Int → α) (k : List Int) (hk : k.length = A.length)
    (hv : ∀ js, inBounds (A.map (·.n)) js = false → v js = 0) :
    convNDAt (A.map (·.m)) x v (A.map (·.off)) (A.map (·.s)) k = convD A x v k := by
  induction A generalizing x v k with
  | nil =>
    cases k with
    | nil => simp [convNDAt, sumList, allIdx, zip3With, convD]
    | cons _ _ => simp at hk
  | cons a R ih =>
    cases k with
    | nil => simp at hk
    | cons k1 kr =>
      have hkr : kr.length = R.length := by simpa using hk
      have e := fun i1 : Int => ih (fun is => x (i1 :: is)) (fun js => v ((k1 * a.s + a.off - i1) :: js)) kr hkr
        fun js hjs => hv _ (by rw [List.map_cons, inBounds_cons, hjs, Bool.and_false])
      simp only [convNDAt, sumList_allIdx] at e
      simp only [convNDAt, sumList_allIdx, List.map_cons, sumD, zip3With, List.zipWith_cons_cons, e, convD,
        List.headD_cons, List.tail_cons, sumTo_eq_sum]
      -- of the `j1`, only `j1 = k1 * s + off - i1` contributes
      refine Finset.sum_congr rfl fun i1 _ => (sum_range_ite_add a.n.toNat i1 (k1 * a.s + a.off)
        (fun j => convD R (fun is => x ((i1 : Int) :: is)) (fun js => v (j :: js)) kr) fun h => ?_).symm
      exact convD_zero_right _ _ _ _ fun js => hv _ (by
        rw [List.map_cons, inBounds_cons, decide_eq_false (by omega), Bool.false_and])

end conv

section corr
variable {α : Type} [CommRing α]

/-- **flat correlate = recursive definition** (`scipy.signal.correlate` at one index) -/
theorem corrNDAt_eq_corrD (conj : α → α) (A : List Axis) (z v : List Int → α) (is : List Int)
    (his : is.length = A.length) :
    corrNDAt conj (A.map (·.n)) z v (A.map (·.shift)) is = corrD conj A z v is := by
  induction A generalizing z v is with
  | nil =>
    cases is with
    | nil => simp [corrNDAt, sumList, allIdx, zip3With, corrD]
    | cons _ _ => simp at his
  | cons a R ih =>
    cases is with
    | nil => simp at his
    | cons i1 ir =>
      have hir : ir.length = R.length := by simpa using his
      simp only [corrD, List.headD_cons, List.tail_cons, ← ih _ _ _ hir]
      simp only [corrNDAt, sumList_allIdx, List.map_cons, sumD, zip3With]

/-- `correlate` only reads its first operand at index tuples of the right length -/
theorem corrD_congr (conj : α → α) (A : List Axis) (z z' v : List Int → α) (is : List Int)
    (h : ∀ ts, ts.length = A.length → z ts = z' ts) : corrD conj A z v is = corrD conj A z' v is := by
  induction A generalizing z z' v is with
  | nil => simp [corrD, h [] rfl]
  | cons a R ih =>
    simp only [corrD]
    congr 1
    funext j1
    exact ih _ _ _ _ (fun ts hts => h _ (by simp [hts]))

/-- **flat zero-stuffing = recursive definition**: `output_kj = zeros(L); output_kj[::s_1, …, ::s_D] = y` read at `t`
    is `y[t / s]` when `t` is inside the buffer and a multiple of the strides on every axis, else 0 -/
theorem stuffD_eq (A : List Axis) (Y : List Int → α) (t : List Int) (ht : t.length = A.length) :
    stuffD A Y t = if inBounds (A.map (·.L)) t = true ∧
        (List.zip t (A.map (·.s))).all (fun x => pyMod x.1 x.2 == 0) = true
      then Y (List.zipWith pyDiv t (A.map (·.s))) else 0 := by
  induction A generalizing Y t with
  | nil =>
    cases t with
    | nil => simp [stuffD, inBounds]
    | cons _ _ => simp at ht
  | cons a R ih =>
    cases t with
    | nil => simp at ht
    | cons t1 tr =>
      have htr : tr.length = R.length := by simpa using ht
      simp only [stuffD, List.headD_cons, List.tail_cons, stuff]
      rw [ih _ tr htr]
      simp only [List.map_cons, inBounds_cons, List.zip_cons_cons,
        List.all_cons, List.zipWith_cons_cons, Bool.and_eq_true, decide_eq_true_eq, beq_iff_eq]
      -- the two nested tests are the one conjunction, reassociated
      exact (ite_and _ _ _ _).symm.trans (if_congr
        ⟨fun ⟨⟨h1, h2, h3⟩, h4, h5⟩ => ⟨⟨⟨h1, h2⟩, h4⟩, h3, h5⟩, fun ⟨⟨⟨h1, h2⟩, h4⟩, h3, h5⟩ => ⟨⟨h1, h2, h3⟩, h4, h5⟩⟩
        rfl rfl)

end corr

theorem zipWith_congr_mem {β : Type} (f g : Int → Int → β) (m n : List Int)
    (h : ∀ a b, (a, b) ∈ List.zip m n → f a b = g a b) : List.zipWith f m n = List.zipWith g m n := by
  induction m generalizing n with
  | nil => simp
  | cons a m ih => cases n with
    | nil => simp
    | cons b n =>
      simp only [List.zipWith_cons_cons]
      rw [h a b (by simp), ih n (fun a' b' hab => h a' b' (by simp [hab]))]

theorem zipWith_zipWith_snd {β : Type} (G : Int → Int → β) (H : Int → Int → Int) (m n : List Int) :
    List.zipWith G (List.zipWith H m n) n = List.zipWith (fun a b => G (H a b) b) m n := by
  induction m generalizing n with
  | nil => simp
  | cons a m ih => cases n with
    | nil => simp
    | cons b n => simp [ih]

theorem zipWith_zipWith_fst {β : Type} (G : Int → Int → β) (H : Int → Int → Int) (m n : List Int) :
    List.zipWith G (List.zipWith H m n) m = List.zipWith (fun a b => G (H a b) a) m n := by
  rw [List.zipWith_comm (f := H), zipWith_zipWith_snd, List.zipWith_comm]

theorem zip_zipWith_snd (H : Int → Int → Int) (m n : List Int) :
    List.zip (List.zipWith H m n) n = (List.zip m n).map fun x => (H x.1 x.2, x.2) := by
  rw [List.zip_eq_zipWith, zipWith_zipWith_snd, ← List.map_uncurry_zip_eq_zipWith]
  rfl

theorem zip_zipWith_fst (H : Int → Int → Int) (m n : List Int) :
    List.zip (List.zipWith H m n) m = (List.zip m n).map fun x => (H x.1 x.2, x.1) := by
  rw [List.zip_eq_zipWith, zipWith_zipWith_fst, ← List.map_uncurry_zip_eq_zipWith]
  rfl

theorem all_zip_zipWith_snd (H : Int → Int → Int) (P : Int → Int → Bool) (m n : List Int) :
    (List.zip (List.zipWith H m n) n).all (fun (x, y) => P x y) =
      (List.zip m n).all (fun (a, b) => P (H a b) b) := by
  rw [zip_zipWith_snd, List.all_map]
  rfl

theorem all_zip_zipWith_fst (H : Int → Int → Int) (P : Int → Int → Bool) (m n : List Int) :
    (List.zip (List.zipWith H m n) m).all (fun (x, y) => P x y) =
      (List.zip m n).all (fun (a, b) => P (H a b) a) := by
  rw [zip_zipWith_fst, List.all_map]
  rfl

theorem mem_zip_zipWith_snd (H : Int → Int → Int) (m n : List Int) (x : Int × Int)
    (hx : x ∈ List.zip (List.zipWith H m n) n) : ∃ a b, (a, b) ∈ List.zip m n ∧ x = (H a b, b) := by
  rw [zip_zipWith_snd, List.mem_map] at hx
  obtain ⟨⟨a, b⟩, hab, rfl⟩ := hx
  exact ⟨a, b, hab, rfl⟩

theorem mem_zip_zipWith_fst (H : Int → Int → Int) (m n : List Int) (x : Int × Int)
    (hx : x ∈ List.zip (List.zipWith H m n) m) : ∃ a b, (a, b) ∈ List.zip m n ∧ x = (H a b, a) := by
  rw [zip_zipWith_fst, List.mem_map] at hx
  obtain ⟨⟨a, b⟩, hab, rfl⟩ := hx
  exact ⟨a, b, hab, rfl⟩

theorem zip3With_12 {β : Type} (G : Int → Int → β) (m n s : List Int) (h1 : m.length = n.length)
    (h2 : n.length = s.length) : zip3With (fun a b _ => G a b) m n s = List.zipWith G m n := by
  induction m generalizing n s with
  | nil => simp [zip3With]
  | cons a m ih =>
    cases n with
    | nil => simp at h1
    | cons b n =>
      cases s with
      | nil => simp at h2
      | cons c s =>
        simp only [zip3With, List.zipWith_cons_cons]
        rw [ih n s (by simpa using h1) (by simpa using h2)]

theorem zip3With_3 (m n s : List Int) (h1 : m.length = n.length) (h2 : n.length = s.length) :
    zip3With (fun _ _ c => c) m n s = s := by
  induction m generalizing n s with
  | nil =>
    obtain rfl : s = [] := List.eq_nil_of_length_eq_zero (by rw [← h2, ← h1]; rfl)
    rfl
  | cons a m ih =>
    cases n with
    | nil => simp at h1
    | cons b n =>
      cases s with
      | nil => simp at h2
      | cons c s =>
        simp only [zip3With]
        rw [ih n s (by simpa using h1) (by simpa using h2)]

theorem length_zip3With {β : Type} (f : Int → Int → Int → β) (m n s : List Int) (h1 : m.length = n.length)
    (h2 : n.length = s.length) : (zip3With f m n s).length = n.length := by
  rw [← List.length_map (f := fun _ => ()), zip3With_map, zip3With_12 (fun _ _ => ()) m n s h1 h2,
    List.length_zipWith, h1, Nat.min_self]

theorem mem_allIdx_cons2 {A C : Int} {rest idx : List Int} (h : idx ∈ allIdx (A :: C :: rest)) :
    ∃ i j k, idx = i :: j :: k ∧ k ∈ allIdx rest := by
  cases C09.mem_allIdx.mp h with
  | cons _ h2 =>
    cases h2 with
    | cons _ h3 => exact ⟨_, _, _, rfl, C09.mem_allIdx.mpr h3⟩

theorem size_map_allIdx {α : Type} (sh : List Int) (F : List Int → α) (h : ∀ n ∈ sh, 0 ≤ n) :
    ((((allIdx sh).map F).toArray).size : Int) = shapeProd sh := by
  rw [C09.map_allIdx_size _ _ h, Int.toNat_of_nonneg (C09.shapeProd_nonneg _ h)]

theorem cons_mem_allIdx {n : Int} {ns k : List Int} {i : Nat} (hi : i ∈ Finset.range n.toNat)
    (hk : k ∈ allIdx ns) : ((i : Int) :: k) ∈ allIdx (n :: ns) := by
  rw [Finset.mem_range] at hi
  rw [C09.mem_allIdx, List.forall₂_cons, ← C09.mem_allIdx]
  exact ⟨⟨Int.natCast_nonneg i, by omega⟩, hk⟩

theorem mem_allIdx_of_mem_idxSet (ns k : List Int) (h : k ∈ idxSet ns) : k ∈ allIdx ns := by
  induction ns generalizing k with
  | nil => simp [idxSet] at h; subst h; simp [allIdx]
  | cons n ns ih =>
    simp only [idxSet, Finset.mem_image, Finset.mem_product, Prod.exists] at h
    obtain ⟨i, k', ⟨hi, hk'⟩, rfl⟩ := h
    exact cons_mem_allIdx hi (ih k' hk')

theorem ite_error_eq_ok {ε β : Type} {c : Prop} [Decidable c] {e : ε} {x : Except ε β} {r : β}
    (h : (if c then .error e else x) = .ok r) : ¬ c ∧ x = .ok r := by
  split_ifs at h with hc
  exact ⟨hc, h⟩

theorem error_iff_not_admitted {β : Type} {f : Except String β} {Adm : Prop} (h1 : Adm → ∃ r, f = .ok r)
    (h2 : ∀ r, f = .ok r → Adm) : (∃ e, f = .error e) ↔ ¬ Adm := by
  constructor
  · rintro ⟨e, he⟩ ha
    obtain ⟨r, hr⟩ := h1 ha
    rw [hr] at he
    cases he
  · intro hna
    cases hr : f with
    | error e => exact ⟨e, rfl⟩
    | ok r => exact absurd (h2 r hr) hna

end SigpyVerif.C08
