/-
  C02: the checkers of `Model/C02` evaluated on bit sets.

  `analyze` works on lists of origins and an environment `Fin n → List Origin`; evaluated by the kernel, every union,
  inclusion test and update costs many reduction steps.  Here the same analysis runs on natural numbers: a set of origins is the number whose bit `o.code` is set for each member `o`, and the environment is one
  number, a bit matrix with a row of `w` bits per variable, so that a union is `|||`, an inclusion test is
  `x ||| y == y`, and the kernel does each step with its big-number arithmetic.  `Sim` says that such a state
  represents a state of `analyze`; every step of the analysis preserves it (`Sim.analyze`), so the checkers on bit
  sets equal the checkers of the model (`noMutation_eq_bits`, `writesOnly_eq_bits`, `summaryOf_eq_bits`), and the
  generated `Gen/EffectsOk.lean` evaluates the former.
-/
import SigpyVerif.Lemmas.C02
namespace SigpyVerif.C02

/-! ### sets of origins as bit sets -/

/-- position of an origin in a bit set -/
def Origin.code : Origin → Nat
  | .fresh => 0
  | .param i => 2 * i + 1
  | .captured k => 2 * k + 2

def Origin.ofCode (c : Nat) : Origin :=
  if c = 0 then .fresh else if c % 2 = 1 then .param (c / 2) else .captured (c / 2 - 1)

/-- `x` is the bit set of `s` -/
def Rep (s : List Origin) (x : Nat) : Prop := ∀ c, x.testBit c = true ↔ Origin.ofCode c ∈ s

/-- inclusion of bit sets -/
def subB (x y : Nat) : Bool := (x ||| y) == y

/-- `p` holds of every member of the bit set `x` -/
def allB (x : Nat) (p : Origin → Bool) : Bool :=
  (List.range (x.log2 + 1)).all fun c => !x.testBit c || p (.ofCode c)

theorem Origin.ofCode_code (o : Origin) : Origin.ofCode o.code = o := by
  cases o <;> simp [Origin.code, Origin.ofCode] <;> omega

theorem Origin.code_ofCode (c : Nat) : (Origin.ofCode c).code = c := by
  unfold Origin.ofCode
  split
  · simp [Origin.code, *]
  · split <;> simp only [Origin.code] <;> omega

theorem Rep.mem {s : List Origin} {x : Nat} (h : Rep s x) (o : Origin) :
    o ∈ s ↔ x.testBit o.code = true := by
  rw [h o.code, Origin.ofCode_code]

theorem rep_pow (o : Origin) : Rep [o] (2 ^ o.code) := by
  intro c
  rw [Nat.testBit_two_pow, List.mem_singleton, decide_eq_true_eq]
  constructor
  · intro h; rw [← h, Origin.ofCode_code]
  · intro h; rw [← h, Origin.code_ofCode]

theorem rep_nil : Rep [] 0 := by
  intro c; simp

theorem rep_fresh : Rep [.fresh] 1 := rep_pow .fresh

theorem Rep.ounion {s t : List Origin} {x y : Nat} (hs : Rep s x) (ht : Rep t y) :
    Rep (ounion s t) (x ||| y) := by
  intro c
  rw [Nat.testBit_or, Bool.or_eq_true, mem_ounion, hs c, ht c]

theorem subB_iff {x y : Nat} :
    subB x y = true ↔ ∀ c, x.testBit c = true → y.testBit c = true := by
  unfold subB
  rw [beq_iff_eq]
  constructor
  · intro h c hc
    rw [← h, Nat.testBit_or, hc, Bool.true_or]
  · intro h
    apply Nat.eq_of_testBit_eq
    intro c
    rw [Nat.testBit_or]
    cases hc : x.testBit c
    · simp
    · simp [h c hc]

theorem Rep.subsetb {s t : List Origin} {x y : Nat} (hs : Rep s x) (ht : Rep t y) :
    subsetb s t = subB x y := by
  rw [Bool.eq_iff_iff, subB_iff]
  simp only [SigpyVerif.C02.subsetb, List.all_eq_true, List.contains_iff_mem]
  constructor
  · intro h c hc
    exact (ht c).2 (h _ ((hs c).1 hc))
  · intro h o ho
    exact (ht.mem o).2 (h _ ((hs.mem o).1 ho))

theorem Rep.contains {s : List Origin} {x : Nat} (h : Rep s x) (o : Origin) :
    s.contains o = x.testBit o.code := by
  rw [Bool.eq_iff_iff, List.contains_iff_mem, h.mem o]

theorem Rep.all {s : List Origin} {x : Nat} (h : Rep s x) (p : Origin → Bool) :
    s.all p = allB x p := by
  rw [Bool.eq_iff_iff]
  simp only [allB, List.all_eq_true, List.mem_range, Bool.or_eq_true, Bool.not_eq_true']
  constructor
  · intro hp c _
    cases hc : x.testBit c
    · exact .inl rfl
    · exact .inr (hp _ ((h c).1 hc))
  · intro hp o ho
    have hb := (h.mem o).1 ho
    have hlt : o.code < x.log2 + 1 :=
      (Nat.pow_lt_pow_iff_right (by decide : 1 < 2)).1
        (Nat.lt_of_le_of_lt (Nat.ge_two_pow_of_testBit hb) Nat.lt_log2_self)
    have := hp o.code hlt
    rw [hb, Origin.ofCode_code] at this
    simpa using this

/-- a bit set all of whose members have codes below `w` has no bit from `w` on -/
theorem Rep.high {s : List Origin} {x : Nat} (h : Rep s x) {w : Nat} (hw : ∀ o ∈ s, o.code < w) :
    ∀ c, w ≤ c → x.testBit c = false := by
  intro c hc
  cases hb : x.testBit c
  · rfl
  · have := hw _ ((h c).1 hb)
    rw [Origin.code_ofCode] at this
    omega

/-! ### bit matrices -/

/-- row `v` of a bit matrix with rows of width `w` -/
def getRow (w m v : Nat) : Nat := (m >>> (v * w)) % 2 ^ w

/-- row `v` replaced by `x` (there is no complement on `Nat` to clear the row with: the old row is cancelled by `^^^`) -/
def setRow (w m v x : Nat) : Nat := m ^^^ ((getRow w m v ^^^ x) <<< (v * w))

/-- the matrix whose row `i < k` is `g i` -/
def initRows (w : Nat) (g : Nat → Nat) : Nat → Nat
  | 0 => 0
  | k + 1 => initRows w g k ||| (g k <<< (k * w))

theorem testBit_getRow (w m v c : Nat) :
    (getRow w m v).testBit c = (decide (c < w) && m.testBit (v * w + c)) := by
  rw [getRow, Nat.testBit_mod_two_pow, Nat.testBit_shiftRight]

theorem getRow_high (w m v : Nat) : ∀ c, w ≤ c → (getRow w m v).testBit c = false := by
  intro c hc
  simp [testBit_getRow, Nat.not_lt.mpr hc]

/-- where bit `j` sits relative to row `v`: inside it, below it, or above it -/
private theorem row_cases {w : Nat} (hw : 0 < w) (v j : Nat) :
    (j / w = v ∧ v * w ≤ j ∧ j - v * w = j % w) ∨ (j / w ≠ v ∧ j < v * w) ∨
      (j / w ≠ v ∧ v * w ≤ j ∧ w ≤ j - v * w) := by
  have h1 : w * (j / w) + j % w = j := Nat.div_add_mod j w
  have h2 : j % w < w := Nat.mod_lt j hw
  rw [Nat.mul_comm v w]
  rcases Nat.lt_trichotomy (j / w) v with h | h | h
  · have := Nat.mul_le_mul_left w (Nat.succ_le_of_lt h)
    rw [Nat.mul_succ] at this
    omega
  · subst h; omega
  · have := Nat.mul_le_mul_left w (Nat.succ_le_of_lt h)
    rw [Nat.mul_succ] at this
    omega

theorem testBit_setRow {w : Nat} (hw : 0 < w) (m v x : Nat)
    (hx : ∀ c, w ≤ c → x.testBit c = false) (j : Nat) :
    (setRow w m v x).testBit j = if j / w = v then x.testBit (j % w) else m.testBit j := by
  rw [setRow, Nat.testBit_xor, Nat.testBit_shiftLeft, Nat.testBit_xor]
  rcases row_cases hw v j with ⟨h, hle, hsub⟩ | ⟨h, hlt⟩ | ⟨h, hle, hge⟩
  · have hj : v * w + j % w = j := by omega
    simp [h, hle, hsub, testBit_getRow, Nat.mod_lt j hw, hj]
  · simp [h, Nat.not_le.mpr hlt]
  · simp [h, getRow_high w m v _ hge, hx _ hge]

theorem testBit_initRows {w : Nat} (hw : 0 < w) (g : Nat → Nat)
    (hg : ∀ i c, w ≤ c → (g i).testBit c = false) (k j : Nat) :
    (initRows w g k).testBit j = (decide (j / w < k) && (g (j / w)).testBit (j % w)) := by
  induction k with
  | zero => simp [initRows]
  | succ k ih =>
    rw [initRows, Nat.testBit_or, ih, Nat.testBit_shiftLeft]
    rcases row_cases hw k j with ⟨h, hle, hsub⟩ | ⟨h, hlt⟩ | ⟨h, hle, hge⟩
    · simp [h, hle, hsub]
    · have : (decide (j / w < k + 1)) = decide (j / w < k) := by
        simp only [decide_eq_decide]; omega
      simp [this, Nat.not_le.mpr hlt]
    · have : (decide (j / w < k + 1)) = decide (j / w < k) := by
        simp only [decide_eq_decide]; omega
      simp [this, hg k _ hge]

theorem div_row {w c : Nat} (v : Nat) (hc : c < w) : (v * w + c) / w = v := by
  rw [Nat.mul_comm, Nat.mul_add_div (by omega), Nat.div_eq_of_lt hc, Nat.add_zero]

theorem mod_row {w c : Nat} (v : Nat) (hc : c < w) : (v * w + c) % w = c := by
  rw [Nat.mul_comm, Nat.mul_add_mod, Nat.mod_eq_of_lt hc]

/-! ### the analysis on bit sets -/

structure AbsB where
  env : Nat
  wr : Nat
  ret : Nat
  ok : Bool

def joinB (a b : AbsB) : AbsB :=
  { env := a.env ||| b.env, wr := a.wr ||| b.wr, ret := a.ret ||| b.ret, ok := a.ok && b.ok }

def leqbB (a b : AbsB) : Bool := subB a.env b.env && subB a.wr b.wr && subB a.ret b.ret

/-- union of the rows `vs` -/
def getRows {n} (w m : Nat) (vs : List (Fin n)) : Nat := vs.foldr (fun v x => getRow w m v.val ||| x) 0

def stepAB {n} (w : Nat) : Instr n → AbsB → AbsB
  | .fresh dst, a => { a with env := setRow w a.env dst 1 }
  | .alias dst srcs, a => { a with env := setRow w a.env dst (getRows w a.env srcs) }
  | .copy dst _, a => { a with env := setRow w a.env dst 1 }
  | .mutate v, a => { a with wr := a.wr ||| getRow w a.env v }
  | .call dst muts alis, a =>
      { a with env := setRow w a.env dst (1 ||| getRows w a.env alis), wr := a.wr ||| getRows w a.env muts }
  | .ret v, a => { a with ret := a.ret ||| getRow w a.env v }

def lfpB (f : AbsB → AbsB) : Nat → AbsB → AbsB
  | 0, a => a
  | k + 1, a => let a' := joinB a (f a); if leqbB a' a then a else lfpB f k a'

def analyzeB {n} (w : Nat) : Prog n → AbsB → AbsB
  | .skip, a => a
  | .instr i, a => stepAB w i a
  | .seq p q, a => analyzeB w q (analyzeB w p a)
  | .branch p q, a => joinB (analyzeB w p a) (analyzeB w q a)
  | .loop p, a =>
      let A := lfpB (fun x => analyzeB w p x) loopFuel a
      let B := analyzeB w p A
      { A with ok := a.ok && B.ok && leqbB a A && leqbB B A }

/-- every origin of `f.init` has a code below this -/
def Func.width {n} (f : Func n) : Nat := 2 * (f.np + f.nc) + 1

def Func.initRow {n} (f : Func n) (i : Nat) : Nat :=
  if i < f.np then 2 ^ (2 * i + 1) else if i < f.np + f.nc then 2 ^ (2 * (i - f.np) + 2) else 0

def resultB {n} (f : Func n) : AbsB :=
  analyzeB f.width f.body { env := initRows f.width f.initRow n, wr := 0, ret := 0, ok := true }

def noMutationB {n} (f : Func n) : Bool :=
  (resultB f).ok && allB (resultB f).wr (fun o => o == .fresh)

def writesOnlyB {n} (f : Func n) (allowed : List Origin) : Bool :=
  (resultB f).ok && allB (resultB f).wr (fun o => o == .fresh || allowed.contains o)

def summaryOfB {n} (f : Func n) : Summary :=
  let r := resultB f
  { ok := r.ok && allB r.wr (fun o => match o with | .captured _ => false | _ => true),
    muts := (List.range f.np).filter (fun i => r.wr.testBit (Origin.param i).code),
    alis := (List.range f.np).filter (fun i => r.ret.testBit (Origin.param i).code) }

/-! ### agreement with the analysis of `Model/C02` -/

/-- the bit-set state `m` represents the state `a`: row `v` of `m.env` is the bit set of `a.env v` -/
structure Sim {n} (w : Nat) (a : Abs n) (m : AbsB) : Prop where
  env : ∀ (v : Fin n) c, c < w → (m.env.testBit (v * w + c) = true ↔ Origin.ofCode c ∈ a.env v)
  bound : ∀ j, n * w ≤ j → m.env.testBit j = false
  small : ∀ v, ∀ o ∈ a.env v, o.code < w
  wr : Rep a.wr m.wr
  ret : Rep a.ret m.ret
  ok : a.ok = m.ok

section
variable {n w : Nat} {a b : Abs n} {m k : AbsB}

theorem Sim.get (h : Sim w a m) (v : Fin n) : Rep (a.env v) (getRow w m.env v) := by
  intro c
  rw [testBit_getRow]
  by_cases hc : c < w
  · simp [hc, h.env v c hc]
  · have : Origin.ofCode c ∉ a.env v := fun hm => hc (by simpa [Origin.code_ofCode] using h.small v _ hm)
    simp [hc, this]

theorem Sim.gets (h : Sim w a m) (vs : List (Fin n)) :
    Rep (unionAll (vs.map a.env)) (getRows w m.env vs) ∧ ∀ o ∈ unionAll (vs.map a.env), o.code < w := by
  induction vs with
  | nil => exact ⟨rep_nil, by simp [unionAll]⟩
  | cons v vs ih =>
    refine ⟨(h.get v).ounion ih.1, fun o ho => ?_⟩
    rcases mem_ounion.mp ho with ho | ho
    · exact h.small v o ho
    · exact ih.2 o ho

theorem Sim.set (hw : 0 < w) (h : Sim w a m) (v : Fin n) {s : List Origin} {x : Nat} (hs : Rep s x)
    (hsm : ∀ o ∈ s, o.code < w) :
    Sim w { a with env := upd a.env v s } { m with env := setRow w m.env v x } where
  env u c hc := by
    show (setRow w m.env v x).testBit (u * w + c) = true ↔ _
    rw [testBit_setRow hw _ _ _ (hs.high hsm), div_row _ hc, mod_row _ hc]
    by_cases huv : u = v
    · simp [upd, huv, hs c]
    · simp [upd, huv, Fin.val_inj, h.env u c hc]
  bound j hj := by
    show (setRow w m.env v x).testBit j = false
    have : v.val < j / w := Nat.lt_of_lt_of_le v.isLt ((Nat.le_div_iff_mul_le hw).mpr hj)
    rw [testBit_setRow hw _ _ _ (hs.high hsm), if_neg (by omega), h.bound j hj]
  small u o ho := by
    simp only [upd] at ho
    split at ho
    · exact hsm o ho
    · exact h.small u o ho
  wr := h.wr
  ret := h.ret
  ok := h.ok

theorem Sim.setWr (h : Sim w a m) {s : List Origin} {x : Nat} (hs : Rep s x) :
    Sim w { a with wr := s } { m with wr := x } :=
  ⟨h.env, h.bound, h.small, hs, h.ret, h.ok⟩

theorem Sim.setRet (h : Sim w a m) {s : List Origin} {x : Nat} (hs : Rep s x) :
    Sim w { a with ret := s } { m with ret := x } :=
  ⟨h.env, h.bound, h.small, h.wr, hs, h.ok⟩

theorem Sim.setOk (h : Sim w a m) {o o' : Bool} (e : o = o') : Sim w { a with ok := o } { m with ok := o' } :=
  ⟨h.env, h.bound, h.small, h.wr, h.ret, e⟩

theorem fresh_small (hw : 0 < w) : ∀ o ∈ [Origin.fresh], o.code < w := by
  simp [Origin.code, hw]

theorem Sim.step (hw : 0 < w) (h : Sim w a m) (i : Instr n) : Sim w (stepA i a) (stepAB w i m) := by
  cases i with
  | fresh dst => exact h.set hw dst rep_fresh (fresh_small hw)
  | «alias» dst srcs => exact h.set hw dst (h.gets srcs).1 (h.gets srcs).2
  | copy dst src => exact h.set hw dst rep_fresh (fresh_small hw)
  | mutate v => exact h.setWr (h.wr.ounion (h.get v))
  | call dst muts alis =>
    refine (h.set hw dst (rep_fresh.ounion (h.gets alis).1) fun o ho => ?_).setWr (h.wr.ounion (h.gets muts).1)
    rcases mem_ounion.mp ho with ho | ho
    · exact fresh_small hw o ho
    · exact (h.gets alis).2 o ho
  | ret v => exact h.setRet (h.ret.ounion (h.get v))

theorem Sim.join (h₁ : Sim w a m) (h₂ : Sim w b k) : Sim w (join a b) (joinB m k) where
  env v c hc := by simp [C02.join, joinB, Nat.testBit_or, mem_ounion, h₁.env v c hc, h₂.env v c hc]
  bound j hj := by simp [joinB, Nat.testBit_or, h₁.bound j hj, h₂.bound j hj]
  small v o ho := by
    rcases mem_ounion.mp ho with ho | ho
    · exact h₁.small v o ho
    · exact h₂.small v o ho
  wr := h₁.wr.ounion h₂.wr
  ret := h₁.ret.ounion h₂.ret
  ok := by simp [C02.join, joinB, h₁.ok, h₂.ok]

theorem Sim.leqb (hw : 0 < w) (h₁ : Sim w a m) (h₂ : Sim w b k) : leqb a b = leqbB m k := by
  have henv : (List.finRange n).all (fun v => subsetb (a.env v) (b.env v)) = subB m.env k.env := by
    rw [Bool.eq_iff_iff, List.all_eq_true, subB_iff]
    constructor
    · intro hall j hj
      have hjn : j < n * w := Nat.lt_of_not_le fun hle => by simp [h₁.bound j hle] at hj
      have hv : j / w < n := (Nat.div_lt_iff_lt_mul hw).mpr hjn
      have hsub := hall ⟨j / w, hv⟩ (List.mem_finRange _)
      rw [(h₁.get _).subsetb (h₂.get _), subB_iff] at hsub
      have := hsub (j % w)
      simp only [testBit_getRow, Nat.mod_lt _ hw, decide_true, Bool.true_and] at this
      have e : j / w * w + j % w = j := by rw [Nat.mul_comm]; exact Nat.div_add_mod j w
      rw [e] at this
      exact this hj
    · intro hsub v _
      rw [(h₁.get v).subsetb (h₂.get v), subB_iff]
      intro c hc
      simp only [testBit_getRow, Bool.and_eq_true, decide_eq_true_eq] at hc ⊢
      exact ⟨hc.1, hsub _ hc.2⟩
  rw [C02.leqb, leqbB, henv, h₁.wr.subsetb h₂.wr, h₁.ret.subsetb h₂.ret]

theorem Sim.lfp (hw : 0 < w) {f : Abs n → Abs n} {g : AbsB → AbsB}
    (hfg : ∀ {a m}, Sim w a m → Sim w (f a) (g m)) (fuel : Nat) (h : Sim w a m) :
    Sim w (lfp f fuel a) (lfpB g fuel m) := by
  induction fuel generalizing a m with
  | zero => exact h
  | succ fuel ih =>
    simp only [C02.lfp, lfpB, (h.join (hfg h)).leqb hw h]
    split
    · exact h
    · exact ih (h.join (hfg h))

theorem Sim.analyze (hw : 0 < w) (p : Prog n) (h : Sim w a m) : Sim w (analyze p a) (analyzeB w p m) := by
  induction p generalizing a m with
  | skip => exact h
  | instr i => exact h.step hw i
  | seq p q ihp ihq => exact ihq (ihp h)
  | branch p q ihp ihq => exact (ihp h).join (ihq h)
  | loop p ih =>
    have hA := Sim.lfp hw (fun h => ih h) loopFuel h
    have hB := ih hA
    exact hA.setOk (by rw [h.ok, hB.ok, h.leqb hw hA, hB.leqb hw hA])

end

theorem Func.width_pos {n} (f : Func n) : 0 < f.width := Nat.succ_pos _

theorem Func.rep_init {n} (f : Func n) (v : Fin n) : Rep (f.init v) (f.initRow v) := by
  unfold Func.init Func.initRow
  split
  · exact rep_pow (.param v)
  · split
    · exact rep_pow (.captured (v - f.np))
    · exact rep_nil

theorem Func.init_small {n} (f : Func n) (v : Fin n) : ∀ o ∈ f.init v, o.code < f.width := by
  unfold Func.init Func.width
  intro o ho
  split at ho
  · rw [List.mem_singleton.mp ho, Origin.code]; omega
  · split at ho
    · rw [List.mem_singleton.mp ho, Origin.code]; omega
    · cases ho

theorem Func.initRow_high {n} (f : Func n) (i : Nat) : ∀ c, f.width ≤ c → (f.initRow i).testBit c = false := by
  intro c hc
  unfold Func.width at hc
  unfold Func.initRow
  split
  · rw [Nat.testBit_two_pow]; exact decide_eq_false (by omega)
  · split
    · rw [Nat.testBit_two_pow]; exact decide_eq_false (by omega)
    · exact Nat.zero_testBit c

theorem Func.sim_init {n} (f : Func n) :
    Sim f.width f.abs0 { env := initRows f.width f.initRow n, wr := 0, ret := 0, ok := true } where
  env v c hc := by
    show (initRows f.width f.initRow n).testBit (v * f.width + c) = true ↔ _
    rw [testBit_initRows f.width_pos _ (fun i => f.initRow_high i), div_row _ hc, mod_row _ hc]
    simp only [v.isLt, decide_true, Bool.true_and]
    exact f.rep_init v c
  bound j hj := by
    show (initRows f.width f.initRow n).testBit j = false
    have : n ≤ j / f.width := (Nat.le_div_iff_mul_le f.width_pos).mpr hj
    rw [testBit_initRows f.width_pos _ (fun i => f.initRow_high i), decide_eq_false (by omega), Bool.false_and]
  small := f.init_small
  wr := rep_nil
  ret := rep_nil
  ok := rfl

theorem Func.sim_result {n} (f : Func n) : Sim f.width f.result (resultB f) :=
  Sim.analyze f.width_pos f.body f.sim_init

theorem noMutation_eq_bits {n} (f : Func n) : noMutation f = noMutationB f := by
  rw [noMutation, noMutationB, f.sim_result.ok, f.sim_result.wr.all]

theorem writesOnly_eq_bits {n} (f : Func n) (allowed : List Origin) : writesOnly f allowed = writesOnlyB f allowed := by
  rw [writesOnly, writesOnlyB, f.sim_result.ok, f.sim_result.wr.all]

theorem summaryOf_eq_bits {n} (f : Func n) : summaryOf f = summaryOfB f := by
  simp only [summaryOf, summaryOfB, f.sim_result.ok, f.sim_result.wr.all, f.sim_result.wr.contains,
    f.sim_result.ret.contains]
  rfl

/-- the two facts `Gen/EffectsOk.lean` states about a function that is called through its summary (the checker
    accepts it, and its summary is the literal the call sites use) read the same analysis result, so one
    evaluation decides both -/
def cleanWithSummary {n} (f : Func n) (s : Summary) : Bool := noMutation f && decide (summaryOf f = s)

theorem cleanWithSummary_iff {n} {f : Func n} {s : Summary} :
    cleanWithSummary f s = true ↔ noMutation f = true ∧ summaryOf f = s := by
  simp only [cleanWithSummary, Bool.and_eq_true, decide_eq_true_eq]

def cleanWithSummaryB {n} (f : Func n) (s : Summary) : Bool := noMutationB f && decide (summaryOfB f = s)

theorem cleanWithSummary_eq_bits {n} (f : Func n) (s : Summary) : cleanWithSummary f s = cleanWithSummaryB f s := by
  rw [cleanWithSummary, cleanWithSummaryB, noMutation_eq_bits, summaryOf_eq_bits]

end SigpyVerif.C02
