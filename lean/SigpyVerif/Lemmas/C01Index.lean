import SigpyVerif.Lemmas.C01
import Mathlib.Data.List.Nodup
import Mathlib.Data.List.Perm.Basic
import SigpyVerif.Lemmas.C09
import Mathlib.Data.List.Forall2
import Mathlib.Data.List.Range
import Mathlib.Tactic.Ring
import Mathlib.Tactic.Linarith
/-
  Index lemmas for the C01 leaf proofs: `allIdx` enumerates exactly the in-bounds multi-indices,
  once each and in row-major order (`fl` of the o-th element is `o`); gathers whose index maps are
  mutually inverse partial bijections are permutations of each other's transpose; the bridge from
  the label-pushing form (`labelE` over a C09 array function) to the gather form.
-/
set_option linter.unusedSectionVars false
namespace SigpyVerif.C01
open SigpyVerif

/-- in-bounds multi-index of a shape -/
abbrev InB (sh k : List Int) : Prop := List.Forall₂ (fun n i : Int => 0 ≤ i ∧ i < n) sh k

theorem mem_allIdx {sh k : List Int} : k ∈ allIdx sh ↔ InB sh k := C09.mem_allIdx

theorem InB.length {sh k : List Int} (h : InB sh k) : sh.length = k.length := List.Forall₂.length_eq h

theorem pyRange_nodup_idx (a b s : Int) : (pyRange a b s).Nodup := pyRange_nodup a b s

theorem nodup_flatMap_key_idx {α β : Type} {l : List α} {f : α → List β} (key : β → α)
    (hl : l.Nodup) (hf : ∀ x, (f x).Nodup) (hkey : ∀ x, ∀ y ∈ f x, key y = x) :
    (l.flatMap f).Nodup :=
  (nodup_flatMap_key (P := fun _ => True) key hl fun x => ⟨hf x, fun y hy => ⟨hkey x y hy, trivial⟩⟩).1

theorem allIdx_nodup (sh : List Int) : (allIdx sh).Nodup := by
  induction sh with
  | nil => simp [allIdx]
  | cons n rest ih =>
    unfold allIdx
    refine nodup_flatMap_key_idx (fun k => k.headD 0) (pyRange_nodup_idx _ _ _) (fun i => ?_) ?_
    · exact ih.map (fun a b h => by simpa using h)
    · intro i y hy
      obtain ⟨k, _, rfl⟩ := List.mem_map.mp hy
      rfl

theorem shapeProd_foldl (sh : List Int) (a : Int) : sh.foldl (· * ·) a = a * shapeProd sh :=
  C09.foldl_mul sh a

theorem shapeProd_nil : shapeProd [] = 1 := rfl

theorem shapeProd_cons (n : Int) (sh : List Int) : shapeProd (n :: sh) = n * shapeProd sh :=
  C09.shapeProd_cons n sh

theorem ravel_acc (sh k : List Int) (h : sh.length = k.length) (acc : Int) :
    (List.zip sh k).foldl (fun acc (p : Int × Int) => acc * p.1 + p.2) acc
      = acc * shapeProd sh + ravel sh k := by
  rw [C09.ravel_foldl, List.map_fst_zip h.le]
  rfl

theorem ravel_nil : ravel [] [] = 0 := rfl

theorem ravel_cons (n i : Int) (sh k : List Int) (h : sh.length = k.length) :
    ravel (n :: sh) (i :: k) = i * shapeProd sh + ravel sh k :=
  C09.ravel_cons n i sh k h.symm

theorem ravel_bounds {sh k : List Int} (h : InB sh k) : 0 ≤ ravel sh k ∧ ravel sh k < shapeProd sh :=
  have h' := C09.allIdx_getElem?_ravel (C09.mem_allIdx.mpr h)
  ⟨h'.1, h'.2.1⟩

theorem fl_lt {sh k : List Int} (h : InB sh k) : fl sh k < (shapeProd sh).toNat := by
  obtain ⟨h0, h1⟩ := ravel_bounds h
  unfold fl
  omega

theorem fl_cons (n i : Int) (sh k : List Int) (hk : InB sh k) (hi : 0 ≤ i) :
    fl (n :: sh) (i :: k) = i.toNat * (shapeProd sh).toNat + fl sh k := by
  obtain ⟨h0, h1⟩ := ravel_bounds hk
  unfold fl
  rw [ravel_cons n i sh k hk.length_eq]
  have hp : 0 ≤ shapeProd sh := by omega
  have : (i * shapeProd sh + ravel sh k).toNat = (i * shapeProd sh).toNat + (ravel sh k).toNat :=
    Int.toNat_add (mul_nonneg hi hp) h0
  rw [this, Int.toNat_mul hi hp]

theorem range_mul_flat (N P : Nat) :
    (List.range N).flatMap (fun i => (List.range P).map fun j => i * P + j) = List.range (N * P) := by
  induction N with
  | zero => simp
  | succ N ih =>
    rw [List.range_succ, List.flatMap_append, ih, Nat.succ_mul, List.range_add]
    simp

theorem pyRange0_eq (n : Int) : pyRange0 n = (List.range n.toNat).map fun (i : Nat) => (i : Int) :=
  C09.pyRange0_eq n

/-- `allIdx` lists the multi-indices in row-major order: the flat index of the `o`-th one is `o` -/
theorem allIdx_map_fl (sh : List Int) (hsh : ∀ n ∈ sh, 0 ≤ n) :
    (allIdx sh).map (fl sh) = List.range (shapeProd sh).toNat := by
  apply List.ext_getElem
  · rw [List.length_map, List.length_range, C09.allIdx_length sh hsh]
  · intro i h1 _
    rw [List.length_map] at h1
    rw [List.getElem_map, List.getElem_range]
    -- position `fl sh k` holds `k`, position `i` holds `k`, and `allIdx sh` has no repetitions
    have hk := (C09.allIdx_getElem?_ravel (List.getElem_mem h1)).2.2
    exact ((List.getElem?_inj h1 (allIdx_nodup sh)).mp ((List.getElem?_eq_getElem h1).trans hk.symm)).symm

theorem allIdx_length (sh : List Int) (hsh : ∀ n ∈ sh, 0 ≤ n) :
    (allIdx sh).length = (shapeProd sh).toNat :=
  C09.allIdx_length sh hsh

/-- reading position `fl sh k` of an array laid out along `allIdx sh` gives the value at `k` -/
theorem getD_map_allIdx {β : Type} (sh : List Int) (hsh : ∀ n ∈ sh, 0 ≤ n) (b : List Int → β) (d : β)
    (k : List Int) (hk : k ∈ allIdx sh) : ((allIdx sh).map b).getD (fl sh k) d = b k := by
  obtain ⟨i, hi, rfl⟩ := List.mem_iff_getElem.mp hk
  have h1 : ((allIdx sh).map (fl sh))[i]'(by simpa using hi) = fl sh (allIdx sh)[i] := by simp
  have h2 : ((allIdx sh).map (fl sh))[i]'(by simpa using hi) = i := by
    simp only [allIdx_map_fl sh hsh]
    simp
  rw [← h1, h2]
  simp [List.getD_eq_getElem?_getD, hi]

theorem getD_toArray_map_allIdx {β : Type} (sh : List Int) (hsh : ∀ n ∈ sh, 0 ≤ n) (b : List Int → β) (d : β)
    (k : List Int) (hk : k ∈ allIdx sh) : ((allIdx sh).map b).toArray.getD (fl sh k) d = b k := by
  have hlt : fl sh k < (allIdx sh).length := by
    rw [allIdx_length sh hsh]; exact fl_lt (mem_allIdx.mp hk)
  simpa [Array.getD, List.getD_eq_getElem?_getD, hlt] using getD_map_allIdx sh hsh b d k hk

theorem allIdx_eq_nil (sh : List Int) (h : ∃ n ∈ sh, n ≤ 0) : allIdx sh = [] := by
  induction sh with
  | nil => simp at h
  | cons n rest ih =>
    unfold allIdx
    by_cases hn : n ≤ 0
    · have : pyRange0 n = [] := by
        rw [pyRange0_eq]; simp; omega
      rw [this]; simp
    · obtain ⟨m, hm, hm0⟩ := h
      have : ∃ n ∈ rest, n ≤ 0 := by
        rcases List.mem_cons.mp hm with rfl | h'
        · exact absurd hm0 hn
        · exact ⟨m, h', hm0⟩
      rw [ih this]; simp

theorem allIdx_eq_nil_of_neg {sh : List Int} (h : ¬ ∀ n ∈ sh, 0 ≤ n) : allIdx sh = [] := by
  obtain ⟨n, hn⟩ := not_forall.mp h
  obtain ⟨hm, h0⟩ := Classical.not_imp.mp hn
  exact allIdx_eq_nil sh ⟨n, hm, le_of_lt (not_le.mp h0)⟩

section gather
variable {α : Type} [CommRing α] [StarRing α]

/-- the graph of a gather as a list of (output multi-index, input multi-index) pairs -/
def graphL (osh : List Int) (g : List Int → Option (List Int)) : List (List Int × List Int) :=
  (allIdx osh).filterMap fun k => (g k).map fun j => (k, j)

theorem mem_graphL {osh : List Int} {g : List Int → Option (List Int)} {p : List Int × List Int} :
    p ∈ graphL osh g ↔ p.1 ∈ allIdx osh ∧ g p.1 = some p.2 := by
  unfold graphL
  simp only [List.mem_filterMap, Option.map_eq_some_iff]
  constructor
  · rintro ⟨k, hk, j, hj, rfl⟩
    exact ⟨hk, hj⟩
  · rintro ⟨hk, hj⟩
    exact ⟨p.1, hk, p.2, hj, rfl⟩

theorem graphL_nodup (osh : List Int) (g : List Int → Option (List Int)) : (graphL osh g).Nodup := by
  unfold graphL
  refine (allIdx_nodup osh).filterMap ?_
  intro a a' b hb hb'
  simp only [Option.mem_def, Option.map_eq_some_iff] at hb hb'
  obtain ⟨j, _, rfl⟩ := hb
  obtain ⟨j', _, h⟩ := hb'
  simp only [Prod.mk.injEq] at h
  exact h.1.symm

theorem gatherE_eq_graph (osh ish : List Int) (g : List Int → Option (List Int)) :
    (gatherE osh ish g : List (Ent α)) = (graphL osh g).map fun p => (fl osh p.1, fl ish p.2, (1 : α)) := by
  unfold gatherE graphL
  rw [List.map_filterMap]
  congr 1
  funext k
  cases g k <;> rfl

/-- two gathers whose index maps are mutually inverse partial bijections between the in-bounds
    multi-indices are transposes of each other, as multisets of entries -/
theorem gatherE_perm_swap (osh ish : List Int) (g g' : List Int → Option (List Int))
    (h1 : ∀ k ∈ allIdx osh, ∀ j, g k = some j → j ∈ allIdx ish ∧ g' j = some k)
    (h2 : ∀ j ∈ allIdx ish, ∀ k, g' j = some k → k ∈ allIdx osh ∧ g k = some j) :
    (gatherE ish osh g' : List (Ent α)).Perm (swapE (gatherE osh ish g)) := by
  rw [gatherE_eq_graph, gatherE_eq_graph]
  unfold swapE
  rw [List.map_map]
  have hp : (graphL ish g').Perm ((graphL osh g).map fun p => (p.2, p.1)) := by
    rw [List.perm_ext_iff_of_nodup (graphL_nodup _ _)
      ((graphL_nodup _ _).map (fun a b h => by
        obtain ⟨a1, a2⟩ := a; obtain ⟨b1, b2⟩ := b
        simp only [Prod.mk.injEq] at h ⊢; exact ⟨h.2, h.1⟩))]
    rintro ⟨j, k⟩
    rw [mem_graphL, List.mem_map]
    constructor
    · rintro ⟨hj, hk⟩
      obtain ⟨hk', hg⟩ := h2 j hj k hk
      exact ⟨(k, j), mem_graphL.mpr ⟨hk', hg⟩, rfl⟩
    · rintro ⟨⟨k', j'⟩, hm, he⟩
      simp only [Prod.mk.injEq] at he
      obtain ⟨rfl, rfl⟩ := he
      obtain ⟨hk', hg⟩ := mem_graphL.mp hm
      exact h1 k' hk' j' hg
  have := hp.map fun p : List Int × List Int => ((fl ish p.1, fl osh p.2, (1 : α)) : Ent α)
  rw [List.map_map] at this
  exact this

theorem labels_getD (n i : Nat) (h : i < n) : ((Array.range n).map (· + 1)).getD i 0 = i + 1 := by
  simp [Array.getD, h]

/-- **bridge**: relabelling `1..n` by an array function that lays out, along `allIdx osh`, the value
    read at the flat position of `g k` (or 0) yields exactly the gather entries of `g` -/
theorem labelE_eq_gatherE_nonneg (osh ish : List Int) (hosh : ∀ n ∈ osh, 0 ≤ n)
    (g : List Int → Option (List Int)) (f : Array Nat → Array Nat)
    (hf : f ((Array.range (shapeProd ish).toNat).map (· + 1)) = ((allIdx osh).map fun k =>
      match g k with
      | some j => ((Array.range (shapeProd ish).toNat).map (· + 1)).getD (fl ish j) 0
      | none => 0).toArray)
    (hg : ∀ k ∈ allIdx osh, ∀ j, g k = some j → j ∈ allIdx ish) :
    (labelE (shapeProd ish).toNat f : List (Ent α)) = gatherE osh ish g := by
  unfold labelE gatherE
  simp only [hf, List.size_toArray, List.length_map]
  rw [allIdx_length osh hosh, ← allIdx_map_fl osh hosh, List.filterMap_map]
  apply List.filterMap_congr
  intro k hk
  simp only [Function.comp]
  rw [getD_toArray_map_allIdx osh hosh _ 0 k hk]
  cases hgk : g k with
  | none => simp
  | some j =>
    have hj := fl_lt (mem_allIdx.mp (hg k hk j hgk))
    simp only [labels_getD _ _ hj]
    simp

theorem labelE_eq_gatherE (osh ish : List Int)
    (g : List Int → Option (List Int)) (f : Array Nat → Array Nat)
    (hf : f ((Array.range (shapeProd ish).toNat).map (· + 1)) = ((allIdx osh).map fun k =>
      match g k with
      | some j => ((Array.range (shapeProd ish).toNat).map (· + 1)).getD (fl ish j) 0
      | none => 0).toArray)
    (hg : ∀ k ∈ allIdx osh, ∀ j, g k = some j → j ∈ allIdx ish) :
    (labelE (shapeProd ish).toNat f : List (Ent α)) = gatherE osh ish g := by
  by_cases hosh : ∀ n ∈ osh, 0 ≤ n
  · exact labelE_eq_gatherE_nonneg osh ish hosh g f hf hg
  · have hnil := allIdx_eq_nil_of_neg hosh
    simp only [labelE, gatherE, hf, hnil, List.map_nil, List.size_toArray, List.length_nil, List.range_zero,
      List.filterMap_nil]

/-- apply `φ axis length index` on every axis (the form of the index maps of `util.flip`, `numpy.roll`) -/
def axmapFrom (s : Nat) (φ : Nat → Int → Int → Int) (sh k : List Int) : List Int :=
  (List.zip (List.range' s sh.length) (List.zip sh k)).map fun (d, n, kd) => φ d n kd

def axmap (φ : Nat → Int → Int → Int) (sh k : List Int) : List Int :=
  (List.zip (List.range sh.length) (List.zip sh k)).map fun (d, n, kd) => φ d n kd

theorem axmap_eq (φ : Nat → Int → Int → Int) (sh k : List Int) : axmap φ sh k = axmapFrom 0 φ sh k := by
  unfold axmap axmapFrom; rw [List.range_eq_range']

theorem axmapFrom_nil (s : Nat) (φ : Nat → Int → Int → Int) : axmapFrom s φ [] [] = [] := rfl

theorem axmapFrom_cons (s : Nat) (φ : Nat → Int → Int → Int) (n i : Int) (sh k : List Int) :
    axmapFrom s φ (n :: sh) (i :: k) = φ s n i :: axmapFrom (s + 1) φ sh k := by
  unfold axmapFrom
  simp [List.range'_succ]

theorem axmapFrom_inB (φ : Nat → Int → Int → Int)
    (hφ : ∀ d n x, 0 ≤ x → x < n → 0 ≤ φ d n x ∧ φ d n x < n) {sh k : List Int} (h : InB sh k) (s : Nat) :
    InB sh (axmapFrom s φ sh k) := by
  induction h generalizing s with
  | nil => exact List.Forall₂.nil
  | @cons n i sh k hi hk ih =>
    rw [axmapFrom_cons]
    exact List.Forall₂.cons (hφ s n i hi.1 hi.2) (ih (s + 1))

theorem axmapFrom_comp (φ ψ : Nat → Int → Int → Int) {sh k : List Int} (h : InB sh k) (s : Nat) :
    axmapFrom s ψ sh (axmapFrom s φ sh k) = axmapFrom s (fun d n x => ψ d n (φ d n x)) sh k := by
  induction h generalizing s with
  | nil => rfl
  | @cons n i sh k hi hk ih =>
    rw [axmapFrom_cons, axmapFrom_cons, axmapFrom_cons, ih (s + 1)]

theorem axmapFrom_congr (φ ψ : Nat → Int → Int → Int)
    (hφ : ∀ d n x, 0 ≤ x → x < n → φ d n x = ψ d n x) {sh k : List Int} (h : InB sh k) (s : Nat) :
    axmapFrom s φ sh k = axmapFrom s ψ sh k := by
  induction h generalizing s with
  | nil => rfl
  | @cons n i sh k hi hk ih =>
    rw [axmapFrom_cons, axmapFrom_cons, ih (s + 1), hφ s n i hi.1 hi.2]

theorem axmapFrom_id (φ : Nat → Int → Int → Int)
    (hφ : ∀ d n x, 0 ≤ x → x < n → φ d n x = x) {sh k : List Int} (h : InB sh k) (s : Nat) :
    axmapFrom s φ sh k = k := by
  induction h generalizing s with
  | nil => rfl
  | @cons n i sh k hi hk ih =>
    rw [axmapFrom_cons, ih (s + 1), hφ s n i hi.1 hi.2]

theorem axmap_mem (φ : Nat → Int → Int → Int)
    (hφ : ∀ d n x, 0 ≤ x → x < n → 0 ≤ φ d n x ∧ φ d n x < n) {sh k : List Int} (h : k ∈ allIdx sh) :
    axmap φ sh k ∈ allIdx sh := by
  rw [axmap_eq]; exact mem_allIdx.mpr (axmapFrom_inB φ hφ (mem_allIdx.mp h) 0)

/-- `ψ` undoes `φ` on every axis ⇒ the axis-wise maps undo each other on in-bounds multi-indices -/
theorem axmap_inverse (φ ψ : Nat → Int → Int → Int)
    (_hφ : ∀ d n x, 0 ≤ x → x < n → 0 ≤ φ d n x ∧ φ d n x < n)
    (hinv : ∀ d n x, 0 ≤ x → x < n → ψ d n (φ d n x) = x) {sh k : List Int} (h : k ∈ allIdx sh) :
    axmap ψ sh (axmap φ sh k) = k := by
  rw [axmap_eq, axmap_eq, axmapFrom_comp φ ψ (mem_allIdx.mp h) 0]
  exact axmapFrom_id _ hinv (mem_allIdx.mp h) 0

theorem axmap_comp (φ ψ : Nat → Int → Int → Int) {sh k : List Int} (h : k ∈ allIdx sh) :
    axmap ψ sh (axmap φ sh k) = axmap (fun d n x => ψ d n (φ d n x)) sh k := by
  rw [axmap_eq, axmap_eq, axmap_eq, axmapFrom_comp φ ψ (mem_allIdx.mp h) 0]

theorem axmap_congr (φ ψ : Nat → Int → Int → Int)
    (hφ : ∀ d n x, 0 ≤ x → x < n → φ d n x = ψ d n x) {sh k : List Int} (h : k ∈ allIdx sh) :
    axmap φ sh k = axmap ψ sh k := by
  rw [axmap_eq, axmap_eq]; exact axmapFrom_congr φ ψ hφ (mem_allIdx.mp h) 0

/-- a pair of mutually inverse axis-wise bijections gives a gather and its transpose -/
theorem gatherE_axmap_perm (sh : List Int) (φ ψ : Nat → Int → Int → Int)
    (hφ : ∀ d n x, 0 ≤ x → x < n → 0 ≤ φ d n x ∧ φ d n x < n)
    (hψ : ∀ d n x, 0 ≤ x → x < n → 0 ≤ ψ d n x ∧ ψ d n x < n)
    (h1 : ∀ d n x, 0 ≤ x → x < n → ψ d n (φ d n x) = x)
    (h2 : ∀ d n x, 0 ≤ x → x < n → φ d n (ψ d n x) = x) :
    (gatherE sh sh (fun k => some (axmap ψ sh k)) : List (Ent α)).Perm
      (swapE (gatherE sh sh fun k => some (axmap φ sh k))) := by
  apply gatherE_perm_swap
  · intro k hk j hj
    simp only [Option.some.injEq] at hj
    subst hj
    exact ⟨axmap_mem φ hφ hk, by rw [axmap_inverse φ ψ hφ h1 hk]⟩
  · intro j hj k hk
    simp only [Option.some.injEq] at hk
    subst hk
    exact ⟨axmap_mem ψ hψ hj, by rw [axmap_inverse ψ φ hψ h2 hj]⟩

theorem getI_eq_getElem (l : List Int) (d : Nat) (h : d < l.length) : getI l d = l[d] :=
  getD_of_lt l d h 0

theorem inB_iff_getI {sh k : List Int} :
    InB sh k ↔ k.length = sh.length ∧ ∀ d, d < sh.length → 0 ≤ getI k d ∧ getI k d < getI sh d := by
  unfold InB getI
  rw [C09.forall₂_iff_getD 0 0, eq_comm]

theorem ext_getI {l1 l2 : List Int} (hl : l1.length = l2.length)
    (h : ∀ d, d < l1.length → getI l1 d = getI l2 d) : l1 = l2 :=
  ext_getD 0 hl h

/-- the multi-index whose axis `a` is axis `τ a` of `j` -/
def permIdx (τ : Nat → Nat) (n : Nat) (j : List Int) : List Int :=
  (List.range n).map fun (a : Nat) => getI j (τ a)

theorem permIdx_length (τ : Nat → Nat) (n : Nat) (j : List Int) : (permIdx τ n j).length = n := by
  simp [permIdx]

theorem getI_permIdx (τ : Nat → Nat) (n : Nat) (j : List Int) (d : Nat) (hd : d < n) :
    getI (permIdx τ n j) d = getI j (τ d) := by
  rw [getI_eq_getElem _ _ (by simpa [permIdx] using hd)]
  simp [permIdx]

theorem permIdx_step (n : Nat) (osh ish : List Int) (σ τ : Nat → Nat) (hl : osh.length = n)
    (hl' : ish.length = n) (hσ : ∀ a, a < n → σ a < n) (hτ : ∀ d, d < n → τ d < n)
    (h2 : ∀ d, d < n → σ (τ d) = d) (hsh : ∀ a, a < n → getI ish a = getI osh (σ a))
    (k : List Int) (hk : InB osh k) :
    InB ish (permIdx σ n k) ∧ permIdx τ n (permIdx σ n k) = k := by
  obtain ⟨hkl, hkb⟩ := inB_iff_getI.mp hk
  constructor
  · rw [inB_iff_getI]
    refine ⟨by rw [permIdx_length, hl'], fun a ha => ?_⟩
    rw [hl'] at ha
    rw [getI_permIdx σ n k a ha, hsh a ha]
    exact hkb (σ a) (by rw [hl]; exact hσ a ha)
  · apply ext_getI
    · rw [permIdx_length, hkl, hl]
    · intro d hd
      rw [permIdx_length] at hd
      rw [getI_permIdx τ n _ d hd, getI_permIdx σ n k _ (hτ d hd), h2 d hd]

/-- gathers along mutually inverse axis permutations are transposes of each other -/
theorem gatherE_permIdx_perm (n : Nat) (osh ish : List Int) (σ τ : Nat → Nat) (hl : osh.length = n)
    (hl' : ish.length = n) (hσ : ∀ a, a < n → σ a < n) (hτ : ∀ d, d < n → τ d < n)
    (h1 : ∀ a, a < n → τ (σ a) = a) (h2 : ∀ d, d < n → σ (τ d) = d)
    (hsh : ∀ a, a < n → getI ish a = getI osh (σ a)) :
    (gatherE ish osh (fun j => some (permIdx τ n j)) : List (Ent α)).Perm
      (swapE (gatherE osh ish fun k => some (permIdx σ n k))) := by
  have hsh' : ∀ d, d < n → getI osh d = getI ish (τ d) := by
    intro d hd; rw [hsh (τ d) (hτ d hd), h2 d hd]
  apply gatherE_perm_swap
  · intro k hk j hj
    simp only [Option.some.injEq] at hj
    subst hj
    obtain ⟨i1, i2⟩ := permIdx_step n osh ish σ τ hl hl' hσ hτ h2 hsh k (mem_allIdx.mp hk)
    exact ⟨mem_allIdx.mpr i1, by rw [i2]⟩
  · intro j hj k hk
    simp only [Option.some.injEq] at hk
    subst hk
    obtain ⟨i1, i2⟩ := permIdx_step n ish osh τ σ hl' hl hτ hσ h1 hsh' j (mem_allIdx.mp hj)
    exact ⟨mem_allIdx.mpr i1, by rw [i2]⟩

def rmFrom (s : Nat) (rm : Nat → Bool) (k : List Int) : List Int :=
  ((List.range' s k.length).zip k).filterMap fun (d, v) => if rm d then none else some v

theorem removeAxes_eq (axes k : List Int) :
    removeAxes axes k = rmFrom 0 (fun d => axes.contains (d : Int)) k := by
  unfold removeAxes rmFrom
  rw [List.range_eq_range']

theorem rmFrom_cons (s : Nat) (rm : Nat → Bool) (v : Int) (k : List Int) :
    rmFrom s rm (v :: k) = if rm s then rmFrom (s + 1) rm k else v :: rmFrom (s + 1) rm k := by
  unfold rmFrom
  simp only [List.length_cons, List.range'_succ, List.zip_cons_cons, List.filterMap_cons]
  cases rm s <;> simp

theorem bcast_cons (n v : Int) (sh k : List Int) :
    bcast (n :: sh) (v :: k) = (if n = 1 then 0 else v) :: bcast sh k := by
  simp [bcast]

theorem getI_cons_succ (x : Int) (l : List Int) (t : Nat) : getI (x :: l) (t + 1) = getI l t := rfl

theorem getI_cons_zero (x : Int) (l : List Int) : getI (x :: l) 0 = x := rfl

theorem rm_hyp_tail {rm : Nat → Bool} {s : Nat} {n m : Int} {osh ie : List Int}
    (h : ∀ t, t < (n :: osh).length →
      (rm (s + t) = true → getI (m :: ie) t = 1) ∧
        (rm (s + t) = false → getI (m :: ie) t = getI (n :: osh) t)) :
    ((rm s = true → m = 1) ∧ (rm s = false → m = n)) ∧
    ∀ t, t < osh.length →
      (rm (s + 1 + t) = true → getI ie t = 1) ∧ (rm (s + 1 + t) = false → getI ie t = getI osh t) := by
  refine ⟨h 0 (Nat.zero_lt_succ _), fun t ht => ?_⟩
  have := h (t + 1) (Nat.succ_lt_succ ht)
  rwa [getI_cons_succ, getI_cons_succ, ← Nat.add_assoc, Nat.add_right_comm] at this

theorem rm_prod (rm : Nat → Bool) (osh : List Int) (s : Nat) (ie : List Int) (hl : ie.length = osh.length)
    (h : ∀ t, t < osh.length →
      (rm (s + t) = true → getI ie t = 1) ∧ (rm (s + t) = false → getI ie t = getI osh t)) :
    shapeProd (rmFrom s rm osh) = shapeProd ie := by
  induction osh generalizing s ie with
  | nil =>
    cases ie with
    | nil => rfl
    | cons _ _ => cases hl
  | cons n osh ih =>
    cases ie with
    | nil => cases hl
    | cons m ie' =>
      obtain ⟨h0, h'⟩ := rm_hyp_tail h
      have a4 := ih (s + 1) ie' (Nat.succ.inj hl) h'
      rw [rmFrom_cons]
      cases hr : rm s with
      | true => rw [h0.1 hr, if_pos rfl, shapeProd_cons, a4, one_mul]
      | false => rw [h0.2 hr, if_neg Bool.false_ne_true, shapeProd_cons, shapeProd_cons, a4]

/-- dropping the axes marked by `rm` (all of size 1 in `ie`) from an index of `osh` gives the same
    flat position as broadcasting the index into `ie`, when the kept axes have equal sizes -/
theorem rm_bcast (rm : Nat → Bool) {osh k : List Int} (hk : InB osh k) (s : Nat) (ie : List Int)
    (hl : ie.length = osh.length)
    (h : ∀ t, t < osh.length →
      (rm (s + t) = true → getI ie t = 1) ∧ (rm (s + t) = false → getI ie t = getI osh t)) :
    InB (rmFrom s rm osh) (rmFrom s rm k) ∧ InB ie (bcast ie k) ∧
      ravel (rmFrom s rm osh) (rmFrom s rm k) = ravel ie (bcast ie k) ∧
      shapeProd (rmFrom s rm osh) = shapeProd ie := by
  suffices key : InB (rmFrom s rm osh) (rmFrom s rm k) ∧ InB ie (bcast ie k) ∧
      ravel (rmFrom s rm osh) (rmFrom s rm k) = ravel ie (bcast ie k) from
    ⟨key.1, key.2.1, key.2.2, rm_prod rm osh s ie hl h⟩
  induction hk generalizing s ie with
  | nil =>
    cases ie with
    | nil => exact ⟨List.Forall₂.nil, List.Forall₂.nil, rfl⟩
    | cons _ _ => cases hl
  | @cons n i osh k hi hk ih =>
    cases ie with
    | nil => cases hl
    | cons m ie' =>
      obtain ⟨h0, h'⟩ := rm_hyp_tail h
      have hl' : ie'.length = osh.length := Nat.succ.inj hl
      obtain ⟨a1, a2, a3⟩ := ih (s + 1) ie' hl' h'
      have a4 := rm_prod rm osh (s + 1) ie' hl' h'
      rw [rmFrom_cons, rmFrom_cons, bcast_cons]
      cases hr : rm s with
      | true =>
        rw [h0.1 hr, if_pos rfl, if_pos rfl, if_pos rfl]
        refine ⟨a1, List.Forall₂.cons ⟨le_refl _, Int.zero_lt_one⟩ a2, ?_⟩
        rw [ravel_cons _ _ _ _ a2.length_eq, a3, zero_mul, zero_add]
      | false =>
        have hm : m = n := h0.2 hr
        subst hm
        have hv : (if m = 1 then 0 else i) = i := by
          split_ifs with h1
          · omega
          · rfl
        rw [if_neg Bool.false_ne_true, if_neg Bool.false_ne_true, hv]
        refine ⟨List.Forall₂.cons hi a1, List.Forall₂.cons hi a2, ?_⟩
        rw [ravel_cons _ _ _ _ a1.length_eq, ravel_cons _ _ _ _ a2.length_eq, a3, a4]

theorem bcast_self {sh k : List Int} (hk : InB sh k) : bcast sh k = k := by
  induction hk with
  | nil => rfl
  | @cons n i sh k hi hk ih =>
    rw [bcast_cons, ih]
    congr 1
    split_ifs with h1
    · omega
    · rfl

theorem bshape_cons (x y : Int) (a b o : List Int) :
    bshape (x :: a) (y :: b) = some o ↔
      ∃ o', (x = y ∨ x = 1 ∨ y = 1) ∧ bshape a b = some o' ∧ o = max x y :: o' := by
  unfold bshape
  simp only [List.zip_cons_cons, List.mapM_cons, Option.bind_eq_bind, Option.pure_def,
    Option.bind_eq_some_iff]
  constructor
  · rintro ⟨v, hv, vs, hvs, he⟩
    split_ifs at hv with hc
    simp only [Option.some.injEq] at hv he
    exact ⟨vs, hc, hvs, by rw [← he, ← hv]⟩
  · rintro ⟨o', hc, ho', rfl⟩
    exact ⟨max x y, by rw [if_pos hc], o', ho', rfl⟩

theorem bshape_nil_iff (o : List Int) : bshape [] [] = some o ↔ o = [] :=
  ⟨fun h => (Option.some.inj h).symm, fun h => by subst h; rfl⟩

theorem bshape_spec {a b o : List Int} (h : bshape a b = some o) (hl : a.length = b.length) :
    o.length = a.length ∧ ∀ t, t < a.length →
      (getI a t = getI b t ∨ getI a t = 1 ∨ getI b t = 1) ∧ getI o t = max (getI a t) (getI b t) := by
  induction a generalizing b o with
  | nil =>
    cases b with
    | nil =>
      obtain rfl := (bshape_nil_iff o).mp h
      exact ⟨rfl, fun t ht => absurd ht (Nat.not_lt_zero t)⟩
    | cons _ _ => cases hl
  | cons x a ih =>
    cases b with
    | nil => cases hl
    | cons y b =>
      obtain ⟨o', hc, ho', rfl⟩ := (bshape_cons x y a b o).mp h
      obtain ⟨l1, l2⟩ := ih ho' (Nat.succ.inj hl)
      refine ⟨congrArg Nat.succ l1, fun t ht => ?_⟩
      cases t with
      | zero => exact ⟨hc, rfl⟩
      | succ t => exact l2 t (Nat.lt_of_succ_lt_succ ht)

theorem bshape_idem {a b o : List Int} (h : bshape a b = some o) (hl : a.length = b.length) :
    bshape o b = some o := by
  induction a generalizing b o with
  | nil =>
    cases b with
    | nil => obtain rfl := (bshape_nil_iff o).mp h; rfl
    | cons _ _ => cases hl
  | cons x a ih =>
    cases b with
    | nil => cases hl
    | cons y b =>
      obtain ⟨o', hc, ho', rfl⟩ := (bshape_cons x y a b o).mp h
      rw [bshape_cons]
      refine ⟨o', ?_, ih ho' (Nat.succ.inj hl), ?_⟩
      · omega
      · rw [max_assoc, max_self]

theorem filterMap_single {β γ : Type} [DecidableEq γ] (L : List β) (hL : L.Nodup) (key : β → γ)
    (F : β → Ent α) (j : β) (hj : j ∈ L) (hinj : ∀ k ∈ L, key j = key k → j = k) :
    L.filterMap (fun k => if key j = key k then some (F k) else none) = [F j] := by
  induction L with
  | nil => simp at hj
  | cons a L ih =>
    rw [List.nodup_cons] at hL
    rw [List.filterMap_cons]
    by_cases hja : j = a
    · subst hja
      simp only [if_true]
      have : L.filterMap (fun k => if key j = key k then some (F k) else none) = [] := by
        rw [List.filterMap_eq_nil_iff]
        intro k hk
        have : ¬ key j = key k := fun h => hL.1 ((hinj k (List.mem_cons_of_mem _ hk) h) ▸ hk)
        simp [this]
      rw [this]
    · have hj' : j ∈ L := by
        rcases List.mem_cons.mp hj with h | h
        · exact absurd h hja
        · exact h
      have hne : ¬ key j = key a := fun h => hja (hinj a (List.mem_cons_self ..) h)
      simp only [hne, if_false]
      exact ih hL.2 hj' (fun k hk => hinj k (List.mem_cons_of_mem _ hk))

theorem flatMap_singleton_of {β γ : Type} (L : List β) (f : β → List γ) (g : β → γ)
    (h : ∀ j ∈ L, f j = [g j]) : L.flatMap f = L.map g := by
  induction L with
  | nil => rfl
  | cons a L ih =>
    rw [List.flatMap_cons, h a (List.mem_cons_self ..), ih fun j hj => h j (List.mem_cons_of_mem _ hj)]
    rfl

/-- product of two entry lists laid out along the same duplicate-free list `L`, the first reading
    where the second writes (`key`, injective on `L`): one product entry per element of `L` -/
theorem compE_along {β : Type} (L : List β) (hL : L.Nodup) (key : β → Nat)
    (hinj : ∀ j ∈ L, ∀ k ∈ L, key j = key k → j = k) (oa ib : β → Nat) (wa wb : β → α) :
    compE (L.map fun j => ((oa j, key j, wa j) : Ent α)) (L.map fun k => ((key k, ib k, wb k) : Ent α))
      = L.map fun j => ((oa j, ib j, wa j * wb j) : Ent α) := by
  unfold compE
  rw [List.flatMap_map]
  apply flatMap_singleton_of
  intro j hj
  rw [List.filterMap_map]
  exact filterMap_single L hL key (fun k => (oa j, ib k, wa j * wb k)) j hj (hinj j hj)

theorem fl_inj (sh : List Int) {k k' : List Int} (hk : k ∈ allIdx sh) (hk' : k' ∈ allIdx sh)
    (h : fl sh k = fl sh k') : k = k' := by
  by_cases hsh : ∀ n ∈ sh, 0 ≤ n
  · have hnd : ((allIdx sh).map (fl sh)).Nodup := by rw [allIdx_map_fl sh hsh]; exact List.nodup_range
    exact List.inj_on_of_nodup_map hnd hk hk' h
  · have hnil := allIdx_eq_nil_of_neg hsh
    rw [hnil] at hk; simp at hk

theorem inRangeE_id (n m : Nat) (E : List (Ent α)) (h : InRange n m E) : inRangeE n m E = E := by
  unfold inRangeE
  rw [List.filter_eq_self]
  intro e he
  simpa using h e he

end gather
end SigpyVerif.C01
