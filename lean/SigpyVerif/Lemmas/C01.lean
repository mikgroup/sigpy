import SigpyVerif.Model.C01
import Mathlib.Algebra.Star.Basic
import Mathlib.Algebra.BigOperators.Group.List.Basic
import Mathlib.Algebra.BigOperators.Ring.List
import Mathlib.Tactic.Ring
/-
  Helper lemmas for C01/C04: algebra of entry lists over a commutative star ring.
-/
set_option linter.unusedSectionVars false
namespace SigpyVerif.C01
open SigpyVerif

section
variable {ι κ μ α : Type} [CommRing α] [StarRing α]

theorem applyF_nil [DecidableEq ι] (x : κ → α) (o : ι) :
    applyF ([] : List (ι × κ × α)) x o = 0 := rfl

theorem applyF_cons [DecidableEq ι] (e : ι × κ × α) (E : List (ι × κ × α)) (x : κ → α) (o : ι) :
    applyF (e :: E) x o = (if e.1 = o then e.2.2 * x e.2.1 else 0) + applyF E x o := rfl

theorem applyF_row [DecidableEq ι] [DecidableEq κ] (a : ι × κ × α) (B : List (κ × μ × α))
    (x : μ → α) (o : ι) :
    applyF (B.filterMap fun b => if a.2.1 = b.1 then some (a.1, b.2.1, a.2.2 * b.2.2) else none) x o
      = if a.1 = o then a.2.2 * applyF B x a.2.1 else 0 := by
  induction B with
  | nil => rw [List.filterMap_nil, applyF_nil, applyF_nil, mul_zero, ite_self]
  | cons b B ih =>
    rw [List.filterMap_cons, applyF_cons b B]
    by_cases h : a.2.1 = b.1
    · rw [if_pos h, applyF_cons, ih, if_pos h.symm]
      by_cases ho : a.1 = o
      · rw [if_pos ho, if_pos ho, if_pos ho, mul_add, mul_assoc]
      · rw [if_neg ho, if_neg ho, if_neg ho, add_zero]
    · rw [if_neg h, ih, if_neg (show ¬ b.1 = a.2.1 from fun hh => h hh.symm), zero_add]

theorem applyF_add [DecidableEq ι] (E : List (ι × κ × α)) (a b : κ → α) (o : ι) :
    applyF E (fun i => a i + b i) o = applyF E a o + applyF E b o := by
  unfold applyF
  rw [← List.sum_map_add]
  congr 1
  apply List.map_congr_left
  intro e _
  by_cases h : e.1 = o
  · rw [if_pos h, if_pos h, if_pos h, mul_add]
  · rw [if_neg h, if_neg h, if_neg h, add_zero]

theorem applyF_sub [DecidableEq ι] (E : List (ι × κ × α)) (a b : κ → α) (o : ι) :
    applyF E (fun i => a i - b i) o = applyF E a o - applyF E b o := by
  have h := applyF_add E (fun i => a i - b i) b o
  simp only [sub_add_cancel] at h
  exact eq_sub_of_add_eq h.symm

theorem applyF_smul [DecidableEq ι] (E : List (ι × κ × α)) (t : α) (a : κ → α) (o : ι) :
    applyF E (fun i => t * a i) o = t * applyF E a o := by
  unfold applyF
  rw [← List.sum_map_mul_left]
  congr 1
  apply List.map_congr_left
  intro e _
  by_cases h : e.1 = o
  · rw [if_pos h, if_pos h, mul_left_comm]
  · rw [if_neg h, if_neg h, mul_zero]

theorem dotL_add_left (I : List ι) (a b y : ι → α) :
    dotL star I (fun i => a i + b i) y = dotL star I a y + dotL star I b y := by
  unfold dotL
  rw [← List.sum_map_add]
  congr 1
  apply List.map_congr_left
  intro i _
  rw [star_add, add_mul]

theorem dotL_add_right (I : List ι) (a y z : ι → α) :
    dotL star I a (fun i => y i + z i) = dotL star I a y + dotL star I a z := by
  unfold dotL
  rw [← List.sum_map_add]
  congr 1
  apply List.map_congr_left
  intro i _
  rw [mul_add]

theorem star_sum_list (l : List α) : star l.sum = (l.map star).sum := by
  induction l with
  | nil => simp
  | cons a l ih => simp [star_add, ih]

theorem dotL_smul_left (I : List ι) (c : α) (a b : ι → α) :
    dotL star I (fun i => c * a i) b = star c * dotL star I a b := by
  unfold dotL
  rw [← List.sum_map_mul_left]
  congr 1
  apply List.map_congr_left
  intro i _
  rw [star_mul', mul_assoc]

theorem dotL_smul_right (I : List ι) (c : α) (a b : ι → α) :
    dotL star I a (fun i => c * b i) = c * dotL star I a b := by
  unfold dotL
  rw [← List.sum_map_mul_left]
  congr 1
  apply List.map_congr_left
  intro i _
  rw [mul_left_comm]

theorem star_dotL (I : List ι) (a b : ι → α) :
    star (dotL star I a b) = dotL star I (fun i => star (a i)) (fun i => star (b i)) := by
  unfold dotL
  rw [star_sum_list, List.map_map]
  congr 1
  apply List.map_congr_left
  intro i _
  rw [Function.comp_apply, star_mul']

theorem dotL_swap (I : List ι) (a b : ι → α) : dotL star I a b = star (dotL star I b a) := by
  rw [star_dotL]
  unfold dotL
  congr 1
  apply List.map_congr_left
  intro i _
  rw [star_star, mul_comm]

theorem sum_ite_single [DecidableEq ι] (I : List ι) (hI : I.Nodup) (k : ι) (hk : k ∈ I) (f : ι → α) :
    (I.map fun i => if k = i then f i else 0).sum = f k := by
  induction I with
  | nil => simp at hk
  | cons j I ih =>
    rw [List.nodup_cons] at hI
    rw [List.map_cons, List.sum_cons]
    by_cases hkj : k = j
    · subst hkj
      have : (I.map fun i => if k = i then f i else 0) = I.map fun _ => (0 : α) := by
        apply List.map_congr_left
        intro i hi
        have : k ≠ i := fun h => hI.1 (h ▸ hi)
        simp [this]
      rw [this]; simp
    · have hk' : k ∈ I := by
        rcases List.mem_cons.mp hk with h | h
        · exact absurd h hkj
        · exact h
      rw [ih hI.2 hk']; simp [hkj]

end

section
variable {α : Type} [CommRing α] [StarRing α]

/-- `E'` acts as the adjoint of `E` between `ℂ^m` and `ℂ^n` for the `vdot` pairing -/
def IsAdj (n m : Nat) (E E' : List (Ent α)) : Prop :=
  ∀ x y : Nat → α, dotL star (List.range n) (applyF E x) y = dotL star (List.range m) x (applyF E' y)

theorem IsAdj.symm {n m : Nat} {E E' : List (Ent α)} (h : IsAdj n m E E') : IsAdj m n E' E := by
  intro y x
  rw [dotL_swap, ← h x y, ← dotL_swap]

def InRange (n m : Nat) (E : List (Ent α)) : Prop := ∀ e ∈ E, e.1 < n ∧ e.2.1 < m

theorem inRangeE_inRange (n m : Nat) (E : List (Ent α)) : InRange n m (inRangeE n m E) := by
  intro e he
  unfold inRangeE at he
  simpa using (List.mem_filter.mp he).2

theorem idE_inRange (m : Nat) : InRange m m (idE m : List (Ent α)) := by
  intro e he
  unfold idE at he
  obtain ⟨q, hq, rfl⟩ := List.mem_map.mp he
  exact ⟨List.mem_range.mp hq, List.mem_range.mp hq⟩

theorem weights_one_swap (E : List (Ent α)) (h : ∀ e ∈ E, e.2.2 = 1) : adjE star E = swapE E := by
  unfold adjE swapE
  apply List.map_congr_left
  intro e he
  rw [h e he, star_one]

theorem swapE_swapE (E : List (Ent α)) : swapE (swapE E) = E := by
  unfold swapE
  rw [List.map_map]
  conv_rhs => rw [← List.map_id E]
  apply List.map_congr_left
  intro e _
  rfl

theorem mem_swapE {E : List (Ent α)} {e : Ent α} : e ∈ swapE E ↔ (e.2.1, e.1, e.2.2) ∈ E := by
  unfold swapE
  constructor
  · rintro h
    obtain ⟨a, ha, rfl⟩ := List.mem_map.mp h
    simpa using ha
  · intro h
    exact List.mem_map.mpr ⟨_, h, rfl⟩

theorem inRangeE_weights (n m : Nat) (E : List (Ent α)) (h : ∀ e ∈ E, e.2.2 = 1) :
    ∀ e ∈ inRangeE n m E, e.2.2 = 1 := fun e he => h e (List.mem_filter.mp he).1

theorem gatherE_weights (osh ish : List Int) (g : List Int → Option (List Int)) :
    ∀ e ∈ (gatherE osh ish g : List (Ent α)), e.2.2 = 1 := by
  intro e he
  unfold gatherE at he
  obtain ⟨k, _, hk⟩ := List.mem_filterMap.mp he
  cases hg : g k with
  | none => simp [hg] at hk
  | some j => simp [hg] at hk; rw [← hk]

end
end SigpyVerif.C01
