import SigpyVerif.Lemmas.C10
import SigpyVerif.Props.C09
import Mathlib.Algebra.BigOperators.Group.List.Basic
namespace SigpyVerif.C10
open Finset

variable {R : Type*} [CommRing R]

/-- sum of squares of a list / of a list of coefficient lists -/
def nsq (l : List R) : R := (l.map (· ^ 2)).sum
def nsqs (c : List (List R)) : R := (c.map nsq).sum

/-- real inner product of two lists (over the common prefix) / of two lists of coefficient lists -/
def dot (x y : List R) : R := (List.zipWith (· * ·) x y).sum
def dots (c c' : List (List R)) : R := (List.zipWith dot c c').sum

theorem nsq_map_range (M : ℕ) (f : ℕ → R) : nsq ((List.range M).map f) = ∑ k ∈ range M, f k ^ 2 := by
  unfold nsq
  induction M with
  | zero => simp
  | succ M ih =>
    rw [List.range_succ, List.map_append, List.map_append, List.sum_append, ih, sum_range_succ]
    simp

theorem map_range_ofListN (x : List R) : (List.range x.length).map (ofListN x) = x := by
  apply List.ext_getElem
  · simp
  · intro i h1 h2
    simp [ofListN, List.getElem?_eq_getElem h2]

theorem map_range_eq_of_getD {f : ℕ → R} {K : ℕ} (r : List R) (hK : r.length = K)
    (h : ∀ k, k < K → f k = r.getD k 0) : (List.range K).map f = r := by
  subst hK
  exact (List.map_congr_left fun k hk => h k (List.mem_range.mp hk)).trans (map_range_ofListN r)

theorem nsq_eq_sum (x : List R) : nsq x = ∑ n ∈ range x.length, ofListN x n ^ 2 := by
  calc nsq x = nsq ((List.range x.length).map (ofListN x)) := by rw [map_range_ofListN]
    _ = _ := nsq_map_range _ _

theorem nsq_flatten (c : List (List R)) : nsq c.flatten = nsqs c := by
  induction c with
  | nil => simp [nsq, nsqs]
  | cons a c ih =>
    unfold nsq nsqs at *
    rw [List.flatten_cons, List.map_append, List.sum_append, ih]
    simp [nsq]

theorem ofListN_of_le (x : List R) {n : ℕ} (h : x.length ≤ n) : ofListN x n = 0 := by
  unfold ofListN
  rw [List.getD_eq_getElem?_getD, List.getElem?_eq_none h]; rfl

theorem ofListN_map_range (M : ℕ) (f : ℕ → R) {k : ℕ} (hk : k < M) :
    ofListN ((List.range M).map f) k = f k := by
  unfold ofListN
  rw [List.getD_eq_getElem?_getD, List.getElem?_eq_getElem (by simpa using hk)]
  simp

theorem map_range_ofListN_ge (x : List R) (K : ℕ) (hK : x.length ≤ K) :
    (List.range K).map (ofListN x) = x ++ List.replicate (K - x.length) 0 := by
  apply List.ext_getElem
  · simp; omega
  · intro i h1 h2
    simp only [List.getElem_map, List.getElem_range]
    by_cases hi : i < x.length
    · rw [List.getElem_append_left hi]
      simp [ofListN, List.getElem?_eq_getElem hi]
    · rw [List.getElem_append_right (by omega), ofListN_of_le x (by omega)]
      simp

@[simp] theorem dot_nil_left (y : List R) : dot [] y = 0 := rfl

@[simp] theorem dot_nil_right (x : List R) : dot x [] = 0 := by cases x <;> rfl

@[simp] theorem dot_cons_cons (a b : R) (x y : List R) : dot (a :: x) (b :: y) = a * b + dot x y := rfl

theorem dot_zero_cons (x y : List R) : dot (0 :: x) y = dot x (y.drop 1) := by
  cases y with
  | nil => rw [dot_nil_right]; exact (dot_nil_right x).symm
  | cons b y => rw [dot_cons_cons, zero_mul, zero_add]; rfl

theorem dot_comm (x y : List R) : dot x y = dot y x := by
  unfold dot
  rw [List.zipWith_comm_of_comm mul_comm]

theorem dot_eq_sum (x y : List R) (K : ℕ) (hK : min x.length y.length ≤ K) :
    dot x y = ∑ n ∈ range K, ofListN x n * ofListN y n := by
  induction x generalizing y K with
  | nil => exact (sum_eq_zero fun n _ => zero_mul _).symm
  | cons a x ih =>
    cases y with
    | nil => exact (sum_eq_zero fun n _ => mul_zero _).symm
    | cons b y =>
      simp only [List.length_cons] at hK
      cases K with
      | zero => omega
      | succ K =>
        rw [dot_cons_cons, ih y K (by omega), sum_range_succ', add_comm]
        rfl

theorem dot_take (x y : List R) : dot x (y.take x.length) = dot x y := by
  induction x generalizing y with
  | nil => rfl
  | cons a x ih =>
    cases y with
    | nil => rfl
    | cons b y => simp [ih y]

theorem dots_append (c c' : List (List R)) (d d' : List R) (hlen : c.length = c'.length) :
    dots (c ++ [d]) (c' ++ [d']) = dots c c' + dot d d' := by
  unfold dots
  rw [List.zipWith_append hlen]
  simp

/-- `ana` only reads the first `N` samples, and more samples may be included when they are zero -/
theorem ana_extend (h : ℤ → R) {N N' : ℕ} (hN : N ≤ N') (x : ℕ → R) (hx : ∀ n, N ≤ n → x n = 0) (k : ℕ) :
    ana h N' x k = ana h N x k := by
  induction N' with
  | zero => have : N = 0 := by omega
            subst this; rfl
  | succ N' ih =>
    by_cases hh : N = N' + 1
    · subst hh; rfl
    · have : ana h (N' + 1) x k = ana h N' x k := by
        simp only [ana, sumN]
        rw [hx N' (by omega)]; simp
      rw [this, ih (by omega)]

theorem ana_zero (h : ℤ → R) (N k : ℕ) : ana h N (fun _ => 0) k = 0 := by
  simp only [ana, sumN_eq_sum, mul_zero, sum_const_zero]

theorem syn_congr (h g : ℤ → R) (M : ℕ) {a a' d d' : ℕ → R} (ha : ∀ k, k < M → a k = a' k)
    (hd : ∀ k, k < M → d k = d' k) (n : ℕ) : syn h g M a d n = syn h g M a' d' n := by
  simp only [syn, sumN_eq_sum]
  apply sum_congr rfl; intro k hk
  rw [ha k (mem_range.mp hk), hd k (mem_range.mp hk)]

theorem splitLens_flatten {α} (c : List (List α)) : splitLens (c.map List.length) c.flatten = c := by
  induction c with
  | nil => rfl
  | cons a c ih => simp [splitLens, ih]

theorem splitLens_map_length {α} (lens : List ℕ) (l : List α) (hl : l.length = lens.sum) :
    (splitLens lens l).map List.length = lens := by
  induction lens generalizing l with
  | nil => rfl
  | cons n ns ih =>
    simp only [splitLens, List.map_cons, List.length_take, List.sum_cons] at *
    rw [ih (l.drop n) (by simp; omega)]
    congr 1; omega

theorem flatten_splitLens {α} (lens : List ℕ) (l : List α) (hl : l.length = lens.sum) :
    (splitLens lens l).flatten = l := by
  induction lens generalizing l with
  | nil => simp [splitLens]; simpa using hl
  | cons n ns ih =>
    simp only [splitLens, List.flatten_cons, List.sum_cons] at *
    rw [ih (l.drop n) (by simp; omega)]
    simp

theorem dot_append (x y x' y' : List R) (hlen : x.length = x'.length) :
    dot (x ++ y) (x' ++ y') = dot x x' + dot y y' := by
  unfold dot
  rw [List.zipWith_append hlen, List.sum_append]

theorem dot_flatten (c c' : List (List R)) (hs : c.map List.length = c'.map List.length) :
    dot c.flatten c'.flatten = dots c c' := by
  induction c generalizing c' with
  | nil => cases c' with
    | nil => simp [dot, dots]
    | cons b c' => simp at hs
  | cons a c ih =>
    cases c' with
    | nil => simp at hs
    | cons b c' =>
      simp only [List.map_cons, List.cons.injEq] at hs
      rw [List.flatten_cons, List.flatten_cons, dot_append _ _ _ _ hs.1, ih c' hs.2]
      simp [dots]

open SigpyVerif in
/-- 1-D `util.resize` with default shifts: the early return for equal shapes, otherwise every output
    position reads where `resizeSrc1` (C09) says -/
theorem resize1d {α} [Zero α] (i o : Int) (x : List α) :
    (C09.resize [i] [o] none none x.toArray).toList =
      if i = o then x else (List.range o.toNat).map fun (k : Nat) =>
        match C09.resizeSrc1 i o (Gen.resizeIshiftDefault i o) (Gen.resizeOshiftDefault i o) k with
        | some j => x.getD j.toNat 0
        | none => 0 := by
  unfold C09.resize C09.expandShapes
  simp only [List.length_cons, List.length_nil, Nat.zero_add, max_self, Nat.sub_self, List.replicate_zero, List.nil_append,
    Option.getD_none, List.zipWith_cons_cons, List.zipWith_nil_right]
  by_cases hio : i = o
  · simp [hio]
  · have : ([i] == [o]) = false := by simp [hio]
    rw [this]
    simp only [Bool.false_eq_true, if_false, if_neg hio]
    simp only [allIdx, pyRange]
    have fm : ∀ l : List Nat, List.flatMap (fun a : Nat => [[(Nat.cast a : Int)]]) l = l.map (fun a : Nat => [(Nat.cast a : Int)]) := by
      intro l; induction l with
      | nil => rfl
      | cons a l ih => simp [ih]
    simp only [C09.resizeSrc, ravel, Array.getD_eq_getD_getElem?, List.getElem?_toArray, List.map_cons,
      List.map_nil, Int.reduceLE, ↓reduceIte, mul_one, zero_add, sub_zero, add_sub_cancel_right, Int.ediv_one,
      List.flatMap_map, List.getD_eq_getElem?_getD]
    rw [fm, List.map_map]
    apply List.map_congr_left
    intro k _
    simp only [Function.comp, C09.resizeSrc.go]
    cases C09.resizeSrc1 i o (Gen.resizeIshiftDefault i o) (Gen.resizeOshiftDefault i o) k <;>
      simp only [Option.pure_def, Option.bind_eq_bind, Option.bind_some, Option.bind_none, List.zip_cons_cons,
        List.zip_nil_right, List.foldl_cons, zero_mul, zero_add, List.foldl_nil]

end SigpyVerif.C10
