import SigpyVerif.Props.C09
import SigpyVerif.Gen.Interp
import SigpyVerif.Model.Apply
import Mathlib.Data.List.Basic
import Mathlib.Data.List.Nodup
import Mathlib.Data.List.Perm.Basic
/-
  C01, the generated loops of Gen/Interp and Gen/Block as lists of updates: `_gridding{1,2,3}` emits the
  index-swapped list of `_interpolate{1,2,3}`, and `_blocks_to_array{1,2,3}` is a permutation of the index-swapped
  `_array_to_blocks{1,2,3}` (both lists are duplicate-free, so multiplicities agree).
-/

namespace SigpyVerif.C01
open SigpyVerif

/-- `_gridding1` emits literally the same (index, index, weight) triples as `_interpolate1`, with
    the roles of output and input index swapped, for an arbitrary kernel: gridding is the transpose
    (adjoint for real kernels) of interpolation in 1-D. -/
theorem grid1_eq_swap_interp1 (K : Rat → Rat → Rat) (osh ish osh' ish' csh : Int → Int)
    (coord : Int → Int → Rat) (width param : Int → Rat)
    (h0 : osh 0 = ish' 0) (h1 : osh 1 = ish' 1) :
    Gen.grid1 K osh ish csh coord width param =
      (Gen.interp1 K osh' ish' csh coord width param).map (fun u => (u.2.1, u.1, u.2.2)) := by
  unfold Gen.grid1 Gen.interp1
  simp only [List.map_flatMap, List.map_cons, List.map_nil]
  rw [h0, h1]

/-- `_gridding2` is the index-swapped list of `_interpolate2`: gridding is the transpose of
    interpolation in 2-D. -/
theorem grid2_eq_swap_interp2 (K : Rat → Rat → Rat) (osh ish osh' ish' csh : Int → Int)
    (coord : Int → Int → Rat) (width param : Int → Rat)
    (h0 : osh 0 = ish' 0) (h1 : osh 1 = ish' 1) (h2 : osh 2 = ish' 2) :
    Gen.grid2 K osh ish csh coord width param =
      (Gen.interp2 K osh' ish' csh coord width param).map (fun u => (u.2.1, u.1, u.2.2)) := by
  unfold Gen.grid2 Gen.interp2
  simp only [List.map_flatMap, List.map_cons, List.map_nil]
  rw [h0, h1, h2]

/-- `_gridding3` is the index-swapped list of `_interpolate3`: gridding is the transpose of
    interpolation in 3-D. -/
theorem grid3_eq_swap_interp3 (K : Rat → Rat → Rat) (osh ish osh' ish' csh : Int → Int)
    (coord : Int → Int → Rat) (width param : Int → Rat)
    (h0 : osh 0 = ish' 0) (h1 : osh 1 = ish' 1) (h2 : osh 2 = ish' 2) (h3 : osh 3 = ish' 3) :
    Gen.grid3 K osh ish csh coord width param =
      (Gen.interp3 K osh' ish' csh coord width param).map (fun u => (u.2.1, u.1, u.2.2)) := by
  unfold Gen.grid3 Gen.interp3
  simp only [List.map_flatMap, List.map_cons, List.map_nil]
  rw [h0, h1, h2, h3]

/-- `_array_to_blocks2`: block `(ny, nx, y, x)` reads array element `(ny·Sy + y, nx·Sx + x)` for
    every batch, exactly when that element is inside the array, and nothing else is written. -/
theorem a2b2_mem (osh ish : Int → Int) (batch Bx By Sx Sy Nx Ny : Int) (u : Upd Rat) :
    u ∈ Gen.a2b2 osh ish batch Bx By Sx Sy Nx Ny ↔
      ∃ b ny nx y x, 0 ≤ b ∧ b < batch ∧ 0 ≤ ny ∧ ny < Ny ∧ 0 ≤ nx ∧ nx < Nx ∧
        0 ≤ y ∧ y < By ∧ 0 ≤ x ∧ x < Bx ∧ nx * Sx + x < ish (-1) ∧ ny * Sy + y < ish (-2) ∧
        u = ([b, ny, nx, y, x], [b, ny * Sy + y, nx * Sx + x], 1) :=
  C09.a2b2_mem osh ish batch Bx By Sx Sy Nx Ny u

/-- `_blocks_to_array2` adds block entry `(ny, nx, y, x)` into array element
    `(ny·Sy + y, nx·Sx + x)` for every in-range tuple, and touches nothing else. -/
theorem b2a2_mem (osh ish : Int → Int) (batch Bx By Sx Sy Nx Ny : Int) (hSx : 0 < Sx) (hSy : 0 < Sy)
    (u : Upd Rat) :
    u ∈ Gen.b2a2 osh ish batch Bx By Sx Sy Nx Ny ↔
      ∃ b ny nx y x, 0 ≤ b ∧ b < batch ∧ 0 ≤ ny ∧ ny < Ny ∧ 0 ≤ nx ∧ nx < Nx ∧
        0 ≤ y ∧ y < By ∧ 0 ≤ x ∧ x < Bx ∧ nx * Sx + x < osh (-1) ∧ ny * Sy + y < osh (-2) ∧
        u = ([b, ny * Sy + y, nx * Sx + x], [b, ny, nx, y, x], 1) :=
  C09.b2a2_mem osh ish batch Bx By Sx Sy Nx Ny hSx hSy u

theorem upd_eq_swap {d s a b : List Int} {w c : Rat} :
    ((d, s, w) : Upd Rat) = (a, b, c) ↔ ((s, d, w) : Upd Rat) = (b, a, c) := by
  constructor <;> rintro ⟨⟩ <;> rfl

/-- `BlocksToArray`'s scatter loop is exactly the transpose of `ArrayToBlocks`' gather loop in 2-D
    (when both see the same array extents). -/
theorem b2a2_transpose_a2b2 (osh ish osh' ish' : Int → Int) (batch Bx By Sx Sy Nx Ny : Int)
    (hSx : 0 < Sx) (hSy : 0 < Sy) (hlen1 : osh (-1) = ish' (-1)) (hlen2 : osh (-2) = ish' (-2))
    (d s : List Int) (w : Rat) :
    (d, s, w) ∈ Gen.b2a2 osh ish batch Bx By Sx Sy Nx Ny ↔
      (s, d, w) ∈ Gen.a2b2 osh' ish' batch Bx By Sx Sy Nx Ny := by
  rw [b2a2_mem _ _ _ _ _ _ _ _ _ hSx hSy, a2b2_mem, hlen1, hlen2]
  simp only [upd_eq_swap (d := d) (s := s)]

/-- `_array_to_blocks3`: block `(nz, ny, nx, z, y, x)` reads array element
    `(nz·Sz + z, ny·Sy + y, nx·Sx + x)` for every batch, exactly when that element is inside the
    array, and nothing else is written. -/
theorem a2b3_mem (osh ish : Int → Int) (batch Bx By Bz Sx Sy Sz Nx Ny Nz : Int) (u : Upd Rat) :
    u ∈ Gen.a2b3 osh ish batch Bx By Bz Sx Sy Sz Nx Ny Nz ↔
      ∃ b nz ny nx z y x, 0 ≤ b ∧ b < batch ∧ 0 ≤ nz ∧ nz < Nz ∧ 0 ≤ ny ∧ ny < Ny ∧
        0 ≤ nx ∧ nx < Nx ∧ 0 ≤ z ∧ z < Bz ∧ 0 ≤ y ∧ y < By ∧ 0 ≤ x ∧ x < Bx ∧
        nx * Sx + x < ish (-1) ∧ ny * Sy + y < ish (-2) ∧ nz * Sz + z < ish (-3) ∧
        u = ([b, nz, ny, nx, z, y, x], [b, nz * Sz + z, ny * Sy + y, nx * Sx + x], 1) :=
  C09.a2b3_mem osh ish batch Bx By Bz Sx Sy Sz Nx Ny Nz u

/-- `_blocks_to_array3` adds block entry `(nz, ny, nx, z, y, x)` into array element
    `(nz·Sz + z, ny·Sy + y, nx·Sx + x)` for every in-range tuple, and touches nothing else. -/
theorem b2a3_mem (osh ish : Int → Int) (batch Bx By Bz Sx Sy Sz Nx Ny Nz : Int)
    (hSx : 0 < Sx) (hSy : 0 < Sy) (hSz : 0 < Sz) (u : Upd Rat) :
    u ∈ Gen.b2a3 osh ish batch Bx By Bz Sx Sy Sz Nx Ny Nz ↔
      ∃ b nz ny nx z y x, 0 ≤ b ∧ b < batch ∧ 0 ≤ nz ∧ nz < Nz ∧ 0 ≤ ny ∧ ny < Ny ∧
        0 ≤ nx ∧ nx < Nx ∧ 0 ≤ z ∧ z < Bz ∧ 0 ≤ y ∧ y < By ∧ 0 ≤ x ∧ x < Bx ∧
        nx * Sx + x < osh (-1) ∧ ny * Sy + y < osh (-2) ∧ nz * Sz + z < osh (-3) ∧
        u = ([b, nz * Sz + z, ny * Sy + y, nx * Sx + x], [b, nz, ny, nx, z, y, x], 1) :=
  C09.b2a3_mem osh ish batch Bx By Bz Sx Sy Sz Nx Ny Nz hSx hSy hSz u

/-- `BlocksToArray`'s scatter loop is exactly the transpose of `ArrayToBlocks`' gather loop in 3-D
    (when both see the same array extents). -/
theorem b2a3_transpose_a2b3 (osh ish osh' ish' : Int → Int)
    (batch Bx By Bz Sx Sy Sz Nx Ny Nz : Int) (hSx : 0 < Sx) (hSy : 0 < Sy) (hSz : 0 < Sz)
    (hlen1 : osh (-1) = ish' (-1)) (hlen2 : osh (-2) = ish' (-2)) (hlen3 : osh (-3) = ish' (-3))
    (d s : List Int) (w : Rat) :
    (d, s, w) ∈ Gen.b2a3 osh ish batch Bx By Bz Sx Sy Sz Nx Ny Nz ↔
      (s, d, w) ∈ Gen.a2b3 osh' ish' batch Bx By Bz Sx Sy Sz Nx Ny Nz := by
  rw [b2a3_mem _ _ _ _ _ _ _ _ _ _ _ _ hSx hSy hSz, a2b3_mem, hlen1, hlen2, hlen3]
  simp only [upd_eq_swap (d := d) (s := s)]

theorem guard_key {β : Type} {c : Prop} [Decidable c] {L : List β} {P : β → Prop}
    (h : L.Nodup ∧ ∀ y ∈ L, P y) :
    (if c then L else []).Nodup ∧ ∀ y ∈ (if c then L else []), P y := by
  split_ifs
  · exact h
  · exact ⟨List.nodup_nil, fun _ hy => absurd hy List.not_mem_nil⟩

theorem single_key {β : Type} {u : β} {P : β → Prop} (h : P u) : [u].Nodup ∧ ∀ y ∈ [u], P y :=
  ⟨List.nodup_singleton u, fun _ hy => List.mem_singleton.mp hy ▸ h⟩

theorem swap_injective :
    Function.Injective (fun u : Upd Rat => ((u.2.1, u.1, u.2.2) : Upd Rat)) := by
  rintro ⟨a, b, c⟩ ⟨a', b', c'⟩ h
  cases h
  rfl

/-- two duplicate-free update lists that are transposed as relations are transposed as multisets:
    one is a permutation of the index-swapped other -/
theorem perm_swap_of_transpose {L₁ L₂ : List (Upd Rat)} (h₁ : L₁.Nodup) (h₂ : L₂.Nodup)
    (h : ∀ d s w, (d, s, w) ∈ L₁ ↔ (s, d, w) ∈ L₂) :
    L₁.Perm (L₂.map (fun u => (u.2.1, u.1, u.2.2))) := by
  rw [List.perm_ext_iff_of_nodup h₁ (h₂.map swap_injective)]
  rintro ⟨d, s, w⟩
  rw [h, List.mem_map]
  constructor
  · intro hm; exact ⟨(s, d, w), hm, rfl⟩
  · rintro ⟨⟨s', d', w'⟩, hm, ⟨⟩⟩
    exact hm

/-- `_array_to_blocks1` writes every block entry at most once. -/
theorem a2b1_nodup (osh ish : Int → Int) (batch B S N : Int) :
    (Gen.a2b1 osh ish batch B S N).Nodup := by
  refine (nodup_flatMap_key (P := fun _ => True) (·.1.getD 0 0) (pyRange_nodup _ _ _) fun b => ?_).1
  refine nodup_flatMap_key (·.1.getD 1 0) (pyRange_nodup _ _ _) fun n => ?_
  refine nodup_flatMap_key (·.1.getD 2 0) (pyRange_nodup _ _ _) fun x => ?_
  exact guard_key (single_key ⟨rfl, rfl, rfl, trivial⟩)

/-- `_blocks_to_array1` accumulates every (array index, block entry) pair at most once. -/
theorem b2a1_nodup (osh ish : Int → Int) (batch B S N : Int) :
    (Gen.b2a1 osh ish batch B S N).Nodup := by
  refine (nodup_flatMap_key (P := fun _ => True) (·.1.getD 0 0) (pyRange_nodup _ _ _) fun b => ?_).1
  refine nodup_flatMap_key (·.1.getD 1 0) (pyRange_nodup _ _ _) fun ix => ?_
  refine nodup_flatMap_key (·.2.1.getD 2 0) (pyRange_nodup _ _ _) fun x => ?_
  exact guard_key (single_key ⟨rfl, rfl, rfl, trivial⟩)

/-- As multisets of (output index, input index, weight) triples, `_blocks_to_array1` is exactly
    the index-swapped `_array_to_blocks1`: BlocksToArray is the transpose of ArrayToBlocks with
    the right multiplicities (each overlap is accumulated exactly once). -/
theorem b2a1_perm_swap_a2b1 (osh ish osh' ish' : Int → Int) (batch B S N : Int) (hS : 0 < S)
    (hlen : osh (-1) = ish' (-1)) :
    (Gen.b2a1 osh ish batch B S N).Perm
      ((Gen.a2b1 osh' ish' batch B S N).map (fun u => (u.2.1, u.1, u.2.2))) :=
  perm_swap_of_transpose (b2a1_nodup _ _ _ _ _ _) (a2b1_nodup _ _ _ _ _ _)
    (C09.b2a1_transpose_a2b1 osh ish osh' ish' batch B S N hS hlen)

/-- `_array_to_blocks2` writes every block entry at most once. -/
theorem a2b2_nodup (osh ish : Int → Int) (batch Bx By Sx Sy Nx Ny : Int) :
    (Gen.a2b2 osh ish batch Bx By Sx Sy Nx Ny).Nodup := by
  refine (nodup_flatMap_key (P := fun _ => True) (·.1.getD 0 0) (pyRange_nodup _ _ _) fun b => ?_).1
  refine nodup_flatMap_key (·.1.getD 1 0) (pyRange_nodup _ _ _) fun ny => ?_
  refine nodup_flatMap_key (·.1.getD 2 0) (pyRange_nodup _ _ _) fun nx => ?_
  refine nodup_flatMap_key (·.1.getD 3 0) (pyRange_nodup _ _ _) fun y => ?_
  refine nodup_flatMap_key (·.1.getD 4 0) (pyRange_nodup _ _ _) fun x => ?_
  exact guard_key (single_key ⟨rfl, rfl, rfl, rfl, rfl, trivial⟩)

/-- `_blocks_to_array2` accumulates every (array element, block entry) pair at most once. -/
theorem b2a2_nodup (osh ish : Int → Int) (batch Bx By Sx Sy Nx Ny : Int) :
    (Gen.b2a2 osh ish batch Bx By Sx Sy Nx Ny).Nodup := by
  refine (nodup_flatMap_key (P := fun _ => True) (·.1.getD 0 0) (pyRange_nodup _ _ _) fun b => ?_).1
  refine nodup_flatMap_key (·.1.getD 1 0) (pyRange_nodup _ _ _) fun iy => ?_
  refine nodup_flatMap_key (·.1.getD 2 0) (pyRange_nodup _ _ _) fun ix => ?_
  refine nodup_flatMap_key (·.2.1.getD 3 0) (pyRange_nodup _ _ _) fun y => guard_key ?_
  refine nodup_flatMap_key (·.2.1.getD 4 0) (pyRange_nodup _ _ _) fun x => ?_
  exact guard_key (single_key ⟨rfl, rfl, rfl, rfl, rfl, trivial⟩)

/-- As multisets of (output index, input index, weight) triples, `_blocks_to_array2` is exactly
    the index-swapped `_array_to_blocks2`: BlocksToArray is the transpose of ArrayToBlocks in 2-D
    with the right multiplicities. -/
theorem b2a2_perm_swap_a2b2 (osh ish osh' ish' : Int → Int) (batch Bx By Sx Sy Nx Ny : Int)
    (hSx : 0 < Sx) (hSy : 0 < Sy) (hlen1 : osh (-1) = ish' (-1)) (hlen2 : osh (-2) = ish' (-2)) :
    (Gen.b2a2 osh ish batch Bx By Sx Sy Nx Ny).Perm
      ((Gen.a2b2 osh' ish' batch Bx By Sx Sy Nx Ny).map (fun u => (u.2.1, u.1, u.2.2))) :=
  perm_swap_of_transpose (b2a2_nodup _ _ _ _ _ _ _ _ _) (a2b2_nodup _ _ _ _ _ _ _ _ _)
    (b2a2_transpose_a2b2 osh ish osh' ish' batch Bx By Sx Sy Nx Ny hSx hSy hlen1 hlen2)

/-- `_array_to_blocks3` writes every block entry at most once. -/
theorem a2b3_nodup (osh ish : Int → Int) (batch Bx By Bz Sx Sy Sz Nx Ny Nz : Int) :
    (Gen.a2b3 osh ish batch Bx By Bz Sx Sy Sz Nx Ny Nz).Nodup := by
  refine (nodup_flatMap_key (P := fun _ => True) (·.1.getD 0 0) (pyRange_nodup _ _ _) fun b => ?_).1
  refine nodup_flatMap_key (·.1.getD 1 0) (pyRange_nodup _ _ _) fun nz => ?_
  refine nodup_flatMap_key (·.1.getD 2 0) (pyRange_nodup _ _ _) fun ny => ?_
  refine nodup_flatMap_key (·.1.getD 3 0) (pyRange_nodup _ _ _) fun nx => ?_
  refine nodup_flatMap_key (·.1.getD 4 0) (pyRange_nodup _ _ _) fun z => ?_
  refine nodup_flatMap_key (·.1.getD 5 0) (pyRange_nodup _ _ _) fun y => ?_
  refine nodup_flatMap_key (·.1.getD 6 0) (pyRange_nodup _ _ _) fun x => ?_
  exact guard_key (single_key ⟨rfl, rfl, rfl, rfl, rfl, rfl, rfl, trivial⟩)

/-- `_blocks_to_array3` accumulates every (array element, block entry) pair at most once. -/
theorem b2a3_nodup (osh ish : Int → Int) (batch Bx By Bz Sx Sy Sz Nx Ny Nz : Int) :
    (Gen.b2a3 osh ish batch Bx By Bz Sx Sy Sz Nx Ny Nz).Nodup := by
  refine (nodup_flatMap_key (P := fun _ => True) (·.1.getD 0 0) (pyRange_nodup _ _ _) fun b => ?_).1
  refine nodup_flatMap_key (·.1.getD 1 0) (pyRange_nodup _ _ _) fun iz => ?_
  refine nodup_flatMap_key (·.1.getD 2 0) (pyRange_nodup _ _ _) fun iy => ?_
  refine nodup_flatMap_key (·.1.getD 3 0) (pyRange_nodup _ _ _) fun ix => ?_
  refine nodup_flatMap_key (·.2.1.getD 4 0) (pyRange_nodup _ _ _) fun z => ?_
  refine nodup_flatMap_key (·.2.1.getD 5 0) (pyRange_nodup _ _ _) fun y => ?_
  refine nodup_flatMap_key (·.2.1.getD 6 0) (pyRange_nodup _ _ _) fun x => ?_
  exact guard_key (single_key ⟨rfl, rfl, rfl, rfl, rfl, rfl, rfl, trivial⟩)

/-- As multisets of (output index, input index, weight) triples, `_blocks_to_array3` is exactly
    the index-swapped `_array_to_blocks3`: BlocksToArray is the transpose of ArrayToBlocks in 3-D
    with the right multiplicities. -/
theorem b2a3_perm_swap_a2b3 (osh ish osh' ish' : Int → Int)
    (batch Bx By Bz Sx Sy Sz Nx Ny Nz : Int) (hSx : 0 < Sx) (hSy : 0 < Sy) (hSz : 0 < Sz)
    (hlen1 : osh (-1) = ish' (-1)) (hlen2 : osh (-2) = ish' (-2)) (hlen3 : osh (-3) = ish' (-3)) :
    (Gen.b2a3 osh ish batch Bx By Bz Sx Sy Sz Nx Ny Nz).Perm
      ((Gen.a2b3 osh' ish' batch Bx By Bz Sx Sy Sz Nx Ny Nz).map (fun u => (u.2.1, u.1, u.2.2))) :=
  perm_swap_of_transpose (b2a3_nodup _ _ _ _ _ _ _ _ _ _ _ _) (a2b3_nodup _ _ _ _ _ _ _ _ _ _ _ _)
    (b2a3_transpose_a2b3 osh ish osh' ish' batch Bx By Bz Sx Sy Sz Nx Ny Nz hSx hSy hSz
      hlen1 hlen2 hlen3)

/-- non-vacuity: 4×4 array, 2×2 blocks, stride 2: block (1,1) entry (0,1) reads array element (2,3). -/
example : (([0, 1, 1, 0, 1], [0, 2, 3], (1 : Rat)) : Upd Rat) ∈
    Gen.a2b2 (shapeFn [1, 2, 2, 2, 2]) (shapeFn [1, 4, 4]) 1 2 2 2 2 2 2 := by decide +kernel

/-- and the scatter loop visits the swapped triple. -/
example : (([0, 2, 3], [0, 1, 1, 0, 1], (1 : Rat)) : Upd Rat) ∈
    Gen.b2a2 (shapeFn [1, 4, 4]) (shapeFn [1, 2, 2, 2, 2]) 1 2 2 2 2 2 2 := by decide +kernel

/-- overlapping 1-D blocks (length 5, block 3, stride 1): array index 2 receives three block
    entries, so the `+=` in `_blocks_to_array1` matters. -/
example : ((Gen.b2a1 (shapeFn [1, 5]) (shapeFn [1, 3, 3]) 1 3 1 3).filter
    (fun u => u.1 == [0, 2])).length = 3 := by decide +kernel

/-- 1-D gridding with a constant kernel, one point at coordinate 0, width 2, 4 grid cells: three
    entries are emitted and the left neighbour wraps around to cell 3 (the swap theorem is not about
    empty lists).  `+kernel` only because `Rat.ceil/floor` do not unfold in the elaborator. -/
example : Gen.grid1 (fun _ _ => 1) (shapeFn [1, 4]) (shapeFn [1, 1]) (shapeFn [1, 1])
    (fun _ _ => 0) (fun _ => 2) (fun _ => 0) =
      [([0, 3], [0, 0], 1), ([0, 0], [0, 0], 1), ([0, 1], [0, 0], 1)] := by decide +kernel

end SigpyVerif.C01
