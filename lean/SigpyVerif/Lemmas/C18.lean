import SigpyVerif.Model.C18
import SigpyVerif.Lemmas.Py
import Mathlib.Data.Rat.Floor
import Mathlib.Tactic.Linarith
import Mathlib.Tactic.Ring
import Mathlib.Tactic.NormNum
/-
  C18 helper lemmas: truncation of half-integers, the radius coordinate, list facts for the active list.
-/
namespace SigpyVerif.C18
open SigpyVerif

theorem ratFloor_eq (q : ℚ) : Rat.floor q = ⌊q⌋ := rfl

/-- `int(q)` for any expression equal to the half-integer `m/2`, `m ≥ 0` (robust against algebraic rewrites
    of the slice-bound expression in the source) -/
theorem ratTrunc_half (q : ℚ) (m : Int) (hm : 0 ≤ m) (h : q = (m : ℚ) / 2) : ratTrunc q = m / 2 := by
  subst h
  have h0 : ¬ (m : ℚ) / 2 < 0 := not_lt.mpr (div_nonneg (Int.cast_nonneg hm) zero_le_two)
  unfold ratTrunc
  rw [if_neg h0, ratFloor_eq]
  exact Rat.floor_intCast_div_natCast m 2

/-- truncation of a non-negative rational is its floor, so `0 ≤ q < n` gives `0 ≤ int(q) < n` -/
theorem ratTrunc_range (q : ℚ) (n : Int) (h0 : 0 ≤ q) (h1 : q < n) : 0 ≤ ratTrunc q ∧ ratTrunc q < n := by
  unfold ratTrunc
  rw [if_neg (not_lt.mpr h0), ratFloor_eq]
  exact ⟨Int.floor_nonneg.mpr h0, Int.floor_lt.mpr h1⟩

/-- every element of the retired list `(l.set i last).dropLast` was in `l` -/
theorem mem_retire {α} (l : List α) (i : Nat) (d a : α) (h : a ∈ (l.set i (l.getLastD d)).dropLast) : a ∈ l := by
  rcases List.mem_or_eq_of_mem_set (List.dropLast_subset _ h) with h2 | h2
  · exact h2
  · cases l with
    | nil => simp at h
    | cons b t => rw [h2, List.getLastD_cons]; exact List.getLastD_mem_cons

theorem ratMax_eq_max (a b : ℚ) : ratMax a b = max a b := by
  unfold ratMax
  split_ifs with h
  · exact (max_eq_left h).symm
  · exact (max_eq_right (le_of_not_ge h)).symm

/-- the un-normalised radius coordinate with the casts cleaned up -/
def coord (n c x : Int) : ℚ := ratMax (ratAbs ((x : ℚ) - (n : ℚ) / 2) - (c : ℚ) / 2) 0

theorem radX_eq (n c x : Int) : Gen.Samp.radX n c x = coord n c x := by
  unfold Gen.Samp.radX coord; push_cast; rfl

theorem radY_eq (n c x : Int) : Gen.Samp.radY n c x = coord n c x := by
  unfold Gen.Samp.radY coord; push_cast; rfl

theorem rSq_eq (x y : ℚ) : Gen.Samp.rSq x y = x ^ 2 + y ^ 2 := by
  unfold Gen.Samp.rSq; ring

theorem coord_eq (n c x : Int) : coord n c x = max (|(x : ℚ) - n / 2| - c / 2) 0 := by
  rw [coord, ratMax_eq_max, ratAbs_eq_abs]

theorem coord_nonneg (n c x : Int) : 0 ≤ coord n c x := by
  rw [coord_eq]; exact le_max_right _ _

theorem abs_sub_half_le (x n s : Int) (h : n - s ≤ 2 * x ∧ 2 * x ≤ n + s) : |(x : ℚ) - n / 2| ≤ (s : ℚ) / 2 := by
  have q : (n : ℚ) - s ≤ 2 * x ∧ 2 * (x : ℚ) ≤ n + s := by exact_mod_cast h
  exact abs_le.mpr ⟨by linarith, by linarith⟩

theorem coord_le_zero (n c x : Int) (hx0 : 0 ≤ x) (hx1 : x ≤ n) : coord n c x ≤ coord n c 0 := by
  have h := abs_sub_half_le x n n (by omega)
  rw [coord_eq, coord_eq, Int.cast_zero, zero_sub, abs_neg]
  exact max_le_max (sub_le_sub_right (h.trans (le_abs_self _)) _) le_rfl

theorem coord_zero (n c : Int) (h0 : 0 ≤ c) (h1 : c ≤ n) : coord n c 0 = ((n : ℚ) - c) / 2 := by
  have hn : (0 : ℚ) ≤ n / 2 := div_nonneg (Int.cast_nonneg (h0.trans h1)) zero_le_two
  have hc : (c : ℚ) / 2 ≤ n / 2 := div_le_div_of_nonneg_right (Int.cast_le.mpr h1) zero_le_two
  rw [coord_eq, Int.cast_zero, zero_sub, abs_neg, abs_of_nonneg hn, max_eq_left (sub_nonneg.mpr hc), sub_div]

/-- normalised coordinate of a block index when `n - c ≥ 2` -/
theorem coord_block_norm (n c x : Int) (h0 : 0 ≤ c) (h2 : c + 2 ≤ n) (hlo : (n - c) / 2 ≤ x) (hhi : x < (n + c) / 2) :
    (coord n c x / coord n c 0) ^ 2 ≤ 1 / 4 := by
  -- a block index is at most half a sample outside the flat part of the radius coordinate
  have b : coord n c x ≤ 1 / 2 := by
    have h : |(x : ℚ) - n / 2| ≤ 1 / 2 + c / 2 :=
      (abs_sub_half_le x n (c + 1) (by omega)).trans_eq (by push_cast; ring)
    rw [coord_eq]
    exact max_le (sub_le_iff_le_add.mpr h) (by norm_num)
  have z : (1 : ℚ) ≤ coord n c 0 := by
    rw [coord_zero n c h0 (by omega), le_div_iff₀ two_pos, one_mul, le_sub_iff_add_le']
    exact_mod_cast h2
  have u := (div_le_self (coord_nonneg n c x) z).trans b
  exact (pow_le_pow_left₀ (div_nonneg (coord_nonneg n c x) (zero_le_one.trans z)) u 2).trans_eq (by norm_num)

theorem coord_edge (n c : Int) (h0 : 0 ≤ c) (h : n - c = 1) : coord n c 0 / coord n c 0 = 1 := by
  have hq : (n : ℚ) - c = 1 := by exact_mod_cast h
  exact div_self (by rw [coord_zero n c h0 (by omega), hq]; norm_num)

end SigpyVerif.C18
