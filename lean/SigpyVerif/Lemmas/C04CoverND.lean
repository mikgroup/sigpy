import SigpyVerif.Lemmas.C04Cover
/-
  C04 — the normal operator of `ArrayToBlocks` in 2-D and 3-D is multiplication by the product of
  the per-axis 1-D cover counts (`coverPairs`, Lemmas/C04Cover.lean).  Everything is about the loop
  nests `Gen.a2b2 / b2a2 / a2b3 / b2a3` regenerated from sigpy/block.py on every run.
-/
namespace SigpyVerif.C04
open SigpyVerif SigpyVerif.C01

section applyF
variable {ι κ : Type} [DecidableEq ι]

theorem applyF_ite_nil (c : Prop) [Decidable c] (L : List (ι × κ × Rat)) (x : κ → Rat) (o : ι) :
    applyF (if c then L else []) x o = if c then applyF L x o else 0 := by
  split_ifs <;> simp [applyF]

theorem applyF_singleton (e : ι × κ × Rat) (x : κ → Rat) (o : ι) :
    applyF [e] x o = if e.1 = o then e.2.2 * x e.2.1 else 0 := by
  simp [applyF]

end applyF

/-- an index test can be moved out of a range guard (orients nested `if`s: tests on the loop
    variables of the outer loops first) -/
theorem ite_le_eq_swap (u v a b : Int) (t : Rat) :
    (if u ≤ v then (if a = b then t else 0) else 0) = if a = b then (if u ≤ v then t else 0) else 0 := by
  by_cases h : a = b <;> simp only [h, if_true, if_false, ite_self]

theorem ite_lt_eq_swap (u v a b : Int) (t : Rat) :
    (if u < v then (if a = b then t else 0) else 0) = if a = b then (if u < v then t else 0) else 0 := by
  by_cases h : a = b <;> simp only [h, if_true, if_false, ite_self]

/-- `_array_to_blocks2` as a function: block entry `(b, ny, nx, y, x)` is array entry
    `(b, ny·Sy + y, nx·Sx + x)` when everything is in range, else 0. -/
theorem a2b2_apply (osh ish : Int → Int) (batch Bx By Sx Sy Nx Ny : Int) (x : List Int → Rat)
    (b ny nx y' x' : Int) :
    applyF (Gen.a2b2 osh ish batch Bx By Sx Sy Nx Ny) x [b, ny, nx, y', x'] =
      if (0 ≤ b ∧ b < batch) then if (0 ≤ ny ∧ ny < Ny) then if (0 ≤ nx ∧ nx < Nx) then
        if (0 ≤ y' ∧ y' < By) then if (0 ≤ x' ∧ x' < Bx) then
        if (nx * Sx + x' < ish (-1) ∧ ny * Sy + y' < ish (-2)) then x [b, ny * Sy + y', nx * Sx + x']
        else 0 else 0 else 0 else 0 else 0 else 0 := by
  unfold Gen.a2b2
  simp only [applyF_flatMap, applyF_ite_singleton]
  simp only [List.cons.injEq, and_true, ite_and,
    sum_map_ite_out, sum_map_ite_pyRange, mem_pyRange0', one_mul]

/-- `_blocks_to_array2` as a function: array entry `(b, iy, ix)` is the sum of the block entries the
    two scatter loops visit. -/
theorem b2a2_apply (osh ish : Int → Int) (batch Bx By Sx Sy Nx Ny : Int) (y : List Int → Rat) (b iy ix : Int) :
    applyF (Gen.b2a2 osh ish batch Bx By Sx Sy Nx Ny) y [b, iy, ix] =
      if (0 ≤ b ∧ b < batch) then if (0 ≤ iy ∧ iy < osh (-2)) then if (0 ≤ ix ∧ ix < osh (-1)) then
        ((pyRange (pyMod iy Sy) By Sy).map fun by' =>
          if (0 ≤ pyDiv (iy - by') Sy ∧ pyDiv (iy - by') Sy < Ny) then
            ((pyRange (pyMod ix Sx) Bx Sx).map fun bx =>
              if (0 ≤ pyDiv (ix - bx) Sx ∧ pyDiv (ix - bx) Sx < Nx) then
                y [b, pyDiv (iy - by') Sy, pyDiv (ix - bx) Sx, by', bx] else 0).sum
          else 0).sum
      else 0 else 0 else 0 := by
  unfold Gen.b2a2
  simp only [applyF_flatMap, applyF_ite_nil, applyF_singleton]
  simp only [List.cons.injEq, and_true, ite_and, ite_le_eq_swap, ite_lt_eq_swap,
    sum_map_ite_out, sum_map_ite_pyRange, mem_pyRange0', one_mul, ge_iff_le]

/-- **ArrayToBlocks.N in 2-D is multiplication by the product of the per-axis cover counts:**
    `A.H (A x)[b, iy, ix] = cover_y(iy) · cover_x(ix) · x[b, iy, ix]`, where `cover_y(iy)` is the number
    of (block, offset) pairs of the `y` layout `(By, Sy, Ny)` landing on `iy`, and likewise for `x`.
    So `N = Identity` exactly when both axes are covered exactly once. -/
theorem b2a2_a2b2_cover (osh ish osh' ish' : Int → Int) (batch Bx By Sx Sy Nx Ny : Int)
    (hSx : 0 < Sx) (hSy : 0 < Sy) (hlen1 : osh (-1) = ish' (-1)) (hlen2 : osh (-2) = ish' (-2))
    (x : List Int → Rat) (b iy ix : Int) (hb : 0 ≤ b ∧ b < batch)
    (hiy : 0 ≤ iy ∧ iy < osh (-2)) (hix : 0 ≤ ix ∧ ix < osh (-1)) :
    applyF (Gen.b2a2 osh ish batch Bx By Sx Sy Nx Ny)
        (applyF (Gen.a2b2 osh' ish' batch Bx By Sx Sy Nx Ny) x) [b, iy, ix]
      = ((coverPairs By Sy Ny iy : Rat) * (coverPairs Bx Sx Nx ix : Rat)) * x [b, iy, ix] := by
  rw [b2a2_apply, if_pos hb, if_pos hiy, if_pos hix, mul_assoc,
    ← coverScatter_eq_coverPairs By Sy Ny iy hSy, ← coverScatter_eq_coverPairs Bx Sx Nx ix hSx,
    scatter_sum_cover By Sy Ny iy hSy _ ((coverScatter Bx Sx Nx ix : Rat) * x [b, iy, ix])]
  intro by' y1 y2 y3 y4 y5
  rw [scatter_sum_cover Bx Sx Nx ix hSx _ (x [b, iy, ix])]
  intro bx x1 x2 x3 x4 x5
  rw [a2b2_apply, if_pos hb, if_pos ⟨y3, y4⟩, if_pos ⟨x3, x4⟩, if_pos ⟨y1, y2⟩, if_pos ⟨x1, x2⟩,
    y5, x5, if_pos ⟨hlen1 ▸ hix.2, hlen2 ▸ hiy.2⟩]

/-- `_array_to_blocks3` as a function. -/
theorem a2b3_apply (osh ish : Int → Int) (batch Bx By Bz Sx Sy Sz Nx Ny Nz : Int) (x : List Int → Rat)
    (b nz ny nx z' y' x' : Int) :
    applyF (Gen.a2b3 osh ish batch Bx By Bz Sx Sy Sz Nx Ny Nz) x [b, nz, ny, nx, z', y', x'] =
      if (0 ≤ b ∧ b < batch) then if (0 ≤ nz ∧ nz < Nz) then if (0 ≤ ny ∧ ny < Ny) then
        if (0 ≤ nx ∧ nx < Nx) then if (0 ≤ z' ∧ z' < Bz) then if (0 ≤ y' ∧ y' < By) then
        if (0 ≤ x' ∧ x' < Bx) then
        if (nx * Sx + x' < ish (-1) ∧ ny * Sy + y' < ish (-2) ∧ nz * Sz + z' < ish (-3)) then
          x [b, nz * Sz + z', ny * Sy + y', nx * Sx + x']
        else 0 else 0 else 0 else 0 else 0 else 0 else 0 else 0 := by
  unfold Gen.a2b3
  simp only [applyF_flatMap, applyF_ite_singleton]
  simp only [List.cons.injEq, and_true, ite_and,
    sum_map_ite_out, sum_map_ite_pyRange, mem_pyRange0', one_mul]

/-- `_blocks_to_array3` as a function: the three scatter loops and their joint guard. -/
theorem b2a3_apply (osh ish : Int → Int) (batch Bx By Bz Sx Sy Sz Nx Ny Nz : Int) (y : List Int → Rat)
    (b iz iy ix : Int) :
    applyF (Gen.b2a3 osh ish batch Bx By Bz Sx Sy Sz Nx Ny Nz) y [b, iz, iy, ix] =
      if (0 ≤ b ∧ b < batch) then if (0 ≤ iz ∧ iz < osh (-3)) then if (0 ≤ iy ∧ iy < osh (-2)) then
      if (0 ≤ ix ∧ ix < osh (-1)) then
        ((pyRange (pyMod iz Sz) Bz Sz).map fun bz =>
          ((pyRange (pyMod iy Sy) By Sy).map fun by' =>
            ((pyRange (pyMod ix Sx) Bx Sx).map fun bx =>
              if (0 ≤ pyDiv (ix - bx) Sx ∧ pyDiv (ix - bx) Sx < Nx ∧ 0 ≤ pyDiv (iy - by') Sy ∧
                  pyDiv (iy - by') Sy < Ny ∧ 0 ≤ pyDiv (iz - bz) Sz ∧ pyDiv (iz - bz) Sz < Nz) then
                y [b, pyDiv (iz - bz) Sz, pyDiv (iy - by') Sy, pyDiv (ix - bx) Sx, bz, by', bx]
              else 0).sum).sum).sum
      else 0 else 0 else 0 else 0 := by
  unfold Gen.b2a3
  simp only [applyF_flatMap, applyF_ite_singleton]
  simp only [List.cons.injEq, and_true, ite_and,
    sum_map_ite_out, sum_map_ite_pyRange, mem_pyRange0', one_mul, ge_iff_le]

theorem ite_and6 (a1 a2 b1 b2 c1 c2 : Prop) [Decidable a1] [Decidable a2] [Decidable b1] [Decidable b2]
    [Decidable c1] [Decidable c2] (t : Rat) :
    (if a1 ∧ a2 ∧ b1 ∧ b2 ∧ c1 ∧ c2 then t else 0)
      = if c1 ∧ c2 then (if b1 ∧ b2 then (if a1 ∧ a2 then t else 0) else 0) else 0 := by
  rw [← ite_and, ← ite_and]
  exact if_congr ⟨fun ⟨ha1, ha2, hb1, hb2, hc⟩ => ⟨⟨hc, hb1, hb2⟩, ha1, ha2⟩,
    fun ⟨⟨hc, hb1, hb2⟩, ha1, ha2⟩ => ⟨ha1, ha2, hb1, hb2, hc⟩⟩ rfl rfl

theorem b2a3_apply_axes (osh ish : Int → Int) (batch Bx By Bz Sx Sy Sz Nx Ny Nz : Int) (y : List Int → Rat)
    (b iz iy ix : Int) (hb : 0 ≤ b ∧ b < batch) (hiz : 0 ≤ iz ∧ iz < osh (-3))
    (hiy : 0 ≤ iy ∧ iy < osh (-2)) (hix : 0 ≤ ix ∧ ix < osh (-1)) :
    applyF (Gen.b2a3 osh ish batch Bx By Bz Sx Sy Sz Nx Ny Nz) y [b, iz, iy, ix] =
      ((pyRange (pyMod iz Sz) Bz Sz).map fun bz =>
        if (0 ≤ pyDiv (iz - bz) Sz ∧ pyDiv (iz - bz) Sz < Nz) then
          ((pyRange (pyMod iy Sy) By Sy).map fun by' =>
            if (0 ≤ pyDiv (iy - by') Sy ∧ pyDiv (iy - by') Sy < Ny) then
              ((pyRange (pyMod ix Sx) Bx Sx).map fun bx =>
                if (0 ≤ pyDiv (ix - bx) Sx ∧ pyDiv (ix - bx) Sx < Nx) then
                  y [b, pyDiv (iz - bz) Sz, pyDiv (iy - by') Sy, pyDiv (ix - bx) Sx, bz, by', bx]
                else 0).sum
            else 0).sum
        else 0).sum := by
  rw [b2a3_apply, if_pos hb, if_pos hiz, if_pos hiy, if_pos hix]
  simp only [ite_and6, sum_map_ite_out]

/-- **ArrayToBlocks.N in 3-D:**
    `A.H (A x)[b, iz, iy, ix] = cover_z(iz) · cover_y(iy) · cover_x(ix) · x[b, iz, iy, ix]`. -/
theorem b2a3_a2b3_cover (osh ish osh' ish' : Int → Int) (batch Bx By Bz Sx Sy Sz Nx Ny Nz : Int)
    (hSx : 0 < Sx) (hSy : 0 < Sy) (hSz : 0 < Sz)
    (hlen1 : osh (-1) = ish' (-1)) (hlen2 : osh (-2) = ish' (-2)) (hlen3 : osh (-3) = ish' (-3))
    (x : List Int → Rat) (b iz iy ix : Int) (hb : 0 ≤ b ∧ b < batch)
    (hiz : 0 ≤ iz ∧ iz < osh (-3)) (hiy : 0 ≤ iy ∧ iy < osh (-2)) (hix : 0 ≤ ix ∧ ix < osh (-1)) :
    applyF (Gen.b2a3 osh ish batch Bx By Bz Sx Sy Sz Nx Ny Nz)
        (applyF (Gen.a2b3 osh' ish' batch Bx By Bz Sx Sy Sz Nx Ny Nz) x) [b, iz, iy, ix]
      = ((coverPairs Bz Sz Nz iz : Rat) * (coverPairs By Sy Ny iy : Rat) * (coverPairs Bx Sx Nx ix : Rat))
          * x [b, iz, iy, ix] := by
  rw [b2a3_apply_axes _ _ _ _ _ _ _ _ _ _ _ _ _ _ _ _ _ hb hiz hiy hix, mul_assoc, mul_assoc,
    ← coverScatter_eq_coverPairs Bz Sz Nz iz hSz, ← coverScatter_eq_coverPairs By Sy Ny iy hSy,
    ← coverScatter_eq_coverPairs Bx Sx Nx ix hSx,
    scatter_sum_cover Bz Sz Nz iz hSz _ ((coverScatter By Sy Ny iy : Rat) *
      ((coverScatter Bx Sx Nx ix : Rat) * x [b, iz, iy, ix]))]
  intro bz z1 z2 z3 z4 z5
  rw [scatter_sum_cover By Sy Ny iy hSy _ ((coverScatter Bx Sx Nx ix : Rat) * x [b, iz, iy, ix])]
  intro by' y1 y2 y3 y4 y5
  rw [scatter_sum_cover Bx Sx Nx ix hSx _ (x [b, iz, iy, ix])]
  intro bx x1 x2 x3 x4 x5
  rw [a2b3_apply, if_pos hb, if_pos ⟨z3, z4⟩, if_pos ⟨y3, y4⟩, if_pos ⟨x3, x4⟩, if_pos ⟨z1, z2⟩,
    if_pos ⟨y1, y2⟩, if_pos ⟨x1, x2⟩, z5, y5, x5,
    if_pos ⟨hlen1 ▸ hix.2, hlen2 ▸ hiy.2, hlen3 ▸ hiz.2⟩]

/-- 2-D witness: a 3 × 5 array with 2 × 2 blocks at stride 1 × 1 (2 × 4 blocks): element `(1, 1)` lies in
    `2 · 2 = 4` blocks, so `A.H A` multiplies it by 4. -/
theorem blocks2_identity_wrong_witness :
    applyF (Gen.b2a2 (shapeFn [1,3,5]) (shapeFn [1,2,4,2,2]) 1 2 2 1 1 4 2)
      (applyF (Gen.a2b2 (shapeFn [1,2,4,2,2]) (shapeFn [1,3,5]) 1 2 2 1 1 4 2)
        (fun k => if k = [0,1,1] then 1 else 0)) [0,1,1] = 4 := by
  rw [b2a2_a2b2_cover (shapeFn [1,3,5]) _ _ (shapeFn [1,3,5]) 1 2 2 1 1 4 2 (by decide) (by decide)
    rfl rfl _ 0 1 1 (by decide) (by decide) (by decide)]
  have h1 : coverPairs 2 1 2 1 = 2 := by decide +kernel
  rw [h1, cover_witness]
  norm_num

end SigpyVerif.C04
