import SigpyVerif.Lemmas.C10
import SigpyVerif.Model.C10Nd
/-
  C10, N-d: arrays as functions of the multi-index (a list of naturals, one entry per axis), sums over a
  box, a 1-D linear map applied along one axis, and the lifting of 1-D isometry / adjointness / left
  inverse to a composition of per-axis maps over an arbitrary list of axes (induction over the list).
-/
namespace SigpyVerif.C10
open Finset

variable {R : Type*} [CommRing R]

/-- `Σ_{idx ∈ box(shape)} f idx` (row-major nesting) -/
def boxSum : List ℕ → (List ℕ → R) → R
  | [], f => f []
  | n :: s, f => ∑ i ∈ range n, boxSum s (fun idx => f (i :: idx))

/-- multi-index inside the box -/
def InBox : List ℕ → List ℕ → Prop
  | [], [] => True
  | n :: s, i :: idx => i < n ∧ InBox s idx
  | _, _ => False

/-- `fwd` preserves the sum of squares -/
def AxisMap.IsIso (F : AxisMap R) : Prop :=
  ∀ (N : ℕ) (x : ℕ → R), ∑ k ∈ range (F.len N), F.fwd N x k ^ 2 = ∑ n ∈ range N, x n ^ 2
/-- `bwd` is the transpose of `fwd` -/
def AxisMap.IsAdj (F : AxisMap R) : Prop :=
  ∀ (N : ℕ) (x c : ℕ → R), ∑ k ∈ range (F.len N), F.fwd N x k * c k = ∑ n ∈ range N, x n * F.bwd N c n
/-- `bwd` inverts `fwd` on the `N` samples and reads only the `len N` coefficients -/
def AxisMap.IsInv (F : AxisMap R) : Prop :=
  (∀ (N : ℕ) (x : ℕ → R) (n : ℕ), n < N → F.bwd N (F.fwd N x) n = x n) ∧
  (∀ (N : ℕ) (c c' : ℕ → R), (∀ k, k < F.len N → c k = c' k) → ∀ n, n < N → F.bwd N c n = F.bwd N c' n)

theorem alongAxis_zero (T : (ℕ → R) → ℕ → R) (X : List ℕ → R) (i : ℕ) (idx : List ℕ) :
    alongAxis 0 T X (i :: idx) = T (fun j => X (j :: idx)) i := rfl

theorem alongAxis_succ (a : ℕ) (T : (ℕ → R) → ℕ → R) (X : List ℕ → R) (i : ℕ) (idx : List ℕ) :
    alongAxis (a + 1) T X (i :: idx) = alongAxis a T (fun r => X (i :: r)) idx := rfl

theorem boxSum_sum_comm (m : ℕ) : ∀ (s : List ℕ) (F : ℕ → List ℕ → R),
    ∑ k ∈ range m, boxSum s (F k) = boxSum s (fun idx => ∑ k ∈ range m, F k idx) := by
  intro s
  induction s with
  | nil => intro F; rfl
  | cons n s ih =>
    intro F
    simp only [boxSum]
    rw [sum_comm]
    apply sum_congr rfl; intro i _
    exact ih (fun k idx => F k (i :: idx))

/-- a 1-D isometry (sum of squares, length `N` → length `N'`) applied along axis `a` of a box -/
theorem boxSum_alongAxis_sq (T : (ℕ → R) → ℕ → R) (N N' : ℕ)
    (hT : ∀ x : ℕ → R, ∑ k ∈ range N', T x k ^ 2 = ∑ n ∈ range N, x n ^ 2) :
    ∀ (shape : List ℕ) (a : ℕ) (X : List ℕ → R), a < shape.length → shape.getD a 0 = N →
      boxSum (shape.set a N') (fun idx => alongAxis a T X idx ^ 2) = boxSum shape (fun idx => X idx ^ 2) := by
  intro shape
  induction shape with
  | nil => intro a X ha; exact absurd ha (Nat.not_lt_zero _)
  | cons n s ih =>
    intro a X ha hN
    cases a with
    | zero =>
      simp only [List.getD_cons_zero] at hN
      subst hN
      simp only [List.set_cons_zero, boxSum, alongAxis_zero]
      rw [boxSum_sum_comm, boxSum_sum_comm]
      congr 1; funext idx
      exact hT (fun j => X (j :: idx))
    | succ a =>
      simp only [List.set_cons_succ, boxSum, alongAxis_succ]
      apply sum_congr rfl; intro i _
      exact ih a (fun r => X (i :: r)) (Nat.lt_of_succ_lt_succ ha) hN

/-- a 1-D adjoint pair applied along axis `a` of a box -/
theorem boxSum_alongAxis_adj (T T' : (ℕ → R) → ℕ → R) (N N' : ℕ)
    (hT : ∀ x c : ℕ → R, ∑ k ∈ range N', T x k * c k = ∑ n ∈ range N, x n * T' c n) :
    ∀ (shape : List ℕ) (a : ℕ) (X C : List ℕ → R), a < shape.length → shape.getD a 0 = N →
      boxSum (shape.set a N') (fun idx => alongAxis a T X idx * C idx)
        = boxSum shape (fun idx => X idx * alongAxis a T' C idx) := by
  intro shape
  induction shape with
  | nil => intro a X C ha; exact absurd ha (Nat.not_lt_zero _)
  | cons n s ih =>
    intro a X C ha hN
    cases a with
    | zero =>
      simp only [List.getD_cons_zero] at hN
      subst hN
      simp only [List.set_cons_zero, boxSum, alongAxis_zero]
      rw [boxSum_sum_comm, boxSum_sum_comm]
      congr 1; funext idx
      exact hT (fun j => X (j :: idx)) (fun k => C (k :: idx))
    | succ a =>
      simp only [List.set_cons_succ, boxSum, alongAxis_succ]
      apply sum_congr rfl; intro i _
      exact ih a (fun r => X (i :: r)) (fun r => C (i :: r)) (Nat.lt_of_succ_lt_succ ha) hN

/-- a 1-D left inverse applied along the same axis: exact at every multi-index whose `a`-th entry is `< N` -/
theorem alongAxis_left_inverse (T T' : (ℕ → R) → ℕ → R) (N : ℕ)
    (hT : ∀ (x : ℕ → R) (n : ℕ), n < N → T' (T x) n = x n) (a : ℕ) (X : List ℕ → R) (idx : List ℕ)
    (ha : a < idx.length) (hN : idx.getD a 0 < N) :
    alongAxis a T' (alongAxis a T X) idx = X idx := by
  unfold alongAxis
  have e : (fun i => T (fun j => X ((idx.set a i).set a j)) ((idx.set a i).getD a 0))
      = T (fun j => X (idx.set a j)) := by
    funext i
    rw [List.getD_eq_getElem?_getD, List.getElem?_set_self (by simpa using ha)]
    simp only [List.set_set, Option.getD_some]
  rw [e, hT _ _ hN]
  congr 1
  rw [List.getD_eq_getElem?_getD, List.getElem?_eq_getElem ha]
  simp

theorem shapeAxes_length : ∀ (steps : List (ℕ × AxisMap R)) (shape : List ℕ),
    (shapeAxes steps shape).length = shape.length := by
  intro steps
  induction steps with
  | nil => intro shape; rfl
  | cons s as ih => intro shape; obtain ⟨a, F⟩ := s; simp [shapeAxes, ih]

theorem shapeAxes_append : ∀ (s1 s2 : List (ℕ × AxisMap R)) (shape : List ℕ),
    shapeAxes (s1 ++ s2) shape = shapeAxes s2 (shapeAxes s1 shape) := by
  intro s1
  induction s1 with
  | nil => intro s2 shape; rfl
  | cons s as ih => intro s2 shape; obtain ⟨a, F⟩ := s; simp [shapeAxes, ih]

theorem map_steps_ok (F : AxisMap R) (axes : List ℕ) (n : ℕ) (hax : ∀ a ∈ axes, a < n) (P : AxisMap R → Prop)
    (hP : P F) : ∀ s ∈ axes.map fun a => (a, F), s.1 < n ∧ P s.2 := by
  intro s hs
  obtain ⟨a, ha, rfl⟩ := List.mem_map.mp hs
  exact ⟨hax a ha, hP⟩

theorem steps_tail {P : AxisMap R → Prop} {a : ℕ} {F : AxisMap R} {as : List (ℕ × AxisMap R)} {shape : List ℕ}
    (hax : ∀ s ∈ (a, F) :: as, s.1 < shape.length ∧ P s.2) (v : ℕ) :
    ∀ s ∈ as, s.1 < (shape.set a v).length ∧ P s.2 := fun s hs => by
  rw [List.length_set]; exact hax s (List.mem_cons_of_mem _ hs)

/-- **composition over an arbitrary list of per-axis steps, isometry** -/
theorem applyAxes_isometry : ∀ (steps : List (ℕ × AxisMap R)) (shape : List ℕ) (X : List ℕ → R),
    (∀ s ∈ steps, s.1 < shape.length ∧ s.2.IsIso) →
      boxSum (shapeAxes steps shape) (fun idx => applyAxes steps shape X idx ^ 2)
        = boxSum shape (fun idx => X idx ^ 2) := by
  intro steps
  induction steps with
  | nil => intro shape X _; rfl
  | cons s as ih =>
    intro shape X hax
    obtain ⟨a, F⟩ := s
    simp only [shapeAxes, applyAxes]
    rw [ih _ _ (steps_tail hax _)]
    have h0 := hax (a, F) List.mem_cons_self
    exact boxSum_alongAxis_sq _ _ _ (h0.2 _) shape a X h0.1 rfl

/-- **composition over an arbitrary list of per-axis steps, adjoint** (the adjoints are applied in reverse order) -/
theorem applyAxes_adjoint : ∀ (steps : List (ℕ × AxisMap R)) (shape : List ℕ) (X C : List ℕ → R),
    (∀ s ∈ steps, s.1 < shape.length ∧ s.2.IsAdj) →
      boxSum (shapeAxes steps shape) (fun idx => applyAxes steps shape X idx * C idx)
        = boxSum shape (fun idx => X idx * unapplyAxes steps shape C idx) := by
  intro steps
  induction steps with
  | nil => intro shape X C _; rfl
  | cons s as ih =>
    intro shape X C hax
    obtain ⟨a, F⟩ := s
    simp only [shapeAxes, applyAxes, unapplyAxes]
    rw [ih _ _ _ (steps_tail hax _)]
    have h0 := hax (a, F) List.mem_cons_self
    exact boxSum_alongAxis_adj _ _ _ _ (h0.2 _) shape a X _ h0.1 rfl

theorem InBox.length_eq : ∀ {shape idx : List ℕ}, InBox shape idx → idx.length = shape.length
  | [], [], _ => rfl
  | _ :: _, _ :: _, h => by simp [InBox.length_eq h.2]
  | [], _ :: _, h => h.elim
  | _ :: _, [], h => h.elim

theorem InBox.getD_lt : ∀ {shape idx : List ℕ}, InBox shape idx → ∀ a, a < shape.length →
    idx.getD a 0 < shape.getD a 0
  | [], [], _, _, ha => absurd ha (Nat.not_lt_zero _)
  | _ :: _, _ :: _, h, 0, _ => h.1
  | _ :: _, _ :: _, h, a + 1, ha => InBox.getD_lt h.2 a (Nat.lt_of_succ_lt_succ ha)
  | [], _ :: _, h, _, _ => h.elim
  | _ :: _, [], h, _, _ => h.elim

theorem InBox.set : ∀ {shape idx : List ℕ}, InBox shape idx → ∀ (a m i : ℕ), i < m →
    InBox (shape.set a m) (idx.set a i)
  | [], [], _, _, _, _, _ => trivial
  | n :: s, j :: idx, h, 0, m, i, hi => ⟨hi, h.2⟩
  | n :: s, j :: idx, h, a + 1, m, i, hi => ⟨h.1, InBox.set h.2 a m i hi⟩
  | [], _ :: _, h, _, _, _, _ => h.elim
  | _ :: _, [], h, _, _, _, _ => h.elim

theorem unapplyAxes_of_agree : ∀ (steps : List (ℕ × AxisMap R)) (shape : List ℕ) (X C : List ℕ → R)
    (idx : List ℕ), (∀ s ∈ steps, s.1 < shape.length ∧ s.2.IsInv) →
    (∀ i2, InBox (shapeAxes steps shape) i2 → C i2 = applyAxes steps shape X i2) → InBox shape idx →
      unapplyAxes steps shape C idx = X idx := by
  intro steps
  induction steps with
  | nil => intro shape X C idx _ hC hbox; exact hC idx hbox
  | cons s as ih =>
    intro shape X C idx hax hC hbox
    obtain ⟨a, F⟩ := s
    have h0 := hax (a, F) List.mem_cons_self
    have ha : a < shape.length := h0.1
    have hlt := hbox.getD_lt a ha
    simp only [unapplyAxes]
    rw [← alongAxis_left_inverse (F.fwd (shape.getD a 0)) (F.bwd (shape.getD a 0)) (shape.getD a 0) (h0.2.1 _) a X idx
      (by rw [hbox.length_eq]; exact ha) hlt]
    unfold alongAxis
    apply h0.2.2 _ _ _ _ _ hlt
    intro k hk
    exact ih _ _ _ _ (steps_tail hax _) hC (hbox.set a _ k hk)

/-- **composition over an arbitrary list of per-axis steps, left inverse**: if each `bwd N` inverts `fwd N`
    on the `N` samples and reads only the `len N` coefficients, undoing the steps last-to-first recovers the
    array at every multi-index of the box. -/
theorem applyAxes_left_inverse : ∀ (steps : List (ℕ × AxisMap R)) (shape : List ℕ) (X : List ℕ → R)
    (idx : List ℕ), (∀ s ∈ steps, s.1 < shape.length ∧ s.2.IsInv) → InBox shape idx →
      unapplyAxes steps shape (applyAxes steps shape X) idx = X idx :=
  fun steps shape X idx hax hbox => unapplyAxes_of_agree steps shape X _ idx hax (fun _ _ => rfl) hbox

end SigpyVerif.C10
