import SigpyVerif.Lemmas.C06
import Mathlib.LinearAlgebra.Matrix.Kronecker
/-
  Bridging lemmas for C06 in several dimensions: the constructions of Lemmas/C06.lean for an arbitrary finite index
  type `ι` with an injective multi-index map `ix : ι → List Int` (e.g. `Fin L₁ × Fin L₂` with `(a, b) ↦ [0, a, b]`).
-/
namespace SigpyVerif.C06
open SigpyVerif Matrix ComplexConjugate
open scoped InnerProductSpace

theorem zipWith_default_swap (a b : List Int) :
    List.zipWith Gen.resizeOshiftDefault a b = List.zipWith Gen.resizeIshiftDefault b a ∧
    List.zipWith Gen.resizeIshiftDefault a b = List.zipWith Gen.resizeOshiftDefault b a := by
  have swap (f g : Int → Int → Int) (h : ∀ x y, f y x = g x y) : List.zipWith f a b = List.zipWith g b a :=
    (List.zipWith_comm ..).trans (congrArg (List.zipWith · b a) (funext₂ h))
  exact ⟨swap _ _ fun x y => (C09.resize_default_swap x y).symm, swap _ _ fun x y => C09.resize_default_swap y x⟩

/-- `util.resize` with default shifts from shape `ish` to shape `osh` (C09's N-d source map `resizeSrc`) as a 0/1
    matrix between arbitrary index types carrying their multi-indices -/
def resizeMatNd {ι κ : Type} (ish osh : List Int) (ix : ι → List Int) (kx : κ → List Int) : Matrix κ ι ℂ :=
  Matrix.of fun k j =>
    if C09.resizeSrc ish osh (List.zipWith Gen.resizeIshiftDefault ish osh)
        (List.zipWith Gen.resizeOshiftDefault ish osh) (kx k) = some (ix j) then 1 else 0

/-- crop = (zero-pad)ᴴ in any number of dimensions: C09's `resize_transpose_nd` -/
theorem resizeMatNd_conjTranspose {ι κ : Type} (ish osh : List Int) (ix : ι → List Int) (kx : κ → List Int) :
    (resizeMatNd ish osh ix kx)ᴴ = resizeMatNd osh ish kx ix := by
  ext j k
  have h := C09.resize_transpose_nd ish osh (List.zipWith Gen.resizeIshiftDefault ish osh)
    (List.zipWith Gen.resizeOshiftDefault ish osh) (kx k) (ix j)
  simp only [resizeMatNd, conjTranspose_apply, of_apply, (zipWith_default_swap ish osh).1.symm,
    (zipWith_default_swap osh ish).1, ← h, apply_ite star, star_one, star_zero]

/-- **`util.resize` acts axis by axis**: on multi-indices `a :: ix p` the N-d matrix is the Kronecker product of the
    one-axis matrix of the leading axis and the N-d matrix of the remaining axes -/
theorem resizeMatNd_cons {ι κ : Type} (i o : ℕ) (ish osh : List Int) (ix : ι → List Int) (kx : κ → List Int) :
    resizeMatNd ((i : ℤ) :: ish) ((o : ℤ) :: osh) (fun p : Fin i × ι => ((p.1 : ℕ) : ℤ) :: ix p.2)
        (fun q : Fin o × κ => ((q.1 : ℕ) : ℤ) :: kx q.2) =
      kroneckerMap (· * ·) (resizeMat i o) (resizeMatNd ish osh ix kx) := by
  ext q p
  simp only [resizeMatNd, resizeMat, of_apply, kroneckerMap_apply, List.zipWith_cons_cons,
    C09.resizeSrc_cons_eq_some_cons, ite_zero_mul_ite_zero, mul_one]

theorem resizeMatNd_single (i o : ℕ) :
    resizeMatNd [(i : ℤ)] [(o : ℤ)] (fun p : Fin i => [((p : ℕ) : ℤ)]) (fun q : Fin o => [((q : ℕ) : ℤ)]) =
      resizeMat i o := by
  ext q p
  simp only [resizeMatNd, resizeMat, of_apply, List.zipWith_cons_cons, List.zipWith_nil_left,
    C09.resizeSrc_cons_eq_some_cons, C09.resizeSrc_nil, and_true]

/-- the leading `0` of an unbatched multi-index (batch axis of length 1) drops out -/
theorem resizeMatNd_dummy {ι κ : Type} (ish osh : List Int) (ix : ι → List Int) (kx : κ → List Int) :
    resizeMatNd (1 :: ish) (1 :: osh) (fun p => 0 :: ix p) (fun q => 0 :: kx q) = resizeMatNd ish osh ix kx := by
  ext q p
  simp only [resizeMatNd, of_apply, List.zipWith_cons_cons, C09.resizeSrc_cons_eq_some_cons,
    C09.resize_default_aligns, le_refl, zero_lt_one, and_self, true_and]

theorem sum_one_kronecker {β κ ι : Type} [Fintype β] [DecidableEq β] [Fintype ι] (A : Matrix κ ι ℂ) (u : β × ι → ℂ)
    (b : β) (s : κ) :
    ∑ p : β × ι, kroneckerMap (· * ·) (1 : Matrix β β ℂ) A (b, s) p * u p = ∑ n, A s n * u (b, n) := by
  rw [Fintype.sum_prod_type]
  simp only [kroneckerMap_apply, one_apply, ite_mul, one_mul, zero_mul, Finset.sum_ite_irrel, Finset.sum_const_zero,
    Finset.sum_ite_eq, Finset.mem_univ, if_true]

theorem conjTranspose_kronecker_smul {ι ι' κ κ' : Type} {A : Matrix ι ι' ℂ} {A' : Matrix ι' ι ℂ} {B : Matrix κ κ' ℂ}
    {B' : Matrix κ' κ ℂ} {a b : ℂ} (h1 : Aᴴ = a • A') (h2 : Bᴴ = b • B') :
    (kroneckerMap (· * ·) A B)ᴴ = (a * b) • kroneckerMap (· * ·) A' B' := by
  rw [conjTranspose_kronecker, h1, h2]
  ext p q
  simp only [kroneckerMap_apply, Matrix.smul_apply, smul_eq_mul]
  ring

section general
set_option linter.unusedSectionVars false
variable {ι κ : Type} [Fintype ι] [Fintype κ]

def embG (ix : ι → List Int) (x : ι → ℂ) (l : List Int) : ℂ := ∑ s : ι, if l = ix s then x s else 0

theorem embG_apply {ix : ι → List Int} (hix : Function.Injective ix) (x : ι → ℂ) (s : ι) : embG ix x (ix s) = x s :=
  (Finset.sum_eq_single_of_mem s (Finset.mem_univ s) fun _ _ hb => if_neg fun h => hb (hix h).symm).trans (if_pos rfl)

theorem embG_add (ix : ι → List Int) (x y : ι → ℂ) : embG ix (x + y) = embG ix x + embG ix y := by
  funext l
  simp only [embG, Pi.add_apply, ← Finset.sum_add_distrib, ← ite_add_zero]

theorem embG_smul (ix : ι → List Int) (c : ℂ) (x : ι → ℂ) : embG ix (c • x) = c • embG ix x := by
  funext l
  simp only [embG, Pi.smul_apply, smul_eq_mul, Finset.mul_sum, mul_ite, mul_zero]

/-- run the update list (C07's `+=` semantics, zero-initialised output) on `x` and read the result at `jx j` -/
def updFunG (E : List (Upd ℂ)) (ix : ι → List Int) (jx : κ → List Int) (x : ι → ℂ) : κ → ℂ :=
  fun j => C07.runUpd true E (embG ix x) (fun _ => 0) (jx j)

theorem updFunG_eq (E : List (Upd ℂ)) (ix : ι → List Int) (jx : κ → List Int) (x : ι → ℂ) (j : κ) :
    updFunG E ix jx x j = ((E.filter (fun u => u.1 = jx j)).map (fun u => u.2.2 * embG ix x u.2.1)).sum := by
  unfold updFunG
  rw [C07.runUpd_acc_eq_sum, zero_add]

theorem updFunG_add (E : List (Upd ℂ)) (ix : ι → List Int) (jx : κ → List Int) (x y : ι → ℂ) :
    updFunG E ix jx (x + y) = updFunG E ix jx x + updFunG E ix jx y := by
  funext j
  simp only [updFunG, embG_add, runUpd_add, Pi.add_apply]

theorem updFunG_smul (E : List (Upd ℂ)) (ix : ι → List Int) (jx : κ → List Int) (c : ℂ) (x : ι → ℂ) :
    updFunG E ix jx (c • x) = c • updFunG E ix jx x := by
  funext j
  simp only [updFunG, embG_smul, runUpd_smul, Pi.smul_apply, smul_eq_mul]

noncomputable def updLinG (E : List (Upd ℂ)) (ix : ι → List Int) (jx : κ → List Int) :
    EuclideanSpace ℂ ι →ₗ[ℂ] EuclideanSpace ℂ κ where
  toFun x := WithLp.toLp 2 (updFunG E ix jx (WithLp.ofLp x))
  map_add' x y := by
    simp only [WithLp.ofLp_add, updFunG_add, WithLp.toLp_add]
  map_smul' c x := by
    simp only [WithLp.ofLp_smul, updFunG_smul, WithLp.toLp_smul, RingHom.id_apply]

theorem updLinG_apply (E : List (Upd ℂ)) (ix : ι → List Int) (jx : κ → List Int) (x : EuclideanSpace ℂ ι) (j : κ) :
    WithLp.ofLp (updLinG E ix jx x) j = updFunG E ix jx (WithLp.ofLp x) j := rfl

/-- gridding = interpolationᴴ for update lists with real weights over any index types (C07's `transpose_pairing`) -/
theorem updLinG_adjoint (E : List (Upd ℂ)) {ix : ι → List Int} {jx : κ → List Int} (hix : Function.Injective ix)
    (hjx : Function.Injective jx) (hw : ∀ u ∈ E, conj u.2.2 = u.2.2)
    (hd : ∀ u ∈ E, ∃ j : κ, u.1 = jx j) (hs : ∀ u ∈ E, ∃ s : ι, u.2.1 = ix s)
    (x : EuclideanSpace ℂ ι) (y : EuclideanSpace ℂ κ) :
    ⟪updLinG E ix jx x, y⟫_ℂ = ⟪x, updLinG (E.map C07.swapUpd) jx ix y⟫_ℂ := by
  have key := runUpd_pairing E hw hix hjx hd hs (embG ix (WithLp.ofLp x)) (embG jx (WithLp.ofLp y))
  simp only [embG_apply hix, embG_apply hjx] at key
  rw [EuclideanSpace.inner_eq_star_dotProduct, EuclideanSpace.inner_eq_star_dotProduct]
  exact key

theorem updLinG_cw_apply (wt : Rat → ℝ) (E : List (Upd Rat)) (ix : ι → List Int) (jx : κ → List Int)
    (x : EuclideanSpace ℂ ι) (j : κ) :
    WithLp.ofLp (updLinG (cw wt E) ix jx x) j =
      ((E.filter fun u => u.1 = jx j).map fun u => ((wt u.2.2 : ℝ) : ℂ) * embG ix (WithLp.ofLp x) u.2.1).sum := by
  rw [updLinG_apply, updFunG_eq, cw, List.filter_map, List.map_map]
  rfl

theorem updLinG_cw_adjoint (wt : Rat → ℝ) (E : List (Upd Rat)) {ix : ι → List Int} {jx : κ → List Int}
    (hix : Function.Injective ix) (hjx : Function.Injective jx)
    (hb : ∀ v ∈ E, (∃ j : κ, v.1 = jx j) ∧ ∃ s : ι, v.2.1 = ix s)
    (x : EuclideanSpace ℂ ι) (y : EuclideanSpace ℂ κ) :
    ⟪updLinG (cw wt E) ix jx x, y⟫_ℂ = ⟪x, updLinG (cw wt (E.map C07.swapUpd)) jx ix y⟫_ℂ := by
  rw [cw_swap]
  refine updLinG_adjoint _ hix hjx (cw_real wt E) (fun w hw => ?_) (fun w hw => ?_) x y
  all_goals obtain ⟨v, hv, rfl⟩ := List.mem_map.mp hw
  exacts [(hb v hv).1, (hb v hv).2]

end general

end SigpyVerif.C06
