import Mathlib.LinearAlgebra.Matrix.PosDef
import Mathlib.Analysis.RCLike.Basic
import Mathlib.Tactic.Linarith
import Mathlib.Tactic.Ring
/-
  C11 — trace / Frobenius lemmas for `thresh.psd_proj` (used by `Props/C11Psd.lean`).

  `frobRe A B = Re tr(Aᴴ B)` is the real Frobenius inner product of two square matrices over `𝕜 = ℝ` or `ℂ`
  (`frobRe A A = Σ |a_ij|²`).  `dg w` is the diagonal matrix of a real vector.  The main lemma
  `psd_spectral_core`: for any `U` with `Uᴴ U = 1` and real `a`, `b` related as `w`, `w₊`, with `H = U dg(a) Uᴴ` and
  `P = U dg(b) Uᴴ`: `P` is PSD, `P - H` is PSD, `(H - P) P = 0`, and `Re⟨H - P, Q - P⟩ ≤ 0` for every PSD `Q`.
-/
set_option linter.unusedSectionVars false
namespace SigpyVerif.C11
open Matrix
open scoped ComplexOrder
variable {n : Type} [Fintype n] {𝕜 : Type} [RCLike 𝕜]


noncomputable def frobRe (A B : Matrix n n 𝕜) : ℝ := RCLike.re (trace (Aᴴ * B))

theorem frobRe_comm (A B : Matrix n n 𝕜) : frobRe A B = frobRe B A := by
  unfold frobRe
  rw [← RCLike.conj_re, ← RCLike.star_def, ← trace_conjTranspose, conjTranspose_mul, conjTranspose_conjTranspose]

theorem frobRe_add_right (A B C : Matrix n n 𝕜) : frobRe A (B + C) = frobRe A B + frobRe A C := by
  unfold frobRe; rw [mul_add, trace_add, RCLike.re.map_add]
theorem frobRe_neg_right (A B : Matrix n n 𝕜) : frobRe A (-B) = - frobRe A B := by
  unfold frobRe; rw [mul_neg, trace_neg, map_neg]
theorem frobRe_sub_right (A B C : Matrix n n 𝕜) : frobRe A (B - C) = frobRe A B - frobRe A C := by
  rw [sub_eq_add_neg, frobRe_add_right, frobRe_neg_right, sub_eq_add_neg]
theorem frobRe_add_left (A B C : Matrix n n 𝕜) : frobRe (A + B) C = frobRe A C + frobRe B C := by
  rw [frobRe_comm, frobRe_add_right, frobRe_comm C, frobRe_comm C]
theorem frobRe_neg_left (A B : Matrix n n 𝕜) : frobRe (-A) B = - frobRe A B := by
  rw [frobRe_comm, frobRe_neg_right, frobRe_comm]
theorem frobRe_sub_left (A B C : Matrix n n 𝕜) : frobRe (A - B) C = frobRe A C - frobRe B C := by
  rw [sub_eq_add_neg, frobRe_add_left, frobRe_neg_left, sub_eq_add_neg]

/-- `‖A + B‖² = ‖A‖² + ‖B‖² + 2 Re⟨A, B⟩` -/
theorem frobRe_add_self (A B : Matrix n n 𝕜) :
    frobRe (A + B) (A + B) = frobRe A A + frobRe B B + 2 * frobRe A B := by
  rw [frobRe_add_left, frobRe_add_right, frobRe_add_right, frobRe_comm B A]; ring

theorem frobRe_self (A : Matrix n n 𝕜) : frobRe A A = ∑ i, ∑ j, ‖A i j‖ ^ 2 := by
  unfold frobRe
  simp only [trace, diag_apply, mul_apply, conjTranspose_apply, map_sum]
  rw [Finset.sum_comm]
  refine Finset.sum_congr rfl fun i _ => Finset.sum_congr rfl fun j _ => ?_
  rw [RCLike.star_def, RCLike.conj_mul]
  norm_cast

/-- skew-Hermitian ⟂ Hermitian -/
theorem frobRe_skew_herm {K S : Matrix n n 𝕜} (hK : Kᴴ = -K) (hS : Sᴴ = S) : frobRe K S = 0 := by
  -- `⟨K, S⟩ = ⟨S, K⟩ = Re tr(S K) = Re tr(K S) = -Re tr(Kᴴ S) = -⟨K, S⟩`
  have h : frobRe K S = - frobRe K S := by
    conv_lhs => rw [frobRe_comm, frobRe, hS, trace_mul_comm, ← neg_neg K, ← hK, neg_mul, trace_neg, map_neg]
    rfl
  exact self_eq_neg.mp h

variable [DecidableEq n]
/-- real diagonal matrix -/
noncomputable def dg (w : n → ℝ) : Matrix n n 𝕜 := diagonal fun i => ((w i : ℝ) : 𝕜)

theorem dg_posSemidef {w : n → ℝ} (h : ∀ i, 0 ≤ w i) : (dg w : Matrix n n 𝕜).PosSemidef := by
  unfold dg
  rw [posSemidef_diagonal_iff]
  intro i
  exact RCLike.ofReal_nonneg.mpr (h i)

theorem dg_conjTranspose (w : n → ℝ) : (dg w : Matrix n n 𝕜)ᴴ = dg w := by
  unfold dg
  rw [diagonal_conjTranspose]
  congr 1; funext i; simp

theorem dg_mul_dg (a b : n → ℝ) : (dg a * dg b : Matrix n n 𝕜) = dg fun i => a i * b i := by
  unfold dg; rw [diagonal_mul_diagonal]; congr 1; funext i; simp
theorem dg_sub (a b : n → ℝ) : (dg a - dg b : Matrix n n 𝕜) = dg fun i => a i - b i := by
  unfold dg; rw [diagonal_sub]; congr 1; funext i; simp
theorem dg_zero : (dg (fun _ => 0) : Matrix n n 𝕜) = 0 := by
  unfold dg; simp

theorem conj_sub (U A B : Matrix n n 𝕜) : U * A * Uᴴ - U * B * Uᴴ = U * (A - B) * Uᴴ := by
  rw [mul_sub, sub_mul]

theorem conj_mul_conj {U : Matrix n n 𝕜} (hU : Uᴴ * U = 1) (A B : Matrix n n 𝕜) :
    U * A * Uᴴ * (U * B * Uᴴ) = U * (A * B) * Uᴴ := by
  rw [mul_assoc (U * A), ← mul_assoc Uᴴ, ← mul_assoc Uᴴ, hU, one_mul, mul_assoc U A, mul_assoc U (A * B),
    mul_assoc A B]

theorem conj_dg_conjTranspose (U : Matrix n n 𝕜) (d : n → ℝ) : (U * dg d * Uᴴ)ᴴ = U * dg d * Uᴴ := by
  rw [conjTranspose_mul, conjTranspose_mul, conjTranspose_conjTranspose, dg_conjTranspose, mul_assoc]

/-- `re tr(U diag(d) Uᴴ Q) ≤ 0` for `d ≤ 0` and `Q` PSD: it is `Σ_i d_i (Uᴴ Q U)_ii` -/
theorem re_trace_conj_diag_mul_nonpos (U : Matrix n n 𝕜) {d : n → ℝ} (hd : ∀ i, d i ≤ 0)
    {Q : Matrix n n 𝕜} (hQ : Q.PosSemidef) : RCLike.re (trace (U * dg d * Uᴴ * Q)) ≤ 0 := by
  have e : trace (U * dg d * Uᴴ * Q) = trace (dg d * (Uᴴ * Q * U)) := by
    rw [mul_assoc, mul_assoc, trace_mul_comm, mul_assoc, mul_assoc]
  rw [e]
  have hM := hQ.conjTranspose_mul_mul_same U
  simp only [trace, diag_apply, dg, diagonal_mul, map_sum]
  refine Finset.sum_nonpos fun i _ => ?_
  rw [RCLike.re_ofReal_mul]
  exact mul_nonpos_of_nonpos_of_nonneg (hd i) (RCLike.nonneg_iff.mp hM.diag_nonneg).1

/-- spectral projection facts, for eigenvalues `a` and their replacement `b` (`b = a₊` in `psd_proj`) -/
theorem psd_spectral_core (U : Matrix n n 𝕜) (hU : Uᴴ * U = 1) (a b : n → ℝ) (hb : ∀ i, 0 ≤ b i)
    (hab : ∀ i, a i ≤ b i) (hz : ∀ i, (a i - b i) * b i = 0) {H P : Matrix n n 𝕜} (hH : H = U * dg a * Uᴴ)
    (hP : P = U * dg b * Uᴴ) :
    P.PosSemidef ∧ (P - H).PosSemidef ∧ (H - P) * P = 0 ∧ frobRe (H - P) P = 0 ∧
    ∀ Q : Matrix n n 𝕜, Q.PosSemidef → frobRe (H - P) (Q - P) ≤ 0 := by
  subst hH hP
  -- `H - P = U dg(a - b) Uᴴ`, Hermitian, and `P - H = U dg(b - a) Uᴴ`
  rw [conj_sub, conj_sub, dg_sub, dg_sub]
  have hz' : U * dg (fun i => a i - b i) * Uᴴ * (U * dg b * Uᴴ) = (0 : Matrix n n 𝕜) := by
    rw [conj_mul_conj hU, dg_mul_dg, funext hz, dg_zero, mul_zero, zero_mul]
  have h0 : frobRe (U * dg (fun i => a i - b i) * Uᴴ) (U * dg b * Uᴴ : Matrix n n 𝕜) = 0 := by
    rw [frobRe, conj_dg_conjTranspose, hz', trace_zero, RCLike.re.map_zero]
  refine ⟨(dg_posSemidef hb).mul_mul_conjTranspose_same U,
    (dg_posSemidef fun i => sub_nonneg.mpr (hab i)).mul_mul_conjTranspose_same U, hz', h0, fun Q hQ => ?_⟩
  rw [frobRe_sub_right, h0, sub_zero, frobRe, conj_dg_conjTranspose]
  exact re_trace_conj_diag_mul_nonpos U (fun i => sub_nonpos.mpr (hab i)) hQ

end SigpyVerif.C11
