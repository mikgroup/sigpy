import Mathlib.Analysis.InnerProductSpace.Basic
import Mathlib.Analysis.Real.Sqrt
import Mathlib.Analysis.InnerProductSpace.PiL2
/-
  Lemmas for C13 in real inner-product spaces: the prox characterisations `IsProx` / `IsProxW`, step sizes as operators
  (`StepOp`: what an array-valued `tau` of sigpy acts as), the coupled distance of Chambolle–Pock and its one-step
  inequalities, the concrete diagonal and matrix operators on `ℝⁿ`, and the scalar facts behind the rate theorems.
-/
namespace SigpyVerif.C13
open RealInnerProductSpace

variable {E : Type*} [NormedAddCommGroup E] [InnerProductSpace ℝ E]

/-- Variational characterisation of `p = prox_{α g}(v)`:
    `g(w) ≥ g(p) + ⟨(v - p)/α, w - p⟩` for all `w`. -/
def IsProx (g : E → ℝ) (α : ℝ) (v p : E) : Prop :=
  ∀ w, g p + ⟪(1 / α) • (v - p), w - p⟫ ≤ g w

/-- The fundamental prox-gradient inequality at an arbitrary base point `y`
    (`p` the prox-gradient point of `y`), multiplied by `2α`. -/
theorem step_ineq (f g : E → ℝ) (gf : E → E) (α L : ℝ) (hα : 0 < α) (hL : α * L ≤ 1) (y w p : E)
    (hconv : f y + ⟪gf y, w - y⟫ ≤ f w)
    (hdesc : f p ≤ f y + ⟪gf y, p - y⟫ + L / 2 * ‖p - y‖ ^ 2)
    (hp : IsProx g α (y - α • gf y) p) :
    2 * α * ((f p + g p) - (f w + g w)) ≤ ‖y - w‖ ^ 2 - ‖p - w‖ ^ 2 := by
  have hprox := hp w
  -- everything in terms of `y - p` and `w - p`
  rw [← sub_sub_sub_cancel_right w y p, inner_sub_right] at hconv
  rw [← neg_sub y p, norm_neg, inner_neg_right] at hdesc
  rw [sub_right_comm, one_div, real_inner_smul_left, inner_sub_left, real_inner_smul_left] at hprox
  rw [← sub_sub_sub_cancel_right y w p, norm_sub_rev p w, norm_sub_sq_real]
  -- the three inequalities add up, and `(1 - αL) ‖y - p‖² ≥ 0` is left over
  have h1 : α * α⁻¹ = 1 := mul_inv_cancel₀ hα.ne'
  linear_combination (2 * α) * hconv + (2 * α) * hdesc + (2 * α) * hprox + ‖y - p‖ ^ 2 * hL
    - (2 * (⟪y - p, w - p⟫ - α * ⟪gf y, w - p⟫)) * h1

/-- for ANY step `α > 0`: `(2 - αL) ‖p - x‖² ≤ 2α (F(x) - F(p))` for the prox-gradient point `p` of `x`
    (the prox inequality at `x` plus the descent lemma from `x` to `p`; no convexity of `f`) -/
theorem prox_grad_decrease (f g : E → ℝ) (gf : E → E) (α L : ℝ) (hα : 0 < α) (x p : E)
    (hdesc : f p ≤ f x + ⟪gf x, p - x⟫ + L / 2 * ‖p - x‖ ^ 2) (hp : IsProx g α (x - α • gf x) p) :
    (2 - α * L) * ‖p - x‖ ^ 2 ≤ 2 * α * ((f x + g x) - (f p + g p)) := by
  have hprox := hp x
  rw [sub_right_comm, one_div, real_inner_smul_left, inner_sub_left, real_inner_smul_left,
    real_inner_self_eq_norm_sq] at hprox
  rw [← neg_sub x, inner_neg_right, norm_neg] at hdesc
  rw [norm_sub_rev]
  have h1 : α * α⁻¹ = 1 := mul_inv_cancel₀ hα.ne'
  linear_combination (2 * α) * hprox + (2 * α) * hdesc - (2 * (‖x - p‖ ^ 2 - α * ⟪gf x, x - p⟫)) * h1

/-- `‖t a - (t-1) x - w‖²` in terms of the pairwise distances -/
theorem norm_comb (t : ℝ) (a x w : E) :
    ‖t • a - (t - 1) • x - w‖ ^ 2
      = t * (t - 1) * ‖a - x‖ ^ 2 + t * ‖a - w‖ ^ 2 - (t - 1) * ‖x - w‖ ^ 2 := by
  have e : t • a - (t - 1) • x - w = (t - 1) • (a - x) + (a - w) := by
    rw [smul_sub, sub_smul t 1 a, one_smul]; abel
  have e2 : x - w = (a - w) - (a - x) := (sub_sub_sub_cancel_left w x a).symm
  rw [e, e2, norm_add_sq_real, norm_sub_sq_real (a - w) (a - x), norm_smul, real_inner_smul_left, mul_pow,
    Real.norm_eq_abs, sq_abs, real_inner_comm (a - x) (a - w)]
  ring

section two
variable {F : Type*} [NormedAddCommGroup F] [InnerProductSpace ℝ F]

/-- the coupled ("step-size weighted") squared distance of Chambolle–Pock -/
noncomputable def coupled (A : E → F) (τ σ : ℝ) (a : E) (b : F) : ℝ :=
  ‖a‖ ^ 2 / τ - 2 * ⟪A a, b⟫ + ‖b‖ ^ 2 / σ

end two

/-! ### array-valued ("diagonal") steps: a step acting on the space as an operator -/

/-- A step size as the code uses it: the operator `v ↦ τ ⊙ v` (`util.axpy(x, -tau, ·)` multiplies
    elementwise) together with its inverse `v ↦ v / τ` (the weight of `norm(v / tau**0.5)**2` and of the
    prox).  A scalar step is `τ • id`; an array step is `diag(τ_i)`. -/
structure StepOp (E : Type*) [NormedAddCommGroup E] [InnerProductSpace ℝ E] where
  op : E →ₗ[ℝ] E
  inv : E →ₗ[ℝ] E

namespace StepOp
variable {G : Type*} [NormedAddCommGroup G] [InnerProductSpace ℝ G]

/-- `-tau` -/
instance : Neg (StepOp G) := ⟨fun T => ⟨-T.op, -T.inv⟩⟩
/-- `tau * v` (elementwise) -/
instance : SMul (StepOp G) G := ⟨fun T v => T.op v⟩
/-- `tau *= theta` -/
noncomputable instance : SMul ℝ (StepOp G) := ⟨fun c T => ⟨c • T.op, c⁻¹ • T.inv⟩⟩
/-- `tau /= theta` -/
noncomputable instance : HDiv (StepOp G) ℝ (StepOp G) := ⟨fun T c => ⟨c⁻¹ • T.op, c • T.inv⟩⟩

/-- the scalar step `τ` -/
noncomputable def scalar (τ : ℝ) : StepOp G := ⟨τ • LinearMap.id, τ⁻¹ • LinearMap.id⟩

/-- "all entries of the step are positive": `inv` inverts `op`, and `⟨T⁻¹·,·⟩` is a symmetric positive
    definite form (for `T = diag(τ_i)`: `Σ_i |v_i|²/τ_i`, every `τ_i > 0`). -/
structure Pos (T : StepOp G) : Prop where
  left_inv : ∀ x, T.inv (T.op x) = x
  right_inv : ∀ x, T.op (T.inv x) = x
  symm : ∀ x y, ⟪T.inv x, y⟫ = ⟪x, T.inv y⟫
  pos : ∀ x, x ≠ 0 → 0 < ⟪T.inv x, x⟫

theorem smul_act (T : StepOp G) (v : G) : T • v = T.op v := rfl
theorem neg_act (T : StepOp G) (v : G) : (-T) • v = -(T.op v) := rfl
theorem smul_op (c : ℝ) (T : StepOp G) : (c • T).op = c • T.op := rfl
theorem smul_inv (c : ℝ) (T : StepOp G) : (c • T).inv = c⁻¹ • T.inv := rfl
theorem div_op (c : ℝ) (T : StepOp G) : (T / c).op = c⁻¹ • T.op := rfl
theorem div_inv (c : ℝ) (T : StepOp G) : (T / c).inv = c • T.inv := rfl

theorem Pos.nonneg {T : StepOp G} (h : T.Pos) (x : G) : 0 ≤ ⟪T.inv x, x⟫ := by
  rcases eq_or_ne x 0 with rfl | hx
  · rw [inner_zero_right]
  · exact (h.pos x hx).le

theorem Pos.eq_zero {T : StepOp G} (h : T.Pos) {x : G} (hx : ⟪T.inv x, x⟫ ≤ 0) : x = 0 :=
  of_not_not fun hne => (h.pos x hne).not_ge hx

/-- rescaling by a positive factor (`tau *= theta`) keeps a step positive -/
theorem Pos.smul {T : StepOp G} (h : T.Pos) {c : ℝ} (hc : 0 < c) : (c • T).Pos where
  left_inv x := by
    show c⁻¹ • T.inv (c • T.op x) = x
    rw [LinearMap.map_smul, h.left_inv, inv_smul_smul₀ hc.ne']
  right_inv x := by
    show c • T.op (c⁻¹ • T.inv x) = x
    rw [LinearMap.map_smul, h.right_inv, smul_inv_smul₀ hc.ne']
  symm x y := by
    show ⟪c⁻¹ • T.inv x, y⟫ = ⟪x, c⁻¹ • T.inv y⟫
    rw [real_inner_smul_left, real_inner_smul_right, h.symm]
  pos x hx := by
    show 0 < ⟪c⁻¹ • T.inv x, x⟫
    rw [real_inner_smul_left]
    exact mul_pos (inv_pos.mpr hc) (h.pos x hx)

/-- a positive scalar step is a positive step -/
theorem scalar_pos {τ : ℝ} (hτ : 0 < τ) : (scalar τ : StepOp G).Pos :=
  Pos.smul (T := ⟨LinearMap.id, LinearMap.id⟩)
    ⟨fun _ => rfl, fun _ => rfl, fun _ _ => rfl, fun _ => real_inner_self_pos.mpr⟩ hτ

/-- `tau /= theta` with `theta > 0` keeps a step positive -/
theorem Pos.div {T : StepOp G} (h : T.Pos) {c : ℝ} (hc : 0 < c) : (T / c).Pos := by
  have e : T / c = c⁻¹ • T := congrArg (StepOp.mk _) (by rw [inv_inv])
  exact e ▸ h.smul (inv_pos.mpr hc)

end StepOp

/-- Variational characterisation of the prox with an operator step, i.e. in the `T⁻¹`-weighted inner
    product: `p = argmin_w g(w) + ½⟨T⁻¹(w - v), w - v⟩  ⇔  ∀ w, g(w) ≥ g(p) + ⟨T⁻¹(v - p), w - p⟩`.
    For `T = diag(τ_i)` and a separable `g = Σ g_i` this is the elementwise prox with step `τ_i` in
    entry `i` — what `proxg(tau, ·)` of sigpy.prox computes when `tau` is an array. -/
def IsProxW (g : E → ℝ) (T : StepOp E) (v p : E) : Prop :=
  ∀ w, g p + ⟪T.inv (v - p), w - p⟫ ≤ g w

/-- for a scalar step the weighted characterisation is the usual one -/
theorem isProxW_scalar (g : E → ℝ) (α : ℝ) (v p : E) :
    IsProxW g (StepOp.scalar α) v p ↔ IsProx g α v p := by
  unfold IsProxW IsProx StepOp.scalar
  simp only [LinearMap.smul_apply, LinearMap.id_apply, one_div]

theorem isProxW_unique {g : E → ℝ} {T : StepOp E} (hT : T.Pos) {v p q : E}
    (hp : IsProxW g T v p) (hq : IsProxW g T v q) : p = q := by
  have h1 := hp q
  have h2 := hq p
  -- the two inequalities add up to `⟨T⁻¹(p - q), p - q⟩ ≤ 0`
  rw [← neg_sub p q, inner_neg_right] at h1
  have e : ⟪T.inv (p - q), p - q⟫ = ⟪T.inv (v - q), p - q⟫ - ⟪T.inv (v - p), p - q⟫ := by
    rw [← inner_sub_left, ← LinearMap.map_sub, sub_sub_sub_cancel_left]
  exact sub_eq_zero.mp (hT.eq_zero (by linarith))

theorem isProxW_shift_iff (g : E → ℝ) {T : StepOp E} (hT : T.Pos) (p d : E) :
    IsProxW g T (p + T.op d) p ↔ ∀ w, g p + ⟪d, w - p⟫ ≤ g w := by
  unfold IsProxW
  rw [add_sub_cancel_left, hT.left_inv]

theorem isProxW_fixed_iff {g : E → ℝ} {T : StepOp E} (hT : T.Pos) {p d q : E} (h : IsProxW g T (p + T.op d) q) :
    q = p ↔ ∀ w, g p + ⟪d, w - p⟫ ≤ g w :=
  ⟨fun e => (isProxW_shift_iff g hT p d).mp (e ▸ h),
    fun hs => isProxW_unique hT h ((isProxW_shift_iff g hT p d).mpr hs)⟩

section twoW
variable {F : Type*} [NormedAddCommGroup F] [InnerProductSpace ℝ F]

/-- the coupled squared distance for operator steps:
    `⟨T⁻¹a, a⟩ - 2⟨A a, b⟩ + ⟨Σ⁻¹b, b⟩` -/
noncomputable def coupledW (A : E → F) (T : StepOp E) (Sg : StepOp F) (a : E) (b : F) : ℝ :=
  ⟪T.inv a, a⟫ - 2 * ⟪A a, b⟫ + ⟪Sg.inv b, b⟫

theorem coupledW_nonneg {A : E → F} {T : StepOp E} {Sg : StepOp F} {a : E} {b : F}
    (h : 2 * |⟪A a, b⟫| ≤ ⟪T.inv a, a⟫ + ⟪Sg.inv b, b⟫) : 0 ≤ coupledW A T Sg a b := by
  have h2 := le_abs_self ⟪A a, b⟫
  unfold coupledW
  linarith

theorem scalar_inv_inner (τ : ℝ) (x : E) : ⟪(StepOp.scalar τ : StepOp E).inv x, x⟫ = ‖x‖ ^ 2 / τ := by
  show ⟪τ⁻¹ • x, x⟫ = ‖x‖ ^ 2 / τ
  rw [real_inner_smul_left, real_inner_self_eq_norm_sq, inv_mul_eq_div]

theorem coupledW_scalar (A : E → F) (τ σ : ℝ) (a : E) (b : F) :
    coupledW A (StepOp.scalar τ) (StepOp.scalar σ) a b = coupled A τ σ a b := by
  rw [coupledW, coupled, scalar_inv_inner, scalar_inv_inner]

theorem pd_fixed_iff_saddleW {g : E → ℝ} {fc : F → ℝ} {A : E → F} {AH : F → E} {T : StepOp E} {Sg : StepOp F}
    (hT : T.Pos) (hS : Sg.Pos) {x x' xe' : E} {u u' : F} {θ : ℝ}
    (hU : IsProxW fc Sg (u + Sg.op (A x)) u') (hX : IsProxW g T (x + T.op (-(AH u'))) x')
    (he : xe' = x' + θ • (x' - x)) :
    (x' = x ∧ u' = u ∧ xe' = x) ↔ (∀ w, g x + ⟪-(AH u), w - x⟫ ≤ g w) ∧ (∀ v, fc u + ⟪A x, v - u⟫ ≤ fc v) := by
  rw [← isProxW_fixed_iff hS hU]
  constructor
  · rintro ⟨hx, rfl, _⟩
    exact ⟨(isProxW_fixed_iff hT hX).mp hx, rfl⟩
  · rintro ⟨h1, rfl⟩
    have hx : x' = x := (isProxW_fixed_iff hT hX).mpr h1
    exact ⟨hx, rfl, by rw [he, hx, sub_self, smul_zero, add_zero]⟩

theorem three_point (T : E →ₗ[ℝ] E) (hT : ∀ x y, ⟪T x, y⟫ = ⟪x, T y⟫) (x y z : E) :
    2 * ⟪T (x - y), z - y⟫ = ⟪T (y - z), y - z⟫ + ⟪T (y - x), y - x⟫ - ⟪T (x - z), x - z⟫ := by
  have sy : ∀ a b : E, ⟪T a, b⟫ = ⟪T b, a⟫ := fun a b => (hT a b).trans (real_inner_comm _ _)
  simp only [LinearMap.map_sub, inner_sub_left, inner_sub_right]
  linear_combination sy x z - sy x y - sy y z

/-- algebraic core of the Fejér inequality for operator steps, with a primal–dual gap `G` kept: twice the hypothesis, by
    the three-point identity of `⟨T⁻¹·,·⟩` and `⟨Σ⁻¹·,·⟩` and bilinearity of `⟨A·,·⟩` -/
theorem fejer_coreW_gap (A : E →ₗ[ℝ] F) (AH : F → E) (hadj : ∀ x u, ⟪A x, u⟫ = ⟪x, AH u⟫)
    (T : StepOp E) (Sg : StepOp F) (hT : ∀ x y, ⟪T.inv x, y⟫ = ⟪x, T.inv y⟫)
    (hS : ∀ x y, ⟪Sg.inv x, y⟫ = ⟪x, Sg.inv y⟫) (x x1 w : E) (u1 u2 v : F) (G : ℝ)
    (h : ⟪T.inv (x - x1), w - x1⟫ - ⟪AH u1, w - x1⟫ + ⟪Sg.inv (u1 - u2), v - u2⟫
        + ⟪A (x1 + (x1 - x)), v - u2⟫ - ⟪A x1, v⟫ + ⟪A w, u2⟫ ≤ -G) :
    coupledW A T Sg (x1 - w) (u2 - v) + coupledW A T Sg (x1 - x) (u2 - u1) + 2 * G
      ≤ coupledW A T Sg (x - w) (u1 - v) := by
  have hA1 : ⟪AH u1, w - x1⟫ = ⟪A (w - x1), u1⟫ := (real_inner_comm _ _).trans (hadj _ _).symm
  have eK : ⟪A (x1 - w), u2 - v⟫ + ⟪A (x1 - x), u2 - u1⟫ - ⟪A (x - w), u1 - v⟫
      = ⟪A (w - x1), u1⟫ - ⟪A (x1 + (x1 - x)), v - u2⟫ + ⟪A x1, v⟫ - ⟪A w, u2⟫ := by
    simp only [LinearMap.map_sub, LinearMap.map_add, inner_sub_left, inner_sub_right, inner_add_left]
    ring
  rw [hA1] at h
  unfold coupledW
  linarith [three_point T.inv hT x x1 w, three_point Sg.inv hS u1 u2 v]

/-- a primal step `x → x1` (with the dual point `u1`) followed by a dual step `u1 → u2` (extrapolating with `θ = 1`),
    against an arbitrary pair `(w, v)`: the coupled distance to `(w, v)` drops by the size of the step and twice the
    primal–dual gap `L(x1, v) - L(w, u2)`, where `L(x, u) = g x + ⟨A x, u⟩ - fc u` -/
theorem gap_stepW {g : E → ℝ} {fc : F → ℝ} (A : E →ₗ[ℝ] F) (AH : F → E) (hadj : ∀ x u, ⟪A x, u⟫ = ⟪x, AH u⟫)
    {T : StepOp E} {Sg : StepOp F} (hT : T.Pos) (hS : Sg.Pos) {x x1 : E} {u1 u2 : F}
    (hX : IsProxW g T (x + T.op (-(AH u1))) x1) (hU : IsProxW fc Sg (u1 + Sg.op (A (x1 + (x1 - x)))) u2)
    (w : E) (v : F) :
    coupledW A T Sg (x1 - w) (u2 - v) + coupledW A T Sg (x1 - x) (u2 - u1)
        + 2 * ((g x1 + ⟪A x1, v⟫ - fc v) - (g w + ⟪A w, u2⟫ - fc u2))
      ≤ coupledW A T Sg (x - w) (u1 - v) := by
  have p1 := hX w
  have d1 := hU v
  rw [add_sub_right_comm, LinearMap.map_add, hT.left_inv, inner_add_left, inner_neg_left] at p1
  rw [add_sub_right_comm, LinearMap.map_add, hS.left_inv, inner_add_left] at d1
  apply fejer_coreW_gap A AH hadj T Sg hT.symm hS.symm x x1 w u1 u2 v
  linear_combination p1 + d1

/-- at a saddle point `(xs, us)` the gap is nonnegative and can be dropped -/
theorem fejer_stepW {g : E → ℝ} {fc : F → ℝ} (A : E →ₗ[ℝ] F) (AH : F → E) (hadj : ∀ x u, ⟪A x, u⟫ = ⟪x, AH u⟫)
    {T : StepOp E} {Sg : StepOp F} (hT : T.Pos) (hS : Sg.Pos) {x x1 xs : E} {u1 u2 us : F}
    (hX : IsProxW g T (x + T.op (-(AH u1))) x1) (hU : IsProxW fc Sg (u1 + Sg.op (A (x1 + (x1 - x)))) u2)
    (hs1 : ∀ w, g xs + ⟪-(AH us), w - xs⟫ ≤ g w) (hs2 : ∀ v, fc us + ⟪A xs, v - us⟫ ≤ fc v) :
    coupledW A T Sg (x1 - xs) (u2 - us) + coupledW A T Sg (x1 - x) (u2 - u1)
      ≤ coupledW A T Sg (x - xs) (u1 - us) := by
  have h := gap_stepW A AH hadj hT hS hX hU xs us
  have p2 := hs1 x1
  have d2 := hs2 u2
  rw [inner_neg_left, real_inner_comm, ← hadj, LinearMap.map_sub, inner_sub_left] at p2
  rw [inner_sub_right] at d2
  linarith

end twoW

section metric
variable {F : Type*} [NormedAddCommGroup F] [InnerProductSpace ℝ F]

theorem two_mul_le_of_sq_le {a b c : ℝ} (ha : 0 ≤ a) (hb : 0 ≤ b) (h : c ^ 2 ≤ a * b) : 2 * |c| ≤ a + b := by
  have h2 : (2 * c) ^ 2 ≤ (a + b) ^ 2 := by linear_combination 4 * h + sq_nonneg (a - b)
  rw [← abs_two, ← abs_mul]
  exact abs_le_of_sq_le_sq h2 (add_nonneg ha hb)

omit [InnerProductSpace ℝ E] in
/-- the Chambolle–Pock metric is positive semidefinite when `τ σ L² ≤ 1` -/
theorem metric_psd (τ σ L : ℝ) (hτ : 0 < τ) (hσ : 0 < σ) (hstep : τ * σ * L ^ 2 ≤ 1)
    (a : E) (b c : F) (hc : ‖c‖ ≤ L * ‖a‖) :
    2 * |⟪c, b⟫| ≤ ‖a‖ ^ 2 / τ + ‖b‖ ^ 2 / σ := by
  have h1 : |⟪c, b⟫| ≤ L * ‖a‖ * ‖b‖ :=
    (abs_real_inner_le_norm c b).trans (mul_le_mul_of_nonneg_right hc (norm_nonneg b))
  have h2 : ⟪c, b⟫ ^ 2 ≤ (L * ‖a‖ * ‖b‖) ^ 2 := sq_le_sq' (neg_le_of_abs_le h1) (le_of_abs_le h1)
  apply two_mul_le_of_sq_le (div_nonneg (sq_nonneg _) hτ.le) (div_nonneg (sq_nonneg _) hσ.le)
  rw [div_mul_div_comm, le_div_iff₀ (mul_pos hτ hσ)]
  linear_combination (τ * σ) * h2 + (‖a‖ ^ 2 * ‖b‖ ^ 2) * hstep

omit [InnerProductSpace ℝ E] in
theorem coupled_nonneg (τ σ L : ℝ) (hτ : 0 < τ) (hσ : 0 < σ) (hstep : τ * σ * L ^ 2 ≤ 1)
    (A : E → F) (hA : ∀ x, ‖A x‖ ≤ L * ‖x‖) (a : E) (b : F) : 0 ≤ coupled A τ σ a b := by
  have h := metric_psd τ σ L hτ hσ hstep a b (A a) (hA a)
  have h2 := le_abs_self ⟪A a, b⟫
  unfold coupled
  linarith

end metric

section concrete

/-- elementwise multiplication by the array `τ` on `ℝⁿ` -/
noncomputable def mulVecOp {n : ℕ} (τ : Fin n → ℝ) : EuclideanSpace ℝ (Fin n) →ₗ[ℝ] EuclideanSpace ℝ (Fin n) where
  toFun x := WithLp.toLp 2 (fun i => τ i * x i)
  map_add' x y := by ext i; simp [mul_add]
  map_smul' c x := by ext i; simp; ring

/-- the array-valued step `tau` on `ℝⁿ`: multiply / divide elementwise -/
noncomputable def StepOp.diag {n : ℕ} (τ : Fin n → ℝ) : StepOp (EuclideanSpace ℝ (Fin n)) :=
  ⟨mulVecOp τ, mulVecOp (fun i => (τ i)⁻¹)⟩

theorem euclidean_inner {n : ℕ} (x y : EuclideanSpace ℝ (Fin n)) : ⟪x, y⟫ = ∑ i, x i * y i := by
  simp only [PiLp.inner_apply, RCLike.inner_apply', conj_trivial]

theorem StepOp.diag_pos {n : ℕ} (τ : Fin n → ℝ) (hτ : ∀ i, 0 < τ i) : (StepOp.diag τ).Pos where
  left_inv x := by
    ext i; exact inv_mul_cancel_left₀ (hτ i).ne' _
  right_inv x := by
    ext i; exact mul_inv_cancel_left₀ (hτ i).ne' _
  symm x y := by
    rw [euclidean_inner, euclidean_inner]
    refine Finset.sum_congr rfl fun i _ => ?_
    show (τ i)⁻¹ * x i * y i = x i * ((τ i)⁻¹ * y i)
    rw [mul_assoc, mul_left_comm]
  pos x hx := by
    rw [euclidean_inner]
    obtain ⟨i, hi⟩ : ∃ i, x i ≠ 0 := by
      by_contra h
      push Not at h
      exact hx (by ext i; exact h i)
    have h0 : ∀ j, 0 ≤ (τ j)⁻¹ * x j * x j := fun j => by
      rw [mul_assoc]; exact mul_nonneg (inv_pos.mpr (hτ j)).le (mul_self_nonneg _)
    refine Finset.sum_pos' (fun j _ => h0 j) ⟨i, Finset.mem_univ i, ?_⟩
    show 0 < (τ i)⁻¹ * x i * x i
    rw [mul_assoc]; exact mul_pos (inv_pos.mpr (hτ i)) (mul_self_pos.mpr hi)

/-- finite-sum core of Pock–Chambolle's diagonal preconditioning lemma -/
theorem pock_chambolle_sum {m n : ℕ} (M : Fin m → Fin n → ℝ) (ti : Fin n → ℝ) (si : Fin m → ℝ)
    (p q : Fin m → Fin n → ℝ) (hp : ∀ i j, 0 ≤ p i j) (hq : ∀ i j, 0 ≤ q i j)
    (hpq : ∀ i j, (M i j) ^ 2 ≤ p i j * q i j)
    (hcol : ∀ j, ∑ i, p i j ≤ ti j) (hrow : ∀ i, ∑ j, q i j ≤ si i) (x : Fin n → ℝ) (u : Fin m → ℝ) :
    2 * |∑ i, (∑ j, M i j * x j) * u i| ≤ ∑ j, ti j * x j ^ 2 + ∑ i, si i * u i ^ 2 := by
  have hterm : ∀ i j, 2 * |M i j * x j * u i| ≤ p i j * x j ^ 2 + q i j * u i ^ 2 := by
    intro i j
    apply two_mul_le_of_sq_le (mul_nonneg (hp i j) (sq_nonneg _)) (mul_nonneg (hq i j) (sq_nonneg _))
    linear_combination (x j ^ 2 * u i ^ 2) * hpq i j
  calc 2 * |∑ i, (∑ j, M i j * x j) * u i|
      = 2 * |∑ i, ∑ j, M i j * x j * u i| := by simp only [Finset.sum_mul]
    _ ≤ 2 * ∑ i, ∑ j, |M i j * x j * u i| :=
        mul_le_mul_of_nonneg_left ((Finset.abs_sum_le_sum_abs _ _).trans
          (Finset.sum_le_sum fun i _ => Finset.abs_sum_le_sum_abs _ _)) zero_le_two
    _ ≤ ∑ i, ∑ j, (p i j * x j ^ 2 + q i j * u i ^ 2) := by
        simp only [Finset.mul_sum]
        exact Finset.sum_le_sum fun i _ => Finset.sum_le_sum fun j _ => hterm i j
    _ = ∑ j, (∑ i, p i j) * x j ^ 2 + ∑ i, (∑ j, q i j) * u i ^ 2 := by
        simp only [Finset.sum_add_distrib, Finset.sum_mul]
        rw [Finset.sum_comm]
    _ ≤ ∑ j, ti j * x j ^ 2 + ∑ i, si i * u i ^ 2 :=
        add_le_add (Finset.sum_le_sum fun j _ => mul_le_mul_of_nonneg_right (hcol j) (sq_nonneg _))
          (Finset.sum_le_sum fun i _ => mul_le_mul_of_nonneg_right (hrow i) (sq_nonneg _))

/-- the matrix `M` as the operator `v ↦ M @ v` on `ℝⁿ → ℝᵐ` -/
noncomputable def matOp {m n : ℕ} (M : Fin m → Fin n → ℝ) : EuclideanSpace ℝ (Fin n) →ₗ[ℝ] EuclideanSpace ℝ (Fin m) where
  toFun x := WithLp.toLp 2 (fun i => ∑ j, M i j * x j)
  map_add' x y := by ext i; simp [mul_add, Finset.sum_add_distrib]
  map_smul' c x := by
    ext i; simp only [PiLp.smul_apply, smul_eq_mul, RingHom.id_apply, Finset.mul_sum]
    apply Finset.sum_congr rfl; intro j _; ring

theorem diag_inv_inner {n : ℕ} (τ : Fin n → ℝ) (x : EuclideanSpace ℝ (Fin n)) :
    ⟪(StepOp.diag τ).inv x, x⟫ = ∑ j, (τ j)⁻¹ * x j ^ 2 :=
  (euclidean_inner _ _).trans (Finset.sum_congr rfl fun j _ => by
    show (τ j)⁻¹ * x j * x j = _
    rw [mul_assoc, ← sq])

theorem matOp_inner {m n : ℕ} (M : Fin m → Fin n → ℝ) (x : EuclideanSpace ℝ (Fin n)) (u : EuclideanSpace ℝ (Fin m)) :
    ⟪matOp M x, u⟫ = ∑ i, (∑ j, M i j * x j) * u i :=
  euclidean_inner _ _

/-- `Aᴴ` of a real matrix is its transpose -/
theorem matOp_adjoint {m n : ℕ} (M : Fin m → Fin n → ℝ) (x : EuclideanSpace ℝ (Fin n)) (u : EuclideanSpace ℝ (Fin m)) :
    ⟪matOp M x, u⟫ = ⟪x, matOp (fun j i => M i j) u⟫ := by
  rw [matOp_inner, real_inner_comm, matOp_inner]
  simp only [Finset.sum_mul]
  rw [Finset.sum_comm]
  apply Finset.sum_congr rfl; intro j _
  apply Finset.sum_congr rfl; intro i _
  ring

end concrete


theorem fejer_sum_le (D R : ℕ → ℝ) (h : ∀ k, D (k + 1) + R k ≤ D k) (N : ℕ) :
    D N + ∑ k ∈ Finset.range N, R k ≤ D 0 := by
  induction N with
  | zero => simp
  | succ n ih => rw [Finset.sum_range_succ]; linarith [h n]

theorem fejer_min_le (D R : ℕ → ℝ) (h : ∀ k, D (k + 1) + R k ≤ D k) (hD : ∀ k, 0 ≤ D k)
    (N : ℕ) (hN : 0 < N) : ∃ j, j < N ∧ R j ≤ D 0 / N := by
  by_contra hc
  push Not at hc
  have hne : (Finset.range N).Nonempty := ⟨0, Finset.mem_range.mpr hN⟩
  have hlt : ∑ _k ∈ Finset.range N, D 0 / N < ∑ k ∈ Finset.range N, R k :=
    Finset.sum_lt_sum_of_nonempty hne (fun j hj => hc j (Finset.mem_range.mp hj))
  have hN' : (0 : ℝ) < N := Nat.cast_pos.mpr hN
  rw [Finset.sum_const, Finset.card_range, nsmul_eq_mul, mul_div_cancel₀ _ hN'.ne'] at hlt
  linarith [fejer_sum_le D R h N, hD N]

theorem descent_rate {α : ℝ} (hα : 0 < α) (v d : ℕ → ℝ) (hstep : ∀ n, 2 * α * v (n + 1) ≤ d n - d (n + 1))
    (hdesc : ∀ n, v (n + 1) ≤ v n) (hd : ∀ n, 0 ≤ d n) (k : ℕ) (hk : 0 < k) : v k ≤ d 0 / (2 * α * k) := by
  have key : ∀ n : ℕ, 2 * α * (n * v n) + d n ≤ d 0 := by
    intro n
    induction n with
    | zero => simp
    | succ n ih =>
      -- `n` times the descent plus once the inequality of the step
      have h := mul_le_mul_of_nonneg_left (hdesc n) (mul_nonneg (mul_nonneg zero_le_two hα.le) n.cast_nonneg)
      push_cast
      linarith [hstep n]
  have hk' : (0 : ℝ) < k := Nat.cast_pos.mpr hk
  rw [le_div_iff₀ (by positivity)]
  linarith [key k, hd k]

theorem theta_pos_lt_one (c : ℝ) (hc : 0 < c) :
    0 < 1 / Real.sqrt (1 + c) ∧ 1 / Real.sqrt (1 + c) < 1 := by
  have h1 : 1 < Real.sqrt (1 + c) := by
    rw [Real.lt_sqrt (by norm_num)]; linarith
  constructor
  · positivity
  · rw [div_lt_one (by linarith)]; exact h1

/-- `tau *= theta; sigma /= theta` keeps the product `tau * sigma` -/
theorem rescale_prod {θ : ℝ} (hθ : θ ≠ 0) (τ σ : ℝ) : θ * τ * (σ / θ) = τ * σ := by
  field_simp


theorem tnext_sq (t : ℝ) : ((1 + Real.sqrt (1 + 4 * (t * t))) / 2) ^ 2 - (1 + Real.sqrt (1 + 4 * (t * t))) / 2 = t ^ 2 := by
  have h : Real.sqrt (1 + 4 * (t * t)) ^ 2 = 1 + 4 * (t * t) := Real.sq_sqrt (by linarith [mul_self_nonneg t])
  linear_combination h / 4

theorem tnext_ge (t : ℝ) : t + 1 / 2 ≤ (1 + Real.sqrt (1 + 4 * (t * t))) / 2 := by
  have h : 2 * t ≤ Real.sqrt (1 + 4 * (t * t)) := by
    apply Real.le_sqrt_of_sq_le; linarith
  linarith

theorem rate_of_energy {α v t D q k : ℝ} (hα : 0 < α) (hk : 0 ≤ k) (ht : (k + 2) / 2 ≤ t) (hq : 0 ≤ q) (hD : 0 ≤ D)
    (hE : 2 * α * t ^ 2 * v + q ≤ D) : v ≤ 2 * D / (α * (k + 2) ^ 2) := by
  rw [le_div_iff₀ (by positivity)]
  rcases le_total 0 v with hv | hv
  · have ht2 : ((k + 2) / 2) ^ 2 ≤ t ^ 2 := pow_le_pow_left₀ (by positivity) ht 2
    linear_combination 2 * hE + 2 * hq + (4 * (α * v)) * ht2
  · linear_combination (α * (k + 2) ^ 2) * hv + 2 * hD

end SigpyVerif.C13
