import SigpyVerif.Lemmas.C04Cover
import SigpyVerif.Props.C09
import Mathlib.Tactic.Ring
/-
  C04 — when is the block normal operator the identity?  The reverse directions of the cover
  theorems of Lemmas/C04Cover.lean:

  * `cover_le_one_iff`      : no array index is covered twice  ⇔  `B ≤ S` or at most one block;
  * `cover_one_iff_tiling`  : with `num_blks = (L - B + S) // S` blocks (the formula of
    `ArrayToBlocks.__init__`, `Gen.a2bNumBlks`), every index of `0..L-1` is covered exactly once
    ⇔ (`S = B` and `B ∣ L`) or `B = L` (a single block that is the whole axis);
  * `b2a_normal_identity_iff` : `BlocksToArray.N = A Aᴴ` (on block arrays, 1-D loop nests) is the
    identity ⇔ `B ≤ S` or a single block.
-/
namespace SigpyVerif.C04
open SigpyVerif SigpyVerif.C01

theorem cover_pos_iff (B S N i : Int) :
    0 < coverPairs B S N i ↔ ∃ n x, 0 ≤ n ∧ n < N ∧ 0 ≤ x ∧ x < B ∧ n * S + x = i := by
  rw [coverPairs_eq_length, List.length_pos_iff_exists_mem]
  constructor
  · rintro ⟨x, hx⟩
    obtain ⟨n, h⟩ := mem_coverList.mp hx
    exact ⟨n, x, h⟩
  · rintro ⟨n, x, h⟩
    exact ⟨x, mem_coverList.mpr ⟨n, h⟩⟩

theorem no_overlap_of_cover_stride (B S N : Int) (hS : 0 < S) (h : S < B → 2 ≤ N → coverPairs B S N S ≤ 1) :
    B ≤ S ∨ N ≤ 1 := by
  by_contra hc
  rw [not_or, not_le, not_le] at hc
  exact absurd ((cover_overlap B S N hS hc.1 hc.2).trans (h hc.1 hc.2)) (by decide)

/-- **No array index is covered twice iff the blocks do not overlap or there is at most one block.**
    (`N` = number of blocks.)  This is the condition under which distinct block entries never share
    an array target, i.e. under which `BlocksToArray.N = A Aᴴ` is the identity on block arrays. -/
theorem cover_le_one_iff (B S N : Int) (hS : 0 < S) :
    (∀ i, coverPairs B S N i ≤ 1) ↔ B ≤ S ∨ N ≤ 1 :=
  ⟨fun h => no_overlap_of_cover_stride B S N hS fun _ _ => h S,
    fun h i => coverList_length_le_one B S N i hS h⟩

/-- the same restricted to the array `0..L-1` with `num_blks` blocks (sigpy's layout: `B ≤ L`) -/
theorem cover_le_one_iff_array (L B S : Int) (hS : 0 < S) (hBL : B ≤ L) :
    (∀ i, 0 ≤ i → i < L → coverPairs B S (Gen.a2bNumBlks L B S) i ≤ 1) ↔
      B ≤ S ∨ Gen.a2bNumBlks L B S ≤ 1 :=
  ⟨fun h => no_overlap_of_cover_stride B S _ hS fun hSB _ => h S hS.le (hSB.trans_le hBL),
    fun h i _ _ => (cover_le_one_iff B S _ hS).mpr h i⟩

theorem cover_block_one_iff (B S N : Int) (hS : 0 < S) :
    (∀ n x, 0 ≤ n ∧ n < N → 0 ≤ x ∧ x < B → coverPairs B S N (n * S + x) = 1) ↔ B ≤ S ∨ N ≤ 1 := by
  constructor
  · intro h
    refine no_overlap_of_cover_stride B S N hS fun hSB hN => ?_
    have h1 := h 1 0 ⟨zero_le_one, hN⟩ ⟨le_refl _, hS.trans hSB⟩
    rw [one_mul, add_zero] at h1
    exact h1.le
  · intro h n x hn hx
    exact le_antisymm ((cover_le_one_iff B S N hS).mpr h (n * S + x))
      ((cover_pos_iff B S N (n * S + x)).mpr ⟨n, x, hn.1, hn.2, hx.1, hx.2, rfl⟩)

theorem cover_single_block (B S i : Int) (hS : 0 < S) (hi : 0 ≤ i ∧ i < B) : coverPairs B S 1 i = 1 := by
  have := (cover_block_one_iff B S 1 hS).mpr (Or.inr (le_refl _)) 0 i ⟨le_refl _, one_pos⟩ hi
  rwa [zero_mul, zero_add] at this

/-- `hlast`, `hmax`: what `num_blks` guarantees of the block count (C09 `numBlks_maximal`) -/
theorem tiling_of_cover_one (L B S N : Int) (hS : 0 < S) (hB : 0 < B) (hBL : B ≤ L) (hpos : 0 < N)
    (hlast : (N - 1) * S + B ≤ L) (hmax : L < N * S + B)
    (h : ∀ i, 0 ≤ i → i < L → coverPairs B S N i = 1) : (S = B ∧ B ∣ L) ∨ B = L := by
  have last : ∃ n x, 0 ≤ n ∧ n < N ∧ 0 ≤ x ∧ x < B ∧ n * S + x = L - 1 :=
    (cover_pos_iff B S N (L - 1)).mp (by
      rw [h (L - 1) (Int.le_sub_one_iff.mpr (hB.trans_le hBL)) (sub_one_lt L)]; exact one_pos)
  rcases lt_trichotomy S B with hlt | heq | hgt
  · right
    by_cases hN : 2 ≤ N
    · exact absurd (h S hS.le (hlt.trans_le hBL) ▸ cover_overlap B S N hS hlt hN) (by decide)
    · -- a single block, and it contains the last index
      obtain rfl : N = 1 := by omega
      obtain ⟨n, x, h1, h2, h3, h4, h5⟩ := last
      obtain rfl : n = 0 := by omega
      omega
  · left
    subst heq
    refine ⟨rfl, Dvd.intro_left N ?_⟩
    -- the last index lies below the end `N·S ≤ L` of the last block
    obtain ⟨n, x, h1, h2, h3, h4, h5⟩ := last
    have hn : n * S ≤ (N - 1) * S := mul_le_mul_of_nonneg_right (by omega) hS.le
    rw [sub_mul, one_mul] at hn hlast
    omega
  · -- index `B` lies in the gap after block 0
    by_contra hc
    have hBL' : B < L := lt_of_le_of_ne hBL fun e => hc (Or.inr e)
    exact absurd ((cover_gap B S N hB hgt).symm.trans (h B hB.le hBL')) (by decide)

/-- **`cover ≡ 1` iff the blocks tile the axis.**  For an axis of length `L`, block length
    `0 < B ≤ L`, stride `0 < S` and `num_blks = (L - B + S) // S` blocks: every index `0..L-1` lies in
    exactly one block — i.e. `ArrayToBlocks.N` is the identity along this axis — iff `S = B` and
    `B ∣ L`, or `B = L` (one block that is the whole axis; then the stride is irrelevant). -/
theorem cover_one_iff_tiling (L B S : Int) (hS : 0 < S) (hB : 0 < B) (hBL : B ≤ L) :
    (∀ i, 0 ≤ i → i < L → coverPairs B S (Gen.a2bNumBlks L B S) i = 1) ↔
      (S = B ∧ B ∣ L) ∨ B = L := by
  constructor
  · obtain ⟨hfit, hmax, hpos⟩ := C09.numBlks_maximal L B S hS hBL
    change (∀ n, 0 ≤ n → n < Gen.a2bNumBlks L B S → n * S + B ≤ L) at hfit
    change L < Gen.a2bNumBlks L B S * S + B at hmax
    change 0 < Gen.a2bNumBlks L B S at hpos
    exact tiling_of_cover_one L B S _ hS hB hBL hpos (hfit _ (Int.le_sub_one_iff.mpr hpos) (sub_one_lt _)) hmax
  · rintro (⟨rfl, hdvd⟩ | rfl) i hi0 hi1
    · obtain ⟨k, rfl⟩ := hdvd
      have hN : Gen.a2bNumBlks (S * k) S S = k := by
        unfold Gen.a2bNumBlks
        rw [pyDiv_of_pos _ hS]
        have : S * k - S + S = S * k := by ring
        rw [this]
        exact Int.mul_ediv_cancel_left k (ne_of_gt hS)
      rw [hN]
      exact cover_tiling S k i hS ⟨hi0, by rw [mul_comm]; exact hi1⟩
    · have hN : Gen.a2bNumBlks B B S = 1 := by
        unfold Gen.a2bNumBlks
        rw [pyDiv_of_pos _ hS]
        have : B - B + S = S := by ring
        rw [this]
        exact Int.ediv_self (ne_of_gt hS)
      rw [hN]
      exact cover_single_block B S i hS ⟨hi0, hi1⟩

/-- with more than one block position along the axis (`B < L`) the condition is exactly the tiling
    one: `cover ≡ 1 ⇔ S = B ∧ B ∣ L` -/
theorem cover_one_iff_tiling_proper (L B S : Int) (hS : 0 < S) (hB : 0 < B) (hBL : B < L) :
    (∀ i, 0 ≤ i → i < L → coverPairs B S (Gen.a2bNumBlks L B S) i = 1) ↔ S = B ∧ B ∣ L := by
  rw [cover_one_iff_tiling L B S hS hB (le_of_lt hBL)]
  constructor
  · rintro (h | h)
    · exact h
    · omega
  · exact Or.inl

/-- the seeded change C04-2 (`Identity` whenever `blk_strides == blk_shape`) is wrong for an extent
    the block length does not divide: `L = 5, B = S = 2` leaves index 4 uncovered -/
theorem cover_nondividing_witness : coverPairs 2 2 (Gen.a2bNumBlks 5 2 2) 4 = 0 := by decide +kernel

example : (∀ i, 0 ≤ i → i < 6 → coverPairs 2 2 (Gen.a2bNumBlks 6 2 2) i = 1) :=
  (cover_one_iff_tiling 6 2 2 (by decide) (by decide) (by decide)).mpr (Or.inl ⟨rfl, by decide⟩)
example : ¬ (∀ i, 0 ≤ i → i < 5 → coverPairs 2 2 (Gen.a2bNumBlks 5 2 2) i = 1) := by
  rw [cover_one_iff_tiling 5 2 2 (by decide) (by decide) (by decide)]
  decide

theorem nat_mul_eq_one {m n : Nat} (h : m * n = 1) : m = 1 ∧ n = 1 := by
  have hm : m ∣ 1 := Dvd.intro n h
  have hn : n ∣ 1 := Dvd.intro_left m h
  exact ⟨Nat.dvd_one.mp hm, Nat.dvd_one.mp hn⟩

/-- **2-D: the multiplier of `ArrayToBlocks.N` (`b2a2_a2b2_cover`) is 1 on the whole array iff both
    axes tile** (or are spanned by one block): `ArrayToBlocks.N = Identity` exactly then. -/
theorem cover2_one_iff_tiling (Ly Lx By Bx Sy Sx : Int) (hSy : 0 < Sy) (hSx : 0 < Sx) (hBy : 0 < By)
    (hBx : 0 < Bx) (hBLy : By ≤ Ly) (hBLx : Bx ≤ Lx) :
    (∀ iy ix, 0 ≤ iy → iy < Ly → 0 ≤ ix → ix < Lx →
      coverPairs By Sy (Gen.a2bNumBlks Ly By Sy) iy * coverPairs Bx Sx (Gen.a2bNumBlks Lx Bx Sx) ix = 1) ↔
      ((Sy = By ∧ By ∣ Ly) ∨ By = Ly) ∧ ((Sx = Bx ∧ Bx ∣ Lx) ∨ Bx = Lx) := by
  rw [← cover_one_iff_tiling Ly By Sy hSy hBy hBLy, ← cover_one_iff_tiling Lx Bx Sx hSx hBx hBLx]
  constructor
  · intro h
    refine ⟨fun iy h0 h1 => ?_, fun ix h0 h1 => ?_⟩
    · exact (nat_mul_eq_one (h iy 0 h0 h1 (le_refl _) (hBx.trans_le hBLx))).1
    · exact (nat_mul_eq_one (h 0 ix (le_refl _) (hBy.trans_le hBLy) h0 h1)).2
  · rintro ⟨hy, hx⟩ iy ix a b c d
    rw [hy iy a b, hx ix c d]

/-- **3-D** likewise (`b2a3_a2b3_cover`). -/
theorem cover3_one_iff_tiling (Lz Ly Lx Bz By Bx Sz Sy Sx : Int) (hSz : 0 < Sz) (hSy : 0 < Sy) (hSx : 0 < Sx)
    (hBz : 0 < Bz) (hBy : 0 < By) (hBx : 0 < Bx) (hBLz : Bz ≤ Lz) (hBLy : By ≤ Ly) (hBLx : Bx ≤ Lx) :
    (∀ iz iy ix, 0 ≤ iz → iz < Lz → 0 ≤ iy → iy < Ly → 0 ≤ ix → ix < Lx →
      coverPairs Bz Sz (Gen.a2bNumBlks Lz Bz Sz) iz * coverPairs By Sy (Gen.a2bNumBlks Ly By Sy) iy
        * coverPairs Bx Sx (Gen.a2bNumBlks Lx Bx Sx) ix = 1) ↔
      ((Sz = Bz ∧ Bz ∣ Lz) ∨ Bz = Lz) ∧ ((Sy = By ∧ By ∣ Ly) ∨ By = Ly) ∧ ((Sx = Bx ∧ Bx ∣ Lx) ∨ Bx = Lx) := by
  rw [← cover_one_iff_tiling Lz Bz Sz hSz hBz hBLz, ← cover_one_iff_tiling Ly By Sy hSy hBy hBLy,
    ← cover_one_iff_tiling Lx Bx Sx hSx hBx hBLx]
  constructor
  · intro h
    refine ⟨fun iz h0 h1 => ?_, fun iy h0 h1 => ?_, fun ix h0 h1 => ?_⟩
    · exact (nat_mul_eq_one (nat_mul_eq_one
        (h iz 0 0 h0 h1 (le_refl _) (hBy.trans_le hBLy) (le_refl _) (hBx.trans_le hBLx))).1).1
    · exact (nat_mul_eq_one (nat_mul_eq_one
        (h 0 iy 0 (le_refl _) (hBz.trans_le hBLz) h0 h1 (le_refl _) (hBx.trans_le hBLx))).1).2
    · exact (nat_mul_eq_one (h 0 0 ix (le_refl _) (hBz.trans_le hBLz) (le_refl _) (hBy.trans_le hBLy) h0 h1)).2
  · rintro ⟨hz, hy, hx⟩ iz iy ix a b c d e f
    rw [hz iz a b, hy iy c d, hx ix e f]

/-- `BlocksToArray.N` in 1-D as a function: `A (Aᴴ y)` at block entry `(b, n, x)` is the sum of all
    block entries that share its array target `n·S + x` (the entries the scatter loop adds there). -/
theorem a2b1_b2a1_apply (osh ish osh' ish' : Int → Int) (batch B S N : Int) (hS : 0 < S)
    (hlen : osh (-1) = ish' (-1)) (y : List Int → Rat) (b n x : Int) (hb : 0 ≤ b ∧ b < batch)
    (hn : 0 ≤ n ∧ n < N) (hx : 0 ≤ x ∧ x < B) (hfit : n * S + x < osh (-1)) :
    applyF (Gen.a2b1 osh' ish' batch B S N) (applyF (Gen.b2a1 osh ish batch B S N) y) [b, n, x]
      = ((pyRange (pyMod (n * S + x) S) B S).map fun bx =>
          if (0 ≤ pyDiv (n * S + x - bx) S ∧ pyDiv (n * S + x - bx) S < N) then
            y [b, pyDiv (n * S + x - bx) S, bx] else 0).sum := by
  have h0 : 0 ≤ n * S + x := add_nonneg (mul_nonneg hn.1 (le_of_lt hS)) hx.1
  rw [a2b1_apply, if_pos hb, if_pos hn, if_pos hx, if_pos (hlen ▸ hfit), b2a1_apply, if_pos hb,
    if_pos ⟨h0, hfit⟩]

theorem scatter_sum_single (B S N : Int) (hS : 0 < S) (h : B ≤ S ∨ N ≤ 1) (n x : Int) (hn : 0 ≤ n ∧ n < N)
    (hx : 0 ≤ x ∧ x < B) (g : Int → Rat) :
    ((pyRange (pyMod (n * S + x) S) B S).map fun bx =>
        if (0 ≤ pyDiv (n * S + x - bx) S ∧ pyDiv (n * S + x - bx) S < N) then g bx else 0).sum = g x := by
  rw [scatter_sum_cover B S N _ hS g (g x), coverScatter_eq_coverPairs B S N _ hS,
    (cover_block_one_iff B S N hS).mpr h n x hn hx, Nat.cast_one, one_mul]
  intro bx h1 h2 h3 h4 h5
  rw [pair_unique B S N _ bx n x h ⟨h3, h4⟩ hn ⟨h1, h2⟩ hx h5]

/-- **`BlocksToArray.N` is the identity iff the blocks do not overlap or there is a single block.**
    For the generated 1-D loop nests with `N ≥ 1` blocks that all fit into the array (what
    `num_blks` guarantees, C09 `numBlks_maximal`): `A (Aᴴ y) = y` for every block array `y`
    ⇔ `B ≤ S ∨ N ≤ 1` ⇔ no array index is covered twice (`cover_le_one_iff`).  In particular an
    `Identity` override is wrong for every overlapping layout. -/
theorem b2a_normal_identity_iff (osh ish osh' ish' : Int → Int) (batch B S N : Int) (hS : 0 < S)
    (hbatch : 0 < batch) (hlen : osh (-1) = ish' (-1))
    (hfit : ∀ n, 0 ≤ n → n < N → n * S + B ≤ osh (-1)) :
    (∀ (y : List Int → Rat) (b n x : Int), 0 ≤ b ∧ b < batch → 0 ≤ n ∧ n < N → 0 ≤ x ∧ x < B →
      applyF (Gen.a2b1 osh' ish' batch B S N) (applyF (Gen.b2a1 osh ish batch B S N) y) [b, n, x]
        = y [b, n, x]) ↔ B ≤ S ∨ N ≤ 1 := by
  rw [← cover_block_one_iff B S N hS]
  constructor
  · -- all-ones block array: the value at a block entry is the cover count of its target
    intro h n x hn hx
    have h1 := h (fun _ => 1) 0 n x ⟨le_refl _, hbatch⟩ hn hx
    rw [a2b1_b2a1_apply osh ish osh' ish' batch B S N hS hlen _ 0 n x ⟨le_refl _, hbatch⟩ hn hx
      ((Int.add_lt_add_left hx.2 _).trans_le (hfit n hn.1 hn.2)), sum_map_ite_const, mul_one] at h1
    rw [← coverScatter_eq_coverPairs B S N _ hS]
    exact_mod_cast h1
  · intro h y b n x hb hn hx
    rw [a2b1_b2a1_apply osh ish osh' ish' batch B S N hS hlen y b n x hb hn hx
      ((Int.add_lt_add_left hx.2 _).trans_le (hfit n hn.1 hn.2)),
      scatter_sum_single B S N hS ((cover_block_one_iff B S N hS).mp h) n x hn hx, pyDiv_mul_add_sub n S x hS]

/-- non-vacuity of `b2a_normal_identity_iff`: length 5, `B = 2`, `S = 1`, 4 blocks all fit; the layout
    overlaps, so `BlocksToArray.N ≠ Identity` -/
example : ¬ (∀ (y : List Int → Rat) (b n x : Int), 0 ≤ b ∧ b < 1 → 0 ≤ n ∧ n < 4 → 0 ≤ x ∧ x < 2 →
    applyF (Gen.a2b1 (shapeFn [1,4,2]) (shapeFn [1,5]) 1 2 1 4)
      (applyF (Gen.b2a1 (shapeFn [1,5]) (shapeFn [1,4,2]) 1 2 1 4) y) [b, n, x] = y [b, n, x]) := by
  rw [b2a_normal_identity_iff (shapeFn [1,5]) (shapeFn [1,4,2]) (shapeFn [1,4,2]) (shapeFn [1,5]) 1 2 1 4
    (by decide) (by decide) rfl (by intro n h0 h1; show n * 1 + 2 ≤ 5; omega)]
  decide

/-- the executable `coverAxis` (what the driver prints and the correspondence compares with the real
    `A.H(A(1))`) is all ones exactly when the blocks tile the axis or one block spans it -/
theorem coverAxis_all_one_iff (L B S : Int) (hS : 0 < S) (hB : 0 < B) (hBL : B ≤ L) :
    (∀ c ∈ coverAxis L B S, c = 1) ↔ (S = B ∧ B ∣ L) ∨ B = L := by
  rw [← cover_one_iff_tiling L B S hS hB hBL]
  unfold coverAxis
  constructor
  · intro h i h0 h1
    have := h _ (List.mem_map.mpr ⟨i, mem_pyRange0.mpr ⟨h0, h1⟩, rfl⟩)
    exact_mod_cast this
  · intro h c hc
    obtain ⟨i, hi, rfl⟩ := List.mem_map.mp hc
    have hi' := mem_pyRange0.mp hi
    rw [h i hi'.1 hi'.2]
    rfl

end SigpyVerif.C04
