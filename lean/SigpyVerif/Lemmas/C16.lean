import SigpyVerif.Model.C16
import SigpyVerif.Lemmas.Py
import Mathlib.Algebra.BigOperators.Group.List.Basic
import Mathlib.Algebra.BigOperators.Group.Finset.Basic
import Mathlib.Algebra.Ring.Defs
import Mathlib.Tactic.Ring
import Mathlib.Tactic.Linarith
/-
  Lemmas for C16.  About the generated formulas of the batch loop: `num_coil_batches` is the ceiling of `n / b` however
  it is spelt, the slice bounds are `[c·b, (c+1)·b)`, so the slices of the loop tile a list.  About lists: Python slices
  under `zipWith` / `map`, the row split of `Hstack` followed by per-chunk sums as one sum, list sums as sums over
  `Finset.range`.
-/
namespace SigpyVerif.C16
open SigpyVerif

theorem chunks_take {β : Type} (B : Nat) (l : List β) :
    ∀ nb : Nat, ((List.range nb).map fun k => (l.drop (k * B)).take B).flatten = l.take (nb * B)
  | 0 => by simp
  | nb + 1 => by
    rw [List.range_succ, List.map_append, List.flatten_append, chunks_take B l nb, Nat.succ_mul, List.take_add]
    simp

/-- the Python batch loop: `pyRange 0 nb 1` is `0, 1, …, nb-1` -/
theorem pyRange0_eq (nb : Nat) : pyRange (0 : Int) (nb : Int) (1 : Int) = (List.range nb).map (fun k : Nat => (k : Int)) :=
  (pyRange0_eq_range nb).trans (by rw [Int.toNat_natCast])

/-- `num_coil_batches · b ≥ num_coils` -/
theorem numBatches_covers (n B : Nat) (hB : 0 < B) : n ≤ ((n + B - 1) / B) * B := by
  have := Nat.lt_div_mul_add (a := n + B - 1) hB
  omega

theorem ediv_char {t b q : Int} (hb : 0 < b) (h : t / b = q) : q * b ≤ t ∧ t < q * b + b := by
  subst h
  refine ⟨Int.ediv_mul_le t (ne_of_gt hb), ?_⟩
  have h := Int.lt_ediv_add_one_mul_self t hb
  rwa [add_mul, one_mul] at h

/-- the ceiling `⌈n/b⌉` is the only `q` with `(q-1)·b < n ≤ q·b` -/
theorem ceil_unique {n b q : Int} (hb : 0 < b) (h1 : (q - 1) * b < n) (h2 : n ≤ q * b) : q = (n + b - 1) / b := by
  have h1' := (lt_ceilDiv_iff hb).mpr h1
  have h2' := mt (lt_ceilDiv_iff hb).mp (not_lt.mpr h2)
  omega

/-- **what `num_coil_batches` has to be**: the generated formula is the ceiling of `n / b`, characterised by
    `(q-1)·b < n ≤ q·b`.  The proof does not look at the SHAPE of the generated expression beyond replacing every
    `t // b` in it by a `q` with `q·b ≤ t < q·b + b` and closing the two inequalities by linear arithmetic, so
    `(n + b - 1) // b`, `(n - 1) // b + 1`, `-(-n // b)`, `(b + n - 1) // b`, … all pass, while a formula that is not
    the ceiling (`n // b`, `(n + b) // b`, `n // b + 1`) makes this theorem — and everything below — fail. -/
theorem numCoilBatches_char (n b : Int) (hb : 0 < b) :
    (Gen.senseNumCoilBatches n b - 1) * b < n ∧ n ≤ Gen.senseNumCoilBatches n b * b := by
  unfold Gen.senseNumCoilBatches
  simp only [pyDiv_of_pos _ hb]
  generalize hq : (_ : Int) / _ = q
  obtain ⟨h1, h2⟩ := ediv_char hb hq
  constructor <;> linarith only [h1, h2]

theorem numCoilBatches_nat (n B : Nat) (hB : 0 < B) :
    Gen.senseNumCoilBatches (n : Int) (B : Int) = (((n + B - 1) / B : Nat) : Int) := by
  have hb : (0 : Int) < B := by exact_mod_cast hB
  obtain ⟨h1, h2⟩ := numCoilBatches_char n B hb
  rw [ceil_unique hb h1 h2, Int.natCast_ediv, Nat.cast_sub (by omega), Nat.cast_add, Nat.cast_one]

/-- the generated slice bounds are `[c·b, (c+1)·b)` — proved by `ring`, so an algebraically equal rewrite of the
    source expressions (`c*b + b`, `b*(c+1)`, …) leaves every theorem below intact -/
theorem senseMps_lo_hi (c b n : Int) : Gen.senseMpsLo c b n = c * b ∧ Gen.senseMpsHi c b n = (c + 1) * b := by
  constructor
  · unfold Gen.senseMpsLo; ring
  · unfold Gen.senseMpsHi; ring

theorem pySlice_batch {β : Type} (l : List β) (k B n : Nat) :
    pySlice l (Gen.senseMpsLo (k : Int) (B : Int) (n : Int)) (Gen.senseMpsHi (k : Int) (B : Int) (n : Int))
      = (l.drop (k * B)).take B := by
  rw [(senseMps_lo_hi _ _ _).1, (senseMps_lo_hi _ _ _).2, pySlice, ← Nat.cast_succ, ← Nat.cast_mul, ← Nat.cast_mul,
    Int.toNat_natCast, Int.toNat_natCast, Nat.succ_mul, Nat.add_sub_cancel_left]

/-- The batch loop of `Sense` hands out the coils `0..n-1` in order, each exactly once: the slices
    `l[c·b : (c+1)·b]` for `c` in `range(num_coil_batches)` concatenate to `l`, for every list of
    length at most `n = num_coils` and every batch size `b ≥ 1`. Stated about the GENERATED formulas. -/
theorem batch_slices_partition {β : Type} (l : List β) (n B : Nat) (hB : 0 < B) (hl : l.length ≤ n) :
    ((Gen.senseBatchRange (Gen.senseNumCoilBatches n B) n B).map fun c =>
        pySlice l (Gen.senseMpsLo c B n) (Gen.senseMpsHi c B n)).flatten = l := by
  unfold Gen.senseBatchRange
  rw [numCoilBatches_nat _ _ hB, pyRange0_eq, List.map_map]
  simp only [Function.comp_def, pySlice_batch]
  rw [chunks_take, List.take_of_length_le (hl.trans (numBatches_covers n B hB))]

/-- slicing commutes with zipping (per-coil weights are split along with the coils) -/
theorem pySlice_zipWith {β γ δ : Type} (f : β → γ → δ) (a : List β) (b : List γ) (lo hi : Int) :
    List.zipWith f (pySlice a lo hi) (pySlice b lo hi) = pySlice (List.zipWith f a b) lo hi := by
  unfold pySlice
  rw [List.drop_zipWith, List.take_zipWith]

theorem pySlice_map {β γ : Type} (f : β → γ) (a : List β) (lo hi : Int) :
    (pySlice a lo hi).map f = pySlice (a.map f) lo hi := by
  unfold pySlice
  rw [List.map_take, List.map_drop]

theorem pySlice_length {β : Type} (a : List β) (lo hi : Int) :
    (pySlice a lo hi).length = min (hi.toNat - lo.toNat) (a.length - lo.toNat) := by
  simp only [pySlice, List.length_take, List.length_drop]

theorem pySlice_ne_nil {β : Type} (l : List β) (lo hi : Int) (h0 : 0 ≤ lo) (h1 : lo < l.length) (h2 : lo < hi) :
    pySlice l lo hi ≠ [] := by
  rw [← List.length_pos_iff, pySlice_length]
  exact Nat.lt_min.mpr ⟨Nat.sub_pos_of_lt ((Int.toNat_lt_toNat (h0.trans_lt h2)).mpr h2),
    Nat.sub_pos_of_lt ((Int.toNat_lt h0).mpr h1)⟩

theorem mem_of_mem_pySlice {β : Type} {l : List β} {lo hi : Int} {a : β} (h : a ∈ pySlice l lo hi) : a ∈ l :=
  List.mem_of_mem_drop (List.mem_of_mem_take h)

theorem pySlice_length_congr {β γ : Type} (a : List β) (b : List γ) (h : a.length = b.length) (lo hi : Int) :
    (pySlice a lo hi).length = (pySlice b lo hi).length := by
  rw [pySlice_length, pySlice_length, h]

theorem zipWith_append_split {β γ δ : Type} (t : β → γ → δ) :
    ∀ (m rest : List β) (Y : List γ),
      List.zipWith t (m ++ rest) Y = List.zipWith t m (Y.take m.length) ++ List.zipWith t rest (Y.drop m.length)
  | [], rest, Y => by simp
  | a :: m, rest, [] => by simp
  | a :: m, rest, y :: Y => by
    simp only [List.cons_append, List.zipWith_cons_cons, List.length_cons, List.take_succ_cons, List.drop_succ_cons]
    rw [zipWith_append_split t m rest Y]

theorem zipWith_congr_mem {β γ δ : Type} (f g : β → γ → δ) :
    ∀ (l : List β) (l' : List γ), (∀ a ∈ l, ∀ b, f a b = g a b) → List.zipWith f l l' = List.zipWith g l l'
  | [], _, _ => by simp
  | _ :: _, [], _ => by simp
  | a :: l, b :: l', h => by
    simp only [List.zipWith_cons_cons]
    rw [h a (by simp) b, zipWith_congr_mem f g l l' (fun a ha b => h a (by simp [ha]) b)]

/-- **Hstack = sum over the batches.**  Splitting `Y` by the lengths of the chunks `ms` (what `Hstack(axis=0)`
    does with the sub-operators' row counts), pairing each chunk with its part and summing the per-coil
    contributions, is the single sum over the concatenated coils. -/
theorem splitRows_zip_sum {α β γ : Type} [AddCommMonoid α] (t : β → γ → α) :
    ∀ (ms : List (List β)) (Y : List γ),
      (List.zipWith (fun m y => (List.zipWith t m y).sum) ms (splitRows (ms.map List.length) Y)).sum
        = (List.zipWith t ms.flatten Y).sum
  | [], Y => by simp [splitRows]
  | m :: ms, Y => by
    simp only [List.map_cons, splitRows, List.zipWith_cons_cons, List.sum_cons, List.flatten_cons]
    rw [splitRows_zip_sum t ms (Y.drop m.length), zipWith_append_split, List.sum_append]

/-- per-coil weight rows go with the data rows in the operator, with the coil maps in the explicit formula -/
theorem zipWith_zipWith_assoc {β γ δ ε ζ θ : Type} (g : β → ε → ζ) (h : γ → δ → ε) (k : β → γ → θ) (t : θ → δ → ζ)
    (ht : ∀ a s y, g a (h s y) = t (k a s) y) :
    ∀ (a : List β) (s : List γ) (Y : List δ),
      List.zipWith g a (List.zipWith h s Y) = List.zipWith t (List.zipWith k a s) Y
  | [], _, _ => by simp
  | _ :: _, [], _ => by simp
  | _ :: _, _ :: _, [] => by simp
  | a :: as, s :: ss, y :: Y => by
    simp only [List.zipWith_cons_cons]
    rw [ht, zipWith_zipWith_assoc g h k t ht as ss Y]

theorem list_sum_eq_range {α : Type} [AddCommMonoid α] (z : α) :
    ∀ l : List α, l.sum = ∑ i ∈ Finset.range l.length, l.getD i z
  | [] => by simp
  | a :: l => by
    rw [List.sum_cons, List.length_cons, Finset.sum_range_succ', list_sum_eq_range z l, add_comm]
    simp only [List.getD_cons_succ, List.getD_cons_zero]

theorem getD_range_map_lt {γ : Type} (f : Nat → γ) (n i : Nat) (h : i < n) (d : γ) :
    ((List.range n).map f).getD i d = f i := by
  rw [getD_of_lt _ _ (by simpa using h)]; simp

theorem zipWith_sum_eq_range {α β γ : Type} [AddCommMonoid α] (f : β → γ → α) (a : List β) (b : List γ) (n : Nat)
    (ha : a.length = n) (hb : b.length = n) (da : β) (db : γ) :
    (List.zipWith f a b).sum = ∑ i ∈ Finset.range n, f (a.getD i da) (b.getD i db) := by
  rw [list_sum_eq_range (f da db)]
  have hl : (List.zipWith f a b).length = n := by simp [ha, hb]
  rw [hl]
  apply Finset.sum_congr rfl
  intro i hi
  have hi' : i < n := Finset.mem_range.mp hi
  exact getD_zipWith_lt f a b i (ha ▸ hi') (hb ▸ hi') _ da db

end SigpyVerif.C16
