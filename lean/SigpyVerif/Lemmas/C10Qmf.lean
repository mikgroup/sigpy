import SigpyVerif.Lemmas.C10
import Mathlib.Algebra.BigOperators.Finprod
import Mathlib.Algebra.Group.Equiv.Basic
import Mathlib.Data.Int.Interval
/-
  C10 helper lemmas for `complete_of_qmf_pair`: finite supports, re-indexing and parity split of sums over ℤ,
  the alternating flip of a filter (sequence and list form).
-/
namespace SigpyVerif.C10
open Finset
variable {R : Type*} [CommRing R]

theorem finite_support_of_bound (f : ℤ → R) (lo hi : ℤ) (hf : ∀ k, (k < lo ∨ hi < k) → f k = 0) :
    (Function.support f).Finite :=
  (Set.finite_Icc lo hi).subset (by
    intro k hk
    rw [Function.mem_support] at hk
    rw [Set.mem_Icc]
    by_contra hcon
    exact hk (hf k (by omega)))

theorem finsum_shift2 (F : ℤ → R) (c q : ℤ) :
    ∑ᶠ k : ℤ, F (2 * k + (c + 2 * q)) = ∑ᶠ k : ℤ, F (2 * k + c) := by
  rw [← finsum_comp_equiv (Equiv.addRight q) (f := fun k => F (2 * k + c))]
  apply finsum_congr; intro k
  simp only [Equiv.coe_addRight]
  congr 1; ring

theorem finsum_flip2 (F : ℤ → R) (c : ℤ) : ∑ᶠ k : ℤ, F (c - 2 * k) = ∑ᶠ k : ℤ, F (2 * k + c) := by
  rw [← finsum_comp_equiv (Equiv.neg ℤ) (f := fun k => F (2 * k + c))]
  apply finsum_congr; intro k
  simp only [Equiv.neg_apply]
  congr 1; ring

theorem finsum_even_odd (F : ℤ → R) (hF : (Function.support F).Finite) :
    ∑ᶠ j : ℤ, F j = ∑ᶠ k : ℤ, F (2 * k + 0) + ∑ᶠ k : ℤ, F (2 * k + 1) := by
  have hE : Function.Injective (fun k : ℤ => 2 * k + 0) := fun a b hab =>
    mul_left_cancel₀ two_ne_zero (add_right_cancel hab)
  have hO : Function.Injective (fun k : ℤ => 2 * k + 1) := fun a b hab =>
    mul_left_cancel₀ two_ne_zero (add_right_cancel hab)
  rw [← finsum_mem_range hE, ← finsum_mem_range hO, ← finsum_mem_union' _ (hF.subset Set.inter_subset_right)
    (hF.subset Set.inter_subset_right)]
  · have hu : (Set.range fun k : ℤ => 2 * k + 0) ∪ (Set.range fun k : ℤ => 2 * k + 1) = Set.univ := by
      ext j
      simp only [Set.mem_union, Set.mem_range, Set.mem_univ, iff_true]
      have hj := Int.emod_add_mul_ediv j 2
      rcases Int.emod_two_eq_zero_or_one j with h0 | h1
      · exact Or.inl ⟨j / 2, by linear_combination hj - h0⟩
      · exact Or.inr ⟨j / 2, by linear_combination hj - h1⟩
    rw [hu, finsum_mem_univ]
  · rw [Set.disjoint_left]
    rintro j ⟨a, rfl⟩ ⟨b, hb⟩
    simp only at hb
    omega

theorem finsum_two_classes (F : ℤ → R) (hF : (Function.support F).Finite) {c c' q : ℤ} (h : c + c' = 2 * q + 1) :
    ∑ᶠ k : ℤ, F (2 * k + c) + ∑ᶠ k : ℤ, F (2 * k + c') = ∑ᶠ j : ℤ, F j := by
  rw [finsum_even_odd F hF]
  have hc := Int.emod_add_mul_ediv c 2
  rcases Int.emod_two_eq_zero_or_one c with h0 | h1
  · rw [h0] at hc
    rw [← hc, show c' = 1 + 2 * (q - c / 2) by linear_combination h + hc, finsum_shift2, finsum_shift2]
  · rw [h1] at hc
    rw [← hc, show c' = 0 + 2 * (q - c / 2) by linear_combination h + hc, finsum_shift2, finsum_shift2, add_comm]

/-- `(-1)^j` for `j ∈ ℤ` -/
def sgn (j : ℤ) : R := if j % 2 = 0 then 1 else -1

theorem sgn_two_mul_add (q a : ℤ) : (sgn (2 * q + a) : R) = sgn a := by
  unfold sgn
  rw [Int.mul_add_emod_self_left]

theorem sgn_mul_sgn (a b : ℤ) : (sgn a * sgn b : R) = sgn (a + b) := by
  unfold sgn
  rw [Int.add_emod]
  rcases Int.emod_two_eq_zero_or_one a with ha | ha <;> rcases Int.emod_two_eq_zero_or_one b with hb | hb <;>
    simp [ha, hb]

/-- the alternating flip `g[j] = s·(-1)^j·h[L-1-j]` (`s = ±1`; PyWavelets: `dec_hi[j] = (-1)^(j+1) dec_lo[L-1-j]`) -/
def altFlip (s : R) (L : ℕ) (h : ℤ → R) (j : ℤ) : R := s * sgn j * h ((L : ℤ) - 1 - j)

theorem supportedOn_altFlip (s : R) {L : ℕ} {h : ℤ → R} (hh : SupportedOn L h) : SupportedOn L (altFlip s L h) := by
  intro j hj
  unfold altFlip
  rw [hh _ (by omega)]; ring


/-- list form of the alternating flip: `g[j] = s·(-1)^j·h[L-1-j]`, `0 ≤ j < L = len(h)` -/
def altFlipL (s : R) (h : List R) : List R :=
  (List.range h.length).map fun (j : ℕ) => s * sgn ((j : ℕ) : ℤ) * h.getD (h.length - 1 - j) 0

theorem altFlipL_length (s : R) (h : List R) : (altFlipL s h).length = h.length := by simp [altFlipL]

theorem ofList_altFlipL (s : R) (h : List R) : ofList (altFlipL s h) = altFlip s h.length (ofList h) := by
  funext j
  by_cases hj : j < 0 ∨ (h.length : ℤ) ≤ j
  · rw [supportedOn_altFlip s (supportedOn_ofList h) j hj]
    exact supportedOn_ofList _ j (by rw [altFlipL_length]; exact hj)
  · obtain ⟨m, rfl⟩ : ∃ m : ℕ, j = m := Int.eq_ofNat_of_zero_le (by omega)
    have hm : m < h.length := by omega
    simp only [ofList, altFlip, altFlipL]
    rw [if_pos (by omega), if_pos (by omega), Int.toNat_natCast, List.getD_eq_getElem?_getD,
      List.getElem?_eq_getElem (by simpa using hm)]
    simp only [List.getElem_map, List.getElem_range, Option.getD_some]
    rw [show ((h.length : ℤ) - 1 - m).toNat = h.length - 1 - m by omega]

end SigpyVerif.C10
