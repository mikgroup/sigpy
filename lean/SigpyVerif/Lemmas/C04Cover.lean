import SigpyVerif.Model.C01
import SigpyVerif.Model.C04
import SigpyVerif.Lemmas.Py
import Mathlib.Tactic.Ring
import Mathlib.Data.List.Basic
import Mathlib.Data.List.Nodup
import Mathlib.Data.List.Perm.Basic
import Mathlib.Data.List.Perm.Subperm
import Mathlib.Algebra.BigOperators.Group.List.Basic
import Mathlib.Algebra.Order.Ring.Rat
/-
  C04 — the normal operator of `ArrayToBlocks` in 1-D is multiplication by the cover count
  (how many blocks contain an array index), not the identity.
-/
namespace SigpyVerif.C04
open SigpyVerif SigpyVerif.C01

/-- the same count, written the way the scatter loop of `_blocks_to_array1` enumerates it -/
def coverScatter (B S N i : Int) : Nat :=
  ((pyRange (pyMod i S) B S).filter fun bx =>
    decide (0 ≤ pyDiv (i - bx) S ∧ pyDiv (i - bx) S < N)).length

section applyF
variable {ι κ β : Type} [DecidableEq ι]

theorem applyF_flatMap (l : List β) (f : β → List (ι × κ × Rat)) (x : κ → Rat) (o : ι) :
    applyF (l.flatMap f) x o = (l.map fun a => applyF (f a) x o).sum := by
  induction l with
  | nil => simp [applyF]
  | cons a l ih =>
    rw [List.flatMap_cons, List.map_cons, List.sum_cons, ← ih]
    unfold applyF
    rw [List.map_append, List.sum_append]

theorem applyF_ite_singleton (c : Prop) [Decidable c] (e : ι × κ × Rat) (x : κ → Rat) (o : ι) :
    applyF (if c then [e] else []) x o = if e.1 = o then (if c then e.2.2 * x e.2.1 else 0) else 0 := by
  unfold applyF
  by_cases h : c
  · rw [if_pos h, if_pos h, List.map_singleton, List.sum_singleton]
  · rw [if_neg h, if_neg h, ite_self]; rfl

end applyF

theorem sum_map_ite_out {β : Type} (c : Prop) [Decidable c] (l : List β) (f : β → Rat) :
    (l.map fun a => if c then f a else 0).sum = if c then (l.map f).sum else 0 := by
  split_ifs <;> simp

theorem sum_map_ite_eq {l : List Int} (hl : l.Nodup) (k0 : Int) (f : Int → Rat) :
    (l.map fun k => if k = k0 then f k else 0).sum = if k0 ∈ l then f k0 else 0 := by
  induction l with
  | nil => simp
  | cons a l ih =>
    rw [List.nodup_cons] at hl
    rw [List.map_cons, List.sum_cons, ih hl.2]
    by_cases h : a = k0
    · subst h; simp [hl.1]
    · have h' : ¬ k0 = a := fun e => h e.symm
      simp [h, h']

theorem sum_map_ite_pyRange (a b s k0 : Int) (f : Int → Rat) :
    ((pyRange a b s).map fun k => if k = k0 then f k else 0).sum =
      if k0 ∈ pyRange a b s then f k0 else 0 :=
  sum_map_ite_eq (pyRange_nodup a b s) k0 f

theorem sum_map_ite_const {β : Type} (l : List β) (p : β → Prop) [DecidablePred p] (c : Rat) :
    (l.map fun a => if p a then c else 0).sum = ((l.filter fun a => decide (p a)).length : Rat) * c := by
  induction l with
  | nil => simp
  | cons a l ih =>
    rw [List.map_cons, List.sum_cons, ih]
    by_cases h : p a
    · simp [h]; ring
    · simp [h]

/-- `_array_to_blocks1` as a function: block entry `(b, n, x')` is array entry `(b, n·S + x')` when
    everything is in range, else 0. -/
theorem a2b1_apply (osh ish : Int → Int) (batch B S N : Int) (x : List Int → Rat) (b n x' : Int) :
    applyF (Gen.a2b1 osh ish batch B S N) x [b, n, x'] =
      if (0 ≤ b ∧ b < batch) then if (0 ≤ n ∧ n < N) then if (0 ≤ x' ∧ x' < B) then
        if n * S + x' < ish (-1) then x [b, n * S + x'] else 0 else 0 else 0 else 0 := by
  unfold Gen.a2b1
  simp only [applyF_flatMap, applyF_ite_singleton]
  simp only [List.cons.injEq, and_true, ite_and,
    sum_map_ite_out, sum_map_ite_pyRange, mem_pyRange0', one_mul]

/-- `_blocks_to_array1` as a function: array entry `(b, i)` is the sum of the block entries the
    scatter loop visits. -/
theorem b2a1_apply (osh ish : Int → Int) (batch B S N : Int) (y : List Int → Rat) (b i : Int) :
    applyF (Gen.b2a1 osh ish batch B S N) y [b, i] =
      if (0 ≤ b ∧ b < batch) then if (0 ≤ i ∧ i < osh (-1)) then
        ((pyRange (pyMod i S) B S).map fun bx =>
          if (0 ≤ pyDiv (i - bx) S ∧ pyDiv (i - bx) S < N) then y [b, pyDiv (i - bx) S, bx] else 0).sum
      else 0 else 0 := by
  unfold Gen.b2a1
  simp only [applyF_flatMap, applyF_ite_singleton]
  simp only [List.cons.injEq, and_true, ite_and,
    sum_map_ite_out, sum_map_ite_pyRange, mem_pyRange0', one_mul, ge_iff_le]

/-- the offsets `x` (one per block that contains `i`) counted by `coverPairs` -/
def coverList (B S N i : Int) : List Int :=
  (pyRange0 N).flatMap fun n => (pyRange0 B).filter fun x => decide (n * S + x = i)

theorem coverPairs_eq_length (B S N i : Int) : coverPairs B S N i = (coverList B S N i).length := rfl

theorem mem_coverList {B S N i x : Int} :
    x ∈ coverList B S N i ↔ ∃ n, 0 ≤ n ∧ n < N ∧ 0 ≤ x ∧ x < B ∧ n * S + x = i := by
  unfold coverList
  simp only [List.mem_flatMap, List.mem_filter, mem_pyRange0, decide_eq_true_eq]
  constructor
  · rintro ⟨n, ⟨h1, h2⟩, ⟨h3, h4⟩, h5⟩; exact ⟨n, h1, h2, h3, h4, h5⟩
  · rintro ⟨n, h1, h2, h3, h4, h5⟩; exact ⟨n, ⟨h1, h2⟩, ⟨h3, h4⟩, h5⟩

/-- for a positive stride, an offset belongs to at most one block through `i` -/
theorem coverList_nodup (B S N i : Int) (hS : 0 < S) : (coverList B S N i).Nodup := by
  unfold coverList
  rw [List.nodup_flatMap]
  refine ⟨fun n _ => (pyRange_nodup _ _ _).filter _, (pyRange_nodup _ _ _).pairwise_of_forall_ne ?_⟩
  intro n _ m _ hnm
  show List.Disjoint _ _
  rw [List.disjoint_left]
  intro x hx hy
  simp only [List.mem_filter, decide_eq_true_eq] at hx hy
  apply hnm
  exact Int.eq_of_mul_eq_mul_right (by omega) (add_right_cancel (hx.2.trans hy.2.symm))

/-- The scatter loop of `_blocks_to_array1` visits, for array index `i`, exactly as many block
    entries as there are (block, offset) pairs covering `i`. -/
theorem coverScatter_eq_coverPairs (B S N i : Int) (hS : 0 < S) :
    coverScatter B S N i = coverPairs B S N i := by
  rw [coverPairs_eq_length]
  unfold coverScatter
  apply List.Perm.length_eq
  rw [List.perm_ext_iff_of_nodup ((pyRange_nodup _ _ _).filter _) (coverList_nodup B S N i hS)]
  intro x
  rw [mem_coverList, List.mem_filter, decide_eq_true_eq, scatter_iff S B N i x hS]
  constructor
  · rintro ⟨h1, h2, h3, h4, h5⟩
    exact ⟨pyDiv (i - x) S, h3, h4, h1, h2, h5.symm⟩
  · rintro ⟨n, h1, h2, h3, h4, h5⟩
    have hq : pyDiv (i - x) S = n := by rw [← h5]; exact pyDiv_mul_add_sub n S x hS
    rw [hq]
    exact ⟨h3, h4, h1, h2, h5.symm⟩

theorem scatter_sum_cover (B S N i : Int) (hS : 0 < S) (g : Int → Rat) (c : Rat)
    (h : ∀ bx, 0 ≤ bx → bx < B → 0 ≤ pyDiv (i - bx) S → pyDiv (i - bx) S < N →
      pyDiv (i - bx) S * S + bx = i → g bx = c) :
    ((pyRange (pyMod i S) B S).map fun bx =>
        if (0 ≤ pyDiv (i - bx) S ∧ pyDiv (i - bx) S < N) then g bx else 0).sum =
      (coverScatter B S N i : Rat) * c := by
  unfold coverScatter
  rw [← sum_map_ite_const]
  congr 1
  apply List.map_congr_left
  intro bx hbx
  split_ifs with hg
  · obtain ⟨h1, h2, h3, h4, h5⟩ := (scatter_iff S B N i bx hS).mp ⟨hbx, hg.1, hg.2⟩
    exact h bx h1 h2 h3 h4 h5.symm
  · rfl

/-- ArrayToBlocks.N in 1-D: `A.H (A x)` at array entry `(b, i)` is `x[b, i]` times the number of
    block entries the scatter loop adds there — not `x[b, i]` itself. -/
theorem b2a1_a2b1_cover_partial (osh ish osh' ish' : Int → Int) (batch B S N : Int) (hS : 0 < S)
    (hlen : osh (-1) = ish' (-1))
    (x : List Int → Rat) (b i : Int) (hb : 0 ≤ b ∧ b < batch) (hi : 0 ≤ i ∧ i < osh (-1)) :
    applyF (Gen.b2a1 osh ish batch B S N) (applyF (Gen.a2b1 osh' ish' batch B S N) x) [b, i]
      = (coverScatter B S N i : Rat) * x [b, i] := by
  rw [b2a1_apply, if_pos hb, if_pos hi, scatter_sum_cover B S N i hS _ (x [b, i])]
  intro bx h1 h2 h3 h4 h5
  rw [a2b1_apply, if_pos hb, if_pos ⟨h3, h4⟩, if_pos ⟨h1, h2⟩, h5, if_pos (hlen ▸ hi.2)]

/-- ArrayToBlocks.N in 1-D is multiplication by the cover count: `A.H (A x)[b, i]` equals
    `x[b, i]` times the number of blocks that contain array index `i` (so `N = Identity` only when
    every index is covered exactly once). -/
theorem b2a1_a2b1_cover (osh ish osh' ish' : Int → Int) (batch B S N : Int) (hS : 0 < S)
    (hlen : osh (-1) = ish' (-1))
    (x : List Int → Rat) (b i : Int) (hb : 0 ≤ b ∧ b < batch) (hi : 0 ≤ i ∧ i < osh (-1)) :
    applyF (Gen.b2a1 osh ish batch B S N) (applyF (Gen.a2b1 osh' ish' batch B S N) x) [b, i]
      = (coverPairs B S N i : Rat) * x [b, i] := by
  rw [b2a1_a2b1_cover_partial osh ish osh' ish' batch B S N hS hlen x b i hb hi,
    coverScatter_eq_coverPairs B S N i hS]

theorem length_le_one_of_all_eq {β : Type} (l : List β) (hl : l.Nodup) (h : ∀ a ∈ l, ∀ b ∈ l, a = b) :
    l.length ≤ 1 := by
  match l, hl, h with
  | [], _, _ => simp
  | [_], _, _ => simp
  | a :: b :: t, hl, h =>
    exfalso
    have hab : a = b := h a (by simp) b (by simp)
    rw [List.nodup_cons] at hl
    exact hl.1 (by simp [hab])

theorem pair_unique (B S N n x n' x' : Int) (h : B ≤ S ∨ N ≤ 1) (hn : 0 ≤ n ∧ n < N) (hn' : 0 ≤ n' ∧ n' < N)
    (hx : 0 ≤ x ∧ x < B) (hx' : 0 ≤ x' ∧ x' < B) (e : n * S + x = n' * S + x') : x = x' := by
  rcases h with hBS | hN
  · have hd : S ∣ x' - x :=
      Dvd.intro_left (n - n') (by rw [sub_mul]; exact sub_eq_sub_iff_add_eq_add.mpr (e.trans (add_comm _ _)))
    have := Int.eq_zero_of_abs_lt_dvd hd
      (abs_sub_lt_of_nonneg_of_lt hx'.1 (hx'.2.trans_le hBS) hx.1 (hx.2.trans_le hBS))
    exact (sub_eq_zero.mp this).symm
  · obtain rfl : n = 0 := by omega
    obtain rfl : n' = 0 := by omega
    rwa [zero_mul, zero_add, zero_add] at e

theorem coverList_length_le_one (B S N i : Int) (hS : 0 < S) (h : B ≤ S ∨ N ≤ 1) :
    (coverList B S N i).length ≤ 1 := by
  apply length_le_one_of_all_eq _ (coverList_nodup B S N i hS)
  intro x hx x' hx'
  obtain ⟨n, h1, h2, h3, h4, h5⟩ := mem_coverList.mp hx
  obtain ⟨n', h1', h2', h3', h4', h5'⟩ := mem_coverList.mp hx'
  exact pair_unique B S N n x n' x' h ⟨h1, h2⟩ ⟨h1', h2'⟩ ⟨h3, h4⟩ ⟨h3', h4'⟩ (h5.trans h5'.symm)

/-- Non-overlapping blocks that tile the array (stride = block length) cover every index exactly
    once, so there `ArrayToBlocks.N = Identity` would be right (the converse, with the second case of a
    single block spanning the axis: `cover_one_iff_tiling`). -/
theorem cover_tiling (B N i : Int) (hB : 0 < B) (hi : 0 ≤ i ∧ i < N * B) : coverPairs B B N i = 1 := by
  rw [coverPairs_eq_length]
  have hmem : i % B ∈ coverList B B N i :=
    mem_coverList.mpr ⟨i / B, Int.ediv_nonneg hi.1 hB.le, Int.ediv_lt_of_lt_mul hB hi.2,
      Int.emod_nonneg _ hB.ne', Int.emod_lt_of_pos _ hB, Int.ediv_mul_add_emod i B⟩
  exact le_antisymm (coverList_length_le_one B B N i hB (Or.inl (le_refl _))) (List.length_pos_of_mem hmem)

/-- Array length 5, block 2, stride 1 (4 blocks): index 1 lies in two blocks. -/
theorem cover_witness : coverPairs 2 1 4 1 = 2 := by decide +kernel

/-- Concrete counterexample to `ArrayToBlocks.N = Identity`: for array length 5, block 2, stride 1
    the unit vector at index 1 is mapped by `A.H A` to 2 at index 1, not 1. -/
theorem blocks_identity_wrong_witness :
    applyF (Gen.b2a1 (shapeFn [1,5]) (shapeFn [1,4,2]) 1 2 1 4)
      (applyF (Gen.a2b1 (shapeFn [1,4,2]) (shapeFn [1,5]) 1 2 1 4)
        (fun k => if k = [0,1] then 1 else 0)) [0,1] = 2 := by
  rw [b2a1_a2b1_cover (shapeFn [1,5]) (shapeFn [1,4,2]) (shapeFn [1,4,2]) (shapeFn [1,5]) 1 2 1 4
    (by decide) rfl _ 0 1 (by decide) (by decide), cover_witness]
  norm_num

/-- Overlapping blocks (stride < block length, at least two blocks): array index `S` is covered at
    least twice (block 0 offset `S`, block 1 offset 0), so `ArrayToBlocks.N ≠ Identity` there. -/
theorem cover_overlap (B S N : Int) (hS : 0 < S) (hSB : S < B) (hN : 2 ≤ N) :
    2 ≤ coverPairs B S N S := by
  rw [coverPairs_eq_length]
  have hnd : ([0, S] : List Int).Nodup := by simp; omega
  have hsub : ([0, S] : List Int) ⊆ coverList B S N S := by
    intro x hx
    rw [mem_coverList]
    simp only [List.mem_cons, List.not_mem_nil, or_false] at hx
    rcases hx with rfl | rfl
    · exact ⟨1, zero_le_one, by omega, le_refl _, hS.trans hSB, by rw [one_mul, add_zero]⟩
    · exact ⟨0, le_refl _, by omega, hS.le, hSB, by rw [zero_mul, zero_add]⟩
  simpa using (List.subperm_of_subset hnd hsub).length_le

/-- Blocks with gaps (stride > block length): array index `B` is in no block, so there
    `A.H A x = 0` and `ArrayToBlocks.N ≠ Identity`. -/
theorem cover_gap (B S N : Int) (hB : 0 < B) (hBS : B < S) : coverPairs B S N B = 0 := by
  rw [coverPairs_eq_length, List.length_eq_zero_iff, List.eq_nil_iff_forall_not_mem]
  intro x hx
  rw [mem_coverList] at hx
  obtain ⟨n, h1, h2, h3, h4, h5⟩ := hx
  rcases lt_or_ge n 1 with hn | hn
  · obtain rfl : n = 0 := by omega
    rw [zero_mul, zero_add] at h5
    exact absurd h5 h4.ne
  · have : S ≤ n * S := le_mul_of_one_le_left (hB.trans hBS).le hn
    exact absurd h5 (hBS.trans_le (this.trans (le_add_of_nonneg_right h3))).ne'

end SigpyVerif.C04
