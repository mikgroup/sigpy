import SigpyVerif.Model.C10
import Mathlib.Algebra.BigOperators.Finprod
import Mathlib.Algebra.BigOperators.Ring.Finset
import Mathlib.Tactic.Ring
import Mathlib.Tactic.Linarith
import Mathlib.Tactic.LinearCombination
/-
  C10 helper lemmas: the executable `sumN` is a `Finset.range` sum; filter-bank notions
  (support, completeness, orthonormality) and the window lemma that turns the sum over ℤ of the
  completeness condition into the finite sum over the coefficients PyWavelets keeps.
-/
namespace SigpyVerif.C10
open Finset

theorem sumN_eq_sum {α} [AddCommMonoid α] (n : Nat) (f : Nat → α) : sumN n f = ∑ i ∈ range n, f i := by
  induction n with
  | zero => simp [sumN]
  | succ n ih => rw [sumN, ih, sum_range_succ]

/-- the `⌊(N+L-1)/2⌋` coefficients kept by `pywt.dwt(mode='zero')` cover the window of `complete_window` -/
theorem dwtLen_window (N L : ℕ) : L + N ≤ 2 * dwtLen N L + 2 := by
  unfold dwtLen; omega

/-- `pywt.idwt` returns `2⌊(n+L-1)/2⌋+2-L` samples: `n` or one more -/
theorem idwtLen_cases (n : ℕ) {L : ℕ} (hpos : 0 < L) :
    2 * dwtLen n L + 2 - L = n ∨ 2 * dwtLen n L + 2 - L = n + 1 := by
  unfold dwtLen; omega

theorem idwtLen_even (n : ℕ) {L : ℕ} (hpos : 0 < L) (hev : L % 2 = 0) : 2 * dwtLen n L + 2 - L = n + n % 2 := by
  unfold dwtLen; omega

variable {R : Type*} [CommRing R]

/-- the sequence vanishes outside `0 ≤ j < L` (a filter of length `L`) -/
def SupportedOn (L : ℕ) (h : ℤ → R) : Prop := ∀ j : ℤ, (j < 0 ∨ (L : ℤ) ≤ j) → h j = 0

/-- completeness (resolution of the identity) of the two-channel bank, PyWavelets indexing:
    `Σ_{k∈ℤ} h[2k+1-n]·h[2k+1-n'] + g[2k+1-n]·g[2k+1-n'] = δ_{n n'}` -/
def Complete (h g : ℤ → R) : Prop :=
  ∀ n n' : ℤ, (∑ᶠ k : ℤ, (h (2 * k + 1 - n) * h (2 * k + 1 - n') + g (2 * k + 1 - n) * g (2 * k + 1 - n')))
    = if n = n' then 1 else 0

/-- orthonormality of the even shifts: `Σ_n h[n]h[n+2m] = δ_m`, the same for `g`, `Σ_n h[n]g[n+2m] = 0` -/
def Orthonormal (h g : ℤ → R) : Prop :=
  (∀ m : ℤ, (∑ᶠ n : ℤ, h n * h (n + 2 * m)) = if m = 0 then 1 else 0) ∧
  (∀ m : ℤ, (∑ᶠ n : ℤ, g n * g (n + 2 * m)) = if m = 0 then 1 else 0) ∧
  (∀ m : ℤ, (∑ᶠ n : ℤ, h n * g (n + 2 * m)) = 0)

theorem finsum_eq_sum_range {F : ℤ → R} {M : ℕ} (hF : ∀ k : ℤ, (k < 0 ∨ (M : ℤ) ≤ k) → F k = 0) :
    ∑ᶠ k : ℤ, F k = ∑ k ∈ range M, F k := by
  rw [finsum_eq_sum_of_support_subset (s := (range M).image (Nat.cast : ℕ → ℤ)),
    sum_image (fun a _ b _ hab => Nat.cast_injective hab)]
  intro k hk
  rw [Function.mem_support] at hk
  simp only [coe_image, Set.mem_image, mem_coe, mem_range]
  by_contra hcon
  exact hk (hF k (by
    by_contra h2
    exact hcon ⟨k.toNat, by omega, by omega⟩))

/-- Window lemma.  For a signal position `n < N` the only `k ∈ ℤ` with `h[2k+1-n] ≠ 0` or `g[2k+1-n] ≠ 0`
    satisfy `0 ≤ k < M` as soon as `L + N ≤ 2M + 2` — i.e. `M ≥ ⌊(N+L-1)/2⌋`, the number of coefficients
    `pywt.dwt(mode='zero')` keeps: nothing is lost by keeping only those. -/
theorem complete_window {L N M : ℕ} {h g : ℤ → R} (hh : SupportedOn L h) (hg : SupportedOn L g)
    (hc : Complete h g) (hM : L + N ≤ 2 * M + 2) {n : ℕ} (hn : n < N) (n' : ℕ) :
    (∑ k ∈ range M, (h (2 * (k : ℤ) + 1 - n) * h (2 * (k : ℤ) + 1 - n')
        + g (2 * (k : ℤ) + 1 - n) * g (2 * (k : ℤ) + 1 - n'))) = if n = n' then 1 else 0 := by
  have key := hc n n'
  rw [finsum_eq_sum_range (M := M) fun k hk => by rw [hh _ (by omega), hg _ (by omega)]; ring] at key
  simpa only [Nat.cast_inj] using key

theorem supportedOn_ofList (l : List R) : SupportedOn l.length (ofList l) := by
  intro j hj
  unfold ofList
  split_ifs with h0
  · rw [List.getD_eq_getElem?_getD, List.getElem?_eq_none (by omega)]
    rfl
  · rfl

end SigpyVerif.C10
