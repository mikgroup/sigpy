import SigpyVerif.Model.C07
import SigpyVerif.Lemmas.C07
import SigpyVerif.Lemmas.C09
import Mathlib.Tactic.Ring
/-
  The executable array application `applyUpd` (Model/Apply.lean — what the driver runs) against the
  function-level semantics `runUpd` (Lemmas/C07.lean — what `runUpd_acc_eq_sum`, `transpose_pairing` are about).
-/
namespace SigpyVerif.C07
open SigpyVerif

theorem inBounds_cons (n i : Int) (sh k : List Int) :
    inBounds (n :: sh) (i :: k) = true ↔ (0 ≤ i ∧ i < n) ∧ inBounds sh k = true := by
  simp only [inBounds, List.length_cons, Nat.reduceBeqDiff, List.zip_cons_cons, Bool.decide_and, List.all_cons,
    Bool.and_eq_true, beq_iff_eq, decide_eq_true_eq, and_assoc, and_left_comm]

theorem inBounds_iff_forall₂ (sh k : List Int) :
    inBounds sh k = true ↔ List.Forall₂ (fun n i => 0 ≤ i ∧ i < n) sh k := by
  induction sh generalizing k with
  | nil => cases k <;> simp [inBounds]
  | cons n sh ih =>
    cases k with
    | nil => simp [inBounds]
    | cons i k => rw [List.forall₂_cons, ← ih, inBounds_cons]

/-- `inBounds` (the executable test) is membership in `allIdx` (the index set the row-major lemmas are about) -/
theorem inBounds_iff_mem_allIdx (sh k : List Int) : inBounds sh k = true ↔ k ∈ allIdx sh := by
  rw [inBounds_iff_forall₂, C09.mem_allIdx]

theorem length_of_inBounds {sh k : List Int} (h : inBounds sh k = true) : k.length = sh.length :=
  C09.length_of_mem_allIdx ((inBounds_iff_mem_allIdx sh k).mp h)

/-- an in-bounds multi-index has an in-range flat index -/
theorem ravel_range_of_inBounds {sh k : List Int} (h : inBounds sh k = true) :
    0 ≤ ravel sh k ∧ ravel sh k < shapeProd sh :=
  have h' := C09.allIdx_getElem?_ravel ((inBounds_iff_mem_allIdx sh k).mp h)
  ⟨h'.1, h'.2.1⟩

theorem ravel_lt_of_inBounds {sh k : List Int} (h : inBounds sh k = true) :
    (ravel sh k).toNat < (shapeProd sh).toNat := by
  have := ravel_range_of_inBounds h
  omega

/-- `ravel` is injective on in-bounds multi-indices, also after `toNat` -/
theorem ravel_toNat_inj {sh k k' : List Int} (h : inBounds sh k = true) (h' : inBounds sh k' = true)
    (e : (ravel sh k).toNat = (ravel sh k').toNat) : k = k' := by
  have h0 := (ravel_range_of_inBounds h).1
  have h0' := (ravel_range_of_inBounds h').1
  exact C09.ravel_injective ((inBounds_iff_mem_allIdx sh k).mp h) ((inBounds_iff_mem_allIdx sh k').mp h') (by omega)

/-- function-level semantics with an arbitrary scalar action (for `smul = (· * ·)` this is `runUpd`) -/
def runG {α : Type} [Add α] [Zero α] (smul : Rat → α → α) (acc : Bool) (E : List (Upd Rat))
    (x : List Int → α) (out : List Int → α) : List Int → α :=
  E.foldl (fun o u => Function.update o u.1 ((if acc then o u.1 else 0) + smul u.2.2 (x u.2.1))) out

theorem runG_mul (acc : Bool) (E : List (Upd Rat)) (x out : List Int → Rat) :
    runG (· * ·) acc E x out = runUpd acc E x out := rfl

/-- one step of `applyUpd` -/
def applyStep {α} [Add α] [Zero α] (smul : Rat → α → α) (acc : Bool) (oshape ishape : List Int) (x : Array α)
    (out : Array α) (u : Upd Rat) : Option (Array α) :=
  let (o, i, w) := u
  if inBounds oshape o && inBounds ishape i then
    let oi := (ravel oshape o).toNat
    let ii := (ravel ishape i).toNat
    if h : oi < out.size then
      some (out.set oi ((if acc then out[oi] else 0) + smul w (x.getD ii 0)))
    else none
  else none

theorem applyUpd_eq_foldlM {α} [Add α] [Zero α] (smul : Rat → α → α) (acc : Bool) (oshape ishape : List Int)
    (E : List (Upd Rat)) (x : Array α) :
    applyUpd smul acc oshape ishape E x =
      E.foldlM (applyStep smul acc oshape ishape x) (Array.replicate (shapeProd oshape).toNat 0) := rfl

/-- the fold of `applyUpd` from any array of the right size that represents a function `f` on the
    in-bounds multi-indices -/
theorem foldlM_applyStep {α : Type} [Add α] [Zero α] (smul : Rat → α → α) (acc : Bool) (oshape ishape : List Int)
    (x : Array α) (E : List (Upd Rat))
    (hE : ∀ u ∈ E, inBounds oshape u.1 = true ∧ inBounds ishape u.2.1 = true)
    (out0 : Array α) (f : List Int → α) (hsz : out0.size = (shapeProd oshape).toNat)
    (hf : ∀ d, inBounds oshape d = true → out0.getD (ravel oshape d).toNat 0 = f d) :
    ∃ out, E.foldlM (applyStep smul acc oshape ishape x) out0 = some out ∧
      out.size = (shapeProd oshape).toNat ∧
      ∀ d, inBounds oshape d = true →
        out.getD (ravel oshape d).toNat 0 =
          runG smul acc E (fun i => x.getD (ravel ishape i).toNat 0) f d := by
  induction E generalizing out0 f with
  | nil => exact ⟨out0, rfl, hsz, fun d hd => hf d hd⟩
  | cons u E ih =>
    obtain ⟨o, i, w⟩ := u
    obtain ⟨ho, hi⟩ := hE (o, i, w) List.mem_cons_self
    have hlt : (ravel oshape o).toNat < out0.size := hsz ▸ ravel_lt_of_inBounds ho
    have hget : out0[(ravel oshape o).toNat] = f o := by
      rw [← hf o ho, Array.getD_eq_getD_getElem?, Array.getElem?_eq_getElem hlt]; rfl
    have hstep : applyStep smul acc oshape ishape x out0 (o, i, w) =
        some (out0.set (ravel oshape o).toNat
          ((if acc then out0[(ravel oshape o).toNat] else 0) + smul w (x.getD (ravel ishape i).toNat 0))) := by
      simp only [applyStep, ho, hi, Bool.and_self, if_true, hlt, dite_true]
    rw [List.foldlM_cons, hstep, Option.bind_eq_bind, Option.bind_some, hget]
    -- the array after the step represents `f` updated at `o`: `ravel` separates in-bounds multi-indices
    refine ih (fun v hv => hE v (List.mem_cons_of_mem _ hv)) _
      (Function.update f o ((if acc then f o else 0) + smul w (x.getD (ravel ishape i).toNat 0)))
      (by rw [Array.size_set, hsz]) fun d hd => ?_
    rw [Array.getD_eq_getD_getElem?]
    by_cases hdo : d = o
    · rw [hdo, Array.getElem?_set_self, Function.update_self]; rfl
    · rw [Array.getElem?_set_ne _ fun e => hdo (ravel_toNat_inj hd ho e.symm), Function.update_of_ne hdo, ← hf d hd,
        Array.getD_eq_getD_getElem?]

/-- if some update is out of bounds the application fails (Python: IndexError / numba: memory corruption) -/
theorem foldlM_applyStep_none {α : Type} [Add α] [Zero α] (smul : Rat → α → α) (acc : Bool)
    (oshape ishape : List Int) (x : Array α) (E : List (Upd Rat))
    (hE : ∃ u ∈ E, ¬ (inBounds oshape u.1 = true ∧ inBounds ishape u.2.1 = true))
    (out0 : Array α) : E.foldlM (applyStep smul acc oshape ishape x) out0 = none := by
  induction E generalizing out0 with
  | nil => obtain ⟨_, h, _⟩ := hE; cases h
  | cons u E ih =>
    rw [List.foldlM_cons]
    cases hs : applyStep smul acc oshape ishape x out0 u with
    | none => rfl
    | some out' =>
      obtain ⟨v, hv, hbad⟩ := hE
      rcases List.mem_cons.mp hv with rfl | hv
      · obtain ⟨o, i, w⟩ := v
        simp only [applyStep, Bool.and_eq_true, if_neg hbad, reduceCtorEq] at hs
      · exact ih ⟨v, hv, hbad⟩ _

/-- row-major index of a concatenated multi-index: `out[batch…, pts…]` lives at
    `ravel batch b * prod pts + ravel pts p` -/
theorem ravel_append (a b i j : List Int) (ha : i.length = a.length) (hb : j.length = b.length) :
    ravel (a ++ b) (i ++ j) = ravel a i * shapeProd b + ravel b j := by
  induction a generalizing i with
  | nil =>
    have : i = [] := List.length_eq_zero_iff.mp (by simpa using ha)
    subst this
    simp [C09.ravel_nil]
  | cons n a ih =>
    cases i with
    | nil => simp at ha
    | cons i0 i =>
      have ha' : i.length = a.length := by simpa using ha
      rw [List.cons_append, List.cons_append, C09.ravel_cons n i0 (a ++ b) (i ++ j) (by simp [ha', hb]),
        C09.ravel_cons n i0 a i ha', ih i ha', C09.shapeProd_append]
      ring

theorem ravel_pair (B N b j : Int) : ravel [B, N] [b, j] = b * N + j := by
  simp [ravel]

theorem flatMap_eq_of_unique {α β : Type} (l : List α) (F : α → List β) (a0 : α) (hl : l.Nodup) (ha : a0 ∈ l)
    (h : ∀ a ∈ l, a ≠ a0 → F a = []) : l.flatMap F = F a0 := by
  induction l with
  | nil => cases ha
  | cons a l ih =>
    rw [List.flatMap_cons]
    have hnd := List.nodup_cons.mp hl
    by_cases e : a = a0
    · subst e
      rw [List.flatMap_eq_nil_iff.mpr fun b hb => h b (List.mem_cons_of_mem _ hb) fun e => hnd.1 (e ▸ hb),
        List.append_nil]
    · rw [h a List.mem_cons_self e, List.nil_append]
      exact ih hnd.2 ((List.mem_cons.mp ha).resolve_left (Ne.symm e)) fun b hb => h b (List.mem_cons_of_mem _ hb)

theorem filter_eq_nil_of_false {β : Type} (l : List β) (p : β → Bool) (hp : ∀ y ∈ l, p y = false) : l.filter p = [] :=
  List.filter_eq_nil_iff.mpr fun y hy => by rw [hp y hy]; exact Bool.false_ne_true

/-- filtering a `flatMap` whose blocks are separated by the predicate keeps the one matching block -/
theorem filter_flatMap_unique {α β : Type} (l : List α) (F : α → List β) (p : β → Bool) (a0 : α)
    (hl : l.Nodup) (ha : a0 ∈ l) (hp : ∀ a ∈ l, a ≠ a0 → ∀ y ∈ F a, p y = false) :
    (l.flatMap F).filter p = (F a0).filter p := by
  rw [List.filter_flatMap]
  exact flatMap_eq_of_unique l _ a0 hl ha fun a ha' hne => filter_eq_nil_of_false _ p (hp a ha' hne)

/-- the innermost loop of the interpolation nests, `for b in range(batch_size): out[b, j] += w * x[b, …]` -/
theorem filter_dst_batch (B b0 j j0 : Int) (hb : 0 ≤ b0 ∧ b0 < B) (src : Int → List Int) (w : Rat) :
    ((pyRange 0 B 1).flatMap fun b => [(([b, j], src b, w) : Upd Rat)]).filter (fun u => u.1 = [b0, j0]) =
      if j = j0 then [([b0, j0], src b0, w)] else [] := by
  have hne : ∀ b, ¬ (b = b0 ∧ j = j0) → ∀ y ∈ [(([b, j], src b, w) : Upd Rat)], decide (y.1 = [b0, j0]) = false :=
    fun b h y hy => by rw [List.mem_singleton.mp hy]; simpa using h
  split_ifs with hj
  · rw [filter_flatMap_unique _ _ _ b0 (pyRange_nodup _ _ _) (mem_pyRange0'.mpr hb) fun b _ hb' =>
      hne b fun h => hb' h.1, hj]
    exact List.filter_eq_self.mpr fun y hy => by rw [List.mem_singleton.mp hy]; exact decide_eq_true rfl
  · rw [List.filter_flatMap]
    exact List.flatMap_eq_nil_iff.mpr fun b _ => filter_eq_nil_of_false _ _ (hne b fun h => hj h.2)

end SigpyVerif.C07
