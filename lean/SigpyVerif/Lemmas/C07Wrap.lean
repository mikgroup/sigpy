import SigpyVerif.Model.C07
import SigpyVerif.Lemmas.C09
import Mathlib.Tactic.Ring
import Mathlib.Tactic.Linarith
/-
  Facts about the Python list semantics of `Model/C07Py.lean` (negative indices and slice bounds,
  list repetition, reshape) in the forms the generated wrappers `Gen.interpolateW` / `Gen.griddingW` use.
-/
namespace SigpyVerif.C07
open SigpyVerif

variable {α : Type}

/-- `(l ++ [a])[-1] = a` -/
theorem pyGet?_append_last (l : List α) (a : α) : pyGet? (l ++ [a]) (-(1 : Int)) = some a := by
  have hk : pyNorm ((l ++ [a]).length : Int) (-1) = (l.length : Int) := by
    rw [pyNorm, if_pos (by omega), List.length_append, List.length_singleton]; omega
  unfold pyGet?
  simp only [hk]
  rw [if_pos ⟨by omega, by rw [List.length_append, List.length_singleton]; omega⟩, Int.toNat_natCast,
    List.getElem?_concat_length]

theorem pyClamp_neg (n k : Nat) (hk : 0 < k) (hkn : k ≤ n) : pyClamp n (-(k : Int)) = n - k := by
  unfold pyClamp pyNorm
  have h1 : (-(k : Int)) < 0 := by omega
  simp only [h1, if_true]
  rw [if_neg (by omega), if_neg (by omega)]
  omega

/-- `(a ++ b)[:-len(b)] = a` for non-empty `b` (for empty `b` Python gives `[]`: `l[:-0] = l[:0]`) -/
theorem pySliceTo_append_neg (a b : List α) (hb : 0 < b.length) :
    pySliceTo (a ++ b) (-(b.length : Int)) = a := by
  unfold pySliceTo
  rw [pyClamp_neg _ _ hb (by rw [List.length_append]; omega), List.length_append, Nat.add_sub_cancel]
  exact List.take_left' rfl

/-- `(a ++ b)[-len(b):] = b` for non-empty `b` -/
theorem pySliceFrom_append_neg (a b : List α) (hb : 0 < b.length) :
    pySliceFrom (a ++ b) (-(b.length : Int)) = b := by
  unfold pySliceFrom
  rw [pyClamp_neg _ _ hb (by rw [List.length_append]; omega), List.length_append, Nat.add_sub_cancel]
  exact List.drop_left' rfl

/-- `(l ++ [a])[:-1] = l` -/
theorem pySliceTo_append_last (l : List α) (a : α) : pySliceTo (l ++ [a]) (-(1 : Int)) = l :=
  pySliceTo_append_neg l [a] Nat.one_pos

/-- `[v] * n` is `n` copies of `v` -/
theorem pyRepeat_singleton (v : α) (n : Nat) : pyRepeat [v] (n : Int) = List.replicate n v := by
  unfold pyRepeat
  simp only [Int.toNat_natCast]
  induction n with
  | zero => rfl
  | succ n ih => rw [List.replicate_succ, List.flatten_cons, ih, List.replicate_succ]; rfl

/-- the `np.isscalar` branches of the generated wrappers against the specification `Bc.toList` -/
theorem bcast_spec (p : Bc) (n : Nat) :
    (match p with | .scalar v => pyRepeat [v] (n : Int) | .perAxis l => l) = p.toList n := by
  cases p with
  | scalar v => exact pyRepeat_singleton v n
  | perAxis l => rfl

theorem pyReshape_ok (old new : List Int) (h : shapeProd old = shapeProd new) (hn : ∀ n ∈ new, 0 ≤ n) :
    pyReshape old new = some new := by
  unfold pyReshape
  rw [if_pos]
  refine ⟨h, ?_⟩
  simpa only [List.all_eq_true, decide_eq_true_eq] using hn

end SigpyVerif.C07
