import SigpyVerif.Model.C08
import SigpyVerif.Lemmas.Py
import Mathlib.Algebra.BigOperators.Group.Finset.Basic
import Mathlib.Algebra.BigOperators.Ring.Finset
import Mathlib.Algebra.Star.BigOperators
import Mathlib.Tactic.Ring
import Mathlib.Tactic.Linarith
namespace SigpyVerif.C08
open SigpyVerif

theorem sumTo_eq_sum {α : Type} [AddCommMonoid α] (n : Nat) (g : Int → α) :
    sumTo n g = ∑ i ∈ Finset.range n, g (i : Int) := by
  induction n with
  | zero => simp [sumTo]
  | succ k ih => rw [sumTo, ih, Finset.sum_range_succ]

/-- `(L + s - 1) // s` is the number of multiples `0, s, 2s, …` below `L` (any `L`, `s ≥ 1`) -/
theorem ceil_count (L s k : Int) (hs : 0 < s) :
    (0 ≤ k ∧ k * s < L) ↔ (0 ≤ k ∧ k < pyDiv (L + s - 1) s) := by
  rw [pyDiv_of_pos _ hs, Int.lt_iff_add_one_le (b := _ / s), Int.le_ediv_iff_mul_le hs, add_mul, one_mul]
  omega

theorem ceil_nonpos (L s : Int) (hs : 0 < s) (hL : L ≤ 0) : pyDiv (L + s - 1) s ≤ 0 := by
  by_contra hc
  have := (ceil_count L s 0 hs).mpr ⟨le_refl 0, by omega⟩
  omega

/-- the zero-stuffed buffer `zeros(L)[::s] = y` is `Σ_k y[k]·δ(t - k s)` when `y` has exactly as many
    entries as there are multiples of `s` below `L` -/
theorem stuff_eq_sum' {α : Type} [AddCommMonoid α] (L s : Int) (p : Nat) (y : Int → α) (hs : 0 < s)
    (hp : ∀ k : Int, (0 ≤ k ∧ k * s < L) ↔ (0 ≤ k ∧ k < (p : Int))) (t : Int) :
    stuff L s y t = ∑ k ∈ Finset.range p, if t = (k : Int) * s then y (k : Int) else 0 := by
  unfold stuff
  rw [pyMod_of_pos _ hs, pyDiv_of_pos _ hs]
  by_cases h : ∃ k ∈ Finset.range p, t = (k : Int) * s
  · obtain ⟨k, hk, rfl⟩ := h
    have hk' := (hp k).mpr ⟨Int.natCast_nonneg k, by exact_mod_cast Finset.mem_range.mp hk⟩
    rw [Finset.sum_eq_single_of_mem k hk, if_pos rfl, if_pos ⟨Int.mul_nonneg (Int.natCast_nonneg k) hs.le, hk'.2, Int.mul_emod_left _ _⟩,
      Int.mul_ediv_cancel _ hs.ne']
    intro b _ hb
    rw [if_neg]
    exact fun hc => hb (Int.ofNat_inj.mp (Int.eq_of_mul_eq_mul_right hs.ne' hc)).symm
  · rw [Finset.sum_eq_zero, if_neg]
    · rintro ⟨h0, h1, h2⟩
      have hq : t / s * s = t := Int.ediv_mul_cancel (Int.dvd_of_emod_eq_zero h2)
      have hq0 := Int.ediv_nonneg h0 hs.le
      have := (hp (t / s)).mp ⟨hq0, by rw [hq]; exact h1⟩
      exact h ⟨(t / s).toNat, Finset.mem_range.mpr (by omega), by rw [Int.toNat_of_nonneg hq0, hq]⟩
    · intro k hk
      rw [if_neg]
      exact fun hc => h ⟨k, hk, hc⟩

theorem sum4_swap {β : Type} [AddCommMonoid β] (A B C E : Finset ℕ) (T : ℕ → ℕ → ℕ → ℕ → β) :
    ∑ a ∈ A, ∑ b ∈ B, ∑ c ∈ C, ∑ e ∈ E, T a b c e = ∑ c ∈ C, ∑ e ∈ E, ∑ a ∈ A, ∑ b ∈ B, T a b c e := by
  calc ∑ a ∈ A, ∑ b ∈ B, ∑ c ∈ C, ∑ e ∈ E, T a b c e
      = ∑ a ∈ A, ∑ c ∈ C, ∑ b ∈ B, ∑ e ∈ E, T a b c e := by
        apply Finset.sum_congr rfl; intro a _; rw [Finset.sum_comm]
    _ = ∑ c ∈ C, ∑ a ∈ A, ∑ b ∈ B, ∑ e ∈ E, T a b c e := Finset.sum_comm
    _ = ∑ c ∈ C, ∑ a ∈ A, ∑ e ∈ E, ∑ b ∈ B, T a b c e := by
        apply Finset.sum_congr rfl; intro c _; apply Finset.sum_congr rfl; intro a _; rw [Finset.sum_comm]
    _ = ∑ c ∈ C, ∑ e ∈ E, ∑ a ∈ A, ∑ b ∈ B, T a b c e := by
        apply Finset.sum_congr rfl; intro c _; rw [Finset.sum_comm]

theorem stuff2_eq_sum' {α : Type} [AddCommMonoid α] (L1 L2 s1 s2 : Int) (p1 p2 : Nat) (y : Int → Int → α)
    (hs1 : 0 < s1) (hs2 : 0 < s2)
    (hp1 : ∀ k : Int, (0 ≤ k ∧ k * s1 < L1) ↔ (0 ≤ k ∧ k < (p1 : Int)))
    (hp2 : ∀ k : Int, (0 ≤ k ∧ k * s2 < L2) ↔ (0 ≤ k ∧ k < (p2 : Int))) (t1 t2 : Int) :
    stuff2 L1 L2 s1 s2 y t1 t2 = ∑ k1 ∈ Finset.range p1, ∑ k2 ∈ Finset.range p2,
      if t1 = (k1 : Int) * s1 ∧ t2 = (k2 : Int) * s2 then y k1 k2 else 0 := by
  have h : stuff2 L1 L2 s1 s2 y t1 t2 = stuff L1 s1 (fun a => stuff L2 s2 (y a) t2) t1 := by
    simp only [stuff2, stuff, ite_and]
  simp only [h, stuff_eq_sum' L1 s1 p1 _ hs1 hp1, stuff_eq_sum' L2 s2 p2 _ hs2 hp2, ite_and, Finset.sum_ite_irrel,
    Finset.sum_const_zero]

/-- all multi-indices of a shape, as a finset of lists -/
def idxSet : List Int → Finset (List Int)
  | [] => {[]}
  | n :: ns => ((Finset.range n.toNat) ×ˢ (idxSet ns)).image (fun q => (q.1 : Int) :: q.2)

theorem sum_idxSet_cons {β : Type} [AddCommMonoid β] (n : Int) (ns : List Int) (g : List Int → β) :
    ∑ k ∈ idxSet (n :: ns), g k =
      ∑ i ∈ Finset.range n.toNat, ∑ is ∈ idxSet ns, g ((i : Int) :: is) := by
  rw [idxSet, Finset.sum_image, Finset.sum_product]
  intro a _ b _ h
  simp only [List.cons.injEq, Nat.cast_inj] at h
  exact Prod.ext h.1 h.2

theorem sumD_eq {β : Type} [AddCommMonoid β] (ns : List Int) (g : List Int → β) :
    sumD ns g = ∑ k ∈ idxSet ns, g k := by
  induction ns generalizing g with
  | nil => simp [sumD, idxSet]
  | cons n ns ih =>
    rw [sumD, sumTo_eq_sum, sum_idxSet_cons]
    exact Finset.sum_congr rfl fun i _ => ih _

/-- `scipy.signal.correlate` is linear in its first argument (here: for a sum of switched terms) -/
theorem corrD_sum_ite {α : Type} [CommRing α] (conj : α → α) (axes : List Axis) {ι : Type} (K : Finset ι)
    (c : ι → Prop) [DecidablePred c] (Z : ι → List Int → α) (v : List Int → α) (is : List Int) :
    corrD conj axes (fun ts => ∑ k ∈ K, if c k then Z k ts else 0) v is =
      ∑ k ∈ K, if c k then corrD conj axes (Z k) v is else 0 := by
  induction axes generalizing Z v is with
  | nil => simp only [corrD, Finset.sum_mul, ite_mul, zero_mul]
  | cons a rest ih =>
    simp only [corrD, sumTo_eq_sum, ih]
    rw [Finset.sum_comm]
    exact Finset.sum_congr rfl fun k _ => by rw [Finset.sum_ite_irrel, Finset.sum_const_zero]

theorem convD_cons {α : Type} [CommRing α] (a : Axis) (rest : List Axis) (x v : List Int → α) (k1 : Int)
    (k : List Int) :
    convD (a :: rest) x v (k1 :: k) =
      ∑ i1 ∈ Finset.range a.m.toNat, ∑ j1 ∈ Finset.range a.n.toNat,
        if (i1 : Int) + j1 = k1 * a.s + a.off then convD rest (fun is => x (i1 :: is)) (fun js => v (j1 :: js)) k
        else 0 := by
  simp only [convD, List.headD_cons, List.tail_cons, sumTo_eq_sum]
  rfl

theorem adjD_cons {α : Type} [CommRing α] (conj : α → α) (a : Axis) (rest : List Axis) (p : Nat) (hs : 0 < a.s)
    (hp : ∀ k : Int, (0 ≤ k ∧ k * a.s < a.L) ↔ (0 ≤ k ∧ k < (p : Int))) (y v : List Int → α) (i1 : Int)
    (i : List Int) :
    adjD conj (a :: rest) y v (i1 :: i) =
      ∑ j1 ∈ Finset.range a.n.toNat, ∑ k1 ∈ Finset.range p,
        if i1 + (j1 : Int) = k1 * a.s + a.shift then
          adjD conj rest (fun ks => y (k1 :: ks)) (fun js => v (j1 :: js)) i
        else 0 := by
  simp only [adjD, corrD, stuffD, List.headD_cons, List.tail_cons, sumTo_eq_sum, stuff_eq_sum' a.L a.s p _ hs hp,
    corrD_sum_ite, sub_eq_iff_eq_add]

/-! ### the executable scalar type `GI` is a commutative *-ring (so the theorems apply to what the driver runs) -/

@[ext] theorem GI.ext' {a b : GI} (h1 : a.re = b.re) (h2 : a.im = b.im) : a = b := by
  cases a; cases b; simp_all

instance : One GI := ⟨⟨1, 0⟩⟩
instance : Neg GI := ⟨fun a => ⟨-a.re, -a.im⟩⟩

@[simp] theorem GI.zero_re : (0 : GI).re = 0 := rfl
@[simp] theorem GI.zero_im : (0 : GI).im = 0 := rfl
@[simp] theorem GI.one_re : (1 : GI).re = 1 := rfl
@[simp] theorem GI.one_im : (1 : GI).im = 0 := rfl
@[simp] theorem GI.add_re (a b : GI) : (a + b).re = a.re + b.re := rfl
@[simp] theorem GI.add_im (a b : GI) : (a + b).im = a.im + b.im := rfl
@[simp] theorem GI.mul_re (a b : GI) : (a * b).re = a.re * b.re - a.im * b.im := rfl
@[simp] theorem GI.mul_im (a b : GI) : (a * b).im = a.re * b.im + a.im * b.re := rfl
@[simp] theorem GI.neg_re (a : GI) : (-a).re = -a.re := rfl
@[simp] theorem GI.neg_im (a : GI) : (-a).im = -a.im := rfl
@[simp] theorem GI.conj_re (a : GI) : a.conj.re = a.re := rfl
@[simp] theorem GI.conj_im (a : GI) : a.conj.im = -a.im := rfl

instance : CommRing GI where
  add := (· + ·)
  zero := 0
  mul := (· * ·)
  one := 1
  neg := Neg.neg
  nsmul := nsmulRec
  zsmul := zsmulRec
  add_assoc := by intros; ext <;> simp <;> ring
  zero_add := by intros; ext <;> simp
  add_zero := by intros; ext <;> simp
  add_comm := by intros; ext <;> simp <;> ring
  neg_add_cancel := by intros; ext <;> simp
  mul_assoc := by intros; ext <;> simp <;> ring
  one_mul := by intros; ext <;> simp
  mul_one := by intros; ext <;> simp
  zero_mul := by intros; ext <;> simp
  mul_zero := by intros; ext <;> simp
  left_distrib := by intros; ext <;> simp <;> ring
  right_distrib := by intros; ext <;> simp <;> ring
  mul_comm := by intros; ext <;> simp <;> ring

instance : StarRing GI where
  star := GI.conj
  star_involutive := by intro a; ext <;> simp [GI.conj]
  star_mul := by intro a b; ext <;> simp [GI.conj] <;> ring
  star_add := by intro a b; ext <;> simp [GI.conj]; ring

section star
variable {α : Type} [CommRing α] [StarRing α]

theorem sum_ite_mul_star {κ ι : Type} (K : Finset κ) (J : Finset ι) (c : ι → κ → Prop) [∀ j k, Decidable (c j k)]
    (y : κ → α) (v : ι → α) :
    ∑ j ∈ J, (∑ k ∈ K, if c j k then y k else 0) * star (v j) =
      ∑ k ∈ K, star (∑ j ∈ J, if c j k then v j else 0) * y k := by
  simp only [star_sum, Finset.sum_mul]
  rw [Finset.sum_comm]
  exact Finset.sum_congr rfl fun k _ => Finset.sum_congr rfl fun j _ => by split_ifs <;> simp [mul_comm]

theorem sum_entries_adjoint {κ ι : Type} (K : Finset κ) (I : Finset ι) (E : κ → ι → α) (x : ι → α) (y : κ → α) :
    ∑ k ∈ K, (∑ i ∈ I, E k i * x i) * star (y k) = ∑ i ∈ I, x i * star (∑ k ∈ K, star (E k i) * y k) := by
  simp only [Finset.sum_mul, Finset.mul_sum, star_sum, star_mul', star_star]
  rw [Finset.sum_comm]
  exact Finset.sum_congr rfl fun i _ => Finset.sum_congr rfl fun k _ => by ring

/-- `c j k`: any spelling of the index relation `i + j = k s + o` (`o` correlate's shift) -/
theorem corrAt_stuff (cf : Bool) (L N s : Int) (p : Nat) (y v : Int → α) (i o : Int) (hs : 0 < s)
    (hp : ∀ k : Int, (0 ≤ k ∧ k * s < L) ↔ (0 ≤ k ∧ k < (p : Int))) (ho : corrShift cf L N = o)
    (c : ℕ → ℕ → Prop) [∀ j k, Decidable (c j k)] (hc : ∀ j k, c j k ↔ i + (j : Int) = k * s + o) :
    corrAt star cf L N (stuff L s y) v i =
      ∑ k ∈ Finset.range p, star (∑ j ∈ Finset.range N.toNat, if c j k then v j else 0) * y k := by
  simp only [corrAt, ho, sumTo_eq_sum, stuff_eq_sum' L s p y hs hp, sub_eq_iff_eq_add, ← hc]
  exact sum_ite_mul_star _ _ c (fun k => y k) (fun j => v j)

theorem corr2At_stuff2 (cf : Bool) (L1 L2 N1 N2 s1 s2 : Int) (p1 p2 : Nat) (y v : Int → Int → α)
    (i1 i2 o1 o2 : Int) (hs1 : 0 < s1) (hs2 : 0 < s2)
    (hp1 : ∀ k : Int, (0 ≤ k ∧ k * s1 < L1) ↔ (0 ≤ k ∧ k < (p1 : Int)))
    (hp2 : ∀ k : Int, (0 ≤ k ∧ k * s2 < L2) ↔ (0 ≤ k ∧ k < (p2 : Int)))
    (ho1 : corrShift cf L1 N1 = o1) (ho2 : corrShift cf L2 N2 = o2)
    (c : ℕ → ℕ → ℕ → ℕ → Prop) [∀ j1 j2 k1 k2, Decidable (c j1 j2 k1 k2)]
    (hc : ∀ j1 j2 k1 k2, c j1 j2 k1 k2 ↔ i1 + (j1 : Int) = k1 * s1 + o1 ∧ i2 + (j2 : Int) = k2 * s2 + o2) :
    corr2At star cf L1 L2 N1 N2 (stuff2 L1 L2 s1 s2 y) v i1 i2 =
      ∑ k1 ∈ Finset.range p1, ∑ k2 ∈ Finset.range p2,
        star (∑ j1 ∈ Finset.range N1.toNat, ∑ j2 ∈ Finset.range N2.toNat,
          if c j1 j2 k1 k2 then v j1 j2 else 0) * y k1 k2 := by
  simp only [corr2At, ho1, ho2, sumTo_eq_sum, stuff2_eq_sum' L1 L2 s1 s2 p1 p2 y hs1 hs2 hp1 hp2,
    sub_eq_iff_eq_add, ← hc, ← Finset.sum_product']
  exact sum_ite_mul_star (Finset.range p1 ×ˢ Finset.range p2) (Finset.range N1.toNat ×ˢ Finset.range N2.toNat)
    (fun j k => c j.1 j.2 k.1 k.2) (fun k => y k.1 k.2) (fun j => v j.1 j.2)

theorem sum_mc {κ : Type} (SB SO SC : Finset ℕ) (K : Finset κ) (cv : ℕ → ℕ → ℕ → κ → α) (ys : ℕ → ℕ → κ → α)
    (t : ℕ → ℕ → ℕ → α) (h : ∀ b o c, ∑ k ∈ K, cv b o c k * star (ys b o k) = t b o c) :
    ∑ b ∈ SB, ∑ o ∈ SO, ∑ k ∈ K, (∑ c ∈ SC, cv b o c k) * star (ys b o k) =
      ∑ b ∈ SB, ∑ o ∈ SO, ∑ c ∈ SC, t b o c := by
  simp only [Finset.sum_mul]
  refine Finset.sum_congr rfl fun b _ => Finset.sum_congr rfl fun o _ => ?_
  rw [Finset.sum_comm]
  exact Finset.sum_congr rfl fun c _ => h b o c

/-- the identities `ih` of the remaining axes, summed over the index triples of one axis that satisfy `C` -/
theorem sum_axis_step {κ ι : Type} (P M N : Finset ℕ) (K : Finset κ) (I : Finset ι) (C : ℕ → ℕ → ℕ → Prop)
    [∀ i j k, Decidable (C i j k)] (cv : ℕ → ℕ → κ → α) (ys : ℕ → κ → α) (xs : ℕ → ι → α) (ad : ℕ → ℕ → ι → α)
    (ih : ∀ i1 j1 k1, ∑ k ∈ K, cv i1 j1 k * star (ys k1 k) = ∑ i ∈ I, xs i1 i * star (ad j1 k1 i)) :
    ∑ k1 ∈ P, ∑ k ∈ K, (∑ i1 ∈ M, ∑ j1 ∈ N, if C i1 j1 k1 then cv i1 j1 k else 0) * star (ys k1 k) =
      ∑ i1 ∈ M, ∑ i ∈ I, xs i1 i * star (∑ j1 ∈ N, ∑ k1 ∈ P, if C i1 j1 k1 then ad j1 k1 i else 0) := by
  have inner : ∀ {τ : Type} (T : Finset τ) (A B : Finset ℕ) (D : ℕ → ℕ → Prop) [∀ a b, Decidable (D a b)]
      (g : τ → ℕ → ℕ → α), ∑ t ∈ T, ∑ a ∈ A, ∑ b ∈ B, (if D a b then g t a b else 0) =
        ∑ a ∈ A, ∑ b ∈ B, if D a b then ∑ t ∈ T, g t a b else 0 := by
    intro τ T A B D _ g
    rw [Finset.sum_comm]
    refine Finset.sum_congr rfl fun a _ => ?_
    rw [Finset.sum_comm]
    exact Finset.sum_congr rfl fun b _ => by rw [Finset.sum_ite_irrel, Finset.sum_const_zero]
  simp only [Finset.sum_mul, ite_mul, zero_mul, star_sum, apply_ite (star : α → α), star_zero, Finset.mul_sum,
    mul_ite, mul_zero, inner, ih]
  rw [Finset.sum_comm]
  exact Finset.sum_congr rfl fun i1 _ => Finset.sum_comm

end star

theorem sum_range_ite_eq {β : Type} [AddCommMonoid β] (n x : Nat) (hx : x < n) (g : Nat → β) :
    ∑ i ∈ Finset.range n, (if ((i : Int) = (x : Int)) then g i else 0) = g x := by
  rw [Finset.sum_eq_single_of_mem x (Finset.mem_range.mpr hx)]
  · simp
  · intro i _ hi
    rw [if_neg]
    exact_mod_cast hi

theorem sum_range_ite_add {β : Type} [AddCommMonoid β] (N : Nat) (i K : Int) (g : Int → β)
    (hg : ¬ (0 ≤ K - i ∧ K - i < N) → g (K - i) = 0) :
    ∑ j ∈ Finset.range N, (if i + (j : Int) = K then g j else 0) = g (K - i) := by
  by_cases h : 0 ≤ K - i ∧ K - i < N
  · have e : ((K - i).toNat : Int) = K - i := Int.toNat_of_nonneg h.1
    rw [← e, ← sum_range_ite_eq N (K - i).toNat (by omega) (fun j => g j)]
    exact Finset.sum_congr rfl fun j _ => if_congr (by omega) rfl rfl
  · rw [hg h]
    exact Finset.sum_eq_zero fun j hj => if_neg (by rw [Finset.mem_range] at hj; omega)

/-- `X[k, j] += T(k, j, i)`: slice `(b, o)` receives `Σ_i T(b, o, i)` -/
theorem loopSum_B_co {β : Type} [AddCommMonoid β] (B co ci b o : Nat) (hb : b < B) (ho : o < co)
    (T : Int → Int → Int → β) :
    loopSum B co ci (Gen.ConvDim.B, Gen.ConvDim.co) b o T = ∑ c ∈ Finset.range ci, T b o c := by
  -- `show` with the conditions spelled without `pick`, so that `simp` finds their `Decidable` instances
  show (sumTo B fun x => sumTo co fun y => sumTo ci fun z => if x = b ∧ y = o then T x y z else 0) = _
  simp only [sumTo_eq_sum, ite_and, Finset.sum_ite_irrel, Finset.sum_const_zero,
    sum_range_ite_eq _ _ hb, sum_range_ite_eq _ _ ho]

/-- `X[k, i] += T(k, j, i)`: slice `(b, c)` receives `Σ_j T(b, j, c)` -/
theorem loopSum_B_ci {β : Type} [AddCommMonoid β] (B co ci b c : Nat) (hb : b < B) (hc : c < ci)
    (T : Int → Int → Int → β) :
    loopSum B co ci (Gen.ConvDim.B, Gen.ConvDim.ci) b c T = ∑ o ∈ Finset.range co, T b o c := by
  show (sumTo B fun x => sumTo co fun y => sumTo ci fun z => if x = b ∧ z = c then T x y z else 0) = _
  simp only [sumTo_eq_sum, ite_and, Finset.sum_ite_irrel, Finset.sum_const_zero,
    sum_range_ite_eq _ _ hb, sum_range_ite_eq _ _ hc]

/-- `X[j, i] += T(k, j, i)`: slice `(o, c)` receives `Σ_k T(k, o, c)` -/
theorem loopSum_co_ci {β : Type} [AddCommMonoid β] (B co ci o c : Nat) (ho : o < co) (hc : c < ci)
    (T : Int → Int → Int → β) :
    loopSum B co ci (Gen.ConvDim.co, Gen.ConvDim.ci) o c T = ∑ b ∈ Finset.range B, T b o c := by
  show (sumTo B fun x => sumTo co fun y => sumTo ci fun z => if y = o ∧ z = c then T x y z else 0) = _
  simp only [sumTo_eq_sum, ite_and, Finset.sum_ite_irrel, Finset.sum_const_zero,
    sum_range_ite_eq _ _ ho, sum_range_ite_eq _ _ hc]

theorem zip3_map {β : Type} (g : Int × Int × Int → β) : ∀ (m n s : List Int),
    (List.zip m (List.zip n s)).map g = zip3With (fun a b c => g (a, b, c)) m n s
  | [], _, _ => rfl
  | _ :: _, [], _ => rfl
  | _ :: _, _ :: _, [] => rfl
  | a :: m, b :: n, c :: s => congrArg (g (a, b, c) :: ·) (zip3_map g m n s)

theorem zip3With_map {β γ : Type} (F : β → γ) (f : Int → Int → Int → β) : ∀ (m n s : List Int),
    (zip3With f m n s).map F = zip3With (fun a b c => F (f a b c)) m n s
  | [], _, _ => rfl
  | _ :: _, [], _ => rfl
  | _ :: _, _ :: _, [] => rfl
  | a :: m, b :: n, c :: s => congrArg (F (f a b c) :: ·) (zip3With_map F f m n s)

theorem pyBound_suffix (a b : Nat) (h : 1 ≤ b) : pyBound ((a + b : Nat) : Int) (-(b : Int)) = a := by
  unfold pyBound pyMax pyMin
  omega

theorem pyFrom_suffix (pre suf : List Int) (h : 1 ≤ suf.length) :
    pyFrom (pre ++ suf) (-(suf.length : Int)) = suf := by
  rw [pyFrom, List.length_append, pyBound_suffix _ _ h, List.drop_left]

theorem pyUpto_prefix (pre suf : List Int) (h : 1 ≤ suf.length) :
    pyUpto (pre ++ suf) (-(suf.length : Int)) = pre := by
  rw [pyUpto, List.length_append, pyBound_suffix _ _ h, List.take_left]

theorem pyGet_from_end (pre : List Int) (x : Int) (suf : List Int) :
    pyGet (pre ++ x :: suf) (-(suf.length : Int) - 1) = some x := by
  have h1 : -(suf.length : Int) - 1 < 0 := by omega
  have e : -(suf.length : Int) - 1 + ((pre ++ x :: suf).length : Int) = (pre.length : Int) := by
    rw [List.length_append, List.length_cons]; omega
  have h2 : (0 : Int) ≤ pre.length ∧ (pre.length : Int) < (pre ++ x :: suf).length := by
    rw [List.length_append, List.length_cons]; omega
  rw [pyGet, if_pos h1, e, if_pos h2, Int.toNat_natCast, List.getElem?_append_right (le_refl _), Nat.sub_self,
    List.getElem?_cons_zero]

theorem pyGet_some (l : List Int) (i r : Int) (h : pyGet l i = some r) :
    ∃ k : Nat, (k : Int) = (if i < 0 then i + l.length else i) ∧ l[k]? = some r := by
  unfold pyGet at h
  dsimp only at h
  by_cases c : 0 ≤ (if i < 0 then i + (l.length : Int) else i) ∧ (if i < 0 then i + (l.length : Int) else i) < l.length
  · rw [if_pos c] at h
    exact ⟨_, Int.toNat_of_nonneg c.1, h⟩
  · rw [if_neg c] at h
    cases h

end SigpyVerif.C08
