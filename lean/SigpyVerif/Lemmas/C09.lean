import SigpyVerif.Model.C09
import SigpyVerif.Lemmas.Py
import Mathlib.Data.List.Basic
import Mathlib.Data.List.Forall2
import Mathlib.Tactic.Ring
import Mathlib.Tactic.Linarith
/-
  Row-major facts for C09: `shapeProd`, `ravel`, `allIdx` (Model/Py.lean) and the reading of
  `((allIdx sh).map f).toArray` at position `ravel sh k` — the shape every C09 model function has.
-/
namespace SigpyVerif.C09
open SigpyVerif

theorem foldl_mul (s : List Int) (a : Int) : s.foldl (· * ·) a = a * s.foldl (· * ·) 1 := by
  induction s generalizing a with
  | nil => simp
  | cons n s ih => simp only [List.foldl_cons]; rw [ih (a * n), ih (1 * n)]; ring

theorem shapeProd_nil : shapeProd [] = 1 := rfl

theorem shapeProd_cons (n : Int) (s : List Int) : shapeProd (n :: s) = n * shapeProd s := by
  unfold shapeProd; simp only [List.foldl_cons]; rw [foldl_mul]; ring

theorem shapeProd_append (a b : List Int) : shapeProd (a ++ b) = shapeProd a * shapeProd b := by
  induction a with
  | nil => rw [List.nil_append, shapeProd_nil, one_mul]
  | cons n a ih => rw [List.cons_append, shapeProd_cons, shapeProd_cons, ih, mul_assoc]

theorem shapeProd_replicate_one (m : Nat) : shapeProd (List.replicate m 1) = 1 := by
  induction m with
  | zero => rfl
  | succ m ih => rw [List.replicate_succ, shapeProd_cons, ih, one_mul]

theorem shapeProd_pos (s : List Int) (h : ∀ n ∈ s, 0 < n) : 0 < shapeProd s := by
  induction s with
  | nil => exact Int.one_pos
  | cons n s ih =>
    rw [shapeProd_cons]
    exact Int.mul_pos (h n List.mem_cons_self) (ih fun m hm => h m (List.mem_cons_of_mem _ hm))

theorem shapeProd_nonneg (s : List Int) (h : ∀ n ∈ s, 0 ≤ n) : 0 ≤ shapeProd s := by
  induction s with
  | nil => exact Int.one_pos.le
  | cons n s ih =>
    rw [shapeProd_cons]
    exact Int.mul_nonneg (h n List.mem_cons_self) (ih fun m hm => h m (List.mem_cons_of_mem _ hm))

theorem ravel_foldl (l : List (Int × Int)) (a : Int) :
    l.foldl (fun acc (p : Int × Int) => acc * p.1 + p.2) a
      = a * shapeProd (l.map Prod.fst) + l.foldl (fun acc (p : Int × Int) => acc * p.1 + p.2) 0 := by
  induction l generalizing a with
  | nil => simp [shapeProd_nil]
  | cons p l ih =>
    simp only [List.foldl_cons, List.map_cons]
    rw [ih (a * p.1 + p.2), ih (0 * p.1 + p.2), shapeProd_cons]; ring

theorem ravel_nil : ravel [] [] = 0 := rfl

/-- row-major: the leading index is multiplied by the product of the trailing extents -/
theorem ravel_cons (n i : Int) (sh k : List Int) (h : k.length = sh.length) :
    ravel (n :: sh) (i :: k) = i * shapeProd sh + ravel sh k := by
  unfold ravel
  simp only [List.zip_cons_cons, List.foldl_cons]
  have e : (fun (acc : Int) (x : Int × Int) => match x with | (n, i) => acc * n + i)
      = fun acc (p : Int × Int) => acc * p.1 + p.2 := by
    funext acc x; rfl
  rw [e, ravel_foldl, List.map_fst_zip (by omega)]
  ring

theorem forall₂_iff_getD {α β : Type} {R : α → β → Prop} {a : List α} {b : List β} (x : α) (y : β) :
    List.Forall₂ R a b ↔
      a.length = b.length ∧ ∀ d, d < a.length → R (a.getD d x) (b.getD d y) := by
  induction a generalizing b with
  | nil =>
    cases b with
    | nil => exact iff_of_true .nil ⟨rfl, nofun⟩
    | cons _ _ => exact iff_of_false nofun fun h => Nat.succ_ne_zero _ h.1.symm
  | cons _ a ih =>
    cases b with
    | nil => exact iff_of_false nofun fun h => Nat.succ_ne_zero _ h.1
    | cons _ b =>
      simp only [List.forall₂_cons, ih, List.length_cons, Nat.add_right_cancel_iff,
        Nat.forall_lt_succ_left, List.getD_cons_zero, List.getD_cons_succ, and_left_comm]

theorem forall_mem_of_forall₂ {α β : Type} {R : α → β → Prop} {P : α → Prop} {a : List α} {b : List β}
    (h : List.Forall₂ R a b) (hP : ∀ x y, R x y → P x) : ∀ x ∈ a, P x := by
  induction h with
  | nil => nofun
  | cons hxy _ ih => exact List.forall_mem_cons.mpr ⟨hP _ _ hxy, ih⟩

theorem getD_zipWith (f : Int → Int → Int) (a b : List Int) (d : Nat) (ha : d < a.length)
    (hb : d < b.length) : (List.zipWith f a b).getD d 0 = f (a.getD d 0) (b.getD d 0) :=
  getD_zipWith_lt f a b d ha hb 0 0 0

theorem getD_nonneg (l : List Int) (h : ∀ s ∈ l, 0 ≤ s) (d : Nat) : 0 ≤ l.getD d 0 := by
  rw [List.getD_eq_getElem?_getD]
  cases hd : l[d]? with
  | none => exact le_rfl
  | some v => exact h v (List.mem_of_getElem? hd)

theorem length_zip3With {α β γ δ : Type} (f : α → β → γ → δ) (a : List α) (b : List β) (c : List γ)
    (hb : b.length = a.length) (hc : c.length = a.length) : (zip3With f a b c).length = a.length := by
  induction a generalizing b c with
  | nil => rfl
  | cons _ a ih =>
    obtain ⟨_, b, rfl⟩ := List.exists_cons_of_length_eq_add_one hb
    obtain ⟨_, c, rfl⟩ := List.exists_cons_of_length_eq_add_one hc
    exact congrArg (· + 1) (ih b c (Nat.succ_injective hb) (Nat.succ_injective hc))

theorem length_flatMap_uniform {α β : Type} (l : List α) (f : α → List β) (P : Nat)
    (hf : ∀ a ∈ l, (f a).length = P) : (l.flatMap f).length = l.length * P := by
  induction l with
  | nil => simp
  | cons a l ih =>
    rw [List.flatMap_cons, List.length_append, hf a (by simp), ih fun b hb => hf b (by simp [hb])]
    simp only [List.length_cons]; ring

theorem getElem?_flatMap_uniform {α β : Type} (l : List α) (f : α → List β) (P : Nat)
    (hf : ∀ a ∈ l, (f a).length = P) (m r : Nat) (hr : r < P) :
    (l.flatMap f)[m * P + r]? = (l[m]?).bind fun a => (f a)[r]? := by
  induction l generalizing m with
  | nil => rfl
  | cons a l ih =>
    have ha : (f a).length = P := hf a List.mem_cons_self
    rw [List.flatMap_cons]
    cases m with
    | zero =>
      rw [Nat.zero_mul, Nat.zero_add, List.getElem?_cons_zero, Option.bind_some]
      exact List.getElem?_append_left (ha ▸ hr)
    | succ m =>
      have e : (m + 1) * P + r = (f a).length + (m * P + r) := by rw [ha, Nat.succ_mul]; omega
      rw [e, List.getElem?_append_right (Nat.le_add_right _ _), Nat.add_sub_cancel_left,
        ih (fun b hb => hf b (List.mem_cons_of_mem _ hb)) m, List.getElem?_cons_succ]

theorem pyRange0_eq (n : Int) : pyRange0 n = (List.range n.toNat).map (fun m : Nat => (m : Int)) :=
  pyRange0_eq_range n

theorem allIdx_cons (n : Int) (sh : List Int) :
    allIdx (n :: sh) = (pyRange0 n).flatMap fun i => (allIdx sh).map (i :: ·) := rfl

/-- the multi-indices of a shape are exactly the in-range index tuples -/
theorem mem_allIdx {sh k : List Int} :
    k ∈ allIdx sh ↔ List.Forall₂ (fun n i => 0 ≤ i ∧ i < n) sh k := by
  induction sh generalizing k with
  | nil => simp [allIdx]
  | cons n sh ih =>
    rw [allIdx_cons]
    simp only [List.mem_flatMap, List.mem_map, mem_pyRange0]
    constructor
    · rintro ⟨i, hi, ks, hks, rfl⟩
      exact List.Forall₂.cons hi (ih.mp hks)
    · intro h
      cases h with
      | cons hi hks => exact ⟨_, hi, _, ih.mpr hks, rfl⟩

theorem length_of_mem_allIdx {sh k : List Int} (h : k ∈ allIdx sh) : k.length = sh.length :=
  (mem_allIdx.mp h).length_eq.symm

theorem mem_allIdx_iff_getD {sh k : List Int} :
    k ∈ allIdx sh ↔ k.length = sh.length ∧
      ∀ d, d < sh.length → 0 ≤ k.getD d 0 ∧ k.getD d 0 < sh.getD d 0 := by
  rw [mem_allIdx, forall₂_iff_getD 0 0, eq_comm]

theorem pos_of_mem_allIdx {sh k : List Int} (h : k ∈ allIdx sh) : ∀ n ∈ sh, 0 < n :=
  forall_mem_of_forall₂ (mem_allIdx.mp h) fun _ _ hi => by omega

theorem nonneg_of_mem_allIdx {sh k : List Int} (h : k ∈ allIdx sh) : ∀ v ∈ k, 0 ≤ v :=
  forall_mem_of_forall₂ (mem_allIdx.mp h).flip fun _ _ hi => hi.1

theorem allIdx_length (sh : List Int) (h : ∀ n ∈ sh, 0 ≤ n) :
    (allIdx sh).length = (shapeProd sh).toNat := by
  induction sh with
  | nil => simp [allIdx, shapeProd_nil]
  | cons n sh ih =>
    have hn : 0 ≤ n := h n (by simp)
    have ih' := ih fun m hm => h m (by simp [hm])
    rw [allIdx_cons, length_flatMap_uniform _ _ (allIdx sh).length (by simp), pyRange0_eq,
      shapeProd_cons, ih']
    simp only [List.length_map, List.length_range]
    have hp : 0 ≤ shapeProd sh := shapeProd_nonneg sh fun m hm => h m (by simp [hm])
    zify
    rw [Int.toNat_of_nonneg hn, Int.toNat_of_nonneg hp, Int.toNat_of_nonneg (Int.mul_nonneg hn hp)]

theorem digit_bounds {i n r P : Int} (hi0 : 0 ≤ i) (hin : i < n) (hr0 : 0 ≤ r) (hrP : r < P) :
    0 ≤ i * P + r ∧ i * P + r < n * P := by
  have hP : 0 ≤ P := by omega
  have h1 : 0 ≤ i * P := Int.mul_nonneg hi0 hP
  have h2 : (i + 1) * P ≤ n * P := Int.mul_le_mul_of_nonneg_right (by omega) hP
  rw [Int.add_mul, Int.one_mul] at h2
  omega

/-- **Row-major enumeration.**  `allIdx sh` lists the multi-indices in the order of their flat
    index: position `ravel sh k` holds `k` (and the flat index is within the array). -/
theorem allIdx_getElem?_ravel {sh k : List Int} (hk : k ∈ allIdx sh) :
    0 ≤ ravel sh k ∧ ravel sh k < shapeProd sh ∧ (allIdx sh)[(ravel sh k).toNat]? = some k := by
  induction sh generalizing k with
  | nil =>
    obtain rfl : k = [] := List.mem_singleton.mp hk
    exact ⟨le_rfl, Int.one_pos, rfl⟩
  | cons n sh ih =>
    rw [allIdx_cons] at hk
    simp only [List.mem_flatMap, List.mem_map, mem_pyRange0] at hk
    obtain ⟨i, ⟨hi0, hin⟩, ks, hks, rfl⟩ := hk
    obtain ⟨r0, r1, hget⟩ := ih hks
    have hpos := pos_of_mem_allIdx hks
    have hP0 : 0 ≤ shapeProd sh := by omega
    have hP : (allIdx sh).length = (shapeProd sh).toNat :=
      allIdx_length sh fun m hm => (hpos m hm).le
    rw [ravel_cons n i sh ks (length_of_mem_allIdx hks), shapeProd_cons]
    refine ⟨(digit_bounds hi0 hin r0 r1).1, (digit_bounds hi0 hin r0 r1).2, ?_⟩
    -- the position splits into block `i` of the `flatMap` and offset `ravel sh ks` inside the block
    rw [Int.toNat_add (Int.mul_nonneg hi0 hP0) r0, Int.toNat_mul hi0 hP0, ← hP, allIdx_cons,
      getElem?_flatMap_uniform _ _ _ (fun _ _ => List.length_map _) _ _ (by omega), pyRange0_eq,
      List.getElem?_map, List.getElem?_range (by omega), Option.map_some, Option.bind_some,
      List.getElem?_map, hget, Int.toNat_of_nonneg hi0, Option.map_some]

theorem ravel_injective {sh k k' : List Int} (hk : k ∈ allIdx sh) (hk' : k' ∈ allIdx sh)
    (h : ravel sh k = ravel sh k') : k = k' := by
  have h1 := (allIdx_getElem?_ravel hk).2.2
  have h2 := (allIdx_getElem?_ravel hk').2.2
  rw [h] at h1
  exact Option.some.inj (h1.symm.trans h2)

/-- **Reading a model array.**  Every C09 model function builds its output as
    `((allIdx osh).map f).toArray`; its entry at the flat position of multi-index `k` is `f k`. -/
theorem map_allIdx_getD {α : Type} [Zero α] (sh : List Int) (f : List Int → α) (k : List Int)
    (hk : k ∈ allIdx sh) :
    (((allIdx sh).map f).toArray).getD (ravel sh k).toNat 0 = f k := by
  rw [Array.getD_eq_getD_getElem?, List.getElem?_toArray, List.getElem?_map,
    (allIdx_getElem?_ravel hk).2.2]
  rfl

theorem map_allIdx_size {α : Type} (sh : List Int) (f : List Int → α) (h : ∀ n ∈ sh, 0 ≤ n) :
    (((allIdx sh).map f).toArray).size = (shapeProd sh).toNat := by
  rw [List.size_toArray, List.length_map, allIdx_length sh h]

end SigpyVerif.C09
