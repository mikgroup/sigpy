import Mathlib.Analysis.InnerProductSpace.Basic
import Mathlib.Analysis.Normed.Lp.PiLp
import Mathlib.Analysis.Normed.Lp.ProdLp
import Mathlib.Tactic.Linarith
import Mathlib.Tactic.Ring
import Mathlib.Tactic.FieldSimp
import Mathlib.Tactic.Positivity
/-
  C11 — abstract theory of proximal operators used by `Props/C11.lean`.

  `IsProxOn C F y p` says: `p ∈ C` and for every `x ∈ C`
      F p + ½‖p - y‖² + ½‖x - p‖² ≤ F x + ½‖x - y‖².
  For `g = F + indicator(C)` this is the statement "`p` minimises `½‖x - y‖² + g x`" in its strong
  (1-strongly-convex) form; it gives minimality (`IsProxOn.le`) and uniqueness (`IsProxOn.unique`).
  In an inner product space it is *equivalent* to the subgradient / variational inequality
      ∀ x ∈ C, F p + ⟪y - p, x - p⟫ ≤ F x         (`isProxOn_iff_subgrad`)
  (for `F = 0`: `⟪y - p, x - p⟫ ≤ 0`, the projection characterisation), so nothing is lost by using it
  as *the* definition of "P(α,y) is the exact minimiser".
-/
namespace SigpyVerif.C11
open InnerProductSpace

section Basic
variable {E : Type*} [NormedAddCommGroup E]

/-- `p = argmin_{x ∈ C} ½‖x - y‖² + F x`, strong form. -/
def IsProxOn (C : Set E) (F : E → ℝ) (y p : E) : Prop :=
  p ∈ C ∧ ∀ x ∈ C, F p + ‖p - y‖ ^ 2 / 2 + ‖x - p‖ ^ 2 / 2 ≤ F x + ‖x - y‖ ^ 2 / 2

/-- projection onto `C`: the prox of the indicator of `C` -/
abbrev IsProjOn (C : Set E) (y p : E) : Prop := IsProxOn C (fun _ => (0 : ℝ)) y p

/-- minimality: the objective at `p` is ≤ the objective at every feasible `x` -/
theorem IsProxOn.le {C : Set E} {F : E → ℝ} {y p : E} (h : IsProxOn C F y p) {x : E} (hx : x ∈ C) :
    F p + ‖p - y‖ ^ 2 / 2 ≤ F x + ‖x - y‖ ^ 2 / 2 :=
  (le_add_of_nonneg_right (by positivity)).trans (h.2 x hx)

/-- uniqueness: any feasible point that is at least as good as `p` *is* `p` -/
theorem IsProxOn.unique {C : Set E} {F : E → ℝ} {y p : E} (h : IsProxOn C F y p) {x : E} (hx : x ∈ C)
    (hle : F x + ‖x - y‖ ^ 2 / 2 ≤ F p + ‖p - y‖ ^ 2 / 2) : x = p := by
  have h2 : ‖x - p‖ ^ 2 ≤ 0 := by linear_combination 2 * h.2 x hx + 2 * hle
  exact sub_eq_zero.mp (norm_eq_zero.mp (pow_eq_zero_iff two_ne_zero |>.mp (h2.antisymm (sq_nonneg _))))

/-- two points satisfying the characterisation coincide -/
theorem IsProxOn.eq {C : Set E} {F : E → ℝ} {y p q : E} (h : IsProxOn C F y p) (h' : IsProxOn C F y q) :
    q = p := h.unique h'.1 (h'.le h.1)

/-- a feasible point is its own projection … -/
theorem isProjOn_self {C : Set E} {y : E} (hy : y ∈ C) : IsProjOn C y y :=
  ⟨hy, fun x _ => by simp⟩

/-- … so whatever satisfies the projection characterisation returns a feasible `y` unchanged -/
theorem IsProxOn.fixed_of_feasible {C : Set E} {y p : E} (h : IsProjOn C y p) (hy : y ∈ C) : p = y :=
  (isProjOn_self hy).eq h

theorem IsProxOn.idempotent {C : Set E} {y p q : E} (h : IsProjOn C y p) (h' : IsProjOn C p q) : q = p :=
  h'.fixed_of_feasible h.1

/-- the same statement for an equal feasible set and a pointwise equal objective -/
theorem IsProxOn.congr {C C' : Set E} {F F' : E → ℝ} {y p : E}
    (h : IsProxOn C F y p) (hC : C' = C) (hF : ∀ x, F' x = F x) : IsProxOn C' F' y p := by
  subst hC
  refine ⟨h.1, fun x hx => ?_⟩
  rw [hF, hF]; exact h.2 x hx

/-- translation by a bias `b`: `prox` of `F(· - b)` on `C + b` at `y + b` is `p + b`
    (`L2Proj(y=b)`, `LInfProj(bias=b)` compute `proj(input - b) + b`). -/
theorem IsProxOn.translate {C : Set E} {F : E → ℝ} {y p : E} (h : IsProxOn C F y p) (b : E) :
    IsProxOn {x | x - b ∈ C} (fun x => F (x - b)) (y + b) (p + b) := by
  refine ⟨by simpa using h.1, fun x hx => ?_⟩
  simp only [add_sub_cancel_right, sub_add_eq_sub_sub_swap]
  exact h.2 (x - b) hx

theorem IsProxOn.add_bias {C : Set E} {F : E → ℝ} {y p b : E} (h : IsProxOn C F (y - b) p) :
    IsProxOn {x | x - b ∈ C} (fun x => F (x - b)) y (p + b) := by
  have := h.translate b
  rwa [sub_add_cancel] at this

end Basic

section Inner
variable {E : Type*} [NormedAddCommGroup E] [InnerProductSpace ℝ E]

theorem prox_gap_identity (x y p : E) :
    ⟪y - p, x - p⟫_ℝ = ‖p - y‖ ^ 2 / 2 + ‖x - p‖ ^ 2 / 2 - ‖x - y‖ ^ 2 / 2 := by
  have h := norm_sub_sq_real (x - p) (y - p)
  rw [sub_sub_sub_cancel_right, real_inner_comm] at h
  rw [norm_sub_rev p y]; linear_combination (1 / 2) * h

/-- the strong minimiser inequality is the variational (subgradient) inequality -/
theorem isProxOn_iff_subgrad {C : Set E} {F : E → ℝ} {y p : E} :
    IsProxOn C F y p ↔ p ∈ C ∧ ∀ x ∈ C, F p + ⟪y - p, x - p⟫_ℝ ≤ F x := by
  refine and_congr_right fun _ => forall₂_congr fun x _ => ?_
  rw [prox_gap_identity x y p]
  constructor <;> intro h <;> linear_combination h

/-- projection characterisation `⟪y - p, q - p⟫ ≤ 0` -/
theorem isProjOn_iff {C : Set E} {y p : E} :
    IsProjOn C y p ↔ p ∈ C ∧ ∀ q ∈ C, ⟪y - p, q - p⟫_ℝ ≤ 0 := by
  rw [IsProjOn, isProxOn_iff_subgrad]; simp

/-- `prox_{F/c}(v/c)`, as `L2Reg` and `Conj` call their inner prox: `v - c p` is a subgradient of `F` at `p` -/
theorem isProxOn_inv_smul_iff {C : Set E} {F : E → ℝ} {c : ℝ} (hc : 0 < c) {v p : E} :
    IsProxOn C (fun x => c⁻¹ * F x) (c⁻¹ • v) p ↔ p ∈ C ∧ ∀ x ∈ C, F p + ⟪v - c • p, x - p⟫_ℝ ≤ F x := by
  rw [isProxOn_iff_subgrad]
  refine and_congr_right fun _ => forall₂_congr fun x _ => ?_
  have e : c⁻¹ • v - p = c⁻¹ • (v - c • p) := by rw [smul_sub, smul_smul, inv_mul_cancel₀ hc.ne', one_smul]
  rw [e, real_inner_smul_left, ← mul_add, mul_le_mul_iff_right₀ (inv_pos.mpr hc)]

/-- **L2Reg closed form.**  With `β = α/(1+λα)` and `u = (y + λα z)/(1+λα)`:
    if `p = prox_{β h}(u)` (on `C`) then `p = prox_{α(λ/2‖·-z‖² + h)}(y)` (on `C`). -/
theorem l2reg_prox {C : Set E} {h : E → ℝ} {α lam : ℝ} (hα : 0 < α) (hl : 0 ≤ lam) (y z p : E)
    (hp : IsProxOn C (fun x => α / (1 + lam * α) * h x) ((1 + lam * α)⁻¹ • (y + (lam * α) • z)) p) :
    IsProxOn C (fun x => α * (lam / 2 * ‖x - z‖ ^ 2 + h x)) y p := by
  have hd : 0 < 1 + lam * α := by positivity
  obtain ⟨hpC, hp⟩ := (isProxOn_inv_smul_iff hd).mp
    (hp.congr rfl fun x => by rw [div_eq_inv_mul, mul_assoc])
  rw [isProxOn_iff_subgrad]
  refine ⟨hpC, fun x hx => ?_⟩
  have key := hp x hx
  -- `⟪z - p, x - p⟫` in terms of `‖x - z‖²`, `‖p - z‖²`; what is left over is `λα/2 ‖x - p‖² ≥ 0`
  have hz := prox_gap_identity x z p
  rw [inner_sub_left, inner_add_left, real_inner_smul_left, real_inner_smul_left] at key
  rw [inner_sub_left] at hz ⊢
  linear_combination key - (lam * α) * hz + (1 / 2) * mul_nonneg (mul_nonneg hl hα.le) (sq_nonneg ‖x - p‖)

/-- Fenchel conjugate, possibly extended-valued: `g* = gs + indicator(D)` is the conjugate of
    `g + indicator(C)`: `q ∈ D` iff `x ↦ ⟪q,x⟫ - g x` is bounded above on `C`, and then `gs q` is
    its least upper bound. -/
def IsConjOn (C : Set E) (g : E → ℝ) (D : Set E) (gs : E → ℝ) : Prop :=
  ∀ q, (q ∈ D ↔ BddAbove ((fun x => ⟪q, x⟫_ℝ - g x) '' C)) ∧
       (q ∈ D → IsLUB ((fun x => ⟪q, x⟫_ℝ - g x) '' C) (gs q))

theorem IsConjOn.fenchel_young {C D : Set E} {g gs : E → ℝ} (hc : IsConjOn C g D gs) {q p : E} (hq : q ∈ D)
    (hp : p ∈ C) : ⟪q, p⟫_ℝ - g p ≤ gs q :=
  ((hc q).2 hq).1 ⟨p, hp, rfl⟩

theorem IsConjOn.fenchel_eq_of_subgrad {C D : Set E} {g gs : E → ℝ} (hc : IsConjOn C g D gs) {q p : E} (hp : p ∈ C)
    (hsub : ∀ u ∈ C, g p + ⟪q, u - p⟫_ℝ ≤ g u) : q ∈ D ∧ gs q = ⟪q, p⟫_ℝ - g p := by
  have hub : ⟪q, p⟫_ℝ - g p ∈ upperBounds ((fun x => ⟪q, x⟫_ℝ - g x) '' C) := by
    rintro _ ⟨u, hu, rfl⟩
    have := hsub u hu
    rw [inner_sub_right] at this
    simp only; linear_combination this
  have hqD : q ∈ D := (hc q).1.mpr ⟨_, hub⟩
  exact ⟨hqD, le_antisymm (((hc q).2 hqD).2 hub) (hc.fenchel_young hqD hp)⟩

/-- **Moreau identity (`Conj`).**  If `p = prox_{g/α}(x/α)` then `x - α p = prox_{α g*}(x)`. -/
theorem moreau {C D : Set E} {g gs : E → ℝ} (hc : IsConjOn C g D gs) {α : ℝ} (hα : 0 < α) (x p : E)
    (hp : IsProxOn C (fun u => (1 / α) * g u) ((1 / α) • x) p) :
    IsProxOn D (fun q => α * gs q) x (x - α • p) := by
  rw [one_div, isProxOn_inv_smul_iff hα] at hp
  -- `x - αp` is a subgradient of `g` at `p`, so Fenchel's equality holds there
  obtain ⟨hqD, hgs⟩ := hc.fenchel_eq_of_subgrad hp.1 hp.2
  rw [isProxOn_iff_subgrad]
  refine ⟨hqD, fun q' hq' => ?_⟩
  have hfy := hc.fenchel_young hq' hp.1
  rw [sub_sub_cancel, real_inner_smul_left, inner_sub_right, real_inner_comm q', real_inner_comm (x - α • p), hgs,
    ← mul_add]
  exact mul_le_mul_of_nonneg_left (by linear_combination hfy) hα.le

/-- **UnitaryTransform.**  `A` linear with adjoint `AH`, `AH ∘ A = id`, `A ∘ AH = id`:
    if `p = prox_g(A y)` then `AH p = prox_{g∘A}(y)`. -/
theorem unitary_transform {F' : Type*} [NormedAddCommGroup F'] [InnerProductSpace ℝ F']
    (A : E →ₗ[ℝ] F') (AH : F' →ₗ[ℝ] E) (hadj : ∀ u v, ⟪A u, v⟫_ℝ = ⟪u, AH v⟫_ℝ)
    (hAHA : ∀ u, AH (A u) = u) (hAAH : ∀ v, A (AH v) = v)
    {C : Set F'} {g : F' → ℝ} (y : E) (p : F') (hp : IsProxOn C g (A y) p) :
    IsProxOn {x | A x ∈ C} (fun x => g (A x)) y (AH p) := by
  rw [isProxOn_iff_subgrad] at hp ⊢
  refine ⟨by simpa [hAAH] using hp.1, fun x hx => ?_⟩
  have hA : ∀ u, A u - p = A (u - AH p) := fun u => by rw [map_sub, hAAH]
  have := hp.2 (A x) hx
  rw [hA, hA, hadj, hAHA] at this
  rwa [hAAH]

/-- a prox of `θ·N` whose value sits on the level set `N p = ε` is the projection onto the sublevel
    set `{N ≤ ε}` (KKT for `l1_proj`: `N = ‖·‖₁`, `p = soft(θ, y)`). -/
theorem proj_of_prox_on_level {N : E → ℝ} {θ ε : ℝ} (hθ : 0 ≤ θ) {y p : E}
    (hp : IsProxOn Set.univ (fun x => θ * N x) y p) (hN : N p = ε) :
    IsProjOn {x | N x ≤ ε} y p := by
  rw [isProxOn_iff_subgrad] at hp
  rw [isProjOn_iff]
  refine ⟨hN.le, fun q hq => ?_⟩
  have := hp.2 q (Set.mem_univ _)
  rw [hN] at this
  linear_combination this + mul_le_mul_of_nonneg_left (show N q ≤ ε from hq) hθ

end Inner

section BlockSoft
variable {E : Type*} [NormedAddCommGroup E] [InnerProductSpace ℝ E]

/-- block soft threshold `(‖y‖ - λ)₊ · y/‖y‖` -/
noncomputable def blockSoft (lam : ℝ) (y : E) : E := if ‖y‖ ≤ lam then 0 else (1 - lam / ‖y‖) • y

theorem norm_blockSoft {lam : ℝ} (hl : 0 ≤ lam) (y : E) : ‖blockSoft lam y‖ = max (‖y‖ - lam) 0 := by
  unfold blockSoft
  split_ifs with h
  · rw [norm_zero, max_eq_right (sub_nonpos.mpr h)]
  · rw [not_le] at h
    have hy : 0 < ‖y‖ := lt_of_le_of_lt hl h
    have hc : 0 ≤ 1 - lam / ‖y‖ := by rw [sub_nonneg, div_le_one hy]; exact h.le
    rw [norm_smul, Real.norm_eq_abs, abs_of_nonneg hc, max_eq_left (sub_nonneg.mpr h.le), sub_mul, one_mul,
      div_mul_cancel₀ _ hy.ne']

/-- Moreau decomposition for `λ‖·‖`: `y = p + r` with `‖r‖ ≤ λ` and `r` aligned with `p`; both variational
    inequalities are Cauchy–Schwarz. -/
theorem norm_prox_and_ball_proj {lam : ℝ} {p r : E} (hr : ‖r‖ ≤ lam) (hpr : ⟪p, r⟫_ℝ = lam * ‖p‖) :
    IsProxOn Set.univ (fun x => lam * ‖x‖) (p + r) p ∧ IsProjOn {x | ‖x‖ ≤ lam} (p + r) r := by
  rw [isProxOn_iff_subgrad, isProjOn_iff, add_sub_cancel_left, add_sub_cancel_right]
  refine ⟨⟨Set.mem_univ _, fun x _ => ?_⟩, hr, fun q hq => ?_⟩
  · rw [inner_sub_right, real_inner_comm p, hpr]
    linear_combination real_inner_le_norm r x + mul_le_mul_of_nonneg_right hr (norm_nonneg x)
  · rw [inner_sub_right, hpr]
    linear_combination real_inner_le_norm p q + mul_le_mul_of_nonneg_left (show ‖q‖ ≤ lam from hq) (norm_nonneg p)

theorem blockSoft_split {lam : ℝ} (hl : 0 ≤ lam) (y : E) :
    ‖y - blockSoft lam y‖ ≤ lam ∧ ⟪blockSoft lam y, y - blockSoft lam y⟫_ℝ = lam * ‖blockSoft lam y‖ := by
  unfold blockSoft
  split_ifs with h
  · simpa using h
  · rw [not_le] at h
    have hy : 0 < ‖y‖ := lt_of_le_of_lt hl h
    have hc : 0 ≤ 1 - lam / ‖y‖ := by rw [sub_nonneg, div_le_one hy]; exact h.le
    have e : y - (1 - lam / ‖y‖) • y = (lam / ‖y‖) • y := by rw [sub_smul, one_smul, sub_sub_cancel]
    rw [e, norm_smul, norm_smul, Real.norm_eq_abs, Real.norm_eq_abs, abs_of_nonneg hc,
      abs_of_nonneg (div_nonneg hl hy.le), real_inner_smul_left, real_inner_smul_right, real_inner_self_eq_norm_sq]
    constructor
    · rw [div_mul_cancel₀ _ hy.ne']
    · rw [sq, ← mul_assoc (lam / ‖y‖), div_mul_cancel₀ _ hy.ne', mul_left_comm]

/-- **soft threshold = prox of `λ‖·‖`** in any real inner product space (ℝ: `λ|x|`, ℂ: `λ|z|`). -/
theorem norm_prox {lam : ℝ} (hl : 0 ≤ lam) (y : E) :
    IsProxOn Set.univ (fun x => lam * ‖x‖) y (blockSoft lam y) := by
  have := (norm_prox_and_ball_proj (blockSoft_split hl y).1 (blockSoft_split hl y).2).1
  rwa [add_sub_cancel] at this

/-- `y - soft(ε, y)` is the projection of `y` onto the ball of radius `ε` (this is `linf_proj` per entry) -/
theorem sub_blockSoft_proj {ε : ℝ} (hε : 0 ≤ ε) (y : E) :
    IsProjOn {x | ‖x‖ ≤ ε} y (y - blockSoft ε y) := by
  have := (norm_prox_and_ball_proj (blockSoft_split hε y).1 (blockSoft_split hε y).2).2
  rwa [add_sub_cancel] at this

theorem sub_blockSoft_eq {ε : ℝ} (y : E) :
    y - blockSoft ε y = if ‖y‖ < ε then y else (ε / ‖y‖) • y := by
  unfold blockSoft
  rcases lt_trichotomy ‖y‖ ε with h | h | h
  · rw [if_pos h.le, if_pos h, sub_zero]
  · rw [if_pos h.le, if_neg h.not_lt, sub_zero, ← h]
    rcases eq_or_ne ‖y‖ 0 with hy | hy
    · rw [norm_eq_zero.mp hy, smul_zero]
    · rw [div_self hy, one_smul]
  · rw [if_neg (not_le.mpr h), if_neg (lt_asymm h), sub_smul, one_smul, sub_sub_cancel]

/-- **l2-ball projection** incl. the boundary: `y` if `‖y‖ < ε`, else `(ε/‖y‖) y`. -/
theorem l2_ball_proj {ε : ℝ} (hε : 0 ≤ ε) (y : E) :
    IsProjOn {x | ‖x‖ ≤ ε} y (if ‖y‖ < ε then y else (ε / ‖y‖) • y) := by
  rw [← sub_blockSoft_eq]; exact sub_blockSoft_proj hε y

end BlockSoft

section Separable
open scoped ENNReal
variable {ι : Type*} [Fintype ι] {β : ι → Type*} [∀ i, NormedAddCommGroup (β i)]

/-- **separability.**  If `‖x‖² = Σ_i ‖π i x‖²` for additive block maps `π i`, the three squared norms split over the
    blocks and the blockwise strong inequalities add up. -/
theorem isProxOn_of_blocks {E : Type*} [NormedAddCommGroup E] (π : ∀ i, E → β i)
    (hsub : ∀ i a b, π i (a - b) = π i a - π i b) (hnorm : ∀ x, ‖x‖ ^ 2 = ∑ i, ‖π i x‖ ^ 2)
    {C : ∀ i, Set (β i)} {F : ∀ i, β i → ℝ} (y p : E) (h : ∀ i, IsProxOn (C i) (F i) (π i y) (π i p)) :
    IsProxOn {x | ∀ i, π i x ∈ C i} (fun x => ∑ i, F i (π i x)) y p := by
  refine ⟨fun i => (h i).1, fun x hx => ?_⟩
  have := Finset.sum_le_sum fun i (_ : i ∈ Finset.univ) => (h i).2 (π i x) (hx i)
  simp only [Finset.sum_add_distrib, ← Finset.sum_div, ← hsub, ← hnorm] at this
  exact this

/-- **`Stack`, and every elementwise prox**: the blocks of the `ℓ²` product (`‖x‖² = Σ ‖x i‖²`) -/
theorem isProxOn_pi {C : ∀ i, Set (β i)} {F : ∀ i, β i → ℝ} (y p : PiLp 2 β)
    (h : ∀ i, IsProxOn (C i) (F i) (y i) (p i)) :
    IsProxOn {x : PiLp 2 β | ∀ i, x i ∈ C i} (fun x => ∑ i, F i (x i)) y p :=
  isProxOn_of_blocks (fun i (x : PiLp 2 β) => x i) (fun _ _ _ => rfl) (fun x => PiLp.norm_sq_eq_of_L2 β x) y p h

theorem isProjOn_pi {C : ∀ i, Set (β i)} (y p : PiLp 2 β) (h : ∀ i, IsProjOn (C i) (y i) (p i)) :
    IsProjOn {x : PiLp 2 β | ∀ i, x i ∈ C i} y p :=
  (isProxOn_pi y p h).congr rfl fun _ => Finset.sum_const_zero.symm

variable {E₁ E₂ : Type*} [NormedAddCommGroup E₁] [NormedAddCommGroup E₂]

/-- binary version: `Stack([P₁, P₂])` on the `ℓ²` product `E₁ × E₂` -/
theorem isProxOn_prod {C₁ : Set E₁} {C₂ : Set E₂} {F₁ : E₁ → ℝ} {F₂ : E₂ → ℝ} (y p : WithLp 2 (E₁ × E₂))
    (h1 : IsProxOn C₁ F₁ y.fst p.fst) (h2 : IsProxOn C₂ F₂ y.snd p.snd) :
    IsProxOn {x : WithLp 2 (E₁ × E₂) | x.fst ∈ C₁ ∧ x.snd ∈ C₂} (fun x => F₁ x.fst + F₂ x.snd) y p := by
  refine ⟨⟨h1.1, h2.1⟩, fun x hx => ?_⟩
  simp only [WithLp.prod_norm_sq_eq_of_L2, WithLp.sub_fst, WithLp.sub_snd]
  linear_combination h1.2 x.fst hx.1 + h2.2 x.snd hx.2

end Separable

/-- non-vacuity of `IsConjOn`: `g = ½‖·‖²` is its own conjugate (`Conj(L2Reg(shape, 1))`). -/
theorem isConjOn_half_sq {E : Type*} [NormedAddCommGroup E] [InnerProductSpace ℝ E] :
    IsConjOn (Set.univ : Set E) (fun x => ‖x‖ ^ 2 / 2) Set.univ (fun q => ‖q‖ ^ 2 / 2) := by
  intro q
  have hb : ‖q‖ ^ 2 / 2 ∈ upperBounds ((fun x => ⟪q, x⟫_ℝ - ‖x‖ ^ 2 / 2) '' Set.univ) := by
    rintro _ ⟨x, _, rfl⟩
    simp only
    linear_combination (1 / 2) * sq_nonneg ‖q - x‖ + (1 / 2) * norm_sub_sq_real q x
  refine ⟨⟨fun _ => ⟨_, hb⟩, fun _ => Set.mem_univ _⟩, fun _ => ⟨hb, fun b hb' => ?_⟩⟩
  have := hb' ⟨q, Set.mem_univ _, rfl⟩
  simp only [real_inner_self_eq_norm_sq] at this
  linear_combination this

end SigpyVerif.C11
