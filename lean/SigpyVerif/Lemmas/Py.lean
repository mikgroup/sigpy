import SigpyVerif.Model.Py
import Mathlib.Tactic.Ring
import Mathlib.Tactic.Linarith
import Mathlib.Algebra.Order.Ring.Int
/-
  The Python primitives of Model/Py.lean in Lean's terms: floor division and modulo by a positive
  number, membership and distinctness in `range`, the scatter loop of `blocks_to_array`, `min`/`max`/
  `abs`; then the `getD` and loop-nest facts about lists that every cluster reads arrays through.
-/
namespace SigpyVerif

theorem pyDiv_of_pos (a : Int) {b : Int} (h : 0 < b) : pyDiv a b = a / b :=
  Int.fdiv_eq_ediv_of_nonneg a (Int.le_of_lt h)

theorem pyMod_of_pos (a : Int) {b : Int} (h : 0 < b) : pyMod a b = a % b := by
  unfold pyMod; exact Int.fmod_eq_emod_of_nonneg a (Int.le_of_lt h)

theorem pyMod_eq_of_lt {a b : Int} (h0 : 0 ≤ a) (h1 : a < b) : pyMod a b = a := by
  rw [pyMod_of_pos _ (by omega), Int.emod_eq_of_lt h0 h1]

theorem pyMod_range (x n : Int) (hn : 0 < n) : 0 ≤ pyMod x n ∧ pyMod x n < n := by
  rw [pyMod_of_pos _ hn]; exact ⟨Int.emod_nonneg _ hn.ne', Int.emod_lt_of_pos _ hn⟩

/-- a valid axis or index, negative or not, is normalised by `% n` -/
theorem pyMod_cases (a n : Int) (hn : 0 < n) (h : -n ≤ a ∧ a < n) :
    pyMod a n = if a < 0 then a + n else a := by
  rw [pyMod_of_pos _ hn]
  split
  · rw [← Int.add_emod_right]
    exact Int.emod_eq_of_lt (by omega) (by omega)
  · exact Int.emod_eq_of_lt (by omega) (by omega)

theorem pyDiv_two (a : Int) : pyDiv a 2 = a / 2 := pyDiv_of_pos a (by decide)

theorem pyDiv_mul_add_sub (n S x : Int) (hS : 0 < S) : pyDiv (n * S + x - x) S = n := by
  rw [pyDiv_of_pos _ hS, Int.add_sub_cancel, Int.mul_ediv_cancel _ hS.ne']

theorem lt_ceilDiv_iff {k d s : Int} (hs : 0 < s) : k < (d + s - 1) / s ↔ k * s < d := by
  rw [Int.lt_iff_add_one_le, Int.le_ediv_iff_mul_le hs, add_mul, one_mul]
  omega

theorem mem_pyRange {a b s x : Int} (hs : 0 < s) :
    x ∈ pyRange a b s ↔ a ≤ x ∧ x < b ∧ (x - a) % s = 0 := by
  unfold pyRange
  rw [if_neg (Int.not_le.mpr hs)]
  simp only [List.mem_map, List.mem_range]
  constructor
  · rintro ⟨k, hk, rfl⟩
    have hk' : (k : Int) * s < b - a := (lt_ceilDiv_iff hs).mp (by omega)
    have : 0 ≤ (k : Int) * s := Int.mul_nonneg (Int.natCast_nonneg k) hs.le
    exact ⟨by omega, by omega, by simp⟩
  · rintro ⟨h1, h2, h3⟩
    have hq := Int.ediv_mul_cancel (Int.dvd_of_emod_eq_zero h3)
    have hq0 : 0 ≤ (x - a) / s := Int.ediv_nonneg (by omega) hs.le
    refine ⟨((x - a) / s).toNat, ?_, by rw [Int.toNat_of_nonneg hq0]; omega⟩
    have := (lt_ceilDiv_iff (d := b - a) hs).mpr (by omega : (x - a) / s * s < b - a)
    omega

theorem mem_pyRange_one {a b x : Int} : x ∈ pyRange a b 1 ↔ a ≤ x ∧ x < b := by
  rw [mem_pyRange Int.one_pos, Int.emod_one, eq_self_iff_true, and_true]

/-- the form the translator emits for `range(n)` -/
theorem mem_pyRange0' {n x : Int} : x ∈ pyRange (0 : Int) n (1 : Int) ↔ 0 ≤ x ∧ x < n := mem_pyRange_one

theorem mem_pyRange0 {n x : Int} : x ∈ pyRange0 n ↔ 0 ≤ x ∧ x < n := mem_pyRange0'

theorem pyRange0_eq_range (n : Int) :
    pyRange0 n = (List.range n.toNat).map (fun m : Nat => (m : Int)) := by
  unfold pyRange0 pyRange
  simp

theorem pyRange_nodup (a b s : Int) : (pyRange a b s).Nodup := by
  unfold pyRange
  split
  · exact List.nodup_nil
  · refine List.nodup_range.map _ fun k₁ k₂ hne h => hne ?_
    exact Int.ofNat_inj.mp (Int.eq_of_mul_eq_mul_right (by omega) (Int.add_left_cancel h))

/-- The scatter loop `for bx in range(ix % S, B, S): nx = (ix - bx) // S; if 0 ≤ nx < N` visits exactly
    the (block, offset) pairs with `nx·S + bx = ix`. -/
theorem scatter_iff (S B N ix bx : Int) (hS : 0 < S) :
    (bx ∈ pyRange (pyMod ix S) B S ∧ 0 ≤ pyDiv (ix - bx) S ∧ pyDiv (ix - bx) S < N) ↔
      (0 ≤ bx ∧ bx < B ∧ 0 ≤ pyDiv (ix - bx) S ∧ pyDiv (ix - bx) S < N ∧ ix = pyDiv (ix - bx) S * S + bx) := by
  -- the range condition `(bx - ix % S) % S = 0` says `bx ≡ ix (mod S)`
  rw [mem_pyRange hS, pyMod_of_pos _ hS, pyDiv_of_pos _ hS, Int.sub_emod_emod,
    ← Int.emod_eq_emod_iff_emod_sub_eq_zero]
  have hr0 : 0 ≤ ix % S := Int.emod_nonneg _ hS.ne'
  constructor
  · rintro ⟨⟨h1, h2, h3⟩, h4, h5⟩
    have := Int.ediv_mul_cancel
      (Int.dvd_of_emod_eq_zero (Int.emod_eq_emod_iff_emod_sub_eq_zero.mp h3.symm))
    exact ⟨by omega, h2, h4, h5, by omega⟩
  · rintro ⟨h0, h2, h4, h5, h6⟩
    have e : bx % S = ix % S := by
      rw [eq_comm, Int.emod_eq_emod_iff_emod_sub_eq_zero, show ix - bx = (ix - bx) / S * S by omega,
        Int.mul_emod_left]
    have := Int.emod_add_mul_ediv bx S
    have := Int.mul_nonneg hS.le (Int.ediv_nonneg h0 hS.le)
    exact ⟨⟨by omega, h2, e⟩, h4, h5⟩

theorem mem_scatter_range {S B n x : Int} (hS : 0 < S) (hn : 0 ≤ n) (hx0 : 0 ≤ x) (hxB : x < B) :
    x ∈ pyRange (pyMod (n * S + x) S) B S := by
  have hq := pyDiv_mul_add_sub n S x hS
  exact ((scatter_iff S B (n + 1) (n * S + x) x hS).mpr
    ⟨hx0, hxB, by rw [hq]; exact hn, by rw [hq]; exact Int.lt_succ n, by rw [hq]⟩).1

theorem pyMax_eq_max (a b : Int) : pyMax a b = max a b := by unfold pyMax; split <;> omega

theorem pyMin_eq_min (a b : Int) : pyMin a b = min a b := by unfold pyMin; split <;> omega

theorem ratAbs_eq_abs (a : Rat) : ratAbs a = |a| := by
  unfold ratAbs
  by_cases h : a < 0
  · rw [if_pos h, abs_of_neg h]
  · rw [if_neg h, abs_of_nonneg (not_lt.mp h)]

universe u v w

theorem getD_of_lt {α : Type u} (l : List α) (i : Nat) (h : i < l.length) (d : α) :
    l.getD i d = l[i] := by
  rw [List.getD_eq_getElem?_getD, List.getElem?_eq_getElem h, Option.getD_some]

theorem getD_map_lt {α : Type u} {β : Type v} (f : α → β) (l : List α) (i : Nat) (h : i < l.length)
    (d : β) (d' : α) : (l.map f).getD i d = f (l.getD i d') := by
  rw [getD_of_lt _ _ (by rwa [List.length_map]), getD_of_lt _ _ h, List.getElem_map]

theorem getD_zipWith_lt {α : Type u} {β : Type v} {γ : Type w} (f : α → β → γ) (a : List α)
    (b : List β) (i : Nat) (ha : i < a.length) (hb : i < b.length) (d : γ) (da : α) (db : β) :
    (List.zipWith f a b).getD i d = f (a.getD i da) (b.getD i db) := by
  rw [getD_of_lt _ _ (by rw [List.length_zipWith]; omega), getD_of_lt _ _ ha, getD_of_lt _ _ hb,
    List.getElem_zipWith]

theorem ext_getD {α : Type u} (d : α) {a b : List α} (hl : a.length = b.length)
    (h : ∀ i, i < a.length → a.getD i d = b.getD i d) : a = b :=
  List.ext_getElem hl fun i h1 h2 => by rw [← getD_of_lt a i h1 d, ← getD_of_lt b i h2 d, h i h1]

theorem getD_set_ne {α : Type u} (l : List α) {i j : Nat} (v d : α) (h : i ≠ j) :
    (l.set i v).getD j d = l.getD j d := by
  rw [List.getD_eq_getElem?_getD, List.getD_eq_getElem?_getD, List.getElem?_set_ne h]

theorem getD_set_self {α : Type u} (l : List α) {i : Nat} (v d : α) (h : i < l.length) :
    (l.set i v).getD i d = v := by
  rw [List.getD_eq_getElem?_getD, List.getElem?_set_self h, Option.getD_some]

/-- A loop whose body records its own loop variable (recoverable by `key`) emits no duplicates as
    soon as each single iteration emits none.  `P` is what the enclosing loops still have to know
    about every emitted element (that *their* keys recover *their* variables), so that a whole nest
    is handled in one pass from the outside in. -/
theorem nodup_flatMap_key {α : Type u} {β : Type v} {l : List α} {f : α → List β} (key : β → α)
    {P : β → Prop} (hl : l.Nodup) (hf : ∀ x, (f x).Nodup ∧ ∀ y ∈ f x, key y = x ∧ P y) :
    (l.flatMap f).Nodup ∧ ∀ y ∈ l.flatMap f, P y := by
  refine ⟨List.pairwise_flatMap.mpr ⟨fun x _ => (hf x).1, hl.imp ?_⟩, fun y hy => ?_⟩
  · intro a b hab y hya z hzb hyz
    exact hab (((hf a).2 y hya).1.symm.trans (hyz ▸ ((hf b).2 z hzb).1))
  · obtain ⟨x, _, hx⟩ := List.mem_flatMap.mp hy
    exact ((hf x).2 y hx).2

end SigpyVerif
