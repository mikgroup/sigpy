import SigpyVerif.Props.C05
import SigpyVerif.Props.C07
import SigpyVerif.Props.C09Nd
import Mathlib.Analysis.InnerProductSpace.Adjoint
import Mathlib.Analysis.InnerProductSpace.PiL2
/-
  Bridging lemmas for C06: the stage facts proved by C05 (DFT matrices), C09 (resize index relation) and
  C07 (update lists of interpolate / gridding) are turned into linear maps between the Euclidean spaces
  `EuclideanSpace ℂ (Fin n)` so that `pipeline_adjoint` can consume them.
-/
namespace SigpyVerif.C06
open SigpyVerif Matrix ComplexConjugate
open scoped InnerProductSpace

theorem inner_toEuclideanLin {m n : Type*} [Fintype m] [Fintype n] [DecidableEq m] [DecidableEq n]
    (A : Matrix m n ℂ) (u : EuclideanSpace ℂ n) (v : EuclideanSpace ℂ m) :
    ⟪Matrix.toEuclideanLin A u, v⟫_ℂ = ⟪u, Matrix.toEuclideanLin Aᴴ v⟫_ℂ := by
  simp only [Matrix.toEuclideanLin_conjTranspose_eq_adjoint, LinearMap.adjoint_inner_right]

theorem inner_toEuclideanLin_of_conjTranspose {m n : Type*} [Fintype m] [Fintype n] [DecidableEq m] [DecidableEq n]
    {A : Matrix m n ℂ} {A' : Matrix n m ℂ} (h : Aᴴ = A') (u : EuclideanSpace ℂ n) (v : EuclideanSpace ℂ m) :
    ⟪Matrix.toEuclideanLin A u, v⟫_ℂ = ⟪u, Matrix.toEuclideanLin A' v⟫_ℂ :=
  h ▸ inner_toEuclideanLin A u v

theorem inner_toEuclideanLin_of_conjTranspose_smul {m n : Type*} [Fintype m] [Fintype n] [DecidableEq m]
    [DecidableEq n] {A : Matrix m n ℂ} {A' : Matrix n m ℂ} {c : ℂ} (h : Aᴴ = c • A') (u : EuclideanSpace ℂ n)
    (v : EuclideanSpace ℂ m) :
    ⟪Matrix.toEuclideanLin A u, v⟫_ℂ = ⟪u, c • Matrix.toEuclideanLin A' v⟫_ℂ := by
  rw [inner_toEuclideanLin_of_conjTranspose h, LinearEquiv.map_smul]
  rfl

theorem toEuclideanLin_mul_apply {ι μ κ : Type} [Fintype ι] [Fintype μ] [DecidableEq ι] [DecidableEq μ]
    (A : Matrix κ μ ℂ) (B : Matrix μ ι ℂ) (u : EuclideanSpace ℂ ι) (s : κ) :
    WithLp.ofLp (Matrix.toEuclideanLin A (Matrix.toEuclideanLin B u)) s = ∑ n, (A * B) s n * WithLp.ofLp u n :=
  congrFun (Matrix.mulVec_mulVec (WithLp.ofLp u) A B) s

theorem toEuclideanLin_diagonal_apply {ι : Type} [Fintype ι] [DecidableEq ι] (d : ι → ℂ) (x : EuclideanSpace ℂ ι)
    (n : ι) : WithLp.ofLp (Matrix.toEuclideanLin (Matrix.diagonal d) x) n = d n * WithLp.ofLp x n :=
  Matrix.mulVec_diagonal d (WithLp.ofLp x) n

/-- `util.resize` with default shifts on one axis of length `i`, output length `o`, as a 0/1 matrix:
    entry `(k, j)` is 1 iff output index `k` reads input index `j` in C09's model. -/
def resizeMat (i o : ℕ) : Matrix (Fin o) (Fin i) ℂ := Matrix.of fun k j =>
  if C09.resizeSrc1 (i : ℤ) (o : ℤ) (Gen.resizeIshiftDefault i o) (Gen.resizeOshiftDefault i o) ((k : ℕ) : ℤ)
      = some ((j : ℕ) : ℤ) then 1 else 0

/-- crop back = transpose of zero-pad (and vice versa): C09's `resize_transpose` with `resize_default_swap` -/
theorem resizeMat_transpose (i o : ℕ) : resizeMat o i = (resizeMat i o)ᵀ := by
  ext j k
  simp only [resizeMat, of_apply, transpose_apply]
  have h := C09.resize_transpose (i : ℤ) (o : ℤ) (Gen.resizeIshiftDefault i o) (Gen.resizeOshiftDefault i o)
    ((k : ℕ) : ℤ) ((j : ℕ) : ℤ)
  have e1 : Gen.resizeIshiftDefault (o : ℤ) i = Gen.resizeOshiftDefault i o := C09.resize_default_swap o i
  have e2 : Gen.resizeOshiftDefault (o : ℤ) i = Gen.resizeIshiftDefault i o := (C09.resize_default_swap i o).symm
  rw [e1, e2]
  simp only [← h]

theorem resizeMat_conjTranspose (i o : ℕ) : (resizeMat i o)ᴴ = resizeMat o i := by
  rw [resizeMat_transpose o i]
  ext j k
  simp only [resizeMat, conjTranspose_apply, transpose_apply, of_apply, apply_ite star, star_one, star_zero]

theorem resizeMat_apply (i o : ℕ) (k : Fin o) (j : Fin i) :
    resizeMat i o k j = if ((j : ℕ) : ℤ) - (i : ℤ) / 2 = ((k : ℕ) : ℤ) - (o : ℤ) / 2 then 1 else 0 := by
  simp only [resizeMat, of_apply, C09.resize_default_aligns, Int.natCast_nonneg, Int.ofNat_lt, k.2, j.2, true_and]

theorem resizeMat_self (n : ℕ) : resizeMat n n = 1 := by
  ext k j
  simp only [resizeMat_apply, one_apply, sub_left_inj, Nat.cast_inj, Fin.val_inj, eq_comm]

/-- a vector of length `n` as a function of the multi-index `[0, s]` (batch index 0), zero elsewhere -/
def emb (n : ℕ) (x : Fin n → ℂ) (l : List Int) : ℂ := ∑ s : Fin n, if l = [0, ((s : ℕ) : ℤ)] then x s else 0

theorem idx_inj {n : ℕ} {a b : Fin n} (h : ([0, ((a : ℕ) : ℤ)] : List Int) = [0, ((b : ℕ) : ℤ)]) : a = b :=
  Fin.ext (Int.ofNat_inj.mp (List.head_eq_of_cons_eq (List.tail_eq_of_cons_eq h)))

theorem emb_apply (n : ℕ) (x : Fin n → ℂ) (s : Fin n) : emb n x [0, ((s : ℕ) : ℤ)] = x s :=
  (Finset.sum_eq_single_of_mem s (Finset.mem_univ s) fun _ _ hb => if_neg fun h => hb (idx_inj h).symm).trans
    (if_pos rfl)

theorem emb_add (n : ℕ) (x y : Fin n → ℂ) : emb n (x + y) = emb n x + emb n y := by
  funext l
  simp only [emb, Pi.add_apply, ← Finset.sum_add_distrib, ← ite_add_zero]

theorem emb_smul (n : ℕ) (c : ℂ) (x : Fin n → ℂ) : emb n (c • x) = c • emb n x := by
  funext l
  simp only [emb, Pi.smul_apply, smul_eq_mul, Finset.mul_sum, mul_ite, mul_zero]

theorem runUpd_add (E : List (Upd ℂ)) (x y : List Int → ℂ) (d : List Int) :
    C07.runUpd true E (x + y) (fun _ => 0) d =
      C07.runUpd true E x (fun _ => 0) d + C07.runUpd true E y (fun _ => 0) d := by
  simp only [C07.runUpd_acc_eq_sum, zero_add, Pi.add_apply, mul_add, List.sum_map_add]

theorem runUpd_smul (E : List (Upd ℂ)) (c : ℂ) (x : List Int → ℂ) (d : List Int) :
    C07.runUpd true E (c • x) (fun _ => 0) d = c * C07.runUpd true E x (fun _ => 0) d := by
  simp only [C07.runUpd_acc_eq_sum, zero_add, Pi.smul_apply, smul_eq_mul, mul_left_comm _ c, List.sum_map_mul_left]

/-- C07's `transpose_pairing` as an adjoint identity, over index types `ι`, `κ` that carry the sources and destinations
    of the list: with real weights, running the list commutes with conjugation -/
theorem runUpd_pairing {ι κ : Type} [Fintype ι] [Fintype κ] (E : List (Upd ℂ)) (hw : ∀ u ∈ E, conj u.2.2 = u.2.2)
    {ix : ι → List Int} {jx : κ → List Int} (hix : Function.Injective ix) (hjx : Function.Injective jx)
    (hd : ∀ u ∈ E, ∃ j : κ, u.1 = jx j) (hs : ∀ u ∈ E, ∃ s : ι, u.2.1 = ix s) (g y : List Int → ℂ) :
    ∑ j, y (jx j) * conj (C07.runUpd true E g (fun _ => 0) (jx j)) =
      ∑ s, C07.runUpd true (E.map C07.swapUpd) y (fun _ => 0) (ix s) * conj (g (ix s)) := by
  have hconj : ∀ d, conj (C07.runUpd true E g (fun _ => 0) d) =
      C07.runUpd true E (fun l => conj (g l)) (fun _ => 0) d := fun d => by
    simp only [C07.runUpd_acc_eq_sum, zero_add, map_list_sum, List.map_map]
    congr 1
    apply List.map_congr_left
    intro u hu
    simp only [Function.comp_apply, map_mul, hw u (List.mem_of_mem_filter hu)]
  have key := C07.transpose_pairing E (fun l => conj (g l)) y (Finset.univ.image ix) (Finset.univ.image jx)
    (fun u hu => by
      obtain ⟨s, hs'⟩ := hs u hu
      rw [hs']; exact Finset.mem_image_of_mem _ (Finset.mem_univ s))
    (fun u hu => by
      obtain ⟨j, hj'⟩ := hd u hu
      rw [hj']; exact Finset.mem_image_of_mem _ (Finset.mem_univ j))
  rw [Finset.sum_image fun _ _ _ _ h => hix h, Finset.sum_image fun _ _ _ _ h => hjx h] at key
  simp only [hconj, ← key]
  exact Finset.sum_congr rfl fun i _ => mul_comm _ _

/-- the result of running the update list `E` (`+=` semantics, zero-initialised output) on `x`, read at `[0, j]` -/
def updFun (E : List (Upd ℂ)) (n m : ℕ) (x : Fin n → ℂ) : Fin m → ℂ :=
  fun j => C07.runUpd true E (emb n x) (fun _ => 0) [0, ((j : ℕ) : ℤ)]

theorem updFun_eq (E : List (Upd ℂ)) (n m : ℕ) (x : Fin n → ℂ) (j : Fin m) :
    updFun E n m x j =
      ((E.filter (fun u => u.1 = [0, ((j : ℕ) : ℤ)])).map (fun u => u.2.2 * emb n x u.2.1)).sum := by
  unfold updFun
  rw [C07.runUpd_acc_eq_sum, zero_add]

theorem updFun_add (E : List (Upd ℂ)) (n m : ℕ) (x y : Fin n → ℂ) :
    updFun E n m (x + y) = updFun E n m x + updFun E n m y := by
  funext j
  simp only [updFun, emb_add, runUpd_add, Pi.add_apply]

theorem updFun_smul (E : List (Upd ℂ)) (n m : ℕ) (c : ℂ) (x : Fin n → ℂ) :
    updFun E n m (c • x) = c • updFun E n m x := by
  funext j
  simp only [updFun, emb_smul, runUpd_smul, Pi.smul_apply, smul_eq_mul]

/-- the update list as a linear map `ℂ^n → ℂ^m` -/
noncomputable def updLin (E : List (Upd ℂ)) (n m : ℕ) : EuclideanSpace ℂ (Fin n) →ₗ[ℂ] EuclideanSpace ℂ (Fin m) where
  toFun x := WithLp.toLp 2 (updFun E n m (WithLp.ofLp x))
  map_add' x y := by
    simp only [WithLp.ofLp_add, updFun_add, WithLp.toLp_add]
  map_smul' c x := by
    simp only [WithLp.ofLp_smul, updFun_smul, WithLp.toLp_smul, RingHom.id_apply]

theorem updLin_apply (E : List (Upd ℂ)) (n m : ℕ) (x : EuclideanSpace ℂ (Fin n)) (j : Fin m) :
    WithLp.ofLp (updLin E n m x) j = updFun E n m (WithLp.ofLp x) j := rfl

/-- **gridding = interpolationᴴ** for the linear maps: when every weight of `E` is real, every destination is
    `[0, j]` with `j < m` and every source `[0, s]` with `s < n`, the swapped list is the adjoint
    (from C07's `transpose_pairing`). -/
theorem updLin_adjoint (E : List (Upd ℂ)) (n m : ℕ) (hw : ∀ u ∈ E, conj u.2.2 = u.2.2)
    (hd : ∀ u ∈ E, ∃ j : Fin m, u.1 = [0, ((j : ℕ) : ℤ)]) (hs : ∀ u ∈ E, ∃ s : Fin n, u.2.1 = [0, ((s : ℕ) : ℤ)])
    (x : EuclideanSpace ℂ (Fin n)) (y : EuclideanSpace ℂ (Fin m)) :
    ⟪updLin E n m x, y⟫_ℂ = ⟪x, updLin (E.map C07.swapUpd) m n y⟫_ℂ := by
  have key := runUpd_pairing E hw (ix := fun s : Fin n => [0, ((s : ℕ) : ℤ)]) (jx := fun j : Fin m => [0, ((j : ℕ) : ℤ)])
    (fun _ _ h => idx_inj h) (fun _ _ h => idx_inj h) hd hs (emb n (WithLp.ofLp x)) (emb m (WithLp.ofLp y))
  simp only [emb_apply] at key
  rw [EuclideanSpace.inner_eq_star_dotProduct, EuclideanSpace.inner_eq_star_dotProduct]
  exact key

/-- the update list of C07 (rational kernel arguments / weights) with every weight sent through a real-valued
    function and used as a complex multiplier: "complex data × real weights" -/
def cw (wt : Rat → ℝ) (E : List (Upd Rat)) : List (Upd ℂ) := E.map fun u => (u.1, u.2.1, ((wt u.2.2 : ℝ) : ℂ))

theorem cw_swap (wt : Rat → ℝ) (E : List (Upd Rat)) : cw wt (E.map C07.swapUpd) = (cw wt E).map C07.swapUpd := by
  simp only [cw, List.map_map]
  rfl

theorem cw_real (wt : Rat → ℝ) (E : List (Upd Rat)) : ∀ u ∈ cw wt E, conj u.2.2 = u.2.2 := by
  intro u hu
  obtain ⟨v, _, rfl⟩ := List.mem_map.mp hu
  exact Complex.conj_ofReal _

theorem exists_fin_cast {n : ℕ} {z : ℤ} (h0 : 0 ≤ z) (h1 : z < n) : ∃ s : Fin n, ((s : ℕ) : ℤ) = z :=
  ⟨⟨z.toNat, by omega⟩, Int.toNat_of_nonneg h0⟩

theorem exists_fin_pyMod {n : ℕ} (hn : 0 < n) (z : ℤ) : ∃ s : Fin n, ((s : ℕ) : ℤ) = pyMod z n :=
  have h := pyMod_range z n (by exact_mod_cast hn)
  exists_fin_cast h.1 h.2

end SigpyVerif.C06
