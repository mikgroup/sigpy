import SigpyVerif.Model.C05
import SigpyVerif.Lemmas.Py
import Mathlib.RingTheory.RootsOfUnity.Complex
import Mathlib.Analysis.RCLike.Basic
import Mathlib.LinearAlgebra.Matrix.ConjTranspose
import Mathlib.LinearAlgebra.Matrix.Kronecker
/-
  Helper lemmas for C05 (roots of unity, geometric sums).
-/
namespace SigpyVerif.C05
open SigpyVerif Finset

variable {K : Type*} [Field K]

/-- exponents of an `n`-th root of unity only matter modulo `n` -/
theorem zpow_emod_of_pow_eq_one {ω : K} {n : ℕ} (h1 : ω ^ n = 1) (hω : ω ≠ 0) (a : ℤ) :
    ω ^ (a % (n : ℤ)) = ω ^ a := by
  conv_rhs => rw [← Int.emod_add_mul_ediv a n]
  rw [zpow_add₀ hω, zpow_mul, zpow_natCast, h1, one_zpow, mul_one]

/-- geometric sum of a non-trivial `n`-th root of unity -/
theorem geom_sum_root {ζ : K} {n : ℕ} (h1 : ζ ^ n = 1) (hne : ζ ≠ 1) : ∑ k ∈ range n, ζ ^ k = 0 := by
  have h := geom_sum_mul ζ n
  rw [h1, sub_self] at h
  rcases mul_eq_zero.mp h with h | h
  · exact h
  · exact absurd (sub_eq_zero.mp h) hne

/-- orthogonality of the (shifted) DFT characters over any field -/
theorem char_orthogonality {ω : K} {n : ℕ} (hω : IsPrimitiveRoot ω n) (hn : 0 < n) (c : ℤ) (j j' : ℕ)
    (hj : j < n) (hj' : j' < n) :
    ∑ k ∈ range n, (ω⁻¹) ^ (((k : ℤ) - c) * ((j : ℤ) - c)) * ω ^ (((k : ℤ) - c) * ((j' : ℤ) - c)) =
      if j = j' then (n : K) else 0 := by
  have h0 : ω ≠ 0 := hω.ne_zero hn.ne'
  -- each term is a constant times the `k`-th power of `ω ^ (j' - j)`
  have step : ∀ k : ℕ, (ω⁻¹) ^ (((k : ℤ) - c) * ((j : ℤ) - c)) * ω ^ (((k : ℤ) - c) * ((j' : ℤ) - c)) =
      ω ^ (-c * ((j' : ℤ) - j)) * (ω ^ ((j' : ℤ) - j)) ^ k := by
    intro k
    rw [inv_zpow', ← zpow_add₀ h0, ← zpow_natCast, ← zpow_mul, ← zpow_add₀ h0]
    congr 1; ring
  simp only [step, ← Finset.mul_sum]
  split_ifs with h
  · subst h
    simp only [sub_self, mul_zero, zpow_zero, one_pow, sum_const, card_range, nsmul_eq_mul, mul_one, one_mul]
  · have hne : ω ^ ((j' : ℤ) - j) ≠ 1 := fun h1 =>
      h (by have := Int.eq_zero_of_abs_lt_dvd ((hω.zpow_eq_one_iff_dvd _).mp h1) (by rw [abs_lt]; omega)
            omega)
    have h1 : (ω ^ ((j' : ℤ) - j)) ^ n = 1 := by
      rw [← zpow_natCast, zpow_comm, zpow_natCast, hω.pow_eq_one, one_zpow]
    rw [geom_sum_root h1 hne, mul_zero]

end SigpyVerif.C05
