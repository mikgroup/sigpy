import SigpyVerif.Lemmas.C04CoverND
import SigpyVerif.Lemmas.C04CoverIff
/-
  C04 — `BlocksToArray.N = A Aᴴ` on block arrays in 2-D and 3-D (the generated loop nests `Gen.a2b2 / b2a2 /
  a2b3 / b2a3`): the identity iff on EVERY block axis the blocks do not overlap (`B ≤ S`) or there is a single
  block (`b2a2_normal_identity_iff`, `b2a3_normal_identity_iff`), extending the 1-D `b2a_normal_identity_iff`.
  The core is per axis: under `B ≤ S ∨ N ≤ 1` the scatter loop of one axis visits exactly one (block, offset)
  pair for each target (`scatter_sum_unique`); with an all-ones block array it counts the cover (`scatter_sum_const`).
-/
namespace SigpyVerif.C04
open SigpyVerif SigpyVerif.C01

/-- one axis, no overlap or one block: the scatter loop over the offsets `bx` that can reach the target
    `n·S + x` of block entry `(n, x)` finds that entry and nothing else -/
theorem scatter_sum_unique (B S N : Int) (hS : 0 < S) (h : B ≤ S ∨ N ≤ 1) (n x : Int) (hn : 0 ≤ n ∧ n < N)
    (hx : 0 ≤ x ∧ x < B) (f : Int → Int → Rat) :
    ((pyRange (pyMod (n * S + x) S) B S).map fun bx =>
        if (0 ≤ pyDiv (n * S + x - bx) S ∧ pyDiv (n * S + x - bx) S < N) then f (pyDiv (n * S + x - bx) S) bx
        else 0).sum = f n x := by
  rw [scatter_sum_single B S N hS h n x hn hx fun bx => f (pyDiv (n * S + x - bx) S) bx, pyDiv_mul_add_sub n S x hS]

/-- one axis, constant summand: the scatter loop counts the (block, offset) pairs landing on `i` -/
theorem scatter_sum_const (B S N i : Int) (c : Rat) :
    ((pyRange (pyMod i S) B S).map fun bx =>
        if (0 ≤ pyDiv (i - bx) S ∧ pyDiv (i - bx) S < N) then c else 0).sum = (coverScatter B S N i : Rat) * c := by
  unfold coverScatter
  exact sum_map_ite_const _ _ _

theorem cover_origin_pos (B S N : Int) (hB : 0 < B) (hN : 0 < N) : 1 ≤ coverPairs B S N 0 := by
  exact (cover_pos_iff B S N 0).mpr ⟨0, 0, le_refl _, hN, le_refl _, hB, by rw [zero_mul, add_zero]⟩

theorem nat_cast_mul_eq_one {a b : Nat} (h : ((a : Rat) * (b : Rat)) = 1) : a = 1 ∧ b = 1 := by
  have : a * b = 1 := by exact_mod_cast h
  exact nat_mul_eq_one this

/-- `BlocksToArray.N` in 2-D as a function: `A (Aᴴ y)` at block entry `(b, ny, nx, y', x')` sums the block entries
    that share its array target `(ny·Sy + y', nx·Sx + x')` -/
theorem a2b2_b2a2_apply (osh ish osh' ish' : Int → Int) (batch Bx By Sx Sy Nx Ny : Int) (hSx : 0 < Sx) (hSy : 0 < Sy)
    (hlen1 : osh (-1) = ish' (-1)) (hlen2 : osh (-2) = ish' (-2)) (y : List Int → Rat) (b ny nx y' x' : Int)
    (hb : 0 ≤ b ∧ b < batch) (hny : 0 ≤ ny ∧ ny < Ny) (hnx : 0 ≤ nx ∧ nx < Nx) (hy : 0 ≤ y' ∧ y' < By)
    (hx : 0 ≤ x' ∧ x' < Bx) (hfy : ny * Sy + y' < osh (-2)) (hfx : nx * Sx + x' < osh (-1)) :
    applyF (Gen.a2b2 osh' ish' batch Bx By Sx Sy Nx Ny) (applyF (Gen.b2a2 osh ish batch Bx By Sx Sy Nx Ny) y)
        [b, ny, nx, y', x']
      = ((pyRange (pyMod (ny * Sy + y') Sy) By Sy).map fun by' =>
          if (0 ≤ pyDiv (ny * Sy + y' - by') Sy ∧ pyDiv (ny * Sy + y' - by') Sy < Ny) then
            ((pyRange (pyMod (nx * Sx + x') Sx) Bx Sx).map fun bx =>
              if (0 ≤ pyDiv (nx * Sx + x' - bx) Sx ∧ pyDiv (nx * Sx + x' - bx) Sx < Nx) then
                y [b, pyDiv (ny * Sy + y' - by') Sy, pyDiv (nx * Sx + x' - bx) Sx, by', bx] else 0).sum
          else 0).sum := by
  have h0y : 0 ≤ ny * Sy + y' := add_nonneg (mul_nonneg hny.1 (le_of_lt hSy)) hy.1
  have h0x : 0 ≤ nx * Sx + x' := add_nonneg (mul_nonneg hnx.1 (le_of_lt hSx)) hx.1
  rw [a2b2_apply, if_pos hb, if_pos hny, if_pos hnx, if_pos hy, if_pos hx,
    if_pos ⟨hlen1 ▸ hfx, hlen2 ▸ hfy⟩, b2a2_apply, if_pos hb, if_pos ⟨h0y, hfy⟩, if_pos ⟨h0x, hfx⟩]

/-- **`BlocksToArray.N` in 2-D is the identity iff on both block axes the blocks do not overlap or there is a
    single block.**  For the generated 2-D loop nests with at least one block of positive size per axis, all
    blocks fitting into the array (what `num_blks` guarantees): `A (Aᴴ y) = y` for every block array `y`
    ⇔ `(By ≤ Sy ∨ Ny ≤ 1) ∧ (Bx ≤ Sx ∨ Nx ≤ 1)`. -/
theorem b2a2_normal_identity_iff (osh ish osh' ish' : Int → Int) (batch Bx By Sx Sy Nx Ny : Int)
    (hSx : 0 < Sx) (hSy : 0 < Sy) (hBx : 0 < Bx) (hBy : 0 < By) (hNx : 0 < Nx) (hNy : 0 < Ny) (hbatch : 0 < batch)
    (hlen1 : osh (-1) = ish' (-1)) (hlen2 : osh (-2) = ish' (-2))
    (hfitx : ∀ n, 0 ≤ n → n < Nx → n * Sx + Bx ≤ osh (-1)) (hfity : ∀ n, 0 ≤ n → n < Ny → n * Sy + By ≤ osh (-2)) :
    (∀ (y : List Int → Rat) (b ny nx y' x' : Int), 0 ≤ b ∧ b < batch → 0 ≤ ny ∧ ny < Ny → 0 ≤ nx ∧ nx < Nx →
      0 ≤ y' ∧ y' < By → 0 ≤ x' ∧ x' < Bx →
      applyF (Gen.a2b2 osh' ish' batch Bx By Sx Sy Nx Ny) (applyF (Gen.b2a2 osh ish batch Bx By Sx Sy Nx Ny) y)
          [b, ny, nx, y', x'] = y [b, ny, nx, y', x']) ↔ (By ≤ Sy ∨ Ny ≤ 1) ∧ (Bx ≤ Sx ∨ Nx ≤ 1) := by
  constructor
  · intro h
    -- all-ones block array: the value at a block entry is cover_y · cover_x of its target
    have key : ∀ ny nx y' x', 0 ≤ ny ∧ ny < Ny → 0 ≤ nx ∧ nx < Nx → 0 ≤ y' ∧ y' < By → 0 ≤ x' ∧ x' < Bx →
        coverPairs By Sy Ny (ny * Sy + y') = 1 ∧ coverPairs Bx Sx Nx (nx * Sx + x') = 1 := by
      intro ny nx y' x' hny hnx hy hx
      have h1 := h (fun _ => 1) 0 ny nx y' x' ⟨le_refl _, hbatch⟩ hny hnx hy hx
      rw [a2b2_b2a2_apply osh ish osh' ish' batch Bx By Sx Sy Nx Ny hSx hSy hlen1 hlen2 _ 0 ny nx y' x'
        ⟨le_refl _, hbatch⟩ hny hnx hy hx ((Int.add_lt_add_left hy.2 _).trans_le (hfity ny hny.1 hny.2))
        ((Int.add_lt_add_left hx.2 _).trans_le (hfitx nx hnx.1 hnx.2))] at h1
      simp only [scatter_sum_const, mul_one] at h1
      rw [coverScatter_eq_coverPairs _ _ _ _ hSy, coverScatter_eq_coverPairs _ _ _ _ hSx] at h1
      exact nat_cast_mul_eq_one h1
    exact ⟨(cover_block_one_iff By Sy Ny hSy).mp fun n x hn hx =>
        (key n 0 x 0 hn ⟨le_refl _, hNx⟩ hx ⟨le_refl _, hBx⟩).1,
      (cover_block_one_iff Bx Sx Nx hSx).mp fun n x hn hx =>
        (key 0 n 0 x ⟨le_refl _, hNy⟩ hn ⟨le_refl _, hBy⟩ hx).2⟩
  · rintro ⟨hy2, hx2⟩ y b ny nx y' x' hb hny hnx hy hx
    rw [a2b2_b2a2_apply osh ish osh' ish' batch Bx By Sx Sy Nx Ny hSx hSy hlen1 hlen2 y b ny nx y' x'
      hb hny hnx hy hx ((Int.add_lt_add_left hy.2 _).trans_le (hfity ny hny.1 hny.2))
      ((Int.add_lt_add_left hx.2 _).trans_le (hfitx nx hnx.1 hnx.2)),
      scatter_sum_single By Sy Ny hSy hy2 ny y' hny hy, pyDiv_mul_add_sub ny Sy y' hSy,
      scatter_sum_single Bx Sx Nx hSx hx2 nx x' hnx hx, pyDiv_mul_add_sub nx Sx x' hSx]

/-- `BlocksToArray.N` in 3-D as a function (the joint guard of the three scatter loops split per axis) -/
theorem a2b3_b2a3_apply (osh ish osh' ish' : Int → Int) (batch Bx By Bz Sx Sy Sz Nx Ny Nz : Int)
    (hSx : 0 < Sx) (hSy : 0 < Sy) (hSz : 0 < Sz)
    (hlen1 : osh (-1) = ish' (-1)) (hlen2 : osh (-2) = ish' (-2)) (hlen3 : osh (-3) = ish' (-3))
    (y : List Int → Rat) (b nz ny nx z' y' x' : Int)
    (hb : 0 ≤ b ∧ b < batch) (hnz : 0 ≤ nz ∧ nz < Nz) (hny : 0 ≤ ny ∧ ny < Ny) (hnx : 0 ≤ nx ∧ nx < Nx)
    (hz : 0 ≤ z' ∧ z' < Bz) (hy : 0 ≤ y' ∧ y' < By) (hx : 0 ≤ x' ∧ x' < Bx)
    (hfz : nz * Sz + z' < osh (-3)) (hfy : ny * Sy + y' < osh (-2)) (hfx : nx * Sx + x' < osh (-1)) :
    applyF (Gen.a2b3 osh' ish' batch Bx By Bz Sx Sy Sz Nx Ny Nz)
        (applyF (Gen.b2a3 osh ish batch Bx By Bz Sx Sy Sz Nx Ny Nz) y) [b, nz, ny, nx, z', y', x']
      = ((pyRange (pyMod (nz * Sz + z') Sz) Bz Sz).map fun bz =>
          if (0 ≤ pyDiv (nz * Sz + z' - bz) Sz ∧ pyDiv (nz * Sz + z' - bz) Sz < Nz) then
            ((pyRange (pyMod (ny * Sy + y') Sy) By Sy).map fun by' =>
              if (0 ≤ pyDiv (ny * Sy + y' - by') Sy ∧ pyDiv (ny * Sy + y' - by') Sy < Ny) then
                ((pyRange (pyMod (nx * Sx + x') Sx) Bx Sx).map fun bx =>
                  if (0 ≤ pyDiv (nx * Sx + x' - bx) Sx ∧ pyDiv (nx * Sx + x' - bx) Sx < Nx) then
                    y [b, pyDiv (nz * Sz + z' - bz) Sz, pyDiv (ny * Sy + y' - by') Sy, pyDiv (nx * Sx + x' - bx) Sx,
                      bz, by', bx] else 0).sum
              else 0).sum
          else 0).sum := by
  have h0z : 0 ≤ nz * Sz + z' := add_nonneg (mul_nonneg hnz.1 (le_of_lt hSz)) hz.1
  have h0y : 0 ≤ ny * Sy + y' := add_nonneg (mul_nonneg hny.1 (le_of_lt hSy)) hy.1
  have h0x : 0 ≤ nx * Sx + x' := add_nonneg (mul_nonneg hnx.1 (le_of_lt hSx)) hx.1
  rw [a2b3_apply, if_pos hb, if_pos hnz, if_pos hny, if_pos hnx, if_pos hz, if_pos hy, if_pos hx,
    if_pos ⟨hlen1 ▸ hfx, hlen2 ▸ hfy, hlen3 ▸ hfz⟩,
    b2a3_apply_axes _ _ _ _ _ _ _ _ _ _ _ _ _ _ _ _ _ hb ⟨h0z, hfz⟩ ⟨h0y, hfy⟩ ⟨h0x, hfx⟩]

/-- **`BlocksToArray.N` in 3-D is the identity iff on all three block axes the blocks do not overlap or there is
    a single block.** -/
theorem b2a3_normal_identity_iff (osh ish osh' ish' : Int → Int) (batch Bx By Bz Sx Sy Sz Nx Ny Nz : Int)
    (hSx : 0 < Sx) (hSy : 0 < Sy) (hSz : 0 < Sz) (hBx : 0 < Bx) (hBy : 0 < By) (hBz : 0 < Bz)
    (hNx : 0 < Nx) (hNy : 0 < Ny) (hNz : 0 < Nz) (hbatch : 0 < batch)
    (hlen1 : osh (-1) = ish' (-1)) (hlen2 : osh (-2) = ish' (-2)) (hlen3 : osh (-3) = ish' (-3))
    (hfitx : ∀ n, 0 ≤ n → n < Nx → n * Sx + Bx ≤ osh (-1)) (hfity : ∀ n, 0 ≤ n → n < Ny → n * Sy + By ≤ osh (-2))
    (hfitz : ∀ n, 0 ≤ n → n < Nz → n * Sz + Bz ≤ osh (-3)) :
    (∀ (y : List Int → Rat) (b nz ny nx z' y' x' : Int), 0 ≤ b ∧ b < batch → 0 ≤ nz ∧ nz < Nz → 0 ≤ ny ∧ ny < Ny →
      0 ≤ nx ∧ nx < Nx → 0 ≤ z' ∧ z' < Bz → 0 ≤ y' ∧ y' < By → 0 ≤ x' ∧ x' < Bx →
      applyF (Gen.a2b3 osh' ish' batch Bx By Bz Sx Sy Sz Nx Ny Nz)
          (applyF (Gen.b2a3 osh ish batch Bx By Bz Sx Sy Sz Nx Ny Nz) y) [b, nz, ny, nx, z', y', x']
        = y [b, nz, ny, nx, z', y', x']) ↔
      (Bz ≤ Sz ∨ Nz ≤ 1) ∧ (By ≤ Sy ∨ Ny ≤ 1) ∧ (Bx ≤ Sx ∨ Nx ≤ 1) := by
  constructor
  · intro h
    -- all-ones block array: the value at a block entry is cover_z · cover_y · cover_x of its target
    have key : ∀ nz ny nx z' y' x', 0 ≤ nz ∧ nz < Nz → 0 ≤ ny ∧ ny < Ny → 0 ≤ nx ∧ nx < Nx → 0 ≤ z' ∧ z' < Bz →
        0 ≤ y' ∧ y' < By → 0 ≤ x' ∧ x' < Bx →
        coverPairs Bz Sz Nz (nz * Sz + z') = 1 ∧ coverPairs By Sy Ny (ny * Sy + y') = 1 ∧
          coverPairs Bx Sx Nx (nx * Sx + x') = 1 := by
      intro nz ny nx z' y' x' hnz hny hnx hz hy hx
      have h1 := h (fun _ => 1) 0 nz ny nx z' y' x' ⟨le_refl _, hbatch⟩ hnz hny hnx hz hy hx
      rw [a2b3_b2a3_apply osh ish osh' ish' batch Bx By Bz Sx Sy Sz Nx Ny Nz hSx hSy hSz hlen1 hlen2 hlen3 _ 0
        nz ny nx z' y' x' ⟨le_refl _, hbatch⟩ hnz hny hnx hz hy hx
        ((Int.add_lt_add_left hz.2 _).trans_le (hfitz nz hnz.1 hnz.2))
        ((Int.add_lt_add_left hy.2 _).trans_le (hfity ny hny.1 hny.2))
        ((Int.add_lt_add_left hx.2 _).trans_le (hfitx nx hnx.1 hnx.2))] at h1
      simp only [scatter_sum_const, mul_one] at h1
      rw [coverScatter_eq_coverPairs _ _ _ _ hSz, coverScatter_eq_coverPairs _ _ _ _ hSy,
        coverScatter_eq_coverPairs _ _ _ _ hSx, ← Nat.cast_mul] at h1
      obtain ⟨a1, a2⟩ := nat_cast_mul_eq_one h1
      exact ⟨a1, nat_mul_eq_one a2⟩
    exact ⟨(cover_block_one_iff Bz Sz Nz hSz).mp fun n x hn hx =>
        (key n 0 0 x 0 0 hn ⟨le_refl _, hNy⟩ ⟨le_refl _, hNx⟩ hx ⟨le_refl _, hBy⟩ ⟨le_refl _, hBx⟩).1,
      (cover_block_one_iff By Sy Ny hSy).mp fun n x hn hx =>
        (key 0 n 0 0 x 0 ⟨le_refl _, hNz⟩ hn ⟨le_refl _, hNx⟩ ⟨le_refl _, hBz⟩ hx ⟨le_refl _, hBx⟩).2.1,
      (cover_block_one_iff Bx Sx Nx hSx).mp fun n x hn hx =>
        (key 0 0 n 0 0 x ⟨le_refl _, hNz⟩ ⟨le_refl _, hNy⟩ hn ⟨le_refl _, hBz⟩ ⟨le_refl _, hBy⟩ hx).2.2⟩
  · rintro ⟨hz2, hy2, hx2⟩ y b nz ny nx z' y' x' hb hnz hny hnx hz hy hx
    rw [a2b3_b2a3_apply osh ish osh' ish' batch Bx By Bz Sx Sy Sz Nx Ny Nz hSx hSy hSz hlen1 hlen2 hlen3 y b
      nz ny nx z' y' x' hb hnz hny hnx hz hy hx
      ((Int.add_lt_add_left hz.2 _).trans_le (hfitz nz hnz.1 hnz.2))
      ((Int.add_lt_add_left hy.2 _).trans_le (hfity ny hny.1 hny.2))
      ((Int.add_lt_add_left hx.2 _).trans_le (hfitx nx hnx.1 hnx.2)),
      scatter_sum_single Bz Sz Nz hSz hz2 nz z' hnz hz, pyDiv_mul_add_sub nz Sz z' hSz,
      scatter_sum_single By Sy Ny hSy hy2 ny y' hny hy, pyDiv_mul_add_sub ny Sy y' hSy,
      scatter_sum_single Bx Sx Nx hSx hx2 nx x' hnx hx, pyDiv_mul_add_sub nx Sx x' hSx]

/-- 3 × 5 array, 2 × 2 blocks at stride 1 × 1 (2 × 4 blocks, all fit): the layout overlaps on both axes, so
    `BlocksToArray.N ≠ Identity` -/
example : ¬ (∀ (y : List Int → Rat) (b ny nx y' x' : Int), 0 ≤ b ∧ b < 1 → 0 ≤ ny ∧ ny < 2 → 0 ≤ nx ∧ nx < 4 →
    0 ≤ y' ∧ y' < 2 → 0 ≤ x' ∧ x' < 2 →
    applyF (Gen.a2b2 (shapeFn [1,2,4,2,2]) (shapeFn [1,3,5]) 1 2 2 1 1 4 2)
      (applyF (Gen.b2a2 (shapeFn [1,3,5]) (shapeFn [1,2,4,2,2]) 1 2 2 1 1 4 2) y) [b, ny, nx, y', x']
        = y [b, ny, nx, y', x']) := by
  rw [b2a2_normal_identity_iff (shapeFn [1,3,5]) (shapeFn [1,2,4,2,2]) (shapeFn [1,2,4,2,2]) (shapeFn [1,3,5])
    1 2 2 1 1 4 2 (by decide) (by decide) (by decide) (by decide) (by decide) (by decide) (by decide) rfl rfl
    (by intro n h0 h1; show n * 1 + 2 ≤ 5; omega) (by intro n h0 h1; show n * 1 + 2 ≤ 3; omega)]
  decide

/-- 4 × 6 array, 2 × 3 blocks at stride 2 × 3: tiling, `BlocksToArray.N = Identity` -/
example : (∀ (y : List Int → Rat) (b ny nx y' x' : Int), 0 ≤ b ∧ b < 1 → 0 ≤ ny ∧ ny < 2 → 0 ≤ nx ∧ nx < 2 →
    0 ≤ y' ∧ y' < 2 → 0 ≤ x' ∧ x' < 3 →
    applyF (Gen.a2b2 (shapeFn [1,2,2,2,3]) (shapeFn [1,4,6]) 1 3 2 3 2 2 2)
      (applyF (Gen.b2a2 (shapeFn [1,4,6]) (shapeFn [1,2,2,2,3]) 1 3 2 3 2 2 2) y) [b, ny, nx, y', x']
        = y [b, ny, nx, y', x']) := by
  rw [b2a2_normal_identity_iff (shapeFn [1,4,6]) (shapeFn [1,2,2,2,3]) (shapeFn [1,2,2,2,3]) (shapeFn [1,4,6])
    1 3 2 3 2 2 2 (by decide) (by decide) (by decide) (by decide) (by decide) (by decide) (by decide) rfl rfl
    (by intro n h0 h1; show n * 3 + 3 ≤ 6; omega) (by intro n h0 h1; show n * 2 + 2 ≤ 4; omega)]
  decide

end SigpyVerif.C04
