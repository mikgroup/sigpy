import SigpyVerif.Model.C07
import SigpyVerif.Lemmas.Py
import Mathlib.Tactic.Ring
import Mathlib.Tactic.Linarith
import Mathlib.Tactic.NormNum
import Mathlib.Data.List.Basic
import Mathlib.Algebra.Order.Field.Rat
import Mathlib.Algebra.Order.AbsoluteValue.Basic
import Mathlib.Algebra.BigOperators.Group.Finset.Basic
import Mathlib.Algebra.BigOperators.Ring.Finset
import Mathlib.Algebra.BigOperators.Group.Finset.Piecewise
/-
  Helper lemmas for C07 (and for C06, which reuses the window / period facts).
  `runUpd` (function-level semantics of an update list) is linked to the executable `applyUpd` in
  Props/C07Wrap.lean (`applyUpd_eq_runUpd`).
-/
namespace SigpyVerif.C07
open SigpyVerif

theorem cast2 : (((2 : Int) : Int) : Rat) = 2 := by norm_num

/-- the integers between `⌈c - W/2⌉` and `⌊c + W/2⌋` are exactly those within `W/2` of `c` -/
theorem window_iff_abs' (c W : Rat) (i : Int) :
    (Rat.ceil (c - W / 2) ≤ i ∧ i ≤ Rat.floor (c + W / 2)) ↔ |(i : Rat) - c| ≤ W / 2 := by
  rw [Rat.ceil_le_iff, Rat.le_floor_iff, abs_le, neg_le_sub_iff_le_add, sub_le_iff_le_add, sub_le_iff_le_add']

/-- membership in the generated window loop `range(x0, x1 + 1)` (in the exact form the translator emits) -/
theorem mem_window (c W : Rat) (x : Int) :
    x ∈ pyRange (Rat.ceil (c - W / (((2 : Int) : Int) : Rat)))
        (Rat.floor (c + W / (((2 : Int) : Int) : Rat)) + (1 : Int)) (1 : Int)
      ↔ |(x : Rat) - c| ≤ W / 2 := by
  rw [mem_pyRange_one, ← window_iff_abs', cast2, Int.lt_add_one_iff]

theorem pyRange_shift (a b n : Int) : pyRange (a + n) (b + n) 1 = (pyRange a b 1).map (· + n) := by
  unfold pyRange
  simp only [show ¬ ((1 : Int) ≤ 0) by omega, if_false, List.map_map]
  have : b + n - (a + n) + 1 - 1 = b - a + 1 - 1 := by ring
  rw [this]
  apply List.map_congr_left
  intro k _
  simp only [Function.comp]; ring

/-- shifting the centre by an integer shifts the generated window loop by the same integer -/
theorem window_shift (c W : Rat) (M : Int) :
    pyRange (Rat.ceil (c + (M : Rat) - W / (((2 : Int) : Int) : Rat)))
        (Rat.floor (c + (M : Rat) + W / (((2 : Int) : Int) : Rat)) + (1 : Int)) (1 : Int) =
      (pyRange (Rat.ceil (c - W / (((2 : Int) : Int) : Rat)))
        (Rat.floor (c + W / (((2 : Int) : Int) : Rat)) + (1 : Int)) (1 : Int)).map (· + M) := by
  have e1 : c + (M : Rat) - W / (((2 : Int) : Int) : Rat) = (c - W / (((2 : Int) : Int) : Rat)) + (M : Rat) := by ring
  have e2 : c + (M : Rat) + W / (((2 : Int) : Int) : Rat) = (c + W / (((2 : Int) : Int) : Rat)) + (M : Rat) := by ring
  rw [e1, e2, Rat.ceil_add_intCast, Rat.floor_add_intCast,
    show ∀ a b c : Int, a + b + c = a + c + b by intros; ring, pyRange_shift]

theorem cast_shift_sub (x M : Int) (c : Rat) :
    (((x + M : Int) : Int) : Rat) - (c + (M : Rat)) = ((x : Int) : Rat) - c := by
  push_cast; ring

theorem pyMod_add_mul (x m n : Int) (hn : 0 < n) : pyMod (x + m * n) n = pyMod x n := by
  rw [pyMod_of_pos _ hn, pyMod_of_pos _ hn, Int.add_mul_emod_self_right]

/-- sequential semantics of the numba loops on an array viewed as a function of the multi-index:
    one update is `out[dst] += w * x[src]` (`acc = true`) or `out[dst] = w * x[src]` (`acc = false`). -/
def runUpd {R : Type} [Semiring R] (acc : Bool) (E : List (Upd R)) (x : List Int → R) (out : List Int → R) :
    List Int → R :=
  E.foldl (fun o u => Function.update o u.1 ((if acc then o u.1 else 0) + u.2.2 * x u.2.1)) out

/-- the bilinear pairing `Σ_updates y[dst] * w * x[src]` -/
def pairing {R : Type} [CommSemiring R] (E : List (Upd R)) (y x : List Int → R) : R :=
  (E.map fun u => y u.1 * (u.2.2 * x u.2.1)).sum

theorem pairing_swap {R : Type} [CommSemiring R] (E : List (Upd R)) (y x : List Int → R) :
    pairing (E.map swapUpd) x y = pairing E y x := by
  unfold pairing
  rw [List.map_map]
  congr 1
  apply List.map_congr_left
  intro u _
  simp only [Function.comp, swapUpd]; ring

end SigpyVerif.C07
