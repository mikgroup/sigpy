import SigpyVerif.Lemmas.C13
import Mathlib.Topology.MetricSpace.ProperSpace
import Mathlib.Topology.Sequences
import Mathlib.Topology.Algebra.InfiniteSum.Real
import Mathlib.Analysis.Normed.Module.FiniteDimension
import Mathlib.Algebra.QuadraticDiscriminant
import Mathlib.Analysis.Convex.Strong
import Mathlib.Analysis.Convex.Jensen
/-
  Helper lemmas for the convergence and rate theorems of C13 (Props/C13Conv.lean, Props/C13Accel.lean); no sigpy content.

  * `opial_core` — the compactness step: a sequence `z (k+1) = Tm (z k)` in a proper normed space that is
    Fejér monotone (in a possibly DEGENERATE quadratic distance `q`) with respect to the fixed points of
    `Tm`, asymptotically regular in `q`, with `‖Tm a - Tm b‖² ≤ K q(a - b)`, converges to a fixed point.
  * prox maps are 1-Lipschitz (`isProx_nonexpansive`, weighted: `isProxW_lipschitz`), gradient steps of a
    convex function with the descent lemma are nonexpansive (`grad_step_nonexpansive`), positive steps are
    coercive in finite dimension (`StepOp.Pos.coercive`).
  * the Chambolle–Pock map in "primal first" form, `cpMap`, factors through the (possibly degenerate) metric
    of the steps: `cpMap_lipschitz_metric`.
  * accelerated PDHG: one inequality for a dual step followed by a primal step with strong-convexity gains on either
    side (`accel_step`, from prox points: `accel_step_prox`), the energies after the steps are rescaled
    (`accel_energy_rescale`, `_dual`), growth of `1/τ_k` (`inv_step_growth`), and `strong_subgrad`.
-/
namespace SigpyVerif.C13
open RealInnerProductSpace Filter Topology

section opial
variable {Z : Type*} [NormedAddCommGroup Z] [ProperSpace Z]

/-- nonnegative terms with bounded partial sums tend to zero -/
theorem tendsto_zero_of_sum_le (R : ℕ → ℝ) (hR : ∀ k, 0 ≤ R k) (B : ℝ)
    (h : ∀ N, ∑ k ∈ Finset.range N, R k ≤ B) : Tendsto R atTop (𝓝 0) :=
  (summable_of_sum_range_le hR h).tendsto_atTop_zero

/-- Opial's argument in a proper (finite-dimensional) space, for a possibly degenerate distance `q`. -/
theorem opial_core (z : ℕ → Z) (Tm : Z → Z) (q : Z → ℝ) (K : ℝ) (hK : 0 ≤ K)
    (hstep : ∀ k, z (k + 1) = Tm (z k))
    (hq0 : ∀ a, 0 ≤ q a) (hqc : Continuous q) (hqz : q 0 = 0) (hqs : ∀ a, q (-a) = q a)
    (hTq : ∀ a b, ‖Tm a - Tm b‖ ^ 2 ≤ K * q (a - b))
    (hfej : ∀ w, Tm w = w → ∀ k, q (z (k + 1) - w) ≤ q (z k - w))
    (hreg : Tendsto (fun k => q (z (k + 1) - z k)) atTop (𝓝 0))
    (hfix : ∃ w, Tm w = w) :
    ∃ w, Tm w = w ∧ Tendsto z atTop (𝓝 w) := by
  obtain ⟨w0, hw0⟩ := hfix
  have hnb : ∀ a b, ‖Tm a - Tm b‖ ≤ Real.sqrt (K * q (a - b)) := fun a b =>
    Real.le_sqrt_of_sq_le (hTq a b)
  have hB : ∀ k, q (z k - w0) ≤ q (z 0 - w0) := fun k =>
    antitone_nat_of_succ_le (f := fun k => q (z k - w0)) (hfej w0 hw0) (Nat.zero_le k)
  have hball : ∀ k, z (k + 1) ∈ Metric.closedBall w0 (Real.sqrt (K * q (z 0 - w0))) := by
    intro k
    rw [mem_closedBall_iff_norm]
    apply Real.le_sqrt_of_sq_le
    calc ‖z (k + 1) - w0‖ ^ 2 = ‖Tm (z k) - Tm w0‖ ^ 2 := by rw [hstep, hw0]
      _ ≤ K * q (z k - w0) := hTq _ _
      _ ≤ K * q (z 0 - w0) := mul_le_mul_of_nonneg_left (hB k) hK
  obtain ⟨zb, -, φ, hφ, hlim⟩ := (isCompact_closedBall w0 _).tendsto_subseq hball
  have hTt : ∀ b, Tendsto Tm (𝓝 b) (𝓝 (Tm b)) := by
    intro b
    rw [tendsto_iff_norm_sub_tendsto_zero]
    have hc : Continuous (fun a => Real.sqrt (K * q (a - b))) :=
      Real.continuous_sqrt.comp (continuous_const.mul (hqc.comp (continuous_id.sub continuous_const)))
    have h0 := hc.tendsto b
    simp only [sub_self, hqz, mul_zero, Real.sqrt_zero] at h0
    exact squeeze_zero (fun a => norm_nonneg _) (fun a => hnb a b) h0
  have hlim' : Tendsto (fun j => z (φ j + 1)) atTop (𝓝 zb) := hlim
  have h1 : Tendsto (fun j => z (φ j + 2)) atTop (𝓝 (Tm zb)) := by
    refine ((hTt zb).comp hlim').congr (fun j => ?_)
    exact (hstep (φ j + 1)).symm
  have h2 : Tendsto (fun j => q (z (φ j + 2) - z (φ j + 1))) atTop (𝓝 (q (Tm zb - zb))) :=
    (hqc.tendsto _).comp (h1.sub hlim')
  have hφ1 : Tendsto (fun j => φ j + 1) atTop atTop :=
    tendsto_atTop_mono (fun j => Nat.le_succ _) hφ.tendsto_atTop
  have h3 : Tendsto (fun j => q (z (φ j + 2) - z (φ j + 1))) atTop (𝓝 0) := hreg.comp hφ1
  have hq1 : q (Tm zb - zb) = 0 := tendsto_nhds_unique h2 h3
  have hq2 : q (zb - Tm zb) = 0 := by rw [← hqs, neg_sub]; exact hq1
  have hz' : Tm (Tm zb) = Tm zb := by
    have := hnb (Tm zb) zb
    rw [hq1, mul_zero, Real.sqrt_zero] at this
    exact sub_eq_zero.mp (norm_le_zero_iff.mp this)
  have hq4 : Tendsto (fun j => q (z (φ j + 1) - Tm zb)) atTop (𝓝 0) :=
    hq2 ▸ (hqc.tendsto _).comp (hlim'.sub_const (Tm zb))
  have hmono : Antitone fun k => q (z k - Tm zb) := antitone_nat_of_succ_le (hfej _ hz')
  have hq5 : Tendsto (fun k => q (z k - Tm zb)) atTop (𝓝 0) := by
    rw [Metric.tendsto_atTop]
    intro ε hε
    obtain ⟨j, hj⟩ := ((tendsto_order.1 hq4).2 ε hε).exists
    refine ⟨φ j + 1, fun k hk => ?_⟩
    rw [Real.dist_eq, sub_zero, abs_of_nonneg (hq0 _)]
    exact (hmono hk).trans_lt hj
  refine ⟨Tm zb, hz', ?_⟩
  rw [← tendsto_add_atTop_iff_nat 1, tendsto_iff_norm_sub_tendsto_zero]
  have h0 : Tendsto (fun k => Real.sqrt (K * q (z k - Tm zb))) atTop (𝓝 0) := by
    have := (Real.continuous_sqrt.tendsto _).comp (hq5.const_mul K)
    rwa [mul_zero, Real.sqrt_zero] at this
  refine squeeze_zero (fun k => norm_nonneg _) (fun k => ?_) h0
  calc ‖z (k + 1) - Tm zb‖ = ‖Tm (z k) - Tm (Tm zb)‖ := by rw [hstep, hz']
    _ ≤ _ := hnb _ _
end opial

variable {E : Type*} [NormedAddCommGroup E] [InnerProductSpace ℝ E]


theorem le_of_sq_le_mul {c d M : ℝ} (hd : 0 ≤ d) (hM : 0 ≤ M) (h : c * d ^ 2 ≤ M * d) : c * d ≤ M := by
  rcases hd.eq_or_lt with rfl | hpos
  · rwa [mul_zero]
  · exact le_of_mul_le_mul_right (by rwa [mul_assoc, ← sq]) hpos

/-- the proximal map is 1-Lipschitz (from its variational characterisation alone) -/
theorem isProx_nonexpansive {g : E → ℝ} {α : ℝ} (hα : 0 < α) {v v' p p' : E}
    (hp : IsProx g α v p) (hp' : IsProx g α v' p') : ‖p - p'‖ ≤ ‖v - v'‖ := by
  have h1 := hp p'
  have h2 := hp' p
  rw [real_inner_smul_left] at h1 h2
  have hs : 1 / α * (⟪v - p, p' - p⟫ + ⟪v' - p', p - p'⟫) ≤ 0 := by linear_combination h1 + h2
  have e : ⟪v - p, p' - p⟫ + ⟪v' - p', p - p'⟫ = ‖p - p'‖ ^ 2 - ⟪v - v', p - p'⟫ := by
    rw [← real_inner_self_eq_norm_sq]
    simp only [inner_sub_left, inner_sub_right]; ring
  rw [e] at hs
  have h3 := nonpos_of_mul_nonpos_right hs (one_div_pos.mpr hα)
  have hcs := real_inner_le_norm (v - v') (p - p')
  have := le_of_sq_le_mul (c := 1) (norm_nonneg (p - p')) (norm_nonneg (v - v')) (by linarith)
  rwa [one_mul] at this

/-- co-coercivity of the gradient of a convex function that satisfies the descent lemma with `L = 1/α`
    (Baillon–Haddad): `α ‖∇f(y) - ∇f(x)‖² ≤ ⟨∇f(y) - ∇f(x), y - x⟩` -/
theorem grad_cocoercive (f : E → ℝ) (gf : E → E) (α : ℝ) (hα : 0 < α)
    (hconv : ∀ y w, f y + ⟪gf y, w - y⟫ ≤ f w)
    (hdesc : ∀ y p, f p ≤ f y + ⟪gf y, p - y⟫ + (1 / α) / 2 * ‖p - y‖ ^ 2) (x y : E) :
    α * ‖gf y - gf x‖ ^ 2 ≤ ⟪gf y - gf x, y - x⟫ := by
  -- descent at `y` towards `y - α (∇f(y) - ∇f(x))`, against convexity at `x`
  have key : ∀ x y : E, f x + ⟪gf x, y - x⟫ + α / 2 * ‖gf y - gf x‖ ^ 2 ≤ f y := by
    intro x y
    set d := gf y - gf x with hd
    have h1 := hdesc y (y - α • d)
    have h2 := hconv x (y - α • d)
    rw [sub_sub_cancel_left, norm_neg, norm_smul, inner_neg_right, real_inner_smul_right, Real.norm_eq_abs,
      abs_of_pos hα] at h1
    rw [sub_right_comm, inner_sub_right, real_inner_smul_right] at h2
    have e3 : ⟪gf y, d⟫ - ⟪gf x, d⟫ = ‖d‖ ^ 2 := by
      rw [← inner_sub_left, real_inner_self_eq_norm_sq]
    have e4 : 1 / α / 2 * (α * ‖d‖) ^ 2 = α / 2 * ‖d‖ ^ 2 := by
      field_simp
    rw [e4] at h1
    linear_combination h1 + h2 - α * e3
  have k1 := key x y
  have k2 := key y x
  rw [norm_sub_rev] at k2
  have e5 : ⟪gf y - gf x, y - x⟫ = - ⟪gf x, y - x⟫ - ⟪gf y, x - y⟫ := by
    rw [← neg_sub y x, inner_neg_right, inner_sub_left]; ring
  rw [e5]
  linear_combination k1 + k2

/-- the gradient step `y ↦ y - α ∇f(y)` with `α ≤ 1/L` is nonexpansive -/
theorem grad_step_nonexpansive (f : E → ℝ) (gf : E → E) (α L : ℝ) (hα : 0 < α) (hL : α * L ≤ 1)
    (hconv : ∀ y w, f y + ⟪gf y, w - y⟫ ≤ f w)
    (hdesc : ∀ y p, f p ≤ f y + ⟪gf y, p - y⟫ + L / 2 * ‖p - y‖ ^ 2) (x y : E) :
    ‖(y - α • gf y) - (x - α • gf x)‖ ≤ ‖y - x‖ := by
  have hL' : L ≤ 1 / α := by rw [le_div_iff₀ hα]; linarith
  have hdesc' : ∀ y p, f p ≤ f y + ⟪gf y, p - y⟫ + (1 / α) / 2 * ‖p - y‖ ^ 2 := fun y p =>
    (hdesc y p).trans (add_le_add_right
      (mul_le_mul_of_nonneg_right (div_le_div_of_nonneg_right hL' zero_le_two) (sq_nonneg _)) _)
  have hc := grad_cocoercive f gf α hα hconv hdesc' x y
  have e : (y - α • gf y) - (x - α • gf x) = (y - x) - α • (gf y - gf x) := by
    rw [smul_sub, sub_sub_sub_comm]
  have h2 : ‖(y - x) - α • (gf y - gf x)‖ ^ 2 ≤ ‖y - x‖ ^ 2 := by
    rw [norm_sub_sq_real, real_inner_smul_right, norm_smul, Real.norm_eq_abs, abs_of_pos hα,
      real_inner_comm]
    linear_combination (2 * α) * hc + α ^ 2 * sq_nonneg ‖gf y - gf x‖
  rw [e]
  exact abs_le_of_sq_le_sq' h2 (norm_nonneg _) |>.2


/-- in finite dimension a positive step is coercive: `c ‖x‖² ≤ ⟨T⁻¹x, x⟩` for some `c > 0` -/
theorem StepOp.Pos.coercive {G : Type*} [NormedAddCommGroup G] [InnerProductSpace ℝ G] [FiniteDimensional ℝ G]
    {T : StepOp G} (h : T.Pos) : ∃ c : ℝ, 0 < c ∧ ∀ x, c * ‖x‖ ^ 2 ≤ ⟪T.inv x, x⟫ := by
  rcases subsingleton_or_nontrivial G with hG | hG
  · exact ⟨1, one_pos, fun x => by simp [Subsingleton.elim x 0]⟩
  have hne : (Metric.sphere (0 : G) 1).Nonempty := NormedSpace.sphere_nonempty.mpr zero_le_one
  have hcont : ContinuousOn (fun x : G => ⟪T.inv x, x⟫) (Metric.sphere 0 1) :=
    (T.inv.continuous_of_finiteDimensional.inner continuous_id).continuousOn
  obtain ⟨x0, hx0, hmin⟩ := (isCompact_sphere (0 : G) 1).exists_isMinOn hne hcont
  have hx0n : x0 ≠ 0 := ne_zero_of_mem_unit_sphere ⟨x0, hx0⟩
  refine ⟨⟪T.inv x0, x0⟫, h.pos x0 hx0n, fun x => ?_⟩
  by_cases hx : x = 0
  · simp [hx]
  · have hn : 0 < ‖x‖ := norm_pos_iff.mpr hx
    have hmem : (‖x‖⁻¹ • x) ∈ Metric.sphere (0 : G) 1 := by
      simp [norm_smul, hn.ne']
    have hm := isMinOn_iff.mp hmin _ hmem
    simp only [LinearMap.map_smul, real_inner_smul_left, real_inner_smul_right] at hm
    calc ⟪T.inv x0, x0⟫ * ‖x‖ ^ 2 ≤ (‖x‖⁻¹ * (‖x‖⁻¹ * ⟪T.inv x, x⟫)) * ‖x‖ ^ 2 :=
          mul_le_mul_of_nonneg_right hm (sq_nonneg _)
      _ = ⟪T.inv x, x⟫ := by field_simp

/-- the weighted prox is Lipschitz as a function of the "dual" argument `m` (`v = T m`) -/
theorem isProxW_lipschitz {g : E → ℝ} {T : StepOp E} (hT : T.Pos) {c : ℝ}
    (hco : ∀ x, c * ‖x‖ ^ 2 ≤ ⟪T.inv x, x⟫) {m m' p p' : E}
    (hp : IsProxW g T (T.op m) p) (hp' : IsProxW g T (T.op m') p') : c * ‖p - p'‖ ^ 2 ≤ ‖m - m'‖ * ‖p - p'‖ := by
  have h1 := hp p'
  have h2 := hp' p
  rw [LinearMap.map_sub, hT.left_inv] at h1 h2
  have e : ⟪m - T.inv p, p' - p⟫ + ⟪m' - T.inv p', p - p'⟫ = ⟪T.inv (p - p'), p - p'⟫ - ⟪m - m', p - p'⟫ := by
    simp only [LinearMap.map_sub, inner_sub_left, inner_sub_right]; ring
  have hcs := real_inner_le_norm (m - m') (p - p')
  linear_combination h1 + h2 + hcs + hco (p - p') - e

section cp
variable {F : Type*} [NormedAddCommGroup F] [InnerProductSpace ℝ F]

/-- one sweep in "primal first" form on the pair `(x_k, u_{k+1})`: `x⁺ = proxg(T, x - T Aᴴu)`,
    `u⁺ = proxfc(Σ, u + Σ A(2x⁺ - x))` -/
def cpMap (A : E → F) (AH : F → E) (T : StepOp E) (Sg : StepOp F) (proxg : StepOp E → E → E)
    (proxfc : StepOp F → F → F) (z : E × F) : E × F :=
  (proxg T (z.1 + T.op (-(AH z.2))),
   proxfc Sg (z.2 + Sg.op (A (proxg T (z.1 + T.op (-(AH z.2))) + (proxg T (z.1 + T.op (-(AH z.2))) - z.1)))))

/-- the metric of the steps as a function on pairs -/
noncomputable def cpQ (A : E → F) (T : StepOp E) (Sg : StepOp F) (z : E × F) : ℝ := coupledW A T Sg z.1 z.2

theorem cpQ_zero (A : E → F) (T : StepOp E) (Sg : StepOp F) : cpQ A T Sg 0 = 0 := by
  simp only [cpQ, coupledW, Prod.fst_zero, Prod.snd_zero, inner_zero_right, mul_zero, sub_zero, add_zero]

theorem cpQ_neg (A : E →ₗ[ℝ] F) (T : StepOp E) (Sg : StepOp F) (z : E × F) : cpQ A T Sg (-z) = cpQ A T Sg z := by
  simp only [cpQ, coupledW, Prod.fst_neg, Prod.snd_neg, LinearMap.map_neg, inner_neg_neg]

/-- Cauchy–Schwarz by the discriminant, in scalars -/
theorem le_of_quadratic_nonneg {Q' N Q C : ℝ} (hquad : ∀ t : ℝ, 0 ≤ Q' * (t * t) + 2 * N * t + Q) (hC : 0 ≤ C)
    (hQ' : Q' ≤ C * N) : N ≤ C * Q := by
  have hd := discrim_le_zero hquad
  unfold discrim at hd
  have hQ : 0 ≤ Q := by simpa using hquad 0
  have h1 : N * N ≤ C * Q * N := by linarith [mul_le_mul_of_nonneg_right hQ' hQ]
  by_contra hc
  push Not at hc
  have hNpos : 0 < N := (mul_nonneg hC hQ).trans_lt hc
  have := mul_lt_mul_of_pos_right hc hNpos
  linarith

/-- `‖M w‖² ≤ C ⟨M w, w⟩` for the (positive SEMI-definite) metric `M = [[T⁻¹, -Aᴴ], [-A, Σ⁻¹]]`
    (Cauchy–Schwarz for the form `⟨M·,·⟩`) -/
theorem metric_range_le (A : E →ₗ[ℝ] F) (AH : F →ₗ[ℝ] E) (hadj : ∀ x u, ⟪A x, u⟫ = ⟪x, AH u⟫)
    (T : StepOp E) (Sg : StepOp F) (hT : T.Pos) (hS : Sg.Pos)
    (hM : ∀ x u, 2 * |⟪A x, u⟫| ≤ ⟪T.inv x, x⟫ + ⟪Sg.inv u, u⟫)
    (kT kS : ℝ) (hkT0 : 0 ≤ kT) (hkS0 : 0 ≤ kS)
    (hkT : ∀ x, ⟪T.inv x, x⟫ ≤ kT * ‖x‖ ^ 2) (hkS : ∀ u, ⟪Sg.inv u, u⟫ ≤ kS * ‖u‖ ^ 2) (a : E) (b : F) :
    ‖T.inv a - AH b‖ ^ 2 + ‖Sg.inv b - A a‖ ^ 2 ≤ 2 * (kT + kS) * coupledW A T Sg a b := by
  set p := T.inv a - AH b with hp
  set r := Sg.inv b - A a with hr
  refine le_of_quadratic_nonneg (Q' := coupledW A T Sg p r) (fun t => ?_) (by positivity) ?_
  · -- `⟨M(a,b), (p,r)⟩ = ‖p‖² + ‖r‖²` since `(p, r) = M (a, b)`
    have f1 : ⟪T.inv a, p⟫ = ‖p‖ ^ 2 + ⟪A p, b⟫ := by
      rw [hadj, real_inner_comm (AH b) p, ← real_inner_self_eq_norm_sq, ← inner_add_left, hp, sub_add_cancel]
    have f2 : ⟪Sg.inv b, r⟫ = ‖r‖ ^ 2 + ⟪A a, r⟫ := by
      rw [← real_inner_self_eq_norm_sq, ← inner_add_left, hr, sub_add_cancel]
    have f3 : ⟪T.inv p, a⟫ = ⟪T.inv a, p⟫ := (hT.symm p a).trans (real_inner_comm _ _)
    have f4 : ⟪Sg.inv r, b⟫ = ⟪Sg.inv b, r⟫ := (hS.symm r b).trans (real_inner_comm _ _)
    have h : 0 ≤ coupledW A T Sg (a + t • p) (b + t • r) := coupledW_nonneg (hM _ _)
    have e : coupledW A T Sg (a + t • p) (b + t • r)
        = coupledW A T Sg p r * (t * t) + 2 * (‖p‖ ^ 2 + ‖r‖ ^ 2) * t + coupledW A T Sg a b := by
      unfold coupledW
      simp only [LinearMap.map_add, LinearMap.map_smul, inner_add_left, inner_add_right, real_inner_smul_left,
        real_inner_smul_right]
      rw [f3, f4, f1, f2]; ring
    rwa [e] at h
  · have h1 := hM p r
    have h2 := neg_abs_le ⟪A p, r⟫
    have h3 := hkT p
    have h4 := hkS r
    have h5 := mul_nonneg hkT0 (sq_nonneg ‖r‖)
    have h6 := mul_nonneg hkS0 (sq_nonneg ‖p‖)
    unfold coupledW
    linarith

theorem linearMap_bound [FiniteDimensional ℝ E] (S : E →ₗ[ℝ] F) : ∃ k : ℝ, 0 ≤ k ∧ ∀ x, ‖S x‖ ≤ k * ‖x‖ :=
  let ⟨k, hk, h⟩ := (LinearMap.toContinuousLinearMap S).bound
  ⟨k, hk.le, h⟩

theorem linearMap_inner_bound [FiniteDimensional ℝ E] (S : E →ₗ[ℝ] E) :
    ∃ k : ℝ, 0 ≤ k ∧ ∀ x, ⟪S x, x⟫ ≤ k * ‖x‖ ^ 2 := by
  obtain ⟨k, hk, h⟩ := linearMap_bound S
  refine ⟨k, hk, fun x => (real_inner_le_norm _ _).trans ?_⟩
  rw [sq, ← mul_assoc]
  exact mul_le_mul_of_nonneg_right (h x) (norm_nonneg x)

/-- two sweeps from "dual" arguments `(m1, m2)`, `(m1', m2')` stay close -/
theorem cp_pair_lipschitz (A : E →ₗ[ℝ] F) (T : StepOp E) (Sg : StepOp F) (hT : T.Pos) (hS : Sg.Pos)
    {c1 c2 kA : ℝ} (hc1 : 0 < c1) (hc2 : 0 < c2) (hco1 : ∀ x, c1 * ‖x‖ ^ 2 ≤ ⟪T.inv x, x⟫)
    (hco2 : ∀ x, c2 * ‖x‖ ^ 2 ≤ ⟪Sg.inv x, x⟫) (hA : ∀ x, ‖A x‖ ≤ kA * ‖x‖) (hkA : 0 ≤ kA)
    (g : E → ℝ) (fc : F → ℝ) {m1 m1' x1 x1' : E} {m2 m2' u2 u2' : F}
    (hP : IsProxW g T (T.op m1) x1) (hP' : IsProxW g T (T.op m1') x1')
    (hD : IsProxW fc Sg (Sg.op (m2 + (A x1 + A x1))) u2) (hD' : IsProxW fc Sg (Sg.op (m2' + (A x1' + A x1'))) u2')
    {R : ℝ} (h1 : ‖m1 - m1'‖ ≤ R) (h2 : ‖m2 - m2'‖ ≤ R) :
    ‖x1 - x1'‖ ≤ R / c1 ∧ ‖u2 - u2'‖ ≤ (1 + 2 * kA / c1) * R / c2 := by
  have g1 := le_of_sq_le_mul (norm_nonneg _) (norm_nonneg _) (isProxW_lipschitz hT hco1 hP hP')
  have g2 := le_of_sq_le_mul (norm_nonneg _) (norm_nonneg _) (isProxW_lipschitz hS hco2 hD hD')
  have hx : ‖x1 - x1'‖ ≤ R / c1 := by rw [le_div_iff₀' hc1]; exact g1.trans h1
  refine ⟨hx, ?_⟩
  have em2 : (m2 + (A x1 + A x1)) - (m2' + (A x1' + A x1')) = (m2 - m2') + (A (x1 - x1') + A (x1 - x1')) := by
    rw [LinearMap.map_sub, add_sub_add_comm, add_sub_add_comm]
  rw [em2] at g2
  have t1 := norm_add_le (m2 - m2') (A (x1 - x1') + A (x1 - x1'))
  have t2 := norm_add_le (A (x1 - x1')) (A (x1 - x1'))
  have t3 := (hA (x1 - x1')).trans (mul_le_mul_of_nonneg_left hx hkA)
  rw [le_div_iff₀' hc2]
  have e : (1 + 2 * kA / c1) * R = R + 2 * (kA * (R / c1)) := by ring
  rw [e]
  linarith

/-- the two components of a sweep as prox points of the "dual" arguments `M z` -/
theorem cpMap_prox (A : E →ₗ[ℝ] F) (AH : F →ₗ[ℝ] E) (T : StepOp E) (Sg : StepOp F) (hT : T.Pos) (hS : Sg.Pos)
    (g : E → ℝ) (fc : F → ℝ) (proxg : StepOp E → E → E) (proxfc : StepOp F → F → F)
    (hg : ∀ v, IsProxW g T v (proxg T v)) (hfc : ∀ v, IsProxW fc Sg v (proxfc Sg v)) (z : E × F) :
    IsProxW g T (T.op (T.inv z.1 - AH z.2)) (cpMap A AH T Sg proxg proxfc z).1 ∧
    IsProxW fc Sg (Sg.op (Sg.inv z.2 - A z.1 + (A (cpMap A AH T Sg proxg proxfc z).1 + A (cpMap A AH T Sg proxg proxfc z).1)))
      (cpMap A AH T Sg proxg proxfc z).2 := by
  have e1 : z.1 + T.op (-(AH z.2)) = T.op (T.inv z.1 - AH z.2) := by
    rw [LinearMap.map_sub, hT.right_inv, LinearMap.map_neg, sub_eq_add_neg]
  have e2 : ∀ y : E, z.2 + Sg.op (A (y + (y - z.1))) = Sg.op (Sg.inv z.2 - A z.1 + (A y + A y)) := by
    intro y; simp only [LinearMap.map_add, LinearMap.map_sub, hS.right_inv]; abel
  constructor
  · rw [← e1]; exact hg _
  · rw [← e2]; exact hfc _

/-- the sweep depends on its argument only through the metric: `‖cpMap z - cpMap z'‖² ≤ K · ⟨M(z-z'), z-z'⟩`,
    also when the metric is only positive SEMI-definite (`τσ‖A‖² = 1` allowed) -/
theorem cpMap_lipschitz_metric [FiniteDimensional ℝ E] [FiniteDimensional ℝ F]
    (A : E →ₗ[ℝ] F) (AH : F →ₗ[ℝ] E) (hadj : ∀ x u, ⟪A x, u⟫ = ⟪x, AH u⟫)
    (T : StepOp E) (Sg : StepOp F) (hT : T.Pos) (hS : Sg.Pos)
    (hM : ∀ x u, 2 * |⟪A x, u⟫| ≤ ⟪T.inv x, x⟫ + ⟪Sg.inv u, u⟫)
    (g : E → ℝ) (fc : F → ℝ) (proxg : StepOp E → E → E) (proxfc : StepOp F → F → F)
    (hg : ∀ v, IsProxW g T v (proxg T v)) (hfc : ∀ v, IsProxW fc Sg v (proxfc Sg v)) :
    ∃ K : ℝ, 0 ≤ K ∧ ∀ z z' : E × F,
      ‖cpMap A AH T Sg proxg proxfc z - cpMap A AH T Sg proxg proxfc z'‖ ^ 2 ≤ K * cpQ A T Sg (z - z') := by
  obtain ⟨c1, hc1, hco1⟩ := hT.coercive
  obtain ⟨c2, hc2, hco2⟩ := hS.coercive
  obtain ⟨kA, hkA0, hA⟩ := linearMap_bound A
  obtain ⟨kT, hkT0, hTb⟩ := linearMap_inner_bound T.inv
  obtain ⟨kS, hkS0, hSb⟩ := linearMap_inner_bound Sg.inv
  have hC : 0 ≤ 2 * (kT + kS) := mul_nonneg zero_le_two (add_nonneg hkT0 hkS0)
  refine ⟨(1 / c1 + (1 + 2 * kA / c1) / c2) ^ 2 * (2 * (kT + kS)), mul_nonneg (sq_nonneg _) hC, fun z z' => ?_⟩
  have hrange : _ ≤ 2 * (kT + kS) * cpQ A T Sg (z - z') :=
    metric_range_le A AH hadj T Sg hT hS hM kT kS hkT0 hkS0 hTb hSb (z.1 - z'.1) (z.2 - z'.2)
  rw [LinearMap.map_sub, LinearMap.map_sub, LinearMap.map_sub, LinearMap.map_sub, sub_sub_sub_comm (T.inv z.1),
    sub_sub_sub_comm (Sg.inv z.2)] at hrange
  have hR1 := Real.le_sqrt_of_sq_le ((le_add_of_nonneg_right (sq_nonneg _)).trans hrange)
  have hR2 := Real.le_sqrt_of_sq_le ((le_add_of_nonneg_left (sq_nonneg _)).trans hrange)
  obtain ⟨hP, hD⟩ := cpMap_prox A AH T Sg hT hS g fc proxg proxfc hg hfc z
  obtain ⟨hP', hD'⟩ := cpMap_prox A AH T Sg hT hS g fc proxg proxfc hg hfc z'
  obtain ⟨hx, hu⟩ := cp_pair_lipschitz A T Sg hT hS hc1 hc2 hco1 hco2 hA hkA0 g fc hP hP' hD hD' hR1 hR2
  have hn : ‖cpMap A AH T Sg proxg proxfc z - cpMap A AH T Sg proxg proxfc z'‖
      ≤ (1 / c1 + (1 + 2 * kA / c1) / c2) * Real.sqrt (2 * (kT + kS) * cpQ A T Sg (z - z')) := by
    rw [add_mul, one_div_mul_eq_div, div_mul_eq_mul_div]
    exact max_le (hx.trans (le_add_of_nonneg_right ((norm_nonneg _).trans hu)))
      (hu.trans (le_add_of_nonneg_left ((norm_nonneg _).trans hx)))
  have h := pow_le_pow_left₀ (norm_nonneg _) hn 2
  rwa [mul_pow, Real.sq_sqrt ((add_nonneg (sq_nonneg _) (sq_nonneg _)).trans hrange), ← mul_assoc] at h

/-- the metric is continuous on pairs (finite dimension) -/
theorem cpQ_continuous [FiniteDimensional ℝ E] [FiniteDimensional ℝ F] (A : E →ₗ[ℝ] F) (T : StepOp E) (Sg : StepOp F) :
    Continuous (cpQ A T Sg) := by
  have h1 : Continuous T.inv := T.inv.continuous_of_finiteDimensional
  have h2 : Continuous Sg.inv := Sg.inv.continuous_of_finiteDimensional
  have h3 : Continuous A := A.continuous_of_finiteDimensional
  unfold cpQ coupledW
  exact (((h1.comp continuous_fst).inner continuous_fst).sub
    (continuous_const.mul ((h3.comp continuous_fst).inner continuous_snd))).add
    ((h2.comp continuous_snd).inner continuous_snd)

end cp

section accel
variable {F : Type*} [NormedAddCommGroup F] [InnerProductSpace ℝ F]

omit [InnerProductSpace ℝ E] in
theorem young_op (A : E → F) (L : ℝ) (hA : ∀ x, ‖A x‖ ≤ L * ‖x‖) (τ t : ℝ) (hτ : 0 < τ) (ht : L ^ 2 * τ ≤ t)
    (e : E) (d : F) : 2 * ⟪A e, d⟫ ≤ ‖e‖ ^ 2 / τ + t * ‖d‖ ^ 2 := by
  have h1 : ⟪A e, d⟫ ≤ L * ‖e‖ * ‖d‖ :=
    (real_inner_le_norm _ _).trans (mul_le_mul_of_nonneg_right (hA e) (norm_nonneg d))
  have h2 : 0 ≤ (‖e‖ - τ * L * ‖d‖) ^ 2 / τ := by positivity
  have h3 := mul_le_mul_of_nonneg_right ht (sq_nonneg ‖d‖)
  have h4 : (‖e‖ - τ * L * ‖d‖) ^ 2 / τ = ‖e‖ ^ 2 / τ + L ^ 2 * τ * ‖d‖ ^ 2 - 2 * (L * ‖e‖ * ‖d‖) := by
    field_simp; ring
  linarith

theorem inner_sub_neg_eq (a a' : E) : ⟪a - a', -a'⟫ = (‖a'‖ ^ 2 + ‖a' - a‖ ^ 2 - ‖a‖ ^ 2) / 2 := by
  rw [norm_sub_sq_real, inner_neg_right, inner_sub_left, real_inner_self_eq_norm_sq, real_inner_comm a' a]; ring

/-- `a = x - x*`, `a' = x⁺ - x*`, `b = u - u*`, `b' = u⁺ - u*`, `e = x_ext - x`; `hP` / `hD` are the primal and the dual
    prox inequality added to the saddle inequalities, `γp`, `γd ≥ 0` their gains from strong convexity. -/
theorem accel_step (A : E →ₗ[ℝ] F) (L : ℝ) (hA : ∀ x, ‖A x‖ ≤ L * ‖x‖)
    (τ σ γp γd : ℝ) (hτ : 0 < τ) (hσ : 0 < σ) (hstep : τ * σ * L ^ 2 ≤ 1) (a a' e : E) (b b' : F)
    (hP : (1 / τ) * ⟪a - a', -a'⟫ + ⟪A a', b'⟫ + γp * ‖a'‖ ^ 2 ≤ 0)
    (hD : (1 / σ) * ⟪b - b', -b'⟫ - ⟪A (a + e), b'⟫ + γd * ‖b'‖ ^ 2 ≤ 0) :
    (1 / τ + 2 * γp) * ‖a'‖ ^ 2 + (1 / σ + 2 * γd) * ‖b'‖ ^ 2 + ‖a' - a‖ ^ 2 / τ + 2 * ⟪A (a' - a), b'⟫
      ≤ ‖a‖ ^ 2 / τ + ‖b‖ ^ 2 / σ + 2 * ⟪A e, b⟫ + ‖e‖ ^ 2 / τ := by
  have y := young_op A L hA τ (1 / σ) hτ (by rw [le_div_iff₀ hσ]; linarith) e (b' - b)
  rw [inner_sub_right] at y
  rw [inner_sub_neg_eq] at hP hD
  rw [LinearMap.map_add, inner_add_left] at hD
  rw [LinearMap.map_sub, inner_sub_left]
  linear_combination 2 * hP + 2 * hD + y

theorem inner_prox_arg (α : ℝ) (hα : 0 < α) (v d p w : E) :
    ⟪(1 / α) • (v + α • d - p), w⟫ = (1 / α) * ⟪v - p, w⟫ + ⟪d, w⟫ := by
  rw [add_sub_right_comm, smul_add, smul_smul, one_div, inv_mul_cancel₀ hα.ne', one_smul, inner_add_left,
    real_inner_smul_left]

/-- `accel_step` for a dual step `u → u1` at the extrapolated point `xe` followed by a primal step `x → x1`, against a
    saddle point `(xs, us)`. `hgs` / `hfs`: a subgradient inequality of `g` / `f*` improves by `γ/2 ‖w - p‖²`
    (`strong_subgrad`; trivial for `γ = 0`, without convexity). -/
theorem accel_step_prox {g : E → ℝ} {fc : F → ℝ} (A : E →ₗ[ℝ] F) (AH : F → E) (hadj : ∀ x u, ⟪A x, u⟫ = ⟪x, AH u⟫)
    (L : ℝ) (hA : ∀ x, ‖A x‖ ≤ L * ‖x‖) (τ σ γp γd : ℝ) (hτ : 0 < τ) (hσ : 0 < σ) (hstep : τ * σ * L ^ 2 ≤ 1)
    (hgs : ∀ {p s}, (∀ w, g p + ⟪s, w - p⟫ ≤ g w) → ∀ w, g p + ⟪s, w - p⟫ + γp / 2 * ‖w - p‖ ^ 2 ≤ g w)
    (hfs : ∀ {p s}, (∀ w, fc p + ⟪s, w - p⟫ ≤ fc w) → ∀ w, fc p + ⟪s, w - p⟫ + γd / 2 * ‖w - p‖ ^ 2 ≤ fc w)
    {x x1 xe xs : E} {u u1 us : F}
    (hU : IsProx fc σ (u + σ • A xe) u1) (hX : IsProx g τ (x + τ • (-(AH u1))) x1)
    (hs1 : ∀ w, g xs + ⟪-(AH us), w - xs⟫ ≤ g w) (hs2 : ∀ v, fc us + ⟪A xs, v - us⟫ ≤ fc v) :
    (1 / τ + 2 * γp) * ‖x1 - xs‖ ^ 2 + (1 / σ + 2 * γd) * ‖u1 - us‖ ^ 2 + ‖x1 - x‖ ^ 2 / τ + 2 * ⟪A (x1 - x), u1 - us⟫
      ≤ ‖x - xs‖ ^ 2 / τ + ‖u - us‖ ^ 2 / σ + 2 * ⟪A (xe - x), u - us⟫ + ‖xe - x‖ ^ 2 / τ := by
  -- prox + saddle inequalities, each with its gain
  have p1 := hgs hX xs
  have p2 := hgs hs1 x1
  have d1 := hfs hU us
  have d2 := hfs hs2 u1
  rw [inner_prox_arg _ hτ, norm_sub_rev] at p1
  rw [inner_prox_arg _ hσ, norm_sub_rev] at d1
  have i1 : ⟪-(AH u1), xs - x1⟫ = ⟪A (x1 - xs), u1⟫ := by
    rw [inner_neg_left, real_inner_comm, ← hadj, ← inner_neg_left, ← LinearMap.map_neg, neg_sub]
  have i2 : ⟪-(AH us), x1 - xs⟫ = -⟪A (x1 - xs), us⟫ := by
    rw [inner_neg_left, real_inner_comm, ← hadj]
  rw [i1] at p1
  rw [i2] at p2
  have hP : (1 / τ) * ⟪(x - xs) - (x1 - xs), -(x1 - xs)⟫ + ⟪A (x1 - xs), u1 - us⟫ + γp * ‖x1 - xs‖ ^ 2 ≤ 0 := by
    rw [sub_sub_sub_cancel_right, neg_sub, inner_sub_right (A (x1 - xs))]
    linear_combination p1 + p2
  have hD : (1 / σ) * ⟪(u - us) - (u1 - us), -(u1 - us)⟫ - ⟪A ((x - xs) + (xe - x)), u1 - us⟫
      + γd * ‖u1 - us‖ ^ 2 ≤ 0 := by
    have e4 : ⟪A (xe - xs), u1 - us⟫ = -⟪A xe, us - u1⟫ - ⟪A xs, u1 - us⟫ := by
      rw [LinearMap.map_sub, inner_sub_left, ← inner_neg_right, neg_sub]
    rw [sub_sub_sub_cancel_right, neg_sub, sub_add_sub_cancel', e4]
    linear_combination d1 + d2
  have h := accel_step A L hA τ σ γp γd hτ hσ hstep (x - xs) (x1 - xs) (xe - x) (u - us) (u1 - us) hP hD
  rwa [sub_sub_sub_cancel_right] at h

/-- `gamma_primal = γ`: `accel_step` divided by `2τ` -/
theorem accel_core (A : E →ₗ[ℝ] F) (L : ℝ) (hA : ∀ x, ‖A x‖ ≤ L * ‖x‖)
    (τ σ γ : ℝ) (hτ : 0 < τ) (hσ : 0 < σ) (hstep : τ * σ * L ^ 2 ≤ 1) (a a' e : E) (b b' : F)
    (hP : (1 / τ) * ⟪a - a', -a'⟫ + ⟪A a', b'⟫ + γ * ‖a'‖ ^ 2 ≤ 0)
    (hD : (1 / σ) * ⟪b - b', -b'⟫ - ⟪A (a + e), b'⟫ ≤ 0) :
    ((1 / (2 * τ) + γ) * ‖a'‖ ^ 2 + ‖b'‖ ^ 2 / (2 * σ) + ‖a' - a‖ ^ 2 / (2 * τ) + ⟪A (a' - a), b'⟫) / τ
      ≤ (‖a‖ ^ 2 / (2 * τ) + ‖b‖ ^ 2 / (2 * σ)) / τ + ‖e‖ ^ 2 / (2 * τ ^ 2) + ⟪A e, b⟫ / τ := by
  have h := accel_step A L hA τ σ γ 0 hτ hσ hstep a a' e b b' hP (by rw [zero_mul, add_zero]; exact hD)
  linear_combination (1 / (2 * τ)) * h

omit [InnerProductSpace ℝ E] in
/-- the accelerated energy controls the primal distance: `‖a‖²/(2τ²) ≤ Ψ` when `τσL² ≤ 1` -/
theorem accel_energy_lower (A : E → F) (L : ℝ) (hA : ∀ x, ‖A x‖ ≤ L * ‖x‖)
    (τ σ : ℝ) (hτ : 0 < τ) (hσ : 0 < σ) (hstep : τ * σ * L ^ 2 ≤ 1) (a e : E) (b : F) :
    ‖a‖ ^ 2 / (2 * τ ^ 2)
      ≤ (‖a‖ ^ 2 / (2 * τ) + ‖b‖ ^ 2 / (2 * σ)) / τ + ‖e‖ ^ 2 / (2 * τ ^ 2) + ⟪A e, b⟫ / τ := by
  have y := young_op A L hA τ (1 / σ) hτ (by rw [le_div_iff₀ hσ]; linarith) e (-b)
  rw [inner_neg_right, norm_neg] at y
  linear_combination (1 / (2 * τ)) * y

/-- `gamma_dual = γ` (the code still extrapolates the PRIMAL variable): `accel_step` divided by `2σ` -/
theorem accel_core_dual (A : E →ₗ[ℝ] F) (L : ℝ) (hA : ∀ x, ‖A x‖ ≤ L * ‖x‖)
    (τ σ γ : ℝ) (hτ : 0 < τ) (hσ : 0 < σ) (hstep : τ * σ * L ^ 2 ≤ 1) (a a' e : E) (b b' : F)
    (hP : (1 / τ) * ⟪a - a', -a'⟫ + ⟪A a', b'⟫ ≤ 0)
    (hD : (1 / σ) * ⟪b - b', -b'⟫ - ⟪A (a + e), b'⟫ + γ * ‖b'‖ ^ 2 ≤ 0) :
    (‖a'‖ ^ 2 / (2 * τ) + (1 / (2 * σ) + γ) * ‖b'‖ ^ 2 + ‖a' - a‖ ^ 2 / (2 * τ) + ⟪A (a' - a), b'⟫) / σ
      ≤ (‖a‖ ^ 2 / (2 * τ) + ‖b‖ ^ 2 / (2 * σ)) / σ + ⟪A e, b⟫ / σ + ‖e‖ ^ 2 / (2 * (τ * σ)) := by
  have h := accel_step A L hA τ σ 0 γ hτ hσ hstep a a' e b b' (by rw [zero_mul, add_zero]; exact hP) hD
  linear_combination (1 / (2 * σ)) * h

omit [InnerProductSpace ℝ E] in
/-- the dual energy controls the dual distance: `(1 - τσL²) ‖b‖²/(2σ²) ≤ Ψ_d` -/
theorem accel_energy_lower_dual (A : E → F) (L : ℝ) (hA : ∀ x, ‖A x‖ ≤ L * ‖x‖)
    (τ σ : ℝ) (hτ : 0 < τ) (hσ : 0 < σ) (a e : E) (b : F) :
    (1 - τ * σ * L ^ 2) * ‖b‖ ^ 2 / (2 * σ ^ 2)
      ≤ (‖a‖ ^ 2 / (2 * τ) + ‖b‖ ^ 2 / (2 * σ)) / σ + ⟪A e, b⟫ / σ + ‖e‖ ^ 2 / (2 * (τ * σ)) := by
  have y := young_op A L hA τ (L ^ 2 * τ) hτ le_rfl e (-b)
  rw [inner_neg_right, norm_neg] at y
  have ha : 0 ≤ ‖a‖ ^ 2 / (2 * τ) / σ := by positivity
  have hb : (1 - τ * σ * L ^ 2) * ‖b‖ ^ 2 / (2 * σ ^ 2) = (‖b‖ ^ 2 / σ - L ^ 2 * τ * ‖b‖ ^ 2) / (2 * σ) := by
    field_simp
  rw [hb]
  linear_combination (1 / (2 * σ)) * y + ha

theorem inv_sqrt_pos_sq {x : ℝ} (hx : 0 < x) : 0 < 1 / Real.sqrt x ∧ (1 / Real.sqrt x) ^ 2 * x = 1 := by
  refine ⟨by positivity, ?_⟩
  rw [div_pow, one_pow, Real.sq_sqrt hx.le, one_div, inv_mul_cancel₀ hx.ne']

/-- the primal energy after `tau *= θ`, `sigma /= θ`, in the old steps
    (`N1 = ‖x⁺-x*‖²`, `Nu = ‖u⁺-u*‖²`, `nd = ‖x⁺-x‖`, `I = ⟨A(x⁺-x), u⁺-u*⟩`) -/
theorem accel_energy_rescale {θ τ σ γ : ℝ} (hθ : 0 < θ) (hτ : 0 < τ) (hσ : 0 < σ)
    (h : θ ^ 2 * (1 + 2 * γ * τ) = 1) (N1 Nu nd I : ℝ) :
    (N1 / (2 * (θ * τ)) + Nu / (2 * (σ / θ))) / (θ * τ) + (θ * nd) ^ 2 / (2 * (θ * τ) ^ 2) + θ * I / (θ * τ)
      = ((1 / τ + 2 * γ) * N1 + Nu / σ + nd ^ 2 / τ + 2 * I) / (2 * τ) := by
  field_simp
  linear_combination (-N1 * σ) * h

/-- the dual energy after `sigma *= θ`, `tau /= θ`: the extrapolation term even shrinks by `θ² ≤ 1`, and the surplus
    `(1 - θ²) nd²/(2τσ)` is dropped -/
theorem accel_energy_rescale_dual {θ τ σ γ : ℝ} (hθ : 0 < θ) (hτ : 0 < τ) (hσ : 0 < σ) (hγ : 0 ≤ γ)
    (h : θ ^ 2 * (1 + 2 * γ * σ) = 1) (N1 Nu nd I : ℝ) :
    (N1 / (2 * (τ / θ)) + Nu / (2 * (θ * σ))) / (θ * σ) + θ * I / (θ * σ) + (θ * nd) ^ 2 / (2 * (τ / θ * (θ * σ)))
      ≤ ((1 / τ) * N1 + (1 / σ + 2 * γ) * Nu + nd ^ 2 / τ + 2 * I) / (2 * σ) := by
  have hθ1 : 0 ≤ 1 - θ ^ 2 := by linarith [mul_nonneg (sq_nonneg θ) (mul_nonneg hγ hσ.le)]
  have hsub : 0 ≤ (1 - θ ^ 2) * nd ^ 2 / (2 * (τ * σ)) := by positivity
  refine le_of_eq_of_le ?_ (sub_le_self _ hsub)
  field_simp
  linear_combination (-Nu * τ) * h

/-- growth of `1/τ` under `τ ← τ/√(1+2γτ)`: `1/τ⁺ ≥ 1/τ + γ/(1+γτ)` -/
theorem inv_tau_growth (γ τ : ℝ) (hγ : 0 < γ) (hτ : 0 < τ) :
    1 / τ + γ / (1 + γ * τ) ≤ 1 / (1 / Real.sqrt (1 + 2 * γ * τ) * τ) := by
  have hy : 0 < γ * τ := mul_pos hγ hτ
  have h1 : 1 + γ * τ / (1 + γ * τ) ≤ Real.sqrt (1 + 2 * γ * τ) := by
    apply Real.le_sqrt_of_sq_le
    have e : 1 + γ * τ / (1 + γ * τ) = (1 + 2 * (γ * τ)) / (1 + γ * τ) := by field_simp; ring
    rw [e, div_pow, div_le_iff₀ (by positivity)]
    linear_combination mul_nonneg (by positivity : 0 ≤ 1 + 2 * (γ * τ)) (sq_nonneg (γ * τ))
  have e2 : 1 / (1 / Real.sqrt (1 + 2 * γ * τ) * τ) = Real.sqrt (1 + 2 * γ * τ) / τ := by
    have : 0 < Real.sqrt (1 + 2 * γ * τ) := Real.sqrt_pos.mpr (by positivity)
    field_simp
  have e3 : 1 / τ + γ / (1 + γ * τ) = (1 + γ * τ / (1 + γ * τ)) / τ := by field_simp
  rw [e2, e3]
  exact div_le_div_of_nonneg_right h1 hτ.le

theorem inv_step_growth (γ : ℝ) (hγ : 0 < γ) (t : ℕ → ℝ) (ht : ∀ k, 0 < t k)
    (hrec : ∀ k, t (k + 1) = 1 / Real.sqrt (1 + 2 * γ * t k) * t k) (k : ℕ) :
    1 / t 0 + k * (γ / (1 + γ * t 0)) ≤ 1 / t k := by
  induction k with
  | zero => simp
  | succ k ih =>
    have hg1 := inv_tau_growth γ (t k) hγ (ht k)
    -- t_k ≤ t_0, hence γ/(1+γt_0) ≤ γ/(1+γt_k)
    have hle : t k ≤ t 0 := by
      have hk : 0 ≤ (k : ℝ) * (γ / (1 + γ * t 0)) := by have := ht 0; positivity
      exact (one_div_le_one_div (ht 0) (ht k)).mp (by linarith)
    have hmono : γ / (1 + γ * t 0) ≤ γ / (1 + γ * t k) :=
      div_le_div_of_nonneg_left hγ.le (by have := ht k; positivity)
        (by have := mul_le_mul_of_nonneg_left hle hγ.le; linarith)
    rw [hrec]
    push_cast
    linarith

theorem le_div_sq_of_le_sq_mul {X t C S : ℝ} (ht : 0 < t) (hS : 0 < S) (hX : 0 ≤ X) (h : X ≤ t ^ 2 * C)
    (hSt : S ≤ 1 / t) : X ≤ C / S ^ 2 := by
  have hC : 0 ≤ C := (mul_nonneg_iff_of_pos_left (pow_pos ht 2)).mp (hX.trans h)
  have h1 : t ≤ 1 / S := (le_one_div hS ht).mp hSt
  have h2 : t ^ 2 ≤ 1 / S ^ 2 := by
    have := pow_le_pow_left₀ ht.le h1 2
    rwa [div_pow, one_pow] at this
  calc X ≤ t ^ 2 * C := h
    _ ≤ 1 / S ^ 2 * C := mul_le_mul_of_nonneg_right h2 hC
    _ = C / S ^ 2 := by ring

end accel


set_option linter.unusedVariables false in
/-- a subgradient inequality of a `γ`-strongly convex function improves by `γ/2 ‖w - p‖²` (the sign of `γ` plays no role) -/
theorem strong_subgrad {g : E → ℝ} {γ : ℝ} (hγ : 0 ≤ γ) (hsc : StrongConvexOn Set.univ γ g) {p s : E}
    (hsub : ∀ w, g p + ⟪s, w - p⟫ ≤ g w) (w : E) : g p + ⟪s, w - p⟫ + γ / 2 * ‖w - p‖ ^ 2 ≤ g w := by
  set c := γ / 2 * ‖w - p‖ ^ 2 with hc
  -- strong convexity between `p` and `w`, against the subgradient inequality at the same point
  have key : ∀ t : ℝ, 0 < t → t < 1 → g p + ⟪s, w - p⟫ + (1 - t) * c ≤ g w := by
    intro t ht0 ht1
    have h1 := hsc.2 (Set.mem_univ p) (Set.mem_univ w) (by linarith : (0 : ℝ) ≤ 1 - t) ht0.le (by ring)
    have h2 := hsub ((1 - t) • p + t • w)
    have e : (1 - t) • p + t • w - p = t • (w - p) := by
      simp only [sub_smul, smul_sub, one_smul]; abel
    rw [e, real_inner_smul_right] at h2
    simp only [smul_eq_mul] at h1
    rw [norm_sub_rev p w, ← hc] at h1
    have : t * (g p + ⟪s, w - p⟫ + (1 - t) * c - g w) ≤ 0 := by linear_combination h1 + h2
    linarith [nonpos_of_mul_nonpos_right this ht0]
  -- let `t → 0`
  have lim : Tendsto (fun t : ℝ => g p + ⟪s, w - p⟫ + (1 - t) * c) (𝓝[>] 0) (𝓝 (g p + ⟪s, w - p⟫ + (1 - 0) * c)) :=
    ((continuous_const.add ((continuous_const.sub continuous_id).mul continuous_const)).tendsto 0).mono_left
      nhdsWithin_le_nhds
  rw [sub_zero, one_mul] at lim
  exact le_of_tendsto lim (eventually_of_mem (Ioo_mem_nhdsGT one_pos) fun t ht => key t ht.1 ht.2)

end SigpyVerif.C13
