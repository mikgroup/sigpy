import SigpyVerif.Lemmas.C05
import Mathlib.Algebra.BigOperators.Ring.Finset
import Mathlib.Algebra.BigOperators.Fin
import Mathlib.Data.Fintype.Pi
import Mathlib.Data.Matrix.Mul
import Mathlib.LinearAlgebra.Matrix.Reindex
set_option linter.unusedSectionVars false
/-
  Helper lemmas for the N-dimensional part of C05: the n-fold Kronecker product of a family of square
  matrices, indexed by multi-indices `(d : ι) → κ d` (no flattening: a multi-index IS the index).

    piKron A K J = ∏ d, A d (K d) (J d)

  `piKron_mul` is the n-fold mixed-product rule `(⊗ A_d)(⊗ B_d) = ⊗ (A_d B_d)`; it is the induction over
  the axes (carried out once and for all by `Fintype.prod_sum`: a product of sums is the sum over all
  choice functions).
-/
namespace SigpyVerif.C05
open Matrix Finset ComplexConjugate

variable {ι : Type*} [Fintype ι] [DecidableEq ι] {κ : ι → Type*} [∀ i, Fintype (κ i)]
  [∀ i, DecidableEq (κ i)]

/-- n-fold Kronecker product of a family of square matrices, on multi-indices -/
def piKron (A : ∀ i, Matrix (κ i) (κ i) ℂ) : Matrix (∀ i, κ i) (∀ i, κ i) ℂ :=
  Matrix.of fun K J => ∏ i, A i (K i) (J i)

theorem piKron_apply (A : ∀ i, Matrix (κ i) (κ i) ℂ) (K J : ∀ i, κ i) :
    piKron A K J = ∏ i, A i (K i) (J i) := rfl

/-- mixed-product rule for any number of factors -/
theorem piKron_mul (A B : ∀ i, Matrix (κ i) (κ i) ℂ) :
    piKron A * piKron B = piKron fun i => A i * B i := by
  ext K J
  simp only [piKron, mul_apply, of_apply, ← Finset.prod_mul_distrib]
  exact (Fintype.prod_sum fun i l => A i (K i) l * B i l (J i)).symm

theorem piKron_one : piKron (fun i => (1 : Matrix (κ i) (κ i) ℂ)) = 1 := by
  ext K J
  simp only [piKron, of_apply, one_apply, Finset.prod_boole, Finset.mem_univ, forall_true_left,
    funext_iff]

theorem piKron_conjTranspose (A : ∀ i, Matrix (κ i) (κ i) ℂ) :
    (piKron A)ᴴ = piKron fun i => (A i)ᴴ := by
  ext K J
  simp only [piKron, conjTranspose_apply, of_apply, RCLike.star_def, map_prod]

/-- a Kronecker product of unitaries is unitary — any number of factors -/
theorem piKron_unitary (A : ∀ i, Matrix (κ i) (κ i) ℂ) (h : ∀ i, (A i)ᴴ * A i = 1) :
    (piKron A)ᴴ * piKron A = 1 := by
  rw [piKron_conjTranspose, piKron_mul]
  simp only [h, piKron_one]

/-- identity factors contribute Kronecker deltas: the entry is the product over the set `s` of the
    non-trivial factors' entries when the two multi-indices agree off `s`, and zero otherwise -/
theorem piKron_ite_apply (s : Finset ι) (A : ∀ i, Matrix (κ i) (κ i) ℂ) (K J : ∀ i, κ i) :
    piKron (fun i => if i ∈ s then A i else 1) K J =
      if ∀ i, i ∉ s → K i = J i then ∏ i ∈ s, A i (K i) (J i) else 0 := by
  rw [piKron_apply]
  split_ifs with h
  · -- off `s` the factors are diagonal entries of the identity
    rw [← Finset.prod_subset (Finset.subset_univ s) fun i _ hi => by
      rw [if_neg hi, h i hi, one_apply_eq]]
    exact Finset.prod_congr rfl fun i hi => by rw [if_pos hi]
  · obtain ⟨i, hi, hne⟩ := not_forall₂.mp h
    exact Finset.prod_eq_zero (Finset.mem_univ i) (by rw [if_neg hi, one_apply_ne hne])

end SigpyVerif.C05
