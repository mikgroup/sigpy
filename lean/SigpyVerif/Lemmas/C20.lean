/-
  C20: the real instance `opsR` of the operations record, the unit pulse `pulse r n` over ℝ, and the designers'
  arithmetic as lemmas about real variables.
-/
import Mathlib.Analysis.Real.Sqrt
import Mathlib.Algebra.Order.Floor.Semiring
import Mathlib.Algebra.BigOperators.Group.List.Basic
import Mathlib.Data.List.Chain
import Mathlib.Data.List.Range
import Mathlib.Tactic.Ring
import Mathlib.Tactic.Linarith
import Mathlib.Tactic.Positivity
import Mathlib.Tactic.FieldSimp
import Mathlib.Tactic.NormNum
import SigpyVerif.Model.C20
namespace SigpyVerif.C20
open SigpyVerif.Gen.TrapGrad

/-- the float operations read over ℝ -/
noncomputable def opsR : Ops ℝ :=
  ⟨fun _ x => ⌈x⌉₊, fun x y z => ⌈Real.sqrt x / y / z⌉₊, fun x s z => ⌊x / Real.sqrt s / z⌋₊,
   fun _ a b => decide (a < b)⟩

@[simp] theorem opsR_lt (site : ℕ) (a b : ℝ) : opsR.lt site a b = decide (a < b) := rfl
@[simp] theorem opsR_ceil (site : ℕ) (x : ℝ) : opsR.ceil site x = ⌈x⌉₊ := rfl

theorem sum_range_div (n : ℕ) (d : ℝ) :
    ((List.range n).map fun k => ((k : ℕ) : ℝ) / d).sum = (n : ℝ) * ((n : ℝ) - 1) / 2 / d := by
  induction n with
  | zero => simp
  | succ n ih =>
    rw [List.range_succ, List.map_append, List.sum_append, ih]
    simp only [List.map_cons, List.map_nil, List.sum_cons, List.sum_nil, Nat.cast_add, Nat.cast_one]
    ring

theorem rampDn_eq_reverse (r : ℕ) : (rampDn r : List ℝ) = (rampUp r).reverse := by
  rw [rampUp, ← List.map_reverse, List.range_eq_range', List.reverse_range', List.map_map, rampDn]
  refine List.map_congr_left fun k _ => ?_
  rw [Function.comp_apply, Nat.zero_add, Nat.add_sub_cancel]

theorem sum_rampUp (r : ℕ) (hr : 1 ≤ r) : (rampUp r : List ℝ).sum = ((r : ℝ) + 1) / 2 := by
  have h : (r : ℝ) ≠ 0 := by positivity
  rw [rampUp, sum_range_div, Nat.cast_succ, add_sub_cancel_right, div_right_comm, mul_div_cancel_right₀ _ h]

theorem sum_pulse (r n : ℕ) (hr : 1 ≤ r) : (pulse r n : List ℝ).sum = (r : ℝ) + 1 + n := by
  rw [pulse, List.sum_append, List.sum_append, rampDn_eq_reverse, List.sum_reverse, sum_rampUp r hr,
    List.sum_replicate, nsmul_eq_mul, Nat.cast_one]
  ring

theorem length_pulse (r n : ℕ) : (pulse r n : List ℝ).length = 2 * (r + 1) + n := by
  simp only [pulse, rampUp, rampDn, List.length_append, List.length_map, List.length_range, List.length_replicate]
  ring

theorem pulse_range {r n : ℕ} (hr : 1 ≤ r) {x : ℝ} (hx : x ∈ (pulse r n : List ℝ)) : 0 ≤ x ∧ x ≤ 1 := by
  have h : (0 : ℝ) < r := Nat.cast_pos.mpr hr
  have up : ∀ x ∈ (rampUp r : List ℝ), 0 ≤ x ∧ x ≤ 1 := fun x hx => by
    obtain ⟨k, hk, rfl⟩ := List.mem_map.mp hx
    exact ⟨div_nonneg (Nat.cast_nonneg k) h.le,
      (div_le_one h).mpr (Nat.cast_le.mpr (Nat.le_of_lt_succ (List.mem_range.mp hk)))⟩
  simp only [pulse, rampDn_eq_reverse, List.mem_append, List.mem_replicate, List.mem_reverse, Nat.cast_one] at hx
  rcases hx with hx | ⟨_, rfl⟩ | hx
  exacts [up x hx, ⟨zero_le_one, le_rfl⟩, up x hx]

theorem head_rampUp (r : ℕ) : (rampUp r : List ℝ).head? = some 0 := by
  simp [rampUp, List.range_succ_eq_map]

theorem getLast_rampUp (r : ℕ) (hr : 1 ≤ r) : (rampUp r : List ℝ).getLast? = some 1 := by
  have h : (r : ℝ) ≠ 0 := by positivity
  simp [rampUp, List.range_succ, h]

theorem pulse_ends (r n : ℕ) : (pulse r n : List ℝ).head? = some 0 ∧ (pulse r n : List ℝ).getLast? = some 0 := by
  simp [pulse, rampDn_eq_reverse, List.head?_append, List.getLast?_append, head_rampUp]

theorem head?_append_all {α : Type} {p : α → Prop} {u v : List α} (hu : ∀ x ∈ u.head?, p x)
    (hv : ∀ x ∈ v.head?, p x) : ∀ x ∈ (u ++ v).head?, p x := by
  intro x hx
  rw [List.head?_append] at hx
  rcases Option.or_eq_some_iff.mp hx with h | ⟨_, h⟩
  exacts [hu x h, hv x h]

theorem getLast?_append_all {α : Type} {p : α → Prop} {u v : List α} (hu : ∀ x ∈ u.getLast?, p x)
    (hv : ∀ x ∈ v.getLast?, p x) : ∀ x ∈ (u ++ v).getLast?, p x := by
  intro x hx
  rw [List.getLast?_append] at hx
  rcases Option.or_eq_some_iff.mp hx with h | ⟨_, h⟩
  exacts [hv x h, hu x h]

theorem isChain_append_of_ends {α : Type} {R : α → α → Prop} {u v : List α} (a : α) (hu : u.IsChain R)
    (hv : v.IsChain R) (hu' : ∀ x ∈ u.getLast?, x = a) (hv' : ∀ y ∈ v.head?, y = a) (h : R a a) :
    (u ++ v).IsChain R :=
  List.isChain_append.mpr ⟨hu, hv, fun x hx y hy => by rwa [hu' x hx, hv' y hy]⟩

theorem pulse_chain (r n : ℕ) (hr : 1 ≤ r) :
    List.IsChain (fun x y : ℝ => |y - x| ≤ 1 / r) (pulse r n : List ℝ) := by
  have h1 : (0 : ℝ) ≤ 1 / r := by positivity
  have h11 : |(1 : ℝ) - 1| ≤ 1 / r := by rwa [sub_self, abs_zero]
  have up : List.IsChain (fun x y : ℝ => |y - x| ≤ 1 / r) (rampUp r : List ℝ) := by
    rw [rampUp, List.isChain_map, List.isChain_range_succ]
    intro m _
    rw [Nat.cast_succ, ← sub_div, add_sub_cancel_left, abs_of_nonneg h1]
  have dn : List.IsChain (fun x y : ℝ => |y - x| ≤ 1 / r) (rampDn r : List ℝ) := by
    rw [rampDn_eq_reverse, List.isChain_reverse]
    exact up.imp fun x y h => by rwa [abs_sub_comm]
  have rep : List.IsChain (fun x y : ℝ => |y - x| ≤ 1 / r) (List.replicate n (((1 : ℕ) : ℝ))) :=
    List.isChain_replicate_of_rel n (by rwa [Nat.cast_one])
  -- all three pieces meet at the value 1
  have eup : ∀ x ∈ (rampUp r : List ℝ).getLast?, x = 1 := fun x hx =>
    Option.some.inj (hx.symm.trans (getLast_rampUp r hr))
  have edn : ∀ x ∈ (rampDn r : List ℝ).head?, x = 1 := fun x hx => by
    rw [rampDn_eq_reverse, List.head?_reverse] at hx
    exact eup x hx
  have erep : ∀ x ∈ List.replicate n (((1 : ℕ) : ℝ)), x = 1 := fun x hx =>
    (List.eq_of_mem_replicate hx).trans Nat.cast_one
  exact isChain_append_of_ends 1 up
    (isChain_append_of_ends 1 rep dn (fun x hx => erep x (List.mem_of_mem_getLast? hx)) edn h11) eup
    (head?_append_all (fun x hx => erep x (List.mem_of_mem_head? hx)) edn) h11

theorem le_natCeil_mul (x c y : ℝ) (hc : 0 < c) (e : y * c = x) : x ≤ (⌈y⌉₊ : ℝ) * c := by
  rw [← e]; exact mul_le_mul_of_nonneg_right (Nat.le_ceil _) hc.le

theorem natCeil_div_div {x k t : ℝ} (hx : 0 < x) (hk : 0 < k) (ht : 0 < t) :
    1 ≤ ⌈x / k / t⌉₊ ∧ x ≤ (⌈x / k / t⌉₊ : ℝ) * (k * t) :=
  ⟨Nat.ceil_pos.mpr (div_pos (div_pos hx hk) ht), le_natCeil_mul x (k * t) _ (mul_pos hk ht)
    (by rw [div_div, div_mul_cancel₀ _ (mul_pos hk ht).ne'])⟩

theorem slew_le {x r dgdt dt : ℝ} (hr : 0 < r) (hdt : 0 < dt) (h : x ≤ r * (dgdt * dt)) : x / r / dt ≤ dgdt := by
  rw [div_div, div_le_iff₀ (mul_pos hr hdt)]
  linarith

/-- The triangle regime of `trap_grad`: `s = √(a·k)` is the peak of a triangle of area `a` and slope `k`, `r` its
ramp length, `r0` the ramp length up to `g`. The point is `s² ≤ g·(s + k·t)`, whichever of `s`, `g` is larger. -/
theorem triangle_bounds {a g k t s r r0 : ℝ} (hg : 0 < g) (hk : 0 < k) (ht : 0 < t) (hs : 0 ≤ s)
    (hss : s * s = a * k) (hr : s ≤ r * (k * t)) (hrpos : 0 < r) (hr0 : r0 * (k * t) < g + k * t)
    (h : a < r0 * t * g) : a / ((r + 1) * t) ≤ g ∧ a / ((r + 1) * t) / r / t ≤ k := by
  have hc : 0 < k * t := mul_pos hk ht
  have hm : 0 < (r + 1) * t := mul_pos (add_pos hrpos one_pos) ht
  have h1 : s * s < g * (g + k * t) :=
    calc s * s = a * k := hss
      _ < r0 * t * g * k := mul_lt_mul_of_pos_right h hk
      _ = r0 * (k * t) * g := by ring
      _ < (g + k * t) * g := mul_lt_mul_of_pos_right hr0 hg
      _ = g * (g + k * t) := mul_comm _ _
  have key : s * s ≤ g * (s + k * t) := by
    rcases le_total s g with hle | hge
    · calc s * s ≤ g * s := mul_le_mul_of_nonneg_right hle hs
        _ ≤ g * (s + k * t) := mul_le_mul_of_nonneg_left (le_add_of_nonneg_right hc.le) hg.le
    · exact h1.le.trans (mul_le_mul_of_nonneg_left (add_le_add_left hge _) hg.le)
  refine ⟨(div_le_iff₀ hm).mpr (le_of_mul_le_mul_right ?_ hk),
    slew_le hrpos ht ((div_le_iff₀ hm).mpr (le_of_mul_le_mul_right ?_ hk))⟩
  · calc a * k = s * s := hss.symm
      _ ≤ g * (s + k * t) := key
      _ ≤ g * (r * (k * t) + k * t) := mul_le_mul_of_nonneg_left (add_le_add_left hr _) hg.le
      _ = g * ((r + 1) * t) * k := by ring
  · calc a * k = s * s := hss.symm
      _ ≤ r * (k * t) * (r * (k * t)) := mul_self_le_mul_self hs hr
      _ ≤ r * (k * t) * (r * (k * t) + k * t) :=
        mul_le_mul_of_nonneg_left (le_add_of_nonneg_right hc.le) (hs.trans hr)
      _ = r * (k * t) * ((r + 1) * t) * k := by ring

/-- The trapezoid regime: `r` ramp points reach `g` (`g ≤ r·k·t`) and `n` flat points cover what the two ramps leave of
the area. -/
theorem trapezoid_bounds {a g k t r n : ℝ} (hg : 0 < g) (ht : 0 < t) (hr : 0 < r) (hn : 0 ≤ n)
    (hrg : g ≤ r * (k * t)) (hcov : a - r * t * g ≤ n * (g * t)) :
    a / ((r + 1 + n) * t) ≤ g ∧ a / ((r + 1 + n) * t) / r / t ≤ k := by
  have hpk : a / ((r + 1 + n) * t) ≤ g := by
    rw [div_le_iff₀ (by positivity)]
    linarith [mul_pos hg ht]
  exact ⟨hpk, slew_le hr ht (hpk.trans hrg)⟩

theorem lt_sqrt_div_div_iff {x y z t : ℝ} (hx : 0 ≤ x) (hy : 0 < y) (hz : 0 < z) (ht : 0 ≤ t) :
    t < Real.sqrt x / y / z ↔ t * y * z * (t * y * z) < x := by
  rw [div_div, lt_div_iff₀ (mul_pos hy hz), ← mul_assoc,
    mul_self_lt_mul_self_iff (mul_nonneg (mul_nonneg ht hy.le) hz.le) (Real.sqrt_nonneg x), Real.mul_self_sqrt hx]

theorem div_sqrt_div_lt_iff {x s z t : ℝ} (hx : 0 ≤ x) (hs : 0 < s) (hz : 0 < z) (ht : 0 ≤ t) :
    x / Real.sqrt s / z < t ↔ x * x < t * t * s * (z * z) := by
  have hqz : 0 < Real.sqrt s * z := mul_pos (Real.sqrt_pos.mpr hs) hz
  rw [div_div, div_lt_iff₀ hqz, mul_self_lt_mul_self_iff hx (mul_nonneg ht hqz.le),
    mul_mul_mul_comm t, mul_mul_mul_comm (Real.sqrt s), Real.mul_self_sqrt hs.le, mul_assoc (t * t)]

end SigpyVerif.C20
