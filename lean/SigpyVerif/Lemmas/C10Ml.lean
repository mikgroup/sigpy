import SigpyVerif.Model.C10Nd
import SigpyVerif.Lemmas.C10Nd
import SigpyVerif.Lemmas.C10List
namespace SigpyVerif.C10
open Finset

variable {R : Type*} [CommRing R]

/-! ### `tabM` is the identity (the executed model is the model of the theorems) -/

theorem tabM_app {α : Type*} : ∀ (shape : List ℕ) (X : List ℕ → α), (tabM shape X).app = X := by
  intro shape
  induction shape with
  | nil =>
    intro X; funext idx
    cases idx <;> rfl
  | cons n s ih =>
    intro X; funext idx
    cases idx with
    | nil => rfl
    | cons i r =>
      simp only [tabM, nodeM]
      split_ifs with h
      · simp only [Array.getElem_ofFn, ih]
      · rfl

theorem inBoxB_iff : ∀ (s idx : List ℕ), inBoxB s idx = true ↔ InBox s idx
  | [], [] => by simp [inBoxB, InBox]
  | n :: s, i :: idx => by simp [inBoxB, InBox, inBoxB_iff s idx]
  | [], _ :: _ => by simp [inBoxB, InBox]
  | _ :: _, [] => by simp [inBoxB, InBox]

theorem inBox_iff : ∀ (s idx : List ℕ),
    InBox s idx ↔ idx.length = s.length ∧ ∀ a, a < s.length → idx.getD a 0 < s.getD a 0 := by
  intro s idx
  refine ⟨fun h => ⟨h.length_eq, h.getD_lt⟩, ?_⟩
  rintro ⟨hl, hr⟩
  induction s generalizing idx with
  | nil =>
    cases idx with
    | nil => trivial
    | cons _ _ => exact absurd hl (Nat.succ_ne_zero _)
  | cons n s ih =>
    cases idx with
    | nil => exact absurd hl.symm (Nat.succ_ne_zero _)
    | cons i idx =>
      exact ⟨hr 0 (Nat.succ_pos _), ih idx (Nat.succ.inj hl) fun a ha => hr (a + 1) (Nat.succ_lt_succ ha)⟩

/-- pointwise smaller box of the same rank -/
def SubBox (s' s : List ℕ) : Prop := s'.length = s.length ∧ ∀ a, s'.getD a 0 ≤ s.getD a 0

theorem SubBox.inBox {s' s idx : List ℕ} (h : SubBox s' s) (hi : InBox s' idx) : InBox s idx := by
  rw [inBox_iff] at hi ⊢
  exact ⟨hi.1.trans h.1, fun a ha => lt_of_lt_of_le (hi.2 a (by rw [h.1]; exact ha)) (h.2 a)⟩

theorem SubBox.trans {a b c : List ℕ} (h1 : SubBox a b) (h2 : SubBox b c) : SubBox a c :=
  ⟨h1.1.trans h2.1, fun i => (h1.2 i).trans (h2.2 i)⟩

theorem SubBox.tail {n' n : ℕ} {t s : List ℕ} (h : SubBox (n' :: t) (n :: s)) : n' ≤ n ∧ SubBox t s :=
  ⟨h.2 0, Nat.succ.inj h.1, fun a => h.2 (a + 1)⟩

theorem boxSum_congr : ∀ (s : List ℕ) (f g : List ℕ → R), (∀ idx, InBox s idx → f idx = g idx) →
    boxSum s f = boxSum s g := by
  intro s
  induction s with
  | nil => intro f g h; exact h [] trivial
  | cons n s ih =>
    intro f g h
    simp only [boxSum]
    apply sum_congr rfl; intro i hi
    exact ih _ _ (fun idx hidx => h (i :: idx) ⟨mem_range.mp hi, hidx⟩)

theorem boxSum_add : ∀ (s : List ℕ) (f g : List ℕ → R),
    boxSum s (fun idx => f idx + g idx) = boxSum s f + boxSum s g := by
  intro s
  induction s with
  | nil => intro f g; rfl
  | cons n s ih =>
    intro f g
    simp only [boxSum]
    rw [← sum_add_distrib]
    apply sum_congr rfl; intro i _
    exact ih _ _

theorem boxSum_sub : ∀ (s : List ℕ) (f g : List ℕ → R),
    boxSum s (fun idx => f idx - g idx) = boxSum s f - boxSum s g := by
  intro s
  induction s with
  | nil => intro f g; rfl
  | cons n s ih =>
    intro f g
    simp only [boxSum]
    rw [← sum_sub_distrib]
    apply sum_congr rfl; intro i _
    exact ih _ _

theorem boxSum_zero : ∀ (s : List ℕ), boxSum s (fun _ => (0 : R)) = 0 := by
  intro s
  induction s with
  | nil => rfl
  | cons n s ih => simp only [boxSum, ih, sum_const_zero]

theorem boxSum_indicator : ∀ (s s' : List ℕ) (h : List ℕ → R), SubBox s' s →
    boxSum s (fun idx => if inBoxB s' idx then h idx else 0) = boxSum s' h := by
  intro s
  induction s with
  | nil =>
    intro s' h hs
    cases s' with
    | nil => simp [boxSum, inBoxB]
    | cons _ _ => simp [SubBox] at hs
  | cons n s ih =>
    intro s' h hs
    cases s' with
    | nil => simp [SubBox] at hs
    | cons n' t =>
      obtain ⟨hn, ht⟩ := hs.tail
      simp only [boxSum]
      have e : ∀ i ∈ range n, boxSum s (fun idx => if inBoxB (n' :: t) (i :: idx) then h (i :: idx) else 0)
          = if i < n' then boxSum t (fun idx => h (i :: idx)) else 0 := by
        intro i _
        by_cases hi : i < n'
        · rw [if_pos hi, ← ih t (fun idx => h (i :: idx)) ht]
          simp [inBoxB, hi]
        · rw [if_neg hi]
          simp [inBoxB, hi, boxSum_zero]
      rw [sum_congr rfl e, ← sum_filter]
      congr 1
      ext i
      simp only [mem_filter, mem_range]
      omega

theorem boxSum_ite (s s' : List ℕ) (hs : SubBox s' s) (p q : List ℕ → R) :
    boxSum s (fun idx => if inBoxB s' idx then p idx else q idx) = boxSum s' p - boxSum s' q + boxSum s q := by
  rw [← boxSum_sub, ← boxSum_indicator s s' _ hs, ← boxSum_add]
  apply boxSum_congr; intro idx _
  split_ifs
  · rw [sub_add_cancel]
  · rw [zero_add]

theorem length_mapAxes (f : ℕ → ℕ) (axes shape : List ℕ) : (mapAxes f axes shape).length = shape.length := by
  simp [mapAxes]

theorem getD_mapAxes (f : ℕ → ℕ) (axes shape : List ℕ) (b : ℕ) (hb : b < shape.length) :
    (mapAxes f axes shape).getD b 0 = if b ∈ axes then f (shape.getD b 0) else shape.getD b 0 := by
  unfold mapAxes
  rw [List.getD_eq_getElem?_getD, List.getD_eq_getElem?_getD, List.getElem?_mapIdx, List.getElem?_eq_getElem hb]
  simp

theorem getD_of_le (l : List ℕ) (b : ℕ) (hb : l.length ≤ b) : l.getD b 0 = 0 := by
  rw [List.getD_eq_getElem?_getD, List.getElem?_eq_none hb]; rfl

theorem mapAxes_congr (f f' : ℕ → ℕ) (axes shape : List ℕ) (h : ∀ n, f n = f' n) :
    mapAxes f axes shape = mapAxes f' axes shape := by
  have : f = f' := funext h
  rw [this]

theorem mapAxes_id (f : ℕ → ℕ) (axes shape : List ℕ) (h : ∀ n, f n = n) : mapAxes f axes shape = shape := by
  apply ext_getD 0 (length_mapAxes _ _ _)
  intro b hb
  rw [length_mapAxes] at hb
  rw [getD_mapAxes _ _ _ _ hb, h]
  simp

theorem subBox_mapAxes (f f' : ℕ → ℕ) (axes shape : List ℕ) (h : ∀ n, f n ≤ f' n) :
    SubBox (mapAxes f axes shape) (mapAxes f' axes shape) := by
  refine ⟨by simp [length_mapAxes], fun a => ?_⟩
  by_cases ha : a < shape.length
  · rw [getD_mapAxes _ _ _ _ ha, getD_mapAxes _ _ _ _ ha]
    split_ifs
    · exact h _
    · exact le_refl _
  · rw [getD_of_le _ _ (by rw [length_mapAxes]; omega), getD_of_le _ _ (by rw [length_mapAxes]; omega)]

theorem mapAxes_mapAxes (f f' : ℕ → ℕ) (axes shape : List ℕ) :
    mapAxes f axes (mapAxes f' axes shape) = mapAxes (fun n => f (f' n)) axes shape := by
  apply ext_getD 0 (by simp [length_mapAxes])
  intro b hb
  simp only [length_mapAxes] at hb
  rw [getD_mapAxes _ _ _ _ (by rw [length_mapAxes]; exact hb), getD_mapAxes _ _ _ _ hb, getD_mapAxes _ _ _ _ hb]
  split_ifs <;> rfl

theorem shapeAxes_map (F : AxisMap R) : ∀ (axes shape : List ℕ), axes.Nodup → (∀ a ∈ axes, a < shape.length) →
    shapeAxes (axes.map fun a => (a, F)) shape = mapAxes F.len axes shape := by
  intro axes
  induction axes with
  | nil =>
    intro shape _ _
    apply ext_getD 0 (by simp [shapeAxes, length_mapAxes])
    intro b hb
    simp only [List.map_nil, shapeAxes] at hb ⊢
    rw [getD_mapAxes _ _ _ _ hb]; simp
  | cons a as ih =>
    intro shape hnd hax
    have hnd' := (List.nodup_cons.mp hnd)
    simp only [List.map_cons, shapeAxes]
    rw [ih _ hnd'.2 (by intro b hb; simpa using hax b (List.mem_cons_of_mem _ hb))]
    apply ext_getD 0 (by simp [length_mapAxes])
    intro b hb
    simp only [length_mapAxes, List.length_set] at hb
    rw [getD_mapAxes _ _ _ _ (by simpa using hb), getD_mapAxes _ _ _ _ hb]
    by_cases hba : b = a
    · subst hba
      rw [if_neg hnd'.1, if_pos List.mem_cons_self, getD_set_self _ _ _ hb]
    · rw [getD_set_ne _ _ _ (Ne.symm hba)]
      simp [hba]

theorem packedLen_zero (z L : ℕ) : packedLen z L 0 = z := by simp [packedLen, coeffLens]

theorem packedLen_succ (z L J : ℕ) : packedLen z L (J + 1) = packedLen (dwtLen z L) L J + dwtLen z L := by
  simp [packedLen, coeffLens]

/-- the packed length is at least the signal length (filters of length ≥ 2): the detail offset of
    `coeffs_to_array` never falls inside the approximation block -/
theorem le_packedLen {L : ℕ} (hL : 2 ≤ L) : ∀ (J n : ℕ), n ≤ packedLen n L J := by
  intro J
  induction J with
  | zero => intro n; rw [packedLen_zero]
  | succ J ih =>
    intro n
    rw [packedLen_succ]
    have := ih (dwtLen n L)
    unfold dwtLen at *
    omega

/-- splitting the sum over a packed axis `[ a (n) | zeros (p - n) | d (n) ]` -/
theorem sum_packed_axis (n p : ℕ) (hnp : n ≤ p) (F : ℕ → R) (hgap : ∀ k, n ≤ k → k < p → F k = 0) :
    ∑ k ∈ range (p + n), F k = ∑ k ∈ range n, F k + ∑ k ∈ range n, F (p + k) := by
  rw [sum_range_add]
  congr 1
  obtain ⟨q, rfl⟩ : ∃ q, p = n + q := ⟨p - n, by omega⟩
  rw [sum_range_add]
  have : ∑ k ∈ range q, F (n + k) = 0 := by
    apply sum_eq_zero; intro k hk
    exact hgap _ (by omega) (by have := mem_range.mp hk; omega)
  rw [this, add_zero]

/-! ### zero filling: a level's output vanishes in the gap of every transformed axis -/

theorem applyAxes_vanish_other (b : ℕ) (Gp : ℕ → Prop) : ∀ (steps : List (ℕ × AxisMap R)) (shape : List ℕ)
    (X : List ℕ → R), (∀ s ∈ steps, s.1 ≠ b ∧ ∀ N k, s.2.fwd N (fun _ => 0) k = 0) →
    (∀ idx, Gp (idx.getD b 0) → X idx = 0) → ∀ idx, Gp (idx.getD b 0) → applyAxes steps shape X idx = 0 := by
  intro steps
  induction steps with
  | nil => intro shape X _ hX idx h; exact hX idx h
  | cons s as ih =>
    intro shape X hs hX idx h
    obtain ⟨c, F⟩ := s
    have h0 := hs (c, F) List.mem_cons_self
    simp only [applyAxes]
    apply ih _ _ (by intro t ht; exact hs t (List.mem_cons_of_mem _ ht)) _ idx h
    intro idx' h'
    unfold alongAxis
    have : (fun i => X (idx'.set c i)) = fun _ => 0 := by
      funext i
      apply hX
      rw [getD_set_ne _ _ _ h0.1]; exact h'
    rw [this]
    exact h0.2 _ _

/-- left inverse of a list of per-axis steps, for any coefficient array that agrees with the transform on the
    coefficient box (the inverse reads nothing else) -/
theorem applyAxes_left_inverse_on : ∀ (steps : List (ℕ × AxisMap R)) (shape : List ℕ) (X C : List ℕ → R)
    (idx : List ℕ), (∀ s ∈ steps, s.1 < shape.length ∧ s.2.IsInv) →
    (∀ i2, InBox (shapeAxes steps shape) i2 → C i2 = applyAxes steps shape X i2) → InBox shape idx →
      unapplyAxes steps shape C idx = X idx :=
  unapplyAxes_of_agree

end SigpyVerif.C10
