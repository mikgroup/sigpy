import SigpyVerif.Model.C03
import SigpyVerif.Lemmas.Py
import Mathlib.Tactic.Ring
import Mathlib.Tactic.Linarith
/-
  Helper lemmas for property C03: stacking parameters, slab bounds, the slab partition of one row, the
  `natGuard` characterisation, and the N-d read side (`concatAx`, `Stacked`, `sliceAx_concat`).
-/
namespace SigpyVerif.C03

/-- `[s, s+x₀, s+x₀+x₁, …]` (one entry per size): running offsets -/
def prefixFrom : Nat → List Nat → List Nat
  | _, [] => []
  | s, x :: xs => s :: prefixFrom (s + x) xs

/-- the documented shape predicate for one further operand: same rank, equal off the axis -/
def Fits (a : Nat) (s0 sh : List Nat) : Prop :=
  sh.length = s0.length ∧ ∀ i, i < s0.length → i ≠ a → sh.getD i 0 = s0.getD i 0

theorem compat_iff (a : Nat) (acc sh : List Nat) : compat a acc sh = true ↔ Fits a acc sh := by
  unfold compat Fits
  simp only [Bool.and_eq_true, decide_eq_true_eq, List.all_eq_true, List.mem_range, Bool.or_eq_true]
  exact and_congr_right fun _ => forall₂_congr fun i _ => or_iff_not_imp_left

theorem set_getD_self (s : List Nat) (a : Nat) : s.set a (s.getD a 0) = s := by
  by_cases h : a < s.length
  · rw [List.getD_eq_getElem?_getD, List.getElem?_eq_getElem h, Option.getD_some, List.set_getElem_self]
  · exact List.set_eq_of_length_le (Nat.le_of_not_lt h)

theorem fits_set (a v : Nat) (acc sh : List Nat) : Fits a (acc.set a v) sh ↔ Fits a acc sh := by
  unfold Fits
  rw [List.length_set]
  exact and_congr_right fun _ => forall₃_congr fun i _ hne => by rw [getD_set_ne acc v 0 (Ne.symm hne)]

theorem fits_eq_set (a : Nat) (s0 sh : List Nat) (h : Fits a s0 sh) : sh = s0.set a (sh.getD a 0) := by
  apply List.ext_getElem (by rw [List.length_set, h.1])
  intro i h1 h2
  rw [List.getElem_set]
  split
  · next hi => subst hi; exact List.getElem_eq_getD 0
  · next hi =>
    rw [List.getElem_eq_getD 0, List.getElem_eq_getD 0]
    exact h.2 i (h.1 ▸ h1) (Ne.symm hi)

/-- `stackFold` succeeds exactly when every further shape fits, and then returns the shape with the
    axis entry summed and the running offsets appended. -/
theorem stackFold_spec (a : Nat) (rest : List (List Nat)) :
    ∀ (acc : List Nat) (idx : Nat) (ind : List Nat) (osh indices : List Nat),
      stackFold a rest acc idx ind = .ok (osh, indices) ↔
        ((∀ sh ∈ rest, Fits a acc sh) ∧
          osh = acc.set a (acc.getD a 0 + (rest.map (·.getD a 0)).sum) ∧
          indices = ind ++ prefixFrom idx (rest.map (·.getD a 0))) := by
  induction rest with
  | nil =>
    intro acc idx ind osh indices
    simp only [stackFold, List.map_nil, List.sum_nil, Nat.add_zero, prefixFrom, List.append_nil,
      List.not_mem_nil, false_imp_iff, implies_true, true_and, Except.ok.injEq, Prod.mk.injEq, set_getD_self]
    exact and_congr eq_comm eq_comm
  | cons sh rest ih =>
    intro acc idx ind osh indices
    unfold stackFold
    by_cases hc : compat a acc sh = true
    · -- `shape[a] += x; shape[a] += y` is `shape[a] += x + y`, also for `a` out of range (nothing written, `getD` reads 0)
      have hset : ∀ x y, (acc.set a (acc.getD a 0 + x)).set a ((acc.set a (acc.getD a 0 + x)).getD a 0 + y) =
          acc.set a (acc.getD a 0 + (x + y)) := by
        intro x y
        by_cases h : a < acc.length
        · rw [getD_set_self _ _ _ h, List.set_set, Nat.add_assoc]
        · simp only [List.set_eq_of_length_le (Nat.le_of_not_lt h)]
      rw [if_pos hc, ih]
      simp only [List.forall_mem_cons, fits_set, (compat_iff a acc sh).mp hc, true_and, hset,
        List.map_cons, List.sum_cons, prefixFrom, List.append_assoc, List.singleton_append]
    · rw [if_neg hc]
      simp only [List.forall_mem_cons, ← compat_iff, hc, false_and, reduceCtorEq]

/-- the slab bounds the statement asks for: operand `k` owns `[S_k, S_{k+1})`, the last one is open-ended -/
def specBounds : Nat → List Nat → List (Nat × Option Nat)
  | _, [] => []
  | s, [_] => [(s, none)]
  | s, x :: y :: r => (s, some (s + x)) :: specBounds (s + x) (y :: r)

theorem length_prefixFrom (s : Nat) (l : List Nat) : (prefixFrom s l).length = l.length := by
  induction l generalizing s with
  | nil => rfl
  | cons x xs ih => rw [prefixFrom, List.length_cons, ih, List.length_cons]

theorem zip_bounds (sizes : List Nat) : ∀ (s x : Nat),
    List.zip (s :: prefixFrom (s + x) sizes) ((prefixFrom (s + x) sizes).map some ++ [none]) =
      specBounds s (x :: sizes) := by
  induction sizes with
  | nil => intro s x; rfl
  | cons y r ih =>
    intro s x
    simp only [prefixFrom, List.map_cons, List.cons_append, List.zip_cons_cons, specBounds, ih (s + x) y]

theorem specBounds_scale (c : Nat) (s : Nat) (sizes : List Nat) :
    (specBounds s sizes).map (fun b => (b.1 * c, b.2.map (· * c))) = specBounds (s * c) (sizes.map (· * c)) := by
  fun_induction specBounds s sizes with
  | case1 => rfl
  | case2 => rfl
  | case3 s x y r ih =>
    simp only [specBounds, List.map_cons, Option.map_some, Nat.add_mul] at ih ⊢
    rw [ih]

theorem length_specBounds (sizes : List Nat) : ∀ s, (specBounds s sizes).length = sizes.length := by
  intro s
  fun_induction specBounds s sizes with
  | case1 => rfl
  | case2 => rfl
  | case3 s x y r ih => simp only [List.length_cons, ih]

/-- reading the slabs `[S_k, S_{k+1})` (last one open-ended) out of a concatenation returns the parts -/
theorem selRange_concat {β : Type} (segs : List (List β)) : ∀ (pre : List β),
    (specBounds pre.length (segs.map List.length)).map (fun b => selRange b.1 b.2 (pre ++ segs.flatten)) = segs := by
  induction segs with
  | nil => intro pre; rfl
  | cons seg r ih =>
    intro pre
    cases r with
    | nil =>
      simp only [List.map_cons, List.map_nil, specBounds, selRange, List.flatten_cons, List.flatten_nil,
        List.append_nil, List.drop_left]
    | cons seg2 r' =>
      have := ih (pre ++ seg)
      simp only [List.length_append, List.map_cons, List.flatten_cons, List.append_assoc] at this
      simp only [List.map_cons, specBounds, List.flatten_cons]
      refine congrArg₂ _ ?_ this
      simp only [selRange, List.drop_left, Nat.add_sub_cancel_left, List.take_left]

theorem rowWrite_slab {β} (pre fill rest seg : List β) (stop : Option Nat) (hf : fill.length = seg.length)
    (hs : stop = some (pre.length + seg.length) ∨ stop = none ∧ rest = []) :
    rowWrite (pre ++ (fill ++ rest)) pre.length stop seg = .ok (pre ++ (seg ++ rest)) := by
  have hdrop : (pre ++ (fill ++ rest)).drop (pre.length + seg.length) = rest := by
    rw [← hf, ← List.length_append, ← List.append_assoc, List.drop_left]
  simp only [rowWrite]
  rw [if_pos, List.take_left, hdrop, List.append_assoc]
  rcases hs with rfl | ⟨rfl, rfl⟩
  · simp only [List.length_append, hf]
    rw [Nat.min_eq_left (Nat.add_le_add_left (Nat.le_add_right _ _) _), Nat.add_sub_cancel_left]
  · simp only [List.append_nil, List.length_append, hf, Nat.add_sub_cancel_left]

/-- writing the parts into the slabs `[S_k, S_{k+1})` of a fresh row, one after the other, yields their
    concatenation (nothing is left unwritten, nothing is overwritten) -/
theorem rowWrites_concat {β : Type} (z : β) (segs : List (List β)) : ∀ (pre : List β), segs ≠ [] →
    rowWrites (pre ++ List.replicate ((segs.map List.length).sum) z)
      (specBounds pre.length (segs.map List.length)) segs = .ok (pre ++ segs.flatten) := by
  induction segs with
  | nil => intro pre h; exact absurd rfl h
  | cons seg r ih =>
    intro pre _
    cases r with
    | nil =>
      have := rowWrite_slab pre (List.replicate seg.length z) [] seg none List.length_replicate (.inr ⟨rfl, rfl⟩)
      simp only [List.append_nil] at this
      simp only [List.map_cons, List.map_nil, List.sum_cons, List.sum_nil, Nat.add_zero, specBounds, rowWrites,
        this, List.flatten_cons, List.flatten_nil, List.append_nil]
    | cons seg2 r' =>
      have := ih (pre ++ seg) (List.cons_ne_nil _ _)
      rw [List.length_append, List.append_assoc, List.append_assoc] at this
      simp only [List.map_cons, List.sum_cons, specBounds, rowWrites, List.flatten_cons] at this ⊢
      rw [← List.replicate_append_replicate,
        rowWrite_slab pre _ _ seg _ List.length_replicate (.inl rfl)]
      exact this

/-- reading: slicing the concatenation of the parts at the slab bounds returns the parts (Hstack/Diag input side,
    one row; `c` = number of entries behind the axis). -/
theorem slabs_read_concat {β : Type} (c : Nat) (segs : List (List β))
    (sizes : List Nat) (hs : segs.map List.length = sizes.map (· * c)) :
    ((specBounds 0 sizes).map (fun b => (b.1 * c, b.2.map (· * c)))).map
      (fun b => selRange b.1 b.2 segs.flatten) = segs := by
  rw [specBounds_scale, Nat.zero_mul, ← hs]
  exact selRange_concat segs []

/-- the slab `[S_k, S_{k+1})` (last: open-ended) of an axis of length `Σ sizes` has `sizes_k` entries -/
theorem selLen_specBounds (sizes : List Nat) : ∀ s,
    (specBounds s sizes).map (fun b => selLen (s + sizes.sum) b.1 b.2) = sizes := by
  induction sizes with
  | nil => intro s; rfl
  | cons x r ih =>
    intro s
    cases r with
    | nil => simp only [specBounds, List.map_cons, List.map_nil, selLen, List.sum_cons, List.sum_nil, Nat.add_zero,
        Nat.add_sub_cancel_left]
    | cons y r' =>
      have := ih (s + x)
      rw [Nat.add_assoc] at this
      simp only [specBounds, List.map_cons, List.sum_cons]
      refine congrArg₂ _ ?_ this
      simp only [selLen, Nat.add_sub_cancel_left]
      exact Nat.min_eq_left (Nat.le_add_right _ _)

theorem natGuard_cons (a b : Nat) (got adv : List Nat) :
    natGuard (a :: got) (b :: adv) = (decide (a = b) && natGuard got adv) := by
  have h1 : decide ((b : Int) = -1) = false := decide_eq_false (by omega)
  simp only [natGuard, List.map_cons, zipGuard, Int.ofNat_eq_natCast, h1, Bool.false_or, Int.natCast_inj]

theorem natGuard_nil_left (adv : List Nat) : natGuard [] adv = true := rfl

theorem natGuard_nil_right (got : List Nat) : natGuard got [] = true := by cases got <;> rfl

/-- **the guard is a common-prefix test**: it passes exactly when the two shapes agree on the first
    `min (rank got) (rank adv)` entries -/
theorem natGuard_iff_prefix : ∀ (got adv : List Nat),
    natGuard got adv = true ↔ got.take adv.length = adv.take got.length := by
  intro got
  induction got with
  | nil => intro adv; simp only [natGuard_nil_left, List.take_nil, List.length_nil, List.take_zero]
  | cons a got ih =>
    intro adv
    cases adv with
    | nil => simp only [natGuard_nil_right, List.take_nil, List.length_nil, List.take_zero]
    | cons b adv =>
      simp only [natGuard_cons, Bool.and_eq_true, decide_eq_true_eq, List.length_cons, List.take_succ_cons,
        List.cons.injEq, ih]

/-- for shapes of the same rank the guard is equality -/
theorem natGuard_eq_iff (got adv : List Nat) (h : got.length = adv.length) :
    natGuard got adv = true ↔ got = adv := by
  rw [natGuard_iff_prefix, h, List.take_length, ← h, List.take_length]

theorem natGuard_refl (s : List Nat) : natGuard s s = true := (natGuard_eq_iff s s rfl).mpr rfl

/-- `np.concatenate(ys, axis=a)` in flat row-major form: for every index tuple in front of the axis, the
    rows of the operands one after the other (`inner` = number of entries behind the axis). -/
def concatAx {α} (outer inner : Nat) (a : Nat) (ys : List (NDArr α)) : List α :=
  ((List.range outer).map fun o =>
    (ys.map fun y => rowOf ((geom y.shape a).n * inner) o y.data).flatten).flatten

theorem length_rowOf {β} {k m o : Nat} {l : List β} (hl : l.length = m * k) (ho : o < m) :
    (rowOf k o l).length = k := by
  rw [rowOf, List.length_take, List.length_drop, hl, ← Nat.sub_mul]
  exact Nat.min_eq_left (Nat.le_mul_of_pos_left k (Nat.sub_pos_of_lt ho))

theorem rowOf_succ {β} (k o : Nat) (l : List β) : rowOf k (o + 1) l = rowOf k o (l.drop k) := by
  rw [rowOf, rowOf, List.drop_drop, Nat.succ_mul, Nat.add_comm]

/-- cutting a flat array of `m` rows into its rows and gluing them again gives the array back -/
theorem flatten_rowOf {β} (k : Nat) : ∀ (m : Nat) (l : List β), l.length = m * k →
    ((List.range m).map fun o => rowOf k o l).flatten = l := by
  intro m
  induction m with
  | zero => intro l h; rw [Nat.zero_mul, List.length_eq_zero_iff] at h; rw [h]; rfl
  | succ m ih =>
    intro l h
    have h2 : (l.drop k).length = m * k := by rw [List.length_drop, h, Nat.succ_mul, Nat.add_sub_cancel]
    simp only [List.range_succ_eq_map, List.map_cons, List.map_map, List.flatten_cons, Function.comp_def,
      Nat.succ_eq_add_one, rowOf_succ, ih (l.drop k) h2]
    simp only [rowOf, Nat.zero_mul, List.drop_zero, List.take_append_drop]

/-- row `o` of a flat array that is a concatenation of rows of length `k` is the `o`-th of them -/
theorem rowOf_flatten {β} (k : Nat) : ∀ (rows : List (List β)) (o : Nat) (r : List β), (∀ r ∈ rows, r.length = k) →
    rows[o]? = some r → rowOf k o rows.flatten = r := by
  intro rows
  induction rows with
  | nil => intro o r _ h; cases h
  | cons r0 rs ih =>
    intro o r hk h
    have h0 : r0.length = k := hk r0 List.mem_cons_self
    cases o with
    | zero =>
      cases h
      rw [rowOf, Nat.zero_mul, List.drop_zero, List.flatten_cons, List.take_left' h0]
    | succ o =>
      rw [rowOf_succ, List.flatten_cons, List.drop_left' h0]
      exact ih o r (fun r hr => hk r (List.mem_cons_of_mem _ hr)) h

theorem rowOf_flatten_range {β} (L m : Nat) (row : Nat → List β) (hl : ∀ o, o < m → (row o).length = L) (o : Nat)
    (ho : o < m) : rowOf L o ((List.range m).map row).flatten = row o := by
  apply rowOf_flatten L _ o (row o)
  · intro r hr
    obtain ⟨o', ho', rfl⟩ := List.mem_map.mp hr
    exact hl o' (List.mem_range.mp ho')
  · rw [List.getElem?_map, List.getElem?_range ho]; rfl

theorem sprod_cons (h : Nat) (t : List Nat) : sprod (h :: t) = h * sprod t := rfl

theorem sprod_split (S : List Nat) : ∀ a, a < S.length →
    sprod S = (geom S a).outer * ((geom S a).n * (geom S a).inner) := by
  induction S with
  | nil => intro a h; cases h
  | cons h t ih =>
    intro a ha
    cases a with
    | zero => exact (Nat.one_mul _).symm
    | succ a =>
      simp only [geom, List.take_succ_cons, List.drop_succ_cons, sprod_cons, List.getD_cons_succ]
      rw [ih a (Nat.lt_of_succ_lt_succ ha), Nat.mul_assoc]
      rfl

theorem sum_map_mul (l : List Nat) (c : Nat) : (l.map (· * c)).sum = l.sum * c := by
  induction l with
  | nil => exact (Nat.zero_mul c).symm
  | cons x xs ih => rw [List.map_cons, List.sum_cons, List.sum_cons, ih, Nat.add_mul]

/-- a well-formed dense array: as many entries as the shape says -/
def NDArr.WF {α} (x : NDArr α) : Prop := x.data.length = sprod x.shape

/-- the part shapes `shs` stack to `S` along axis `a`: every part agrees with `S` off the axis and the axis
    entries add up (what `_hstack_params/_vstack_params` establish, see `stackParams_some_stacked`) -/
structure Stacked (a : Nat) (S : List Nat) (shs : List (List Nat)) : Prop where
  lt : a < S.length
  shape : ∀ sh ∈ shs, sh = S.set a (sh.getD a 0)
  total : S.getD a 0 = (shs.map (·.getD a 0)).sum

theorem map_eq_of_getElem? {β γ} {f : β → γ} {l : List β} {m : List γ} (hl : l.length = m.length)
    (h : ∀ (k : Nat) b c, l[k]? = some b → m[k]? = some c → f b = c) : l.map f = m := by
  apply List.ext_getElem (by rw [List.length_map, hl])
  intro k h1 h2
  rw [List.getElem_map]
  exact h k _ _ (List.getElem?_eq_getElem _) (List.getElem?_eq_getElem _)

theorem map_eq_at {β γ} {f : β → γ} {l : List β} {m : List γ} (h : l.map f = m) (k : Nat) (b : β) (c : γ)
    (hb : l[k]? = some b) (hc : m[k]? = some c) : f b = c := by
  rw [← h, List.getElem?_map, hb] at hc
  exact Option.some.inj hc

theorem sprod_set (S : List Nat) (a v : Nat) (h : a < S.length) :
    sprod (S.set a v) = (geom S a).outer * (v * (geom S a).inner) := by
  rw [sprod_split _ a (by rwa [List.length_set])]
  simp only [geom, List.take_set_of_le (Nat.le_refl a), List.drop_set_of_lt (Nat.lt_succ_self a),
    getD_set_self S v 0 h]

theorem Stacked.shape_eq {α} {a : Nat} {S : List Nat} {xs : List (NDArr α)} (hst : Stacked a S (xs.map (·.shape)))
    {y : NDArr α} (hy : y ∈ xs) : y.shape = S.set a (geom y.shape a).n :=
  hst.shape y.shape (List.mem_map_of_mem hy)

theorem Stacked.n_eq {α} {a : Nat} {S : List Nat} {xs : List (NDArr α)} (hst : Stacked a S (xs.map (·.shape))) :
    (geom S a).n = (xs.map fun y => (geom y.shape a).n).sum :=
  hst.total.trans (by rw [List.map_map]; rfl)

theorem Stacked.data_length {α} {a : Nat} {S : List Nat} {xs : List (NDArr α)} (hst : Stacked a S (xs.map (·.shape)))
    {y : NDArr α} (hy : y ∈ xs) (hwf : y.WF) :
    y.data.length = (geom S a).outer * ((geom y.shape a).n * (geom S a).inner) :=
  hwf.trans ((congrArg sprod (hst.shape_eq hy)).trans (sprod_set S a _ hst.lt))

theorem Stacked.selLen_eq {α} {a : Nat} {S : List Nat} {xs : List (NDArr α)} (hst : Stacked a S (xs.map (·.shape)))
    {k : Nat} {b : Nat × Option Nat} {x : NDArr α}
    (hb : (specBounds 0 (xs.map fun y => (geom y.shape a).n))[k]? = some b) (hx : xs[k]? = some x) :
    selLen (geom S a).n b.1 b.2 = (geom x.shape a).n := by
  have := map_eq_at (selLen_specBounds (xs.map fun y => (geom y.shape a).n) 0) k b _ hb
    (by rw [List.getElem?_map, hx]; rfl)
  rwa [Nat.zero_add, ← hst.n_eq] at this

theorem map_length_rowOf {α} (a outer inner o : Nat) (xs : List (NDArr α))
    (hlen : ∀ y ∈ xs, y.data.length = outer * ((geom y.shape a).n * inner)) (ho : o < outer) :
    (xs.map fun y => rowOf ((geom y.shape a).n * inner) o y.data).map List.length =
      (xs.map fun y => (geom y.shape a).n).map (· * inner) := by
  rw [List.map_map, List.map_map]
  exact List.map_congr_left fun y hy => length_rowOf (hlen y hy) ho

/-- the rows of the concatenation: row `o` of `concatAx` is the concatenation of the rows `o` of the parts -/
theorem rowOf_concatAx {α} (outer inner a : Nat) (xs : List (NDArr α)) (N : Nat)
    (hN : N = (xs.map fun y => (geom y.shape a).n).sum)
    (hlen : ∀ y ∈ xs, y.data.length = outer * ((geom y.shape a).n * inner)) (o : Nat) (ho : o < outer) :
    rowOf (N * inner) o (concatAx outer inner a xs) =
      (xs.map fun y => rowOf ((geom y.shape a).n * inner) o y.data).flatten := by
  unfold concatAx
  exact rowOf_flatten_range _ outer _
    (fun o' ho' => by rw [List.length_flatten, map_length_rowOf a outer inner o' xs hlen ho', sum_map_mul, hN]) o ho

/-- **N-d read side**: slicing the concatenation (along axis `a`) of well-formed parts at the slab bounds
    `[S_k, S_{k+1})` (last one open-ended) returns exactly the parts, in order — shape and data. -/
theorem sliceAx_concat {α} (a : Nat) (S : List Nat) (xs : List (NDArr α))
    (hst : Stacked a S (xs.map (·.shape))) (hwf : ∀ y ∈ xs, y.WF) :
    (specBounds 0 (xs.map fun y => (geom y.shape a).n)).map
      (fun b => sliceAx ⟨S, concatAx (geom S a).outer (geom S a).inner a xs⟩ a b.1 b.2) = xs := by
  have hN := hst.n_eq
  have hlen : ∀ y ∈ xs, _ := fun y hy => hst.data_length hy (hwf y hy)
  refine map_eq_of_getElem? (by rw [length_specBounds, List.length_map]) fun k b x hb hx => ?_
  have hmem : x ∈ xs := List.mem_of_getElem? hx
  have hrow : ∀ o ∈ List.range (geom S a).outer,
      selRange (b.1 * (geom S a).inner) (b.2.map (· * (geom S a).inner))
        (rowOf ((geom S a).n * (geom S a).inner) o (concatAx (geom S a).outer (geom S a).inner a xs)) =
      rowOf ((geom x.shape a).n * (geom S a).inner) o x.data := by
    intro o ho
    rw [rowOf_concatAx _ _ _ _ _ hN hlen o (List.mem_range.mp ho)]
    exact map_eq_at (slabs_read_concat (geom S a).inner _ _ (map_length_rowOf a _ _ o xs hlen (List.mem_range.mp ho)))
      k (b.1 * (geom S a).inner, b.2.map (· * (geom S a).inner)) _ (by rw [List.getElem?_map, hb]; rfl)
      (by rw [List.getElem?_map, hx]; rfl)
  unfold sliceAx
  simp only
  rw [List.map_congr_left hrow, flatten_rowOf _ _ _ (hlen x hmem), hst.selLen_eq hb hx, ← hst.shape_eq hmem]
end SigpyVerif.C03
