/-
  C02 helper lemmas: soundness of the points-to analysis of `Model/C02.lean` (core Lean, no Mathlib).
-/
import SigpyVerif.Model.C02
namespace SigpyVerif.C02

theorem mem_ounion {a b : List Origin} {o : Origin} : o ∈ ounion a b ↔ o ∈ a ∨ o ∈ b := by
  unfold ounion
  simp only [List.mem_append, List.mem_filter]
  constructor
  · intro h
    cases h with
    | inl h => exact Or.inl h
    | inr h => exact Or.inr h.1
  · intro h
    cases h with
    | inl h => exact Or.inl h
    | inr h =>
      by_cases ha : o ∈ a
      · exact Or.inl ha
      · exact Or.inr ⟨h, by simp [ha]⟩

theorem mem_unionAll {ls : List (List Origin)} {o : Origin} : o ∈ unionAll ls ↔ ∃ l ∈ ls, o ∈ l := by
  induction ls with
  | nil => simp [unionAll]
  | cons l ls ih =>
    have : unionAll (l :: ls) = ounion l (unionAll ls) := rfl
    rw [this, mem_ounion, ih]
    simp

theorem subsetb_sound {a b : List Origin} (h : subsetb a b = true) : ∀ o ∈ a, o ∈ b := by
  intro o ho
  simp only [subsetb, List.all_eq_true] at h
  simpa using h o ho

/-- an interpretation of origins as sets of buffer ids; `fresh` = everything allocated after entry -/
structure Interp where
  n0 : Nat
  own : Origin → Nat → Prop
  fresh_iff : ∀ b, own .fresh b ↔ n0 ≤ b

/-- the abstract state `a` describes the concrete store `σ` (relative to the entry heap `h0`) -/
structure Consistent {n : Nat} (I : Interp) (h0 : Nat → Int) (a : Abs n) (σ : Store n) : Prop where
  next : I.n0 ≤ σ.next
  env : ∀ v b, b ∈ σ.env v → b < σ.next ∧ ∃ o ∈ a.env v, I.own o b
  heap : ∀ b, b < I.n0 → σ.heap b ≠ h0 b → ∃ o ∈ a.wr, I.own o b
  ret : ∀ b ∈ σ.ret, ∃ o ∈ a.ret, I.own o b

structure Leq {n : Nat} (a b : Abs n) : Prop where
  env : ∀ v o, o ∈ a.env v → o ∈ b.env v
  wr : ∀ o ∈ a.wr, o ∈ b.wr
  ret : ∀ o ∈ a.ret, o ∈ b.ret

theorem leqb_sound {n : Nat} {a b : Abs n} (h : leqb a b = true) : Leq a b := by
  simp only [leqb, Bool.and_eq_true, List.all_eq_true] at h
  obtain ⟨⟨h1, h2⟩, h3⟩ := h
  exact ⟨fun v o ho => subsetb_sound (h1 v (List.mem_finRange v)) o ho, subsetb_sound h2, subsetb_sound h3⟩

theorem Consistent.mono {n : Nat} {I : Interp} {h0 : Nat → Int} {a b : Abs n} {σ : Store n}
    (hle : Leq a b) (hc : Consistent I h0 a σ) : Consistent I h0 b σ := by
  refine ⟨hc.next, ?_, ?_, ?_⟩
  · intro v x hx
    obtain ⟨h1, o, ho, hown⟩ := hc.env v x hx
    exact ⟨h1, o, hle.env v o ho, hown⟩
  · intro x hx hne
    obtain ⟨o, ho, hown⟩ := hc.heap x hx hne
    exact ⟨o, hle.wr o ho, hown⟩
  · intro x hx
    obtain ⟨o, ho, hown⟩ := hc.ret x hx
    exact ⟨o, hle.ret o ho, hown⟩

theorem leq_join_left {n : Nat} (a b : Abs n) : Leq a (join a b) :=
  ⟨fun _ _ h => mem_ounion.2 (Or.inl h), fun _ h => mem_ounion.2 (Or.inl h),
   fun _ h => mem_ounion.2 (Or.inl h)⟩

theorem leq_join_right {n : Nat} (a b : Abs n) : Leq b (join a b) :=
  ⟨fun _ _ h => mem_ounion.2 (Or.inr h), fun _ h => mem_ounion.2 (Or.inr h),
   fun _ h => mem_ounion.2 (Or.inr h)⟩

theorem stepA_ok {n : Nat} (i : Instr n) (a : Abs n) : (stepA i a).ok = a.ok := by
  cases i <;> rfl

theorem ok_mono {n : Nat} : ∀ (p : Prog n) (a : Abs n), (analyze p a).ok = true → a.ok = true := by
  intro p
  induction p with
  | skip => intro a h; exact h
  | instr i => intro a h; simpa [analyze, stepA_ok] using h
  | seq p q ihp ihq => intro a h; exact ihp a (ihq _ h)
  | branch p q ihp _ =>
    intro a h
    simp only [analyze, join, Bool.and_eq_true] at h
    exact ihp a h.1
  | loop p _ =>
    intro a h
    simp only [analyze, Bool.and_eq_true] at h
    exact h.1.1.1

theorem env_upd {n : Nat} {I : Interp} {a : Abs n} {σ : Store n} {next' : Nat} (hn : σ.next ≤ next')
    (henv : ∀ v b, b ∈ σ.env v → b < σ.next ∧ ∃ o ∈ a.env v, I.own o b) (dst : Fin n) (l : List Nat)
    (L : List Origin) (hl : ∀ b ∈ l, b < next' ∧ ∃ o ∈ L, I.own o b) :
    ∀ v b, b ∈ upd σ.env dst l v → b < next' ∧ ∃ o ∈ upd a.env dst L v, I.own o b := by
  intro v b hb
  unfold upd at hb ⊢
  by_cases hv : v = dst
  · rw [if_pos hv] at hb ⊢
    exact hl b hb
  · rw [if_neg hv] at hb ⊢
    obtain ⟨h1, h2⟩ := henv v b hb
    exact ⟨Nat.lt_of_lt_of_le h1 hn, h2⟩

theorem own_unionAll {n : Nat} {I : Interp} {a : Abs n} {σ : Store n}
    (henv : ∀ v b, b ∈ σ.env v → b < σ.next ∧ ∃ o ∈ a.env v, I.own o b) (vs : List (Fin n)) {b : Nat}
    (h : ∃ s ∈ vs, b ∈ σ.env s) : b < σ.next ∧ ∃ o ∈ unionAll (vs.map a.env), I.own o b := by
  obtain ⟨s, hs, hbs⟩ := h
  obtain ⟨h1, o, ho, hown⟩ := henv s b hbs
  exact ⟨h1, o, mem_unionAll.2 ⟨a.env s, List.mem_map.2 ⟨s, hs, rfl⟩, ho⟩, hown⟩

/-- `fresh` and `copy`: the buffer `σ.next` is allocated for `dst` -/
theorem alloc_sound {n : Nat} {I : Interp} {h0 : Nat → Int} {a : Abs n} {σ : Store n} (hc : Consistent I h0 a σ)
    (dst : Fin n) (w : Int) :
    Consistent I h0 { a with env := upd a.env dst [.fresh] }
      { env := upd σ.env dst [σ.next], heap := fun b => if b = σ.next then w else σ.heap b,
        next := σ.next + 1, ret := σ.ret } := by
  refine ⟨Nat.le_succ_of_le hc.next, env_upd (Nat.le_succ _) hc.env dst _ _ ?_, ?_, hc.ret⟩
  · intro b hb
    cases List.mem_singleton.1 hb
    exact ⟨Nat.lt_succ_self _, .fresh, List.mem_singleton_self _, (I.fresh_iff _).2 hc.next⟩
  · intro b hb hne
    change (if b = σ.next then w else σ.heap b) ≠ h0 b at hne
    rw [if_neg (Nat.ne_of_lt (Nat.lt_of_lt_of_le hb hc.next))] at hne
    exact hc.heap b hb hne

/-- one instruction: the abstract transfer function over-approximates every concrete step -/
theorem step_sound {n : Nat} {I : Interp} {h0 : Nat → Int} {i : Instr n} {a : Abs n} {σ σ' : Store n}
    (hs : Step i σ σ') (hc : Consistent I h0 a σ) : Consistent I h0 (stepA i a) σ' := by
  cases hs with
  | fresh _ dst w => exact alloc_sound hc dst w
  | copy _ dst src => exact alloc_sound hc dst _
  | «alias» _ dst srcs l hl =>
    exact ⟨hc.next, env_upd (Nat.le_refl _) hc.env dst l _ fun b hb => own_unionAll hc.env srcs (hl b hb),
      hc.heap, hc.ret⟩
  | mutate _ v h' hh =>
    refine ⟨hc.next, hc.env, ?_, hc.ret⟩
    intro b hb hne
    by_cases hbv : b ∈ σ.env v
    · obtain ⟨_, o, ho, hown⟩ := hc.env v b hbv
      exact ⟨o, mem_ounion.2 (Or.inr ho), hown⟩
    · obtain ⟨o, ho, hown⟩ := hc.heap b hb (hh b hbv ▸ hne)
      exact ⟨o, mem_ounion.2 (Or.inl ho), hown⟩
  | call _ dst muts alis h' next' l hn hh hl =>
    refine ⟨Nat.le_trans hc.next hn, env_upd hn hc.env dst l _ ?_, ?_, hc.ret⟩
    · -- the result references buffers of the `alis` arguments or buffers the callee allocated
      intro b hb
      cases hl b hb with
      | inl h =>
        obtain ⟨h1, o, ho, hown⟩ := own_unionAll hc.env alis h
        exact ⟨Nat.lt_of_lt_of_le h1 hn, o, mem_ounion.2 (Or.inr ho), hown⟩
      | inr h =>
        exact ⟨h.2, .fresh, mem_ounion.2 (Or.inl (List.mem_singleton_self _)),
          (I.fresh_iff _).2 (Nat.le_trans hc.next h.1)⟩
    · intro b hb hne
      by_cases hbm : ∃ m ∈ muts, b ∈ σ.env m
      · obtain ⟨_, o, ho, hown⟩ := own_unionAll hc.env muts hbm
        exact ⟨o, mem_ounion.2 (Or.inr ho), hown⟩
      · have hlt : b < σ.next := Nat.lt_of_lt_of_le hb hc.next
        obtain ⟨o, ho, hown⟩ := hc.heap b hb (hh b hlt (fun m hm hbm' => hbm ⟨m, hm, hbm'⟩) ▸ hne)
        exact ⟨o, mem_ounion.2 (Or.inl ho), hown⟩
  | ret _ v =>
    refine ⟨hc.next, hc.env, hc.heap, ?_⟩
    intro b hb
    cases List.mem_append.1 hb with
    | inl h =>
      obtain ⟨o, ho, hown⟩ := hc.ret b h
      exact ⟨o, mem_ounion.2 (Or.inl ho), hown⟩
    | inr h =>
      obtain ⟨_, o, ho, hown⟩ := hc.env v b h
      exact ⟨o, mem_ounion.2 (Or.inr ho), hown⟩

/-- a checked loop invariant is preserved by any number of iterations -/
theorem loop_sound {n : Nat} {I : Interp} {h0 : Nat → Int} {p : Prog n} (A : Abs n)
    (ih : ∀ σ σ', Exec p σ σ' → Consistent I h0 A σ → Consistent I h0 (analyze p A) σ')
    (hle : Leq (analyze p A) A) :
    ∀ σ σ', Exec (.loop p) σ σ' → Consistent I h0 A σ → Consistent I h0 A σ' := by
  intro σ σ' h
  generalize hq : Prog.loop p = q at h
  induction h with
  | skip => cases hq
  | instr _ => cases hq
  | seq _ _ _ _ => cases hq
  | left _ _ => cases hq
  | right _ _ => cases hq
  | loopDone σ => exact id
  | loopStep h1 _ _ ih2 =>
    cases hq
    intro hc
    exact ih2 rfl (Consistent.mono hle (ih _ _ h1 hc))

/-- MAIN LEMMA: the analysis over-approximates every execution of every program. -/
theorem analyze_sound {n : Nat} (I : Interp) (h0 : Nat → Int) :
    ∀ (p : Prog n) (a : Abs n) (σ σ' : Store n), Exec p σ σ' → (analyze p a).ok = true →
      Consistent I h0 a σ → Consistent I h0 (analyze p a) σ' := by
  intro p
  induction p with
  | skip => intro a σ σ' h _ hc; cases h; exact hc
  | instr i =>
    intro a σ σ' h _ hc
    cases h with
    | instr hs => exact step_sound hs hc
  | seq p q ihp ihq =>
    intro a σ σ' h hok hc
    cases h with
    | seq h1 h2 => exact ihq _ _ _ h2 hok (ihp _ _ _ h1 (ok_mono q _ hok) hc)
  | branch p q ihp ihq =>
    intro a σ σ' h hok hc
    have hok' : (analyze p a).ok = true ∧ (analyze q a).ok = true := by
      simpa only [analyze, join, Bool.and_eq_true] using hok
    cases h with
    | left h1 => exact Consistent.mono (leq_join_left _ _) (ihp _ _ _ h1 hok'.1 hc)
    | right h1 => exact Consistent.mono (leq_join_right _ _) (ihq _ _ _ h1 hok'.2 hc)
  | loop p ih =>
    intro a σ σ' h hok hc
    simp only [analyze, Bool.and_eq_true] at hok
    obtain ⟨⟨⟨_, hB⟩, haA⟩, hBA⟩ := hok
    have hA := Consistent.mono (leqb_sound haA) hc
    have := loop_sound (I := I) (h0 := h0) _ (fun σ σ' he hcs => ih _ σ σ' he hB hcs) (leqb_sound hBA) σ σ' h hA
    exact ⟨this.next, this.env, this.heap, this.ret⟩

theorem init_ne_fresh {n : Nat} (f : Func n) (v : Fin n) : ∀ o ∈ f.init v, o ≠ .fresh := by
  intro o ho
  unfold Func.init at ho
  split at ho
  · simp at ho; subst ho; simp
  · split at ho
    · simp at ho; subst ho; simp
    · simp at ho

end SigpyVerif.C02
