import SigpyVerif.Props.C06Toeplitz
import SigpyVerif.Props.C06Nd
set_option linter.unusedSectionVars false
/-
  C06 — the Toeplitz normal operator in N dimensions, by per-axis composition.

  `NUFFT._normal_linop(toeplitz=True)` returns `R.H * F.H * P * F * R` with `R = Resize(psf.shape, ishape)` (zero-pad
  every transform axis `N_d → 2 N_d`, `toep_embed_len`), `F = FFT(psf.shape, axes=<last ndim axes>)` (centred,
  orthonormal) and `P = Multiply(psf)`.  Props/C06Toeplitz.lean proves for one axis that this is EXACTLY the Toeplitz
  operator of the kernel.  Here:

  * `CircDiag F U lag` — "`Fᴴ diag(U q) F` has the entries `q (lag a b)`" — holds for one centred DFT axis
    (`circDiag_axis`, = `circulant_diagonalised`) and is inherited by Kronecker products, one axis at a time, for
    NON-separable kernels `q` (`circDiag_kron`);
  * C09's N-d zero-pad with default shifts puts sample `(n₁, n₂[, n₃])` on `(padIdx n₁, padIdx n₂[, padIdx n₃])`
    (`resizeMatNd_pad2/3`: the N-d matrix is the Kronecker product of the one-axis ones, `resizeMatNd_cons`), crop is its
    conjugate transpose;
  * **`toeplitz_embedding_exact_2d/_3d`**: for ANY kernel `t : ℤ → ℤ (→ ℤ) → ℂ`,
    `Rᴴ (F₁⊗F₂)ᴴ diag((U₁⊗U₂) psf) (F₁⊗F₂) R = [t(n₁ - n₁', n₂ - n₂')]`, `psf[m] = t(m₁ - N₁, m₂ - N₂)`, with sigpy's
    centred conventions on every axis;
  * `nudft_gram_toeplitz_2d/_3d`: `AᴴA` of the exact N-d NUDFT is (block-)Toeplitz with kernel
    `|c|² Σ_j Π_d exp(2πi k_{j,d} δ_d / N_d)`; `toeplitz_structure_2d/_3d` put the two together: the Toeplitz normal
    operator with the EXACT psf equals the exact `AᴴA`.
-/
namespace SigpyVerif.C06
open SigpyVerif Matrix ComplexConjugate Finset

section circ
variable {ι κ ν : Type} [Fintype ι] [Fintype κ] [Fintype ν] [DecidableEq ι] [DecidableEq κ] [DecidableEq ν]

/-- `Fᴴ · diag(U q) · F` is the (generalised) circular convolution with `q`: entry `(a, b)` is `q (lag a b)` -/
def CircDiag (F U : Matrix ι ι ℂ) (lag : ι → ι → ι) : Prop :=
  ∀ (q : ι → ℂ) (a b : ι), (Fᴴ * Matrix.diagonal (U.mulVec q) * F) a b = q (lag a b)

theorem circ_entry (F U : Matrix ι ι ℂ) (q : ι → ℂ) (a b : ι) :
    (Fᴴ * Matrix.diagonal (U.mulVec q) * F) a b = ∑ k : ι, star (F k a) * (∑ m : ι, U k m * q m) * F k b :=
  conjTranspose_mul_diagonal_mul_apply F U q a b

/-- one axis: C05's centred DFT with orthonormal scale, `U` = the same unnormalised (`circulant_diagonalised`) -/
theorem circDiag_axis {L : ℕ} {ω : ℂ} (hω : IsPrimitiveRoot ω L) (hL : 0 < L) (s : ℝ) (hs : s * s * L = 1) :
    CircDiag (C05.dftMatrix ω L true s) (C05.dftMatrix ω L true 1) (lagIdx hL) :=
  fun q a b => circulant_diagonalised hω hL s hs q a b

/-- **per-axis composition**: if two axes diagonalise their circular convolutions, the Kronecker product
    diagonalises the two-axis circular convolution — for an arbitrary (non-separable) kernel image `q` -/
theorem circDiag_kron {F1 U1 : Matrix ι ι ℂ} {F2 U2 : Matrix κ κ ℂ} {lag1 : ι → ι → ι} {lag2 : κ → κ → κ}
    (h1 : CircDiag F1 U1 lag1) (h2 : CircDiag F2 U2 lag2) :
    CircDiag (kroneckerMap (· * ·) F1 F2) (kroneckerMap (· * ·) U1 U2)
      (fun a b => (lag1 a.1 b.1, lag2 a.2 b.2)) := by
  intro q a b
  rw [circ_entry, ← h1 (fun m1 => q (m1, lag2 a.2 b.2)) a.1 b.1, circ_entry, Fintype.sum_prod_type]
  refine Finset.sum_congr rfl fun k1 _ => ?_
  -- the second axis first: for every `m1` the sum over `k2` collapses by `h2`
  have inner : ∀ m1, q (m1, lag2 a.2 b.2) =
      ∑ k2, star (F2 k2 a.2) * (∑ m2, U2 k2 m2 * q (m1, m2)) * F2 k2 b.2 := fun m1 => by
    rw [← circ_entry]; exact (h2 (fun m2 => q (m1, m2)) a.2 b.2).symm
  simp only [inner, kroneckerMap_apply, Fintype.sum_prod_type, Finset.mul_sum, Finset.sum_mul]
  rw [Finset.sum_comm]
  refine Finset.sum_congr rfl fun m1 _ => Finset.sum_congr rfl fun k2 _ => Finset.sum_congr rfl fun m2 _ => ?_
  rw [star_mul']
  ring

/-- crop ∘ (circular convolution) ∘ zero-pad reads the kernel image at `lag (pad n) (pad n')` -/
theorem embed_entry {F U : Matrix ι ι ℂ} {lag : ι → ι → ι} (h : CircDiag F U lag) (pad : ν → ι)
    (R : Matrix ι ν ℂ) (R' : Matrix ν ι ℂ) (hR : ∀ m n, R m n = if m = pad n then 1 else 0)
    (hR' : ∀ n m, R' n m = if m = pad n then 1 else 0) (q : ι → ℂ) (n n' : ν) :
    (R' * (Fᴴ * Matrix.diagonal (U.mulVec q) * F) * R) n n' = q (lag (pad n) (pad n')) :=
  (pad_mul_mul_apply pad R R' hR hR' _ n n').trans (h q _ _)

end circ

/-- the lag of two padded samples is their difference, re-centred at `N` (the index of the unit sample of
    `toeplitz_psf`, `toep_delta_on_centre`) -/
theorem lag_pad (N : ℕ) (hL : 0 < 2 * N) (n n' : Fin N) :
    (((lagIdx hL (padIdx N n) (padIdx N n') : Fin (2 * N)) : ℕ) : ℤ) - (N : ℤ) = ((n : ℕ) : ℤ) - ((n' : ℕ) : ℤ) :=
  lagIdx_padIdx N hL n n'

theorem pad_axis_iff (N : ℕ) (m : Fin (2 * N)) (n : Fin N) :
    (((n : ℕ) : ℤ) - (N : ℤ) / 2 = ((m : ℕ) : ℤ) - ((2 * N : ℕ) : ℤ) / 2) ↔ m = padIdx N n :=
  padIdx_iff N m n

theorem resizeMatNd_pad2 (N1 N2 : ℕ) (m : Fin (2 * N1) × Fin (2 * N2)) (n : Fin N1 × Fin N2) :
    resizeMatNd [1, (N1 : ℤ), (N2 : ℤ)] [1, ((2 * N1 : ℕ) : ℤ), ((2 * N2 : ℕ) : ℤ)] (ix2 N1 N2) (ix2 (2 * N1) (2 * N2)) m n
      = if m = (padIdx N1 n.1, padIdx N2 n.2) then 1 else 0 := by
  simp only [resizeMatNd_ix2, kroneckerMap_apply, resizeMat_pad, ite_zero_mul_ite_zero, mul_one, Prod.ext_iff]

theorem resizeMatNd_crop2 (N1 N2 : ℕ) (n : Fin N1 × Fin N2) (m : Fin (2 * N1) × Fin (2 * N2)) :
    resizeMatNd [1, ((2 * N1 : ℕ) : ℤ), ((2 * N2 : ℕ) : ℤ)] [1, (N1 : ℤ), (N2 : ℤ)] (ix2 (2 * N1) (2 * N2)) (ix2 N1 N2) n m
      = if m = (padIdx N1 n.1, padIdx N2 n.2) then 1 else 0 := by
  simp only [← resizeMatNd_conjTranspose _ _ (ix2 N1 N2), conjTranspose_apply, resizeMatNd_pad2, apply_ite star, star_one,
    star_zero]

/-- multi-index of grid sample `(a, b, c)`: `[batch = 0, a, b, c]` -/
def ix3 (L1 L2 L3 : ℕ) : Fin L1 × Fin L2 × Fin L3 → List Int :=
  fun p => [0, ((p.1 : ℕ) : ℤ), ((p.2.1 : ℕ) : ℤ), ((p.2.2 : ℕ) : ℤ)]

theorem resizeMatNd_ix3 (i1 i2 i3 o1 o2 o3 : ℕ) :
    resizeMatNd [1, (i1 : ℤ), (i2 : ℤ), (i3 : ℤ)] [1, (o1 : ℤ), (o2 : ℤ), (o3 : ℤ)] (ix3 i1 i2 i3) (ix3 o1 o2 o3) =
      kroneckerMap (· * ·) (resizeMat i1 o1) (kroneckerMap (· * ·) (resizeMat i2 o2) (resizeMat i3 o3)) := by
  rw [← resizeMatNd_single i3 o3, ← resizeMatNd_cons, ← resizeMatNd_cons]
  exact resizeMatNd_dummy _ _ _ _

theorem resizeMatNd_pad3 (N1 N2 N3 : ℕ) (m : Fin (2 * N1) × Fin (2 * N2) × Fin (2 * N3)) (n : Fin N1 × Fin N2 × Fin N3) :
    resizeMatNd [1, (N1 : ℤ), (N2 : ℤ), (N3 : ℤ)] [1, ((2 * N1 : ℕ) : ℤ), ((2 * N2 : ℕ) : ℤ), ((2 * N3 : ℕ) : ℤ)]
        (ix3 N1 N2 N3) (ix3 (2 * N1) (2 * N2) (2 * N3)) m n
      = if m = (padIdx N1 n.1, padIdx N2 n.2.1, padIdx N3 n.2.2) then 1 else 0 := by
  simp only [resizeMatNd_ix3, kroneckerMap_apply, resizeMat_pad, ite_zero_mul_ite_zero, mul_one, Prod.ext_iff]

theorem resizeMatNd_crop3 (N1 N2 N3 : ℕ) (n : Fin N1 × Fin N2 × Fin N3) (m : Fin (2 * N1) × Fin (2 * N2) × Fin (2 * N3)) :
    resizeMatNd [1, ((2 * N1 : ℕ) : ℤ), ((2 * N2 : ℕ) : ℤ), ((2 * N3 : ℕ) : ℤ)] [1, (N1 : ℤ), (N2 : ℤ), (N3 : ℤ)]
        (ix3 (2 * N1) (2 * N2) (2 * N3)) (ix3 N1 N2 N3) n m
      = if m = (padIdx N1 n.1, padIdx N2 n.2.1, padIdx N3 n.2.2) then 1 else 0 := by
  simp only [← resizeMatNd_conjTranspose _ _ (ix3 N1 N2 N3), conjTranspose_apply, resizeMatNd_pad3, apply_ite star,
    star_one, star_zero]

/-- **Toeplitz embedding is exact, two transform axes (sigpy's centred conventions on both).**  For ANY kernel
    `t : ℤ → ℤ → ℂ` (not necessarily separable) and `T[(n₁,n₂),(n₁',n₂')] = t(n₁ - n₁', n₂ - n₂')` on `N₁ × N₂`:
    with `R` / `Rᴴ` = C09's N-d zero-pad / crop `[1,N₁,N₂] ↔ [1,2N₁,2N₂]` (default shifts), `F = F₁ ⊗ F₂` the centred
    orthonormal DFT over both axes (C05's matrices, `s_d² · 2N_d = 1`), `psf[m₁,m₂] = t(m₁ - N₁, m₂ - N₂)` and
    `p = (U₁ ⊗ U₂) psf` its centred unnormalised DFT:  `Rᴴ Fᴴ diag(p) F R = T`, entry by entry. -/
theorem toeplitz_embedding_exact_2d (N1 N2 : ℕ) (hN1 : 0 < N1) (hN2 : 0 < N2) {ω1 ω2 : ℂ}
    (hω1 : IsPrimitiveRoot ω1 (2 * N1)) (hω2 : IsPrimitiveRoot ω2 (2 * N2)) (s1 s2 : ℝ)
    (hs1 : s1 * s1 * ((2 * N1 : ℕ) : ℝ) = 1) (hs2 : s2 * s2 * ((2 * N2 : ℕ) : ℝ) = 1) (t : ℤ → ℤ → ℂ)
    (n n' : Fin N1 × Fin N2) :
    (resizeMatNd [1, ((2 * N1 : ℕ) : ℤ), ((2 * N2 : ℕ) : ℤ)] [1, (N1 : ℤ), (N2 : ℤ)] (ix2 (2 * N1) (2 * N2)) (ix2 N1 N2) *
      ((kroneckerMap (· * ·) (C05.dftMatrix ω1 (2 * N1) true s1) (C05.dftMatrix ω2 (2 * N2) true s2))ᴴ *
        Matrix.diagonal ((kroneckerMap (· * ·) (C05.dftMatrix ω1 (2 * N1) true 1) (C05.dftMatrix ω2 (2 * N2) true 1)).mulVec
          fun m : Fin (2 * N1) × Fin (2 * N2) => t (((m.1 : ℕ) : ℤ) - N1) (((m.2 : ℕ) : ℤ) - N2)) *
        kroneckerMap (· * ·) (C05.dftMatrix ω1 (2 * N1) true s1) (C05.dftMatrix ω2 (2 * N2) true s2)) *
      resizeMatNd [1, (N1 : ℤ), (N2 : ℤ)] [1, ((2 * N1 : ℕ) : ℤ), ((2 * N2 : ℕ) : ℤ)] (ix2 N1 N2) (ix2 (2 * N1) (2 * N2))) n n'
      = t (((n.1 : ℕ) : ℤ) - ((n'.1 : ℕ) : ℤ)) (((n.2 : ℕ) : ℤ) - ((n'.2 : ℕ) : ℤ)) := by
  have hL1 : 0 < 2 * N1 := by omega
  have hL2 : 0 < 2 * N2 := by omega
  have hc := circDiag_kron (circDiag_axis hω1 hL1 s1 hs1) (circDiag_axis hω2 hL2 s2 hs2)
  rw [embed_entry hc (fun p : Fin N1 × Fin N2 => (padIdx N1 p.1, padIdx N2 p.2)) _ _
    (fun m p => resizeMatNd_pad2 N1 N2 m p) (fun p m => resizeMatNd_crop2 N1 N2 p m)]
  simp only [lag_pad]

theorem toeplitz_embedding_exact_3d (N1 N2 N3 : ℕ) (hN1 : 0 < N1) (hN2 : 0 < N2) (hN3 : 0 < N3) {ω1 ω2 ω3 : ℂ}
    (hω1 : IsPrimitiveRoot ω1 (2 * N1)) (hω2 : IsPrimitiveRoot ω2 (2 * N2)) (hω3 : IsPrimitiveRoot ω3 (2 * N3))
    (s1 s2 s3 : ℝ) (hs1 : s1 * s1 * ((2 * N1 : ℕ) : ℝ) = 1) (hs2 : s2 * s2 * ((2 * N2 : ℕ) : ℝ) = 1)
    (hs3 : s3 * s3 * ((2 * N3 : ℕ) : ℝ) = 1) (t : ℤ → ℤ → ℤ → ℂ) (n n' : Fin N1 × Fin N2 × Fin N3) :
    (resizeMatNd [1, ((2 * N1 : ℕ) : ℤ), ((2 * N2 : ℕ) : ℤ), ((2 * N3 : ℕ) : ℤ)] [1, (N1 : ℤ), (N2 : ℤ), (N3 : ℤ)]
        (ix3 (2 * N1) (2 * N2) (2 * N3)) (ix3 N1 N2 N3) *
      ((kroneckerMap (· * ·) (C05.dftMatrix ω1 (2 * N1) true s1)
          (kroneckerMap (· * ·) (C05.dftMatrix ω2 (2 * N2) true s2) (C05.dftMatrix ω3 (2 * N3) true s3)))ᴴ *
        Matrix.diagonal ((kroneckerMap (· * ·) (C05.dftMatrix ω1 (2 * N1) true 1)
          (kroneckerMap (· * ·) (C05.dftMatrix ω2 (2 * N2) true 1) (C05.dftMatrix ω3 (2 * N3) true 1))).mulVec
          fun m : Fin (2 * N1) × Fin (2 * N2) × Fin (2 * N3) =>
            t (((m.1 : ℕ) : ℤ) - N1) (((m.2.1 : ℕ) : ℤ) - N2) (((m.2.2 : ℕ) : ℤ) - N3)) *
        kroneckerMap (· * ·) (C05.dftMatrix ω1 (2 * N1) true s1)
          (kroneckerMap (· * ·) (C05.dftMatrix ω2 (2 * N2) true s2) (C05.dftMatrix ω3 (2 * N3) true s3))) *
      resizeMatNd [1, (N1 : ℤ), (N2 : ℤ), (N3 : ℤ)] [1, ((2 * N1 : ℕ) : ℤ), ((2 * N2 : ℕ) : ℤ), ((2 * N3 : ℕ) : ℤ)]
        (ix3 N1 N2 N3) (ix3 (2 * N1) (2 * N2) (2 * N3))) n n'
      = t (((n.1 : ℕ) : ℤ) - ((n'.1 : ℕ) : ℤ)) (((n.2.1 : ℕ) : ℤ) - ((n'.2.1 : ℕ) : ℤ))
          (((n.2.2 : ℕ) : ℤ) - ((n'.2.2 : ℕ) : ℤ)) := by
  have hL1 : 0 < 2 * N1 := by omega
  have hL2 : 0 < 2 * N2 := by omega
  have hL3 : 0 < 2 * N3 := by omega
  have hc := circDiag_kron (circDiag_axis hω1 hL1 s1 hs1)
    (circDiag_kron (circDiag_axis hω2 hL2 s2 hs2) (circDiag_axis hω3 hL3 s3 hs3))
  rw [embed_entry hc (fun p : Fin N1 × Fin N2 × Fin N3 => (padIdx N1 p.1, padIdx N2 p.2.1, padIdx N3 p.2.2)) _ _
    (fun m p => resizeMatNd_pad3 N1 N2 N3 m p) (fun p m => resizeMatNd_crop3 N1 N2 N3 p m)]
  simp only [lag_pad]

noncomputable def gramKernel2 {M : ℕ} (N1 N2 : ℤ) (k1 k2 : Fin M → ℝ) (c : ℂ) (d1 d2 : ℤ) : ℂ :=
  ∑ j : Fin M, Complex.exp (2 * Real.pi * Complex.I * k1 j * (d1 : ℂ) / N1) *
    Complex.exp (2 * Real.pi * Complex.I * k2 j * (d2 : ℂ) / N2) * (Complex.normSq c : ℂ)

noncomputable def gramKernel3 {M : ℕ} (N1 N2 N3 : ℤ) (k1 k2 k3 : Fin M → ℝ) (c : ℂ) (d1 d2 d3 : ℤ) : ℂ :=
  ∑ j : Fin M, Complex.exp (2 * Real.pi * Complex.I * k1 j * (d1 : ℂ) / N1) *
    Complex.exp (2 * Real.pi * Complex.I * k2 j * (d2 : ℂ) / N2) *
    Complex.exp (2 * Real.pi * Complex.I * k3 j * (d3 : ℂ) / N3) * (Complex.normSq c : ℂ)

/-- `A[j,(n₁,n₂)] = c · Π_d exp(-2πi k_{j,d} (n_d - N_d//2)/N_d)`: entry `((n₁,n₂),(n₁',n₂'))` of `AᴴA` depends on
    `(n₁ - n₁', n₂ - n₂')` only -/
theorem nudft_gram_toeplitz_2d {M : ℕ} (N1 N2 : ℤ) (k1 k2 : Fin M → ℝ) (c : ℂ) (n1 n2 n1' n2' : ℤ) :
    ∑ j : Fin M, conj (c * (nudftTerm N1 (k1 j) n1 * nudftTerm N2 (k2 j) n2)) *
        (c * (nudftTerm N1 (k1 j) n1' * nudftTerm N2 (k2 j) n2')) = gramKernel2 N1 N2 k1 k2 c (n1 - n1') (n2 - n2') :=
  Finset.sum_congr rfl fun j _ => by
    rw [conj_mul_mul, map_mul, mul_mul_mul_comm, conj_nudftTerm_mul, conj_nudftTerm_mul]

theorem nudft_gram_toeplitz_3d {M : ℕ} (N1 N2 N3 : ℤ) (k1 k2 k3 : Fin M → ℝ) (c : ℂ) (n1 n2 n3 n1' n2' n3' : ℤ) :
    ∑ j : Fin M, conj (c * (nudftTerm N1 (k1 j) n1 * nudftTerm N2 (k2 j) n2 * nudftTerm N3 (k3 j) n3)) *
        (c * (nudftTerm N1 (k1 j) n1' * nudftTerm N2 (k2 j) n2' * nudftTerm N3 (k3 j) n3')) =
      gramKernel3 N1 N2 N3 k1 k2 k3 c (n1 - n1') (n2 - n2') (n3 - n3') :=
  Finset.sum_congr rfl fun j _ => by
    rw [conj_mul_mul, map_mul, map_mul, mul_mul_mul_comm, mul_mul_mul_comm (conj _), conj_nudftTerm_mul,
      conj_nudftTerm_mul, conj_nudftTerm_mul]

/-- the Toeplitz normal operator with the EXACT psf equals the exact `AᴴA`, two transform axes -/
theorem toeplitz_structure_2d {M : ℕ} (N1 N2 : ℕ) (hN1 : 0 < N1) (hN2 : 0 < N2) {ω1 ω2 : ℂ}
    (hω1 : IsPrimitiveRoot ω1 (2 * N1)) (hω2 : IsPrimitiveRoot ω2 (2 * N2)) (s1 s2 : ℝ)
    (hs1 : s1 * s1 * ((2 * N1 : ℕ) : ℝ) = 1) (hs2 : s2 * s2 * ((2 * N2 : ℕ) : ℝ) = 1)
    (k1 k2 : Fin M → ℝ) (c : ℂ) (n n' : Fin N1 × Fin N2) :
    (resizeMatNd [1, ((2 * N1 : ℕ) : ℤ), ((2 * N2 : ℕ) : ℤ)] [1, (N1 : ℤ), (N2 : ℤ)] (ix2 (2 * N1) (2 * N2)) (ix2 N1 N2) *
      ((kroneckerMap (· * ·) (C05.dftMatrix ω1 (2 * N1) true s1) (C05.dftMatrix ω2 (2 * N2) true s2))ᴴ *
        Matrix.diagonal ((kroneckerMap (· * ·) (C05.dftMatrix ω1 (2 * N1) true 1) (C05.dftMatrix ω2 (2 * N2) true 1)).mulVec
          fun m : Fin (2 * N1) × Fin (2 * N2) =>
            gramKernel2 (N1 : ℤ) (N2 : ℤ) k1 k2 c (((m.1 : ℕ) : ℤ) - N1) (((m.2 : ℕ) : ℤ) - N2)) *
        kroneckerMap (· * ·) (C05.dftMatrix ω1 (2 * N1) true s1) (C05.dftMatrix ω2 (2 * N2) true s2)) *
      resizeMatNd [1, (N1 : ℤ), (N2 : ℤ)] [1, ((2 * N1 : ℕ) : ℤ), ((2 * N2 : ℕ) : ℤ)] (ix2 N1 N2) (ix2 (2 * N1) (2 * N2))) n n'
      = ∑ j : Fin M,
          conj (c * (nudftTerm (N1 : ℤ) (k1 j) ((n.1 : ℕ) : ℤ) * nudftTerm (N2 : ℤ) (k2 j) ((n.2 : ℕ) : ℤ))) *
            (c * (nudftTerm (N1 : ℤ) (k1 j) ((n'.1 : ℕ) : ℤ) * nudftTerm (N2 : ℤ) (k2 j) ((n'.2 : ℕ) : ℤ))) := by
  rw [toeplitz_embedding_exact_2d N1 N2 hN1 hN2 hω1 hω2 s1 s2 hs1 hs2 (gramKernel2 (N1 : ℤ) (N2 : ℤ) k1 k2 c) n n',
    nudft_gram_toeplitz_2d]

theorem toeplitz_structure_3d {M : ℕ} (N1 N2 N3 : ℕ) (hN1 : 0 < N1) (hN2 : 0 < N2) (hN3 : 0 < N3) {ω1 ω2 ω3 : ℂ}
    (hω1 : IsPrimitiveRoot ω1 (2 * N1)) (hω2 : IsPrimitiveRoot ω2 (2 * N2)) (hω3 : IsPrimitiveRoot ω3 (2 * N3))
    (s1 s2 s3 : ℝ) (hs1 : s1 * s1 * ((2 * N1 : ℕ) : ℝ) = 1) (hs2 : s2 * s2 * ((2 * N2 : ℕ) : ℝ) = 1)
    (hs3 : s3 * s3 * ((2 * N3 : ℕ) : ℝ) = 1) (k1 k2 k3 : Fin M → ℝ) (c : ℂ) (n n' : Fin N1 × Fin N2 × Fin N3) :
    (resizeMatNd [1, ((2 * N1 : ℕ) : ℤ), ((2 * N2 : ℕ) : ℤ), ((2 * N3 : ℕ) : ℤ)] [1, (N1 : ℤ), (N2 : ℤ), (N3 : ℤ)]
        (ix3 (2 * N1) (2 * N2) (2 * N3)) (ix3 N1 N2 N3) *
      ((kroneckerMap (· * ·) (C05.dftMatrix ω1 (2 * N1) true s1)
          (kroneckerMap (· * ·) (C05.dftMatrix ω2 (2 * N2) true s2) (C05.dftMatrix ω3 (2 * N3) true s3)))ᴴ *
        Matrix.diagonal ((kroneckerMap (· * ·) (C05.dftMatrix ω1 (2 * N1) true 1)
          (kroneckerMap (· * ·) (C05.dftMatrix ω2 (2 * N2) true 1) (C05.dftMatrix ω3 (2 * N3) true 1))).mulVec
          fun m : Fin (2 * N1) × Fin (2 * N2) × Fin (2 * N3) =>
            gramKernel3 (N1 : ℤ) (N2 : ℤ) (N3 : ℤ) k1 k2 k3 c (((m.1 : ℕ) : ℤ) - N1) (((m.2.1 : ℕ) : ℤ) - N2)
              (((m.2.2 : ℕ) : ℤ) - N3)) *
        kroneckerMap (· * ·) (C05.dftMatrix ω1 (2 * N1) true s1)
          (kroneckerMap (· * ·) (C05.dftMatrix ω2 (2 * N2) true s2) (C05.dftMatrix ω3 (2 * N3) true s3))) *
      resizeMatNd [1, (N1 : ℤ), (N2 : ℤ), (N3 : ℤ)] [1, ((2 * N1 : ℕ) : ℤ), ((2 * N2 : ℕ) : ℤ), ((2 * N3 : ℕ) : ℤ)]
        (ix3 N1 N2 N3) (ix3 (2 * N1) (2 * N2) (2 * N3))) n n'
      = ∑ j : Fin M,
          conj (c * (nudftTerm (N1 : ℤ) (k1 j) ((n.1 : ℕ) : ℤ) * nudftTerm (N2 : ℤ) (k2 j) ((n.2.1 : ℕ) : ℤ) *
              nudftTerm (N3 : ℤ) (k3 j) ((n.2.2 : ℕ) : ℤ))) *
            (c * (nudftTerm (N1 : ℤ) (k1 j) ((n'.1 : ℕ) : ℤ) * nudftTerm (N2 : ℤ) (k2 j) ((n'.2.1 : ℕ) : ℤ) *
              nudftTerm (N3 : ℤ) (k3 j) ((n'.2.2 : ℕ) : ℤ))) := by
  rw [toeplitz_embedding_exact_3d N1 N2 N3 hN1 hN2 hN3 hω1 hω2 hω3 s1 s2 s3 hs1 hs2 hs3
    (gramKernel3 (N1 : ℤ) (N2 : ℤ) (N3 : ℤ) k1 k2 k3 c) n n', nudft_gram_toeplitz_3d]

/-- sigpy's roots `e^{-2πi/2N_d}` satisfy the hypotheses `hω_d` (the scales `1/√(2N_d)` satisfy `hs_d` as in
    Props/C06Toeplitz.lean) -/
example (N1 N2 : ℕ) (hN1 : 0 < N1) (hN2 : 0 < N2) :
    IsPrimitiveRoot (fftRoot (2 * N1)) (2 * N1) ∧ IsPrimitiveRoot (fftRoot (2 * N2)) (2 * N2) :=
  ⟨fftRoot_primitive _ (by omega), fftRoot_primitive _ (by omega)⟩

-- an instance: a non-separable kernel on 1 × 2: t(d₁, d₂) = d₁ + d₂², entry ((0,1),(0,0)) of the embedded operator is 1
example {ω1 ω2 : ℂ} (hω1 : IsPrimitiveRoot ω1 (2 * 1)) (hω2 : IsPrimitiveRoot ω2 (2 * 2)) (s1 s2 : ℝ)
    (hs1 : s1 * s1 * ((2 * 1 : ℕ) : ℝ) = 1) (hs2 : s2 * s2 * ((2 * 2 : ℕ) : ℝ) = 1) :
    (resizeMatNd [1, ((2 * 1 : ℕ) : ℤ), ((2 * 2 : ℕ) : ℤ)] [1, ((1 : ℕ) : ℤ), ((2 : ℕ) : ℤ)] (ix2 (2 * 1) (2 * 2)) (ix2 1 2) *
      ((kroneckerMap (· * ·) (C05.dftMatrix ω1 (2 * 1) true s1) (C05.dftMatrix ω2 (2 * 2) true s2))ᴴ *
        Matrix.diagonal ((kroneckerMap (· * ·) (C05.dftMatrix ω1 (2 * 1) true 1) (C05.dftMatrix ω2 (2 * 2) true 1)).mulVec
          fun m : Fin (2 * 1) × Fin (2 * 2) => (fun d1 d2 : ℤ => ((d1 + d2 ^ 2 : ℤ) : ℂ)) (((m.1 : ℕ) : ℤ) - (1 : ℕ)) (((m.2 : ℕ) : ℤ) - (2 : ℕ))) *
        kroneckerMap (· * ·) (C05.dftMatrix ω1 (2 * 1) true s1) (C05.dftMatrix ω2 (2 * 2) true s2)) *
      resizeMatNd [1, ((1 : ℕ) : ℤ), ((2 : ℕ) : ℤ)] [1, ((2 * 1 : ℕ) : ℤ), ((2 * 2 : ℕ) : ℤ)] (ix2 1 2) (ix2 (2 * 1) (2 * 2)))
        ((0 : Fin 1), (1 : Fin 2)) ((0 : Fin 1), (0 : Fin 2)) = 1 := by
  refine (toeplitz_embedding_exact_2d 1 2 (by norm_num) (by norm_num) hω1 hω2 s1 s2 hs1 hs2
    (fun d1 d2 : ℤ => ((d1 + d2 ^ 2 : ℤ) : ℂ)) ((0 : Fin 1), (1 : Fin 2)) ((0 : Fin 1), (0 : Fin 2))).trans ?_
  norm_num

end SigpyVerif.C06
