/-
  C02 (trees, part 2) — the action `act` of every tree of the C01 language, the imported leaf classes, and
  determinism over histories of operator ALGEBRA.

  A leaf of `C01.Expr` is one of the 19 exactly modelled classes (MatMul / RightMatMul with any batch broadcasting
  included) or an `ext` leaf carrying the entry list of a class imported from another property: FFT / IFFT (C05
  table, `C01.fftLeaf`), ConvolveData / ConvolveDataAdjoint / ConvolveFilter / ConvolveFilterAdjoint (C08 model,
  `C01.convLeaf`), Wavelet / InverseWavelet (C10 model, `C01.waveLeaf`, 1-D).  The `*_leaf_linear` theorems say that
  the leaves the builders of C01 produce for these classes denote an operator with the shapes of the class.

  `runAlg` models a pool of live operator objects on which a history of operator algebra runs (`S = A + B`,
  `T = S + C`, `S * A`, `Conj`, stacks, … each re-using EXISTING objects as operands) interleaved with applications;
  the pool is append-only, so the output of `apply i x` anywhere in the history is the action of the tree object `i`
  was built as, on `x`.  The runtime stream `check_hist` (harness/props/c02.py) drives such histories on the real
  objects.
-/
import SigpyVerif.Props.C02Tree
import SigpyVerif.Props.C01Fft
import SigpyVerif.Props.C01Wave

set_option linter.unusedSectionVars false
set_option linter.unusedVariables false
namespace SigpyVerif.C02
open SigpyVerif SigpyVerif.C01

section act
variable {α : Type} [CommRing α] [StarRing α] (ofRat : Rat → α)

/-- the action of a tree on a coefficient vector: `x ↦ (denote e) x`; an ill-formed tree (shape mismatch
    between its parts: the constructor of the real operator raises) acts as the zero map -/
def act (e : Expr α) (x : Nat → α) : Nat → α :=
  match denote star ofRat e with
  | some s => fun o => applyF s.E x o
  | none => fun _ => 0

theorem act_of_denote (e : Expr α) (s : Sem α) (h : denote star ofRat e = some s) (x : Nat → α) (o : Nat) :
    act ofRat e x o = applyF s.E x o := by
  simp only [act, h]

/-- **Linearity of `act`.**  For every tree of the C01 language — leaves of the 19 exact classes or `ext` leaves
    (FFT, convolution, wavelet entry lists), any nesting of Compose / Add / Conj / Hstack / Vstack / Diag,
    well-formed or not (an ill-formed tree acts as the zero map) — `A (a·x + y) = a·A x + A y` for every scalar
    `a` and all `x`, `y`. -/
theorem act_linear (e : Expr α) : Lin (act ofRat e) := by
  intro a x y o
  cases h : denote star ofRat e with
  | none => simp only [act, h, mul_zero, add_zero]
  | some s =>
    rw [act_of_denote ofRat e s h, act_of_denote ofRat e s h, act_of_denote ofRat e s h]
    exact tree_linear ofRat e s h a x y o

/-- the action depends on the tree and the input only: equal trees on pointwise equal inputs give equal
    outputs -/
theorem tree_denotation_function (e e' : Expr α) (he : e = e') (x x' : Nat → α) (hx : ∀ i, x i = x' i) :
    act ofRat e x = act ofRat e' x' := by
  have : x = x' := funext hx
  rw [he, this]

end act

/-- the embedding ℚ → ℂ used for the rational kernel weights -/
abbrev ratC : Rat → ℂ := fun r => (r : ℂ)

/-- **Over ℂ, in the form of the property statement:** every operator tree is additive and homogeneous with
    complex scalars (`A (x + y) = A x + A y`, `A (a • x) = a • A x`), whatever its leaves. -/
theorem tree_linear_no_leaf_hypothesis (e : Expr ℂ) :
    (∀ x y : Nat → ℂ, act ratC e (x + y) = act ratC e x + act ratC e y) ∧
    (∀ (a : ℂ) (x : Nat → ℂ), act ratC e (a • x) = a • act ratC e x) := by
  obtain ⟨hadd, hsmul⟩ := (act_linear ratC e).additive_homogeneous
  exact ⟨fun x y => funext (hadd x y), fun a x => funext (hsmul a x)⟩

section leaves
variable {α : Type} [CommRing α] [StarRing α] (ofRat : Rat → α)

/-- an `ext` leaf always denotes: its shapes are the ones it carries, its entries the in-range part of its
    entry list -/
theorem denote_ext (t : Nat) (osh ish : List Int) (E E' : List (Nat × Nat × α)) :
    denote star ofRat (.leaf (.ext t osh ish E E')) = some (Sem.clip ⟨osh, ish, E⟩) := by
  simp [denote, leafSem, leafSem0]

/-- instance of `act_linear`: a tree with an `ext` leaf inside -/
theorem ext_tree_linear (t : Nat) (osh ish : List Int) (E E' : List (Nat × Nat × α)) (e₁ e₂ : Expr α) :
    Lin (act ofRat (.comp e₁ (.add (.leaf (.ext t osh ish E E')) e₂))) :=
  act_linear ofRat _

/-- the shape of the leaf builders of C01: an `ext` leaf from the semantics of a class and of the class its adjoint
    returns -/
theorem ext_leaf_linear (t : Nat) (sem sem' : Option (Sem α)) (l : Leaf α)
    (h : (match sem, sem' with
      | some s, some s' => some (Leaf.ext t s.osh s.ish s.E s'.E)
      | _, _ => none) = some l) :
    ∃ s sc, denote star ofRat (.leaf l) = some s ∧ sem = some sc ∧ s.osh = sc.osh ∧ s.ish = sc.ish ∧
      Lin (fun x o => applyF s.E x o) := by
  cases sem with
  | none => cases h
  | some sc =>
    cases sem' with
    | none => cases h
    | some s' =>
      cases h
      exact ⟨_, sc, denote_ext ofRat _ _ _ _ _, rfl, rfl, rfl, lin_applyF _⟩

/-- **ConvolveData / ConvolveDataAdjoint / ConvolveFilter / ConvolveFilterAdjoint** (1-D single channel,
    both modes, any stride): the leaf C01 builds from the C08 model denotes an operator with the class's
    shapes, and it is linear over any commutative star ring (ℂ included). -/
theorem conv_leaf_linear (c : Opaque α) (l : Leaf α) (h : convLeaf c = some l) :
    ∃ s sc, denote star ofRat (.leaf l) = some s ∧ convSem star c = some sc ∧ s.osh = sc.osh ∧ s.ish = sc.ish ∧
      Lin (fun x o => applyF s.E x o) :=
  ext_leaf_linear ofRat 8 _ _ l h

/-- **Wavelet / InverseWavelet** (1-D, any level, any even filter pair; scalars with trivial conjugation —
    the domain of `C01.waveLeaf`): the leaf denotes an operator and it is linear. -/
theorem wave_leaf_linear [TrivialStar α] (bank : String → Option (List α × List α)) (c : Opaque α) (l : Leaf α)
    (h : waveLeaf bank c = some l) :
    ∃ s sc, denote star ofRat (.leaf l) = some s ∧ waveSem bank c = some sc ∧ s.osh = sc.osh ∧ s.ish = sc.ish ∧
      Lin (fun x o => applyF s.E x o) :=
  ext_leaf_linear ofRat 10 _ _ l h

/-- **MatMul / RightMatMul** (any batch broadcasting, adjoint flag): whenever the class denotes, the
    operator is linear. -/
theorem matmul_leaf_linear (right : Bool) (ish msh : List Int) (mat : List α) (adjoint : Bool) (s : Sem α)
    (h : denote star ofRat (.leaf (if right then .rmatmul ish msh mat adjoint else .matmul ish msh mat adjoint)) = some s) :
    Lin (fun x o => applyF s.E x o) :=
  tree_linear ofRat _ s h

/-! function level: the C08 model of `conv.convolve` itself (not its matrix) -/

theorem sum_mul_linear {ι : Type} (s : Finset ι) (w u v : ι → α) (a : α) :
    ∑ i ∈ s, w i * (a * u i + v i) = a * ∑ i ∈ s, w i * u i + ∑ i ∈ s, w i * v i := by
  rw [Finset.mul_sum, ← Finset.sum_add_distrib]
  exact Finset.sum_congr rfl fun i _ => by ring

/-- the model of `convolve(data, filt)` is linear in the data -/
theorem conv1At_linear_data (full : Bool) (m n s : Int) (a : α) (d d' f : Int → α) (k : Int) :
    C08.conv1At full m n s (fun t => a * d t + d' t) f k
      = a * C08.conv1At full m n s d f k + C08.conv1At full m n s d' f k := by
  rw [(C08.conv1_entries full m n s _ f k).1, (C08.conv1_entries full m n s d f k).1,
    (C08.conv1_entries full m n s d' f k).1]
  exact sum_mul_linear _ _ _ _ a

/-- the model of `convolve(data, filt)` is linear in the filter (ConvolveFilter) -/
theorem conv1At_linear_filter (full : Bool) (m n s : Int) (a : α) (d f f' : Int → α) (k : Int) :
    C08.conv1At full m n s d (fun t => a * f t + f' t) k
      = a * C08.conv1At full m n s d f k + C08.conv1At full m n s d f' k := by
  rw [(C08.conv1_entries full m n s d _ k).2, (C08.conv1_entries full m n s d f k).2,
    (C08.conv1_entries full m n s d f' k).2]
  exact sum_mul_linear _ _ _ _ a

end leaves

/-- **FFT / IFFT** (any rank, shape, axes, centred or not; over ℂ): the leaf C01 builds from the C05 table
    denotes an operator of shape `shape → shape`, and it is ℂ-linear. -/
theorem fft_leaf_linear (c : Opaque ℂ) (l : Leaf ℂ) (h : fftLeaf c = some l) :
    ∃ s sc, denote star (fun r : Rat => (r : ℂ)) (.leaf l) = some s ∧ fftSem c = some sc ∧ s.osh = sc.osh ∧
      s.ish = sc.ish ∧ Lin (fun x o => applyF s.E x o) := by
  unfold fftLeaf at h
  split at h
  next sc _ hsc _ =>
    cases h
    exact ⟨_, sc, denote_ext _ _ _ _ _ _, hsc, rfl, rfl, lin_applyF _⟩
  · cases h

/-- non-vacuity: an FFT leaf under `Conj`, added to an Identity, over ℂ; the tree is additive by
    `tree_linear_no_leaf_hypothesis` -/
example : ∃ l, fftLeaf (.fft [2, 3] (some [-1]) true) = some l ∧
    (∀ x y : Nat → ℂ, act ratC (.add (.conj (.leaf l)) (.leaf (.identity [2, 3]))) (x + y)
      = act ratC (.add (.conj (.leaf l)) (.leaf (.identity [2, 3]))) x
        + act ratC (.add (.conj (.leaf l)) (.leaf (.identity [2, 3]))) y) :=
  ⟨_, rfl, (tree_linear_no_leaf_hypothesis _).1⟩

section algebra
variable {α : Type} [CommRing α] [StarRing α] (ofRat : Rat → α)

/-- one event of a history on a pool of live operator objects: build a new object from EXISTING ones
    (indices into the pool; the operands stay in the pool and may be used again), or apply object `i` -/
inductive AlgEvent (α : Type) where
  | add (i j : Nat)
  | comp (i j : Nat)
  | conj (i : Nat)
  | hstack (ax : Option Int) (i j : Nat)
  | vstack (ax : Option Int) (i j : Nat)
  | diag (oax iax : Option Int) (i j : Nat)
  | apply (i : Nat) (x : Nat → α)

def build2 (pool : List (Expr α)) (f : Expr α → Expr α → Expr α) (i j : Nat) : List (Expr α) :=
  match pool[i]?, pool[j]? with
  | some a, some b => pool ++ [f a b]
  | _, _ => pool

/-- one transition: the new pool and the output (`none` for a build event or a missing object) -/
def stepAlg (pool : List (Expr α)) : AlgEvent α → List (Expr α) × Option (Nat → α)
  | .add i j => (build2 pool .add i j, none)
  | .comp i j => (build2 pool .comp i j, none)
  | .conj i => (match pool[i]? with
      | some a => pool ++ [.conj a]
      | none => pool, none)
  | .hstack ax i j => (build2 pool (.hstack ax) i j, none)
  | .vstack ax i j => (build2 pool (.vstack ax) i j, none)
  | .diag oax iax i j => (build2 pool (.diag oax iax) i j, none)
  | .apply i x => (pool, pool[i]?.map fun e => act ofRat e x)

/-- outputs of a history (one per event) and the final pool -/
def runAlg : List (Expr α) → List (AlgEvent α) → List (Option (Nat → α)) × List (Expr α)
  | pool, [] => ([], pool)
  | pool, e :: es =>
      let r := stepAlg ofRat pool e
      let rest := runAlg r.1 es
      (r.2 :: rest.1, rest.2)

theorem build2_prefix (pool : List (Expr α)) (f : Expr α → Expr α → Expr α) (i j : Nat) :
    ∃ t, build2 pool f i j = pool ++ t := by
  unfold build2
  split
  · exact ⟨_, rfl⟩
  · exact ⟨[], by simp⟩

/-- operator algebra only ever APPENDS to the pool: existing objects are not touched -/
theorem stepAlg_prefix (pool : List (Expr α)) (e : AlgEvent α) : ∃ t, (stepAlg ofRat pool e).1 = pool ++ t := by
  cases e with
  | add i j => exact build2_prefix pool _ i j
  | comp i j => exact build2_prefix pool _ i j
  | conj i =>
    simp only [stepAlg]
    split
    · exact ⟨_, rfl⟩
    · exact ⟨[], by simp⟩
  | hstack ax i j => exact build2_prefix pool _ i j
  | vstack ax i j => exact build2_prefix pool _ i j
  | diag oax iax i j => exact build2_prefix pool _ i j
  | apply i x => exact ⟨[], by simp [stepAlg]⟩

theorem stepAlg_keeps (pool : List (Expr α)) (e : AlgEvent α) (i : Nat) (e0 : Expr α) (h : pool[i]? = some e0) :
    (stepAlg ofRat pool e).1[i]? = some e0 := by
  obtain ⟨t, ht⟩ := stepAlg_prefix ofRat pool e
  rw [ht]
  have hi : i < pool.length := by
    by_contra hc
    rw [List.getElem?_eq_none (by omega)] at h
    cases h
  rw [List.getElem?_append_left hi]
  exact h

/-- **Determinism over histories of operator algebra.**  Whatever is built out of whichever existing
    objects and applied in between, an application `apply i x` at any position `k` of the history returns
    the action of the tree object `i` holds, on `x`: a function of (tree, input) only.  In particular
    `S = A + B; T = S + C; S(x)` is still `A x + B x`. -/
theorem algebra_history_deterministic :
    ∀ (evs : List (AlgEvent α)) (pool : List (Expr α)) (k i : Nat) (x : Nat → α) (e0 : Expr α),
      evs[k]? = some (.apply i x) → pool[i]? = some e0 →
      (runAlg ofRat pool evs).1[k]? = some (some (act ofRat e0 x)) := by
  intro evs
  induction evs with
  | nil => intro pool k i x e0 h; simp at h
  | cons e es ih =>
    intro pool k i x e0 hk hi
    cases k with
    | zero =>
      simp only [List.getElem?_cons_zero, Option.some.injEq] at hk
      subst hk
      simp only [runAlg, stepAlg, hi, List.getElem?_cons_zero, Option.map_some]
    | succ k =>
      simp only [List.getElem?_cons_succ] at hk
      simp only [runAlg, List.getElem?_cons_succ]
      exact ih (stepAlg ofRat pool e).1 k i x e0 hk (stepAlg_keeps ofRat pool e i e0 hi)

/-- two applications of the same object — or of two objects holding equal trees — to pointwise equal
    inputs, anywhere in a history, give equal outputs -/
theorem algebra_history_equal_objects (evs : List (AlgEvent α)) (pool : List (Expr α)) (k k' i i' : Nat)
    (x x' : Nat → α) (e0 : Expr α) (hk : evs[k]? = some (.apply i x)) (hk' : evs[k']? = some (.apply i' x'))
    (hi : pool[i]? = some e0) (hi' : pool[i']? = some e0) (hx : ∀ n, x n = x' n) :
    (runAlg ofRat pool evs).1[k]? = (runAlg ofRat pool evs).1[k']? := by
  rw [algebra_history_deterministic ofRat evs pool k i x e0 hk hi,
    algebra_history_deterministic ofRat evs pool k' i' x' e0 hk' hi', funext hx]

/-- the action of a tree held in the pool is linear in the applied vector (`act_linear`; the history plays no role) -/
theorem algebra_history_outputs_linear (evs : List (AlgEvent α)) (pool : List (Expr α)) (k i : Nat)
    (a : α) (x y : Nat → α) (e0 : Expr α) (hi : pool[i]? = some e0) (evs' : List (AlgEvent α)) :
    ∀ o, act ofRat e0 (fun n => a * x n + y n) o = a * act ofRat e0 x o + act ofRat e0 y o :=
  fun o => act_linear ofRat e0 a x y o

/-- non-vacuity: object 0 (`A`) applied after `A + B` is built, and again after a second `A + B` and `Conj(A)`
    are built from it: equal outputs -/
example (x : Nat → ℂ) :
    let pool : List (Expr ℂ) := [.leaf (.identity [2]), .leaf (.flip [2] none)]
    let evs : List (AlgEvent ℂ) := [.add 0 1, .apply 0 x, .add 0 1, .conj 0, .apply 0 x]
    (runAlg (fun r : Rat => (r : ℂ)) pool evs).1[1]? = (runAlg (fun r : Rat => (r : ℂ)) pool evs).1[4]? := by
  intro pool evs
  exact algebra_history_equal_objects _ evs pool 1 4 0 0 x x _ rfl rfl rfl rfl (fun _ => rfl)

end algebra
end SigpyVerif.C02
