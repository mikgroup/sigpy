import SigpyVerif.Model.C18
import SigpyVerif.Lemmas.C18
import Mathlib.Analysis.SpecialFunctions.Sqrt
import Mathlib.Data.Finset.Card
/-
  C18 — Poisson-disc masks are binary, reproducible, calibrated and hit the acceleration.
  `Gen.Samp.*` are regenerated from sigpy/mri/samp.py on every run; the machines `run` (sampler) and
  `loop`/`poissonG` (driver) of Model/C18.lean are assembled from them and tied to the real code by the
  correspondence streams calib / sampler / driver / keep of harness/props/c18.py.

  Termination of the bisection: the loop body has a second `break` (`slope == slope_min or slope == slope_max`).
  Proved: a midpoint equal to an end point exits the loop (`stall_exits`); a continuing iteration whose midpoint
  lies in `[lo, hi]` replaces one end point by it, strictly inside (`interval_shrinks`); if the midpoint of any two
  points `lo < hi` of a finite grid lies in `[lo, hi]` and on the grid, the loop started on grid points ends
  (`terminates_on_grid`).
  `terminates` is the same conclusion from the midpoint condition for all rationals `lo < hi`.  That float64
  `(a + b) / 2` lies in `[a, b]` is an IEEE fact that is not proved here; the `driver` stream checks it on every
  real trace.  With a midpoint strictly inside, as in exact rational arithmetic, the loop never raises
  (`exact_bisection_never_raises`).
-/
namespace SigpyVerif.C18
open SigpyVerif

/-- The structural facts the model relies on hold for the current source: the crop precedes the
    acceleration test, the tolerance test precedes `return`, the global generator state is saved and restored
    under `seed is not None`, the Python driver makes no other `np.random` call, `_poisson` seeds numba's
    generator, the accept/retire branches have the modelled form, the calibration block is filled with 1 and
    `mask` is written at exactly three sites. -/
theorem structure_ok :
    Gen.Samp.cropBeforeAccel = true ∧ Gen.Samp.raiseBeforeReturn = true ∧
    Gen.Samp.savesRngWhenSeeded = true ∧ Gen.Samp.restoresRngWhenSeeded = true ∧
    Gen.Samp.pythonSideRngCalls = 0 ∧ Gen.Samp.samplerSeedsPrivateRng = true ∧
    Gen.Samp.acceptPushes = true ∧ Gen.Samp.retireSwapsLast = true ∧ Gen.Samp.maskWriteSites = 3 ∧
    Gen.Samp.calibFillValue = 1 ∧ (∀ old, Gen.Samp.cellWrite old = 1) := by
  refine ⟨rfl, rfl, rfl, rfl, rfl, rfl, rfl, rfl, rfl, ?_, ?_⟩
  · simp [Gen.Samp.calibFillValue]
  · intro old; simp [Gen.Samp.cellWrite]

/-- For `0 ≤ c ≤ n` the generated slice bounds `int(n/2 - c/2)`, `int(n/2 + c/2)` are `(n-c)//2` and
    `(n+c)//2`; they lie in `[0, n]` in the right order, so the Python slice is the plain index range. -/
theorem calib_block_bounds (n c : Int) (h0 : 0 ≤ c) (h1 : c ≤ n) :
    Gen.Samp.calibLoX n c = (n - c) / 2 ∧ Gen.Samp.calibHiX n c = (n + c) / 2 ∧
    Gen.Samp.calibLoY n c = (n - c) / 2 ∧ Gen.Samp.calibHiY n c = (n + c) / 2 ∧
    0 ≤ (n - c) / 2 ∧ (n - c) / 2 ≤ (n + c) / 2 ∧ (n + c) / 2 ≤ n := by
  have hs : 0 ≤ n - c := Int.sub_nonneg_of_le h1
  have ha : 0 ≤ n + c := Int.add_nonneg (h0.trans h1) h0
  refine ⟨?_, ?_, ?_, ?_, by omega⟩
  · unfold Gen.Samp.calibLoX; exact ratTrunc_half _ (n - c) hs (by push_cast; ring)
  · unfold Gen.Samp.calibHiX; exact ratTrunc_half _ (n + c) ha (by push_cast; ring)
  · unfold Gen.Samp.calibLoY; exact ratTrunc_half _ (n - c) hs (by push_cast; ring)
  · unfold Gen.Samp.calibHiY; exact ratTrunc_half _ (n + c) ha (by push_cast; ring)

/-- The block has exactly `c` indices per axis (for every parity of `n` and `c`). -/
theorem calib_block_size (n c : Int) (h0 : 0 ≤ c) (h1 : c ≤ n) :
    Gen.Samp.calibHiX n c - Gen.Samp.calibLoX n c = c ∧ Gen.Samp.calibHiY n c - Gen.Samp.calibLoY n c = c := by
  have k : (n + c) / 2 - (n - c) / 2 = c := by omega
  obtain ⟨a, b, c', d, -⟩ := calib_block_bounds n c h0 h1
  rw [a, b, c', d]; exact ⟨k, k⟩

example : Gen.Samp.calibLoX 16 15 = 0 ∧ Gen.Samp.calibHiX 16 15 = 15 := by
  obtain ⟨a, b, _⟩ := calib_block_bounds 16 15 (by decide) (by decide)
  rw [a, b]; decide

/-- `x.max()` is attained at index 0 and equals `(n - c)/2`: the normalisation `x /= x.max()` divides by
    `radX n c 0`, as `rSqAt` assumes. -/
theorem radX_max_at_zero (n c x : Int) (h0 : 0 ≤ c) (h1 : c ≤ n) (hx0 : 0 ≤ x) (hx1 : x < n) :
    Gen.Samp.radX n c x ≤ Gen.Samp.radX n c 0 ∧ Gen.Samp.radX n c 0 = ((n - c : Int) : Rat) / 2 ∧
    Gen.Samp.radY n c x ≤ Gen.Samp.radY n c 0 ∧ Gen.Samp.radY n c 0 = ((n - c : Int) : Rat) / 2 ∧
    0 ≤ Gen.Samp.radX n c x ∧ 0 ≤ Gen.Samp.radY n c x := by
  have z : coord n c 0 = ((n - c : Int) : Rat) / 2 := by rw [coord_zero n c h0 h1, Int.cast_sub]
  have m := coord_le_zero n c x hx0 hx1.le
  simp only [radX_eq, radY_eq]
  exact ⟨m, z, m, z, coord_nonneg n c x, coord_nonneg n c x⟩

/-- Two separate facts: the generated test of `mask *= r < 1` is `r < 1`, and `√s < 1 ↔ s < 1` for real
    `s ≥ 0`.  They are why the model's `keepAt` may decide the crop on the exact rational `r²`; neither part
    mentions `keepAt`. -/
theorem cropKeep_iff_sq :
    (∀ r : Rat, Gen.Samp.cropKeep r = true ↔ r < 1) ∧ (∀ s : ℝ, 0 ≤ s → (Real.sqrt s < 1 ↔ s < 1)) := by
  constructor
  · intro r; simp [Gen.Samp.cropKeep]
  · intro s _
    rw [Real.sqrt_lt' one_pos, one_pow]

theorem calibFill_one : Gen.Samp.calibFillValue = 1 := structure_ok.2.2.2.2.2.2.2.2.2.1

theorem cellWrite_one (old : Rat) : Gen.Samp.cellWrite old = 1 := structure_ok.2.2.2.2.2.2.2.2.2.2 old

theorem tryCands_accepts (c : Cfg) (m : Mask) (px py : Int) (rx ry : Rat) (k : Int) (cs : List Cand) (q : Rat × Rat)
    (h : (tryCands c m px py rx ry k cs).1 = some q) : accepts c m q.1 q.2 rx ry = true := by
  induction cs generalizing k with
  | nil => simp [tryCands] at h
  | cons d ds ih =>
    unfold tryCands at h
    by_cases h1 : Gen.Samp.attemptCond k c.maxAttempts = true
    · rw [if_pos h1] at h
      by_cases h2 : accepts c m (Gen.Samp.candX px d.v rx d.c) (Gen.Samp.candY py d.v ry d.s) rx ry = true
      · simp only [h2, if_true, Option.some.injEq] at h; subst h; exact h2
      · simp only [h2] at h; exact ih _ h
    · rw [if_neg h1] at h; simp at h

/-- an accepted candidate passed the in-grid test, so its cell `(int qy, int qx)` is inside the grid -/
theorem accepted_in_grid (c : Cfg) (m : Mask) (qx qy rx ry : Rat) (h : accepts c m qx qy rx ry = true) :
    (0 ≤ ratTrunc qx ∧ ratTrunc qx < c.nx) ∧ (0 ≤ ratTrunc qy ∧ ratTrunc qy < c.ny) := by
  unfold accepts at h
  rw [Bool.and_eq_true] at h
  have hg := h.1
  -- robust against the spelling of the guard (order of the four tests, `>=` vs `<=`, chained comparisons,
  -- negated forms): normalise, then pick the four facts out of the conjunction whatever its shape
  simp only [Gen.Samp.inGrid, decide_eq_true_eq, Int.cast_zero, ge_iff_le, gt_iff_lt, not_lt, not_le, not_or,
    not_and_or] at hg
  have a1 : (0:ℚ) ≤ qx := by grind
  have a2 : qx < (c.nx : ℚ) := by grind
  have a3 : (0:ℚ) ≤ qy := by grind
  have a4 : qy < (c.ny : ℚ) := by grind
  exact ⟨ratTrunc_range qx c.nx a1 a2, ratTrunc_range qy c.ny a3 a4⟩

theorem step_mask (c : Cfg) (s : PState) (i : Nat) (cs : List Cand) (y x : Int) :
    (step c s i cs).mask y x = s.mask y x ∨ (step c s i cs).mask y x = 1 := by
  unfold step
  dsimp only
  split
  · simp only [Mask.set]
    split_ifs
    · right; exact cellWrite_one _
    · left; rfl
  · left; rfl

/-- **entries only go 0 → 1**: along any draw stream an entry either keeps its value or becomes 1, and an
    entry that is 1 stays 1. -/
theorem mask_monotone (c : Cfg) (s : PState) (ds : Draws) (y x : Int) :
    ((run c s ds).mask y x = s.mask y x ∨ (run c s ds).mask y x = 1) ∧
    (s.mask y x = 1 → (run c s ds).mask y x = 1) := by
  induction ds generalizing s with
  | nil => simp [run]
  | cons d rest ih =>
    obtain ⟨i, cs⟩ := d
    unfold run
    split_ifs
    · have h1 := ih (step c s i cs)
      rcases step_mask c s i cs y x with b | b
      · rwa [b] at h1
      · exact ⟨.inr (h1.2 b), fun _ => h1.2 b⟩
    · simp

/-- **values ⊂ {0, 1}** in every reachable state of `_poisson` (any grid, calibration, radii, draw stream) -/
theorem mask_binary (c : Cfg) (p0x p0y : Int) (ds : Draws) (y x : Int) :
    (run c (init c p0x p0y) ds).mask y x = 0 ∨ (run c (init c p0x p0y) ds).mask y x = 1 := by
  rcases (mask_monotone c (init c p0x p0y) ds y x).1 with a | a
  · rw [a]
    simp only [init, calibMask]
    split_ifs
    · right; exact calibFill_one
    · left; rfl
  · right; exact a

/-- **every index of the calibration block is 1** in every reachable state of `_poisson` -/
theorem calib_ones (c : Cfg) (p0x p0y : Int) (ds : Draws) (y x : Int) (hb : inBlock c y x) :
    (run c (init c p0x p0y) ds).mask y x = 1 := by
  apply (mask_monotone c (init c p0x p0y) ds y x).2
  simp only [init, calibMask, if_pos hb]
  exact calibFill_one

/-- invariant of the active list -/
structure ActiveInv (c : Cfg) (s : PState) : Prop where
  len : s.pxs.length = s.pys.length
  bound : (s.pxs.length : Int) ≤ c.nx * c.ny
  xr : ∀ p ∈ s.pxs, 0 ≤ p ∧ p < c.nx
  yr : ∀ p ∈ s.pys, 0 ≤ p ∧ p < c.ny

theorem step_inv (c : Cfg) (s : PState) (i : Nat) (cs : List Cand) (h : ActiveInv c s)
    (hc : Gen.Samp.outerCond c.nx c.ny s.pxs.length = true) : ActiveInv c (step c s i cs) := by
  simp only [Gen.Samp.outerCond, decide_eq_true_eq] at hc
  unfold step
  dsimp only
  split
  · rename_i qx qy heq
    have hin := accepted_in_grid c s.mask qx qy _ _ (tryCands_accepts c s.mask _ _ _ _ 0 cs (qx, qy) heq)
    exact ⟨by simp [h.len], by simp only [List.length_append, List.length_singleton]; push_cast; omega,
      List.forall_mem_append.mpr ⟨h.xr, List.forall_mem_singleton.mpr hin.1⟩,
      List.forall_mem_append.mpr ⟨h.yr, List.forall_mem_singleton.mpr hin.2⟩⟩
  · exact ⟨by simp [h.len], by simp only [List.length_dropLast, List.length_set]; have := h.bound; omega,
      fun p hp => h.xr p (mem_retire _ _ _ _ hp), fun p hp => h.yr p (mem_retire _ _ _ _ hp)⟩

/-- **active list**: in every reachable state `0 ≤ num_actives ≤ nx·ny`, the two coordinate lists have the
    same length and every stored point is a grid point (so `radius_x[py, px]` never indexes out of range;
    the writes `pxs[num_actives] = qx` and `mask[int(qy), int(qx)] = 1` are in range by the loop guard and
    `accepted_in_grid`). -/
theorem active_list_inv (c : Cfg) (p0x p0y : Int) (ds : Draws)
    (hx : 0 ≤ p0x ∧ p0x < c.nx) (hy : 0 ≤ p0y ∧ p0y < c.ny) :
    ActiveInv c (run c (init c p0x p0y) ds) := by
  have h0 : ActiveInv c (init c p0x p0y) := by
    exact ⟨rfl, Int.mul_pos (hx.1.trans_lt hx.2) (hy.1.trans_lt hy.2),
      List.forall_mem_singleton.mpr hx, List.forall_mem_singleton.mpr hy⟩
  generalize init c p0x p0y = s at h0
  induction ds generalizing s with
  | nil => simpa [run] using h0
  | cons d rest ih =>
    obtain ⟨i, cs⟩ := d
    unfold run
    split_ifs with hc
    · exact ih _ (step_inv c s i cs h0 hc)
    · exact h0

theorem keepAt_iff (nx ny cx cy y x : Int) :
    keepAt nx ny cx cy y x = true ↔
      (coord nx cx x / coord nx cx 0) ^ 2 + (coord ny cy y / coord ny cy 0) ^ 2 < 1 := by
  simp only [keepAt, rSqAt, rSq_eq, decide_eq_true_eq, radX_eq, radY_eq]

/-- **crop keeps the calibration block** when the block stays at least two samples short of the grid on both
    axes (`c + 2 ≤ n`): every block index has `r² ≤ 1/2 < 1` (the block sticks out of the flat part of the
    radius coordinate by at most half a sample, normalised by `(n-c)/2 ≥ 1`). -/
theorem crop_keeps_calib (nx ny cx cy y x : Int) (hx0 : 0 ≤ cx) (hx2 : cx + 2 ≤ nx) (hy0 : 0 ≤ cy) (hy2 : cy + 2 ≤ ny)
    (hy : Gen.Samp.calibLoY ny cy ≤ y ∧ y < Gen.Samp.calibHiY ny cy)
    (hx : Gen.Samp.calibLoX nx cx ≤ x ∧ x < Gen.Samp.calibHiX nx cx) :
    keepAt nx ny cx cy y x = true := by
  obtain ⟨bx1, bx2, -, -, -⟩ := calib_block_bounds nx cx hx0 (by omega)
  obtain ⟨-, -, by1, by2, -⟩ := calib_block_bounds ny cy hy0 (by omega)
  rw [bx1, bx2] at hx
  rw [by1, by2] at hy
  rw [keepAt_iff]
  exact (add_le_add (coord_block_norm nx cx x hx0 hx2 hx.1 hx.2) (coord_block_norm ny cy y hy0 hy2 hy.1 hy.2)).trans_lt
    (by norm_num)

theorem crop_edge_x (nx ny cx cy y : Int) (h0 : 0 ≤ cx) (h : nx - cx = 1) : keepAt nx ny cx cy y 0 = false := by
  rw [← Bool.not_eq_true, keepAt_iff, not_lt, coord_edge nx cx h0 h, one_pow]
  exact le_add_of_nonneg_right (sq_nonneg _)

theorem crop_edge_y (nx ny cx cy x : Int) (h0 : 0 ≤ cy) (h : ny - cy = 1) : keepAt nx ny cx cy 0 x = false := by
  rw [← Bool.not_eq_true, keepAt_iff, not_lt, coord_edge ny cy h0 h, one_pow]
  exact le_add_of_nonneg_left (sq_nonneg _)

theorem range_mem {lo hi c : Int} (hs : hi - lo = c) :
    (∀ x, lo ≤ x ∧ x < hi → 1 ≤ c) ∧ (1 ≤ c → lo ≤ lo ∧ lo < hi) :=
  ⟨fun x h => by omega, fun h => by omega⟩

/-- **exact class of the known finding**: for `0 ≤ c < n` on both axes, `crop_corner` removes some calibration
    sample iff the block is non-empty and touches the grid edge, i.e. `n - c = 1` on some axis (there the
    block contains index 0, whose normalised coordinate is exactly 1, so `r ≥ 1`). -/
theorem crop_loses_calib_iff (nx ny cx cy : Int) (hx0 : 0 ≤ cx) (hx1 : cx < nx) (hy0 : 0 ≤ cy) (hy1 : cy < ny) :
    (∃ y x, (Gen.Samp.calibLoY ny cy ≤ y ∧ y < Gen.Samp.calibHiY ny cy) ∧
            (Gen.Samp.calibLoX nx cx ≤ x ∧ x < Gen.Samp.calibHiX nx cx) ∧ keepAt nx ny cx cy y x = false) ↔
      (1 ≤ cx ∧ 1 ≤ cy ∧ (nx - cx = 1 ∨ ny - cy = 1)) := by
  obtain ⟨sx, -⟩ := calib_block_size nx cx hx0 hx1.le
  obtain ⟨-, sy⟩ := calib_block_size ny cy hy0 hy1.le
  constructor
  · rintro ⟨y, x, hy, hx, hk⟩
    refine ⟨(range_mem sx).1 x hx, (range_mem sy).1 y hy, ?_⟩
    by_contra hne
    rw [not_or] at hne
    rw [crop_keeps_calib nx ny cx cy y x hx0 (by omega) hy0 (by omega) hy hx] at hk
    exact Bool.noConfusion hk
  · rintro ⟨cx1, cy1, h⟩
    refine ⟨_, _, (range_mem sy).2 cy1, (range_mem sx).2 cx1, ?_⟩
    rcases h with h | h
    · rw [(calib_block_bounds nx cx hx0 hx1.le).1, h]; exact crop_edge_x nx ny cx cy _ hx0 h
    · rw [(calib_block_bounds ny cy hy0 hy1.le).2.2.1, h]; exact crop_edge_y nx ny cx cy _ hy0 h

/-- the probed exception, `n = 16`, `calib = 15`: index 0 belongs to the block `0 … 14` and is cropped -/
theorem crop_counterexample_16_15 :
    (Gen.Samp.calibLoX 16 15 ≤ 0 ∧ 0 < Gen.Samp.calibHiX 16 15) ∧
    (Gen.Samp.calibLoY 16 4 ≤ 6 ∧ 6 < Gen.Samp.calibHiY 16 4) ∧ keepAt 16 16 15 4 6 0 = false := by
  obtain ⟨a, b, -, -, -⟩ := calib_block_bounds 16 15 (by decide) (by decide)
  obtain ⟨-, -, c, d, -⟩ := calib_block_bounds 16 4 (by decide) (by decide)
  rw [a, b, c, d]
  exact ⟨by decide, by decide, crop_edge_x 16 16 15 4 6 (by decide) (by decide)⟩

/-- **no sample where `r ≥ 1`**: after `mask *= r < 1` every cell whose keep flag is false holds 0 -/
theorem crop_outside_zero (e : Env) (m : List Rat) (i : Nat) (v : Rat) (hc : e.crop = true)
    (hk : e.keep[i]? = some false) (hv : (cropMask e m)[i]? = some v) : v = 0 := by
  rw [cropMask, if_pos hc, List.getElem?_zipWith_eq_some] at hv
  obtain ⟨a, k, -, hk', rfl⟩ := hv
  cases hk.symm.trans hk'
  simp

/-- **values ⊂ {0, 1}** survives the crop `mask *= r < 1` -/
theorem crop_binary (e : Env) (m : List Rat) (hb : ∀ a ∈ m, a = 0 ∨ a = 1) :
    ∀ a ∈ cropMask e m, a = 0 ∨ a = 1 := by
  intro a ha
  by_cases hc : e.crop = true
  · obtain ⟨i, hi⟩ := List.mem_iff_getElem?.mp ha
    rw [cropMask, if_pos hc, List.getElem?_zipWith_eq_some] at hi
    obtain ⟨b, k, hm, -, rfl⟩ := hi
    cases k
    · left; simp
    · simpa using hb b (List.mem_of_getElem? hm)
  · rw [cropMask, if_neg hc] at ha; exact hb a ha

/-- mask and acceleration of the iteration started at `(lo, hi)` -/
def mOf (e : Env) (lo hi : Rat) : List Rat := cropMask e (e.sampler (e.mid lo hi))
def aOf (e : Env) (lo hi : Rat) : Option Rat := accOf e (mOf e lo hi)

theorem stepD_cases (e : Env) (lo hi : Rat) :
    (stepD e lo hi = .exit ∧ Gen.Samp.loopCond lo hi = false) ∨
    (Gen.Samp.loopCond lo hi = true ∧
      ((brk e (aOf e lo hi) = true ∧ stepD e lo hi = .break (mOf e lo hi) (aOf e lo hi)) ∨
       (brk e (aOf e lo hi) = false ∧ Gen.Samp.stallCond (e.mid lo hi) lo hi = true ∧
          stepD e lo hi = .stall (mOf e lo hi) (aOf e lo hi)) ∨
       (brk e (aOf e lo hi) = false ∧ Gen.Samp.stallCond (e.mid lo hi) lo hi = false ∧ stepD e lo hi =
          .next (bounds e (aOf e lo hi) (e.mid lo hi) lo hi).1 (bounds e (aOf e lo hi) (e.mid lo hi) lo hi).2
            (mOf e lo hi) (aOf e lo hi)))) := by
  unfold stepD aOf mOf
  by_cases h : Gen.Samp.loopCond lo hi = true
  · right
    refine ⟨h, ?_⟩
    simp only [h, if_true]
    by_cases hb : brk e (accOf e (cropMask e (e.sampler (e.mid lo hi)))) = true
    · left; simp [hb]
    · right
      by_cases hs : Gen.Samp.stallCond (e.mid lo hi) lo hi = true
      · left; simp [hb, hs]
      · right; simp [hb, hs]
  · left; simp [h]

/-- break and raise are complementary: the test after the loop is the negation of the break test -/
theorem raises_eq_not_brk (e : Env) (acc : Option Rat) : raises e acc = !brk e acc := by
  cases acc with
  | none => rfl
  | some a => simp [raises, brk, Gen.Samp.raiseCond, Gen.Samp.breakCond, ← not_lt]

theorem break_not_raise (e : Env) (acc : Option Rat) (h : brk e acc = true) : raises e acc = false := by
  rw [raises_eq_not_brk, h]; rfl

theorem finish_some (e : Env) (m : List Rat) (acc : Option Rat) :
    finish e (some (m, acc)) = if raises e acc then .raised else .returned m := rfl

theorem finish_returned (e : Env) (last : Option (List Rat × Option Rat)) (m : List Rat)
    (h : finish e last = .returned m) :
    ∃ acc, last = some (m, acc) ∧ raises e acc = false := by
  rcases last with _ | ⟨m', acc⟩
  · exact Outcome.noConfusion h
  · rw [finish_some] at h
    split_ifs at h with hr
    cases h
    exact ⟨acc, rfl, by simpa using hr⟩

/-- the stall break always ends in `ValueError` (the tolerance was tested just before and failed) -/
theorem stall_raises (e : Env) (lo hi : Rat) (m : List Rat) (acc : Option Rat) (h : stepD e lo hi = .stall m acc) :
    finish e (some (m, acc)) = .raised := by
  rcases stepD_cases e lo hi with ⟨hs, -⟩ | ⟨-, ⟨-, hs⟩ | ⟨hb, -, hs⟩ | ⟨-, -, hs⟩⟩ <;> rw [hs] at h <;> cases h
  rw [finish_some, raises_eq_not_brk, hb]; rfl

theorem loop_succ (e : Env) (fuel : Nat) (lo hi : Rat) (last : Option (List Rat × Option Rat)) :
    (Gen.Samp.loopCond lo hi = false ∧ loop e (fuel + 1) lo hi last = finish e last) ∨
    (Gen.Samp.loopCond lo hi = true ∧
      ((brk e (aOf e lo hi) = true ∧ loop e (fuel + 1) lo hi last = .returned (mOf e lo hi)) ∨
       (Gen.Samp.stallCond (e.mid lo hi) lo hi = true ∧ loop e (fuel + 1) lo hi last = .raised) ∨
       (Gen.Samp.stallCond (e.mid lo hi) lo hi = false ∧ loop e (fuel + 1) lo hi last =
          loop e fuel (bounds e (aOf e lo hi) (e.mid lo hi) lo hi).1 (bounds e (aOf e lo hi) (e.mid lo hi) lo hi).2
            (some (mOf e lo hi, aOf e lo hi))))) := by
  rw [loop]
  rcases stepD_cases e lo hi with ⟨hs, hc⟩ | ⟨hc, ⟨hb, hs⟩ | ⟨-, hst, hs⟩ | ⟨-, hst, hs⟩⟩
  · exact .inl ⟨hc, by rw [hs]⟩
  · exact .inr ⟨hc, .inl ⟨hb, by rw [hs]; exact (finish_some e _ _).trans (by rw [break_not_raise e _ hb]; rfl)⟩⟩
  · exact .inr ⟨hc, .inr (.inl ⟨hst, by rw [hs]; exact stall_raises e lo hi _ _ hs⟩)⟩
  · exact .inr ⟨hc, .inr (.inr ⟨hst, by rw [hs]⟩)⟩

/-- what the loop remembers about the last iteration: the mask is a cropped sampler output and `acc` is its
    acceleration -/
def LastOK (e : Env) (last : Option (List Rat × Option Rat)) : Prop :=
  ∀ m acc, last = some (m, acc) → acc = accOf e m ∧ ∃ slope, m = cropMask e (e.sampler slope)

theorem loop_returned (e : Env) (fuel : Nat) (lo hi : Rat) (last : Option (List Rat × Option Rat)) (m : List Rat)
    (hl : LastOK e last) (h : loop e fuel lo hi last = .returned m) :
    ∃ acc, raises e acc = false ∧ acc = accOf e m ∧ ∃ slope, m = cropMask e (e.sampler slope) := by
  induction fuel generalizing lo hi last with
  | zero => exact Outcome.noConfusion h
  | succ n ih =>
    rcases loop_succ e n lo hi last with ⟨-, h'⟩ | ⟨-, ⟨hb, h'⟩ | ⟨-, h'⟩ | ⟨-, h'⟩⟩ <;> rw [h'] at h
    · obtain ⟨acc, h1, h2⟩ := finish_returned e last m h
      exact ⟨acc, h2, hl m acc h1⟩
    · cases h
      exact ⟨aOf e lo hi, break_not_raise e _ hb, rfl, _, rfl⟩
    · exact Outcome.noConfusion h
    · refine ih _ _ _ (fun m' acc' heq => ?_) h
      cases heq
      exact ⟨rfl, _, rfl⟩

theorem raises_false (e : Env) (acc : Option Rat) (h : raises e acc = false) :
    ∃ a, acc = some a ∧ ratAbs (a - e.accel) < e.tol := by
  cases acc with
  | none => simp [raises] at h
  | some a =>
    refine ⟨a, rfl, ?_⟩
    simp only [raises, Gen.Samp.raiseCond, decide_eq_false_iff_not, ge_iff_le, not_le] at h
    exact h

/-- **a mask is returned only within tolerance**: if `poisson` returns `m` then `m` is a (cropped) output of
    `_poisson` for some slope, its sum is non-zero, and `|size / Σm − accel| < tol` — for every sampler,
    every midpoint function (exact or floating point) and any number of iterations. -/
theorem returned_within_tol (e : Env) (fuel : Nat) (m : List Rat) (h : poissonD e fuel = .returned m) :
    msum m ≠ 0 ∧ ratAbs (Gen.Samp.actualAccel e.nx e.ny (msum m) - e.accel) < e.tol ∧
    ∃ slope, m = cropMask e (e.sampler slope) := by
  obtain ⟨acc, h1, h2, h3⟩ := loop_returned e fuel _ _ none m (by intro m acc h; cases h) h
  obtain ⟨a, ha, hlt⟩ := raises_false e acc h1
  rw [ha] at h2
  unfold accOf at h2
  split_ifs at h2 with hz
  injection h2 with h2
  exact ⟨hz, by rw [← h2]; exact hlt, h3⟩

/-- zero or more iterations that neither break nor stall -/
inductive Iters (e : Env) : Rat → Rat → Option (List Rat × Option Rat) → Rat → Rat → Option (List Rat × Option Rat) → Prop
  | refl (lo hi last) : Iters e lo hi last lo hi last
  | step {lo hi last lo' hi' m acc lo'' hi'' last''} :
      stepD e lo hi = .next lo' hi' m acc → Iters e lo' hi' (some (m, acc)) lo'' hi'' last'' →
      Iters e lo hi last lo'' hi'' last''

/-- **raise iff**: the bisection loop of `poisson`, from any state, ends in `ValueError` (for some number of
    iterations) exactly when, after some iterations that neither break nor stall, either the loop condition
    `slope_min < slope_max` fails and the test after the loop raises, or the stall break fires (`slope` equals
    an end point).  The tolerance `break` never leads to the raise.  The model starts at the loop: the guard
    `if accel <= 1: raise ValueError` in front of it is left out. -/
theorem raise_iff (e : Env) (lo hi : Rat) (last : Option (List Rat × Option Rat)) :
    (∃ fuel, loop e fuel lo hi last = .raised) ↔
      ∃ lo' hi' last', Iters e lo hi last lo' hi' last' ∧
        ((Gen.Samp.loopCond lo' hi' = false ∧ finish e last' = .raised) ∨ ∃ m acc, stepD e lo' hi' = .stall m acc) := by
  constructor
  · rintro ⟨fuel, h⟩
    induction fuel generalizing lo hi last with
    | zero => exact Outcome.noConfusion h
    | succ n ih =>
      rw [loop] at h
      rcases stepD_cases e lo hi with ⟨hs, hc⟩ | ⟨-, ⟨hb, hs⟩ | ⟨-, -, hs⟩ | ⟨-, -, hs⟩⟩
      · exact ⟨lo, hi, last, .refl _ _ _, .inl ⟨hc, by rwa [hs] at h⟩⟩
      · simp [hs, finish_some, break_not_raise e _ hb] at h
      · exact ⟨lo, hi, last, .refl _ _ _, .inr ⟨_, _, hs⟩⟩
      · obtain ⟨lo', hi', last', h1, h2⟩ := ih _ _ _ (by rwa [hs] at h)
        exact ⟨lo', hi', last', .step hs h1, h2⟩
  · rintro ⟨lo', hi', last', hit, hx⟩
    induction hit with
    | refl lo hi last =>
      refine ⟨1, ?_⟩
      unfold loop
      rcases hx with ⟨hc, hf⟩ | ⟨m, acc, hst⟩
      · rcases stepD_cases e lo hi with ⟨hs, -⟩ | ⟨hc', -⟩
        · rw [hs]; exact hf
        · rw [hc] at hc'; exact Bool.noConfusion hc'
      · rw [hst]; exact stall_raises e lo hi m acc hst
    | step hs _ ih =>
      obtain ⟨fuel, h⟩ := ih hx
      refine ⟨fuel + 1, ?_⟩
      unfold loop
      rw [hs]; exact h

theorem one_le_pyMax {a b : Int} (h : 1 ≤ a ∨ 1 ≤ b) : 1 ≤ pyMax a b := by
  unfold pyMax; split_ifs <;> omega

theorem loop_unbound (e : Env) (fuel : Nat) (lo hi : Rat) (last : Option (List Rat × Option Rat))
    (h : loop e fuel lo hi last = .unbound) : last = none ∧ Gen.Samp.loopCond lo hi = false := by
  induction fuel generalizing lo hi last with
  | zero => exact Outcome.noConfusion h
  | succ n ih =>
    rcases loop_succ e n lo hi last with ⟨hc, h'⟩ | ⟨-, ⟨-, h'⟩ | ⟨-, h'⟩ | ⟨-, h'⟩⟩ <;> rw [h'] at h
    · rcases last with _ | ⟨m, acc⟩
      · exact ⟨rfl, hc⟩
      · rw [finish_some] at h; split_ifs at h
    · exact Outcome.noConfusion h
    · exact Outcome.noConfusion h
    · exact absurd (ih _ _ _ h).1 (Option.some_ne_none _)

/-- `actual_accel` is never referenced unbound: with a dimension `≥ 1`, `slope_min = 0 < max(nx, ny) = slope_max`
    at the start, so the loop body runs at least once -/
theorem never_unbound (e : Env) (fuel : Nat) (h : 1 ≤ e.nx ∨ 1 ≤ e.ny) : poissonD e fuel ≠ .unbound := by
  intro hu
  have := (loop_unbound e fuel _ _ _ hu).2
  -- robust against `max(ny, nx)` / a hoisted `n_max`: only `1 ≤ max(..)` in either argument order is used
  simp only [Gen.Samp.loopCond, Gen.Samp.slopeMin0, Gen.Samp.slopeMax0] at this
  have hn := of_decide_eq_false this
  have g1q : (1:ℚ) ≤ ((pyMax e.nx e.ny : Int) : ℚ) := by exact_mod_cast one_le_pyMax h
  have g2q : (1:ℚ) ≤ ((pyMax e.ny e.nx : Int) : ℚ) := by exact_mod_cast one_le_pyMax h.symm
  push_cast at hn g1q g2q
  rw [not_lt] at hn
  linarith

theorem bounds_cases (e : Env) (acc : Option Rat) (slope lo hi : Rat) :
    bounds e acc slope lo hi = (slope, hi) ∨ bounds e acc slope lo hi = (lo, slope) := by
  unfold bounds Gen.Samp.nextBounds
  cases acc <;> simp only <;> split_ifs <;> simp

/-- **direction of the bisection**: when `actual_accel < accel` the lower bound moves up to `slope`, otherwise
    the upper bound moves down (the two branches of the generated `if`; that the sampling density falls as the
    slope grows is the reason in samp.py and is not stated). -/
theorem bisection_direction (a accel slope lo hi : Rat) :
    (a < accel → Gen.Samp.nextBounds a accel slope lo hi = (slope, hi)) ∧
    (¬ a < accel → Gen.Samp.nextBounds a accel slope lo hi = (lo, slope)) := by
  unfold Gen.Samp.nextBounds
  constructor <;> intro h <;> simp [h]

theorem stallCond_iff (slope lo hi : Rat) : Gen.Samp.stallCond slope lo hi = true ↔ (slope = lo ∨ slope = hi) := by
  simp only [Gen.Samp.stallCond, decide_eq_true_eq]
  grind

theorem strict_of_not_stall {mid lo hi : Rat} (h1 : lo ≤ mid) (h2 : mid ≤ hi)
    (hst : Gen.Samp.stallCond mid lo hi = false) : lo < mid ∧ mid < hi := by
  have hne := not_or.mp (mt (stallCond_iff mid lo hi).mpr (Bool.eq_false_iff.mp hst))
  exact ⟨lt_of_le_of_ne h1 (Ne.symm hne.1), lt_of_le_of_ne h2 hne.2⟩

/-- **exact arithmetic**: with an exact midpoint (`slope_min < mid < slope_max`, e.g. `Gen.Samp.slopeMid` over
    the rationals) the interval never collapses and the midpoint never equals an end point, so neither the
    loop condition nor the stall break ever ends the loop: from `slope_min < slope_max` every run either returns
    or is still running.  A `ValueError` out of the loop needs a midpoint that is not strictly inside, as
    floating point gives once the interval is exhausted. -/
theorem exact_bisection_never_raises (e : Env) (hmid : ∀ lo hi, lo < hi → lo < e.mid lo hi ∧ e.mid lo hi < hi)
    (fuel : Nat) (lo hi : Rat) (last : Option (List Rat × Option Rat)) (h : lo < hi) :
    (∃ m, loop e fuel lo hi last = .returned m) ∨ loop e fuel lo hi last = .outOfFuel := by
  induction fuel generalizing lo hi last with
  | zero => right; rfl
  | succ n ih =>
    obtain ⟨m1, m2⟩ := hmid lo hi h
    rcases loop_succ e n lo hi last with ⟨hc, -⟩ | ⟨-, ⟨-, h'⟩ | ⟨hst, -⟩ | ⟨-, h'⟩⟩
    · simp [Gen.Samp.loopCond] at hc; exact absurd h (not_lt.mpr hc)
    · exact .inl ⟨_, h'⟩
    · exact ((stallCond_iff _ _ _).mp hst).elim (absurd · m1.ne') (absurd · m2.ne)
    · rw [h']
      apply ih
      rcases bounds_cases e (aOf e lo hi) (e.mid lo hi) lo hi with hb | hb <;> rw [hb] <;> assumption

/-- the exact rational midpoint of the source satisfies the hypothesis above -/
example (lo hi : Rat) (h : lo < hi) : lo < Gen.Samp.slopeMid lo hi ∧ Gen.Samp.slopeMid lo hi < hi := by
  unfold Gen.Samp.slopeMid; push_cast; constructor <;> linarith

/-- **a repeated midpoint exits the loop**: if the computed slope equals
    `slope_min` or `slope_max` — in floating point: the interval has shrunk to adjacent values, the only way the
    state could repeat — the iteration ends the loop: a mask within tolerance is returned, otherwise
    `ValueError` is raised. -/
theorem stall_exits (e : Env) (lo hi : Rat) (hc : Gen.Samp.loopCond lo hi = true)
    (hm : e.mid lo hi = lo ∨ e.mid lo hi = hi) (fuel : Nat) (last : Option (List Rat × Option Rat)) :
    loop e (fuel + 1) lo hi last = .raised ∨ ∃ m, loop e (fuel + 1) lo hi last = .returned m := by
  rcases loop_succ e fuel lo hi last with ⟨hc', -⟩ | ⟨-, ⟨-, h'⟩ | ⟨-, h'⟩ | ⟨hst, -⟩⟩
  · rw [hc] at hc'; exact Bool.noConfusion hc'
  · exact .inr ⟨_, h'⟩
  · exact .inl h'
  · rw [(stallCond_iff _ _ _).mpr hm] at hst; exact Bool.noConfusion hst

/-- **every continuing iteration strictly shrinks the interval**: if `slope_min ≤ mid ≤ slope_max` then an
    iteration that neither breaks nor stalls replaces exactly one end point by the midpoint, which lies
    strictly inside: `(lo', hi') = (mid, hi)` with `lo < mid`, or `(lo, mid)` with `mid < hi`. -/
theorem interval_shrinks (e : Env) (lo hi lo' hi' : Rat) (m : List Rat) (acc : Option Rat)
    (hmid : lo ≤ e.mid lo hi ∧ e.mid lo hi ≤ hi) (h : stepD e lo hi = .next lo' hi' m acc) :
    (lo' = e.mid lo hi ∧ hi' = hi ∧ lo < lo' ∧ lo' < hi) ∨ (lo' = lo ∧ hi' = e.mid lo hi ∧ lo < hi' ∧ hi' < hi) := by
  rcases stepD_cases e lo hi with ⟨hs, -⟩ | ⟨-, ⟨-, hs⟩ | ⟨-, -, hs⟩ | ⟨-, hst, hs⟩⟩ <;> rw [hs] at h <;> cases h
  obtain ⟨n1, n2⟩ := strict_of_not_stall hmid.1 hmid.2 hst
  rcases bounds_cases e (aOf e lo hi) (e.mid lo hi) lo hi with hb | hb <;> rw [hb]
  · exact .inl ⟨rfl, rfl, n1, n2⟩
  · exact .inr ⟨rfl, rfl, n1, n2⟩

theorem card_filter_lt (grid : Finset ℚ) {lo hi lo' hi' g : ℚ} (hg : g ∈ grid) (hlo : lo ≤ lo') (hhi : hi' ≤ hi)
    (hin : lo ≤ g ∧ g ≤ hi) (hout : ¬ (lo' ≤ g ∧ g ≤ hi')) :
    (grid.filter (fun g => lo' ≤ g ∧ g ≤ hi')).card < (grid.filter (fun g => lo ≤ g ∧ g ≤ hi)).card := by
  apply Finset.card_lt_card
  rw [Finset.ssubset_iff_of_subset]
  · exact ⟨g, Finset.mem_filter.mpr ⟨hg, hin⟩, fun h => hout (Finset.mem_filter.mp h).2⟩
  · intro a ha
    rw [Finset.mem_filter] at ha ⊢
    exact ⟨ha.1, hlo.trans ha.2.1, ha.2.2.trans hhi⟩

/-- **termination over a finite grid**: let `grid` be a finite set of slope values such that the midpoint of any
    two grid points `lo < hi` lies in `[lo, hi]` and on the grid.  Started on grid points the loop ends —
    `poisson` returns or raises — within as many iterations as there are grid points in `[lo, hi]`, plus one:
    a continuing iteration moves one end point strictly inwards, so that grid point leaves the interval and the
    count drops.
    What is *not* proved: that the floating-point `(slope_max + slope_min) / 2` over the float64 values satisfies
    the hypothesis (the `driver` correspondence stream checks `lo ≤ mid ≤ hi` on every real trace). -/
theorem terminates_on_grid (e : Env) (grid : Finset ℚ)
    (hmid : ∀ lo hi, lo ∈ grid → hi ∈ grid → lo < hi → lo ≤ e.mid lo hi ∧ e.mid lo hi ≤ hi ∧ e.mid lo hi ∈ grid)
    (n : Nat) (lo hi : Rat) (last : Option (List Rat × Option Rat)) (hlo : lo ∈ grid) (hhi : hi ∈ grid)
    (hn : (grid.filter (fun g => lo ≤ g ∧ g ≤ hi)).card ≤ n) :
    loop e (n + 1) lo hi last ≠ .outOfFuel := by
  rw [← Nat.lt_add_one_iff] at hn
  generalize n + 1 = k at hn ⊢
  induction k generalizing lo hi last with
  | zero => exact absurd hn (Nat.not_lt_zero _)
  | succ k ih =>
    rcases loop_succ e k lo hi last with ⟨-, h'⟩ | ⟨hc, ⟨-, h'⟩ | ⟨-, h'⟩ | ⟨hst, h'⟩⟩ <;> rw [h']
    · rcases last with _ | ⟨m, acc⟩
      · exact Outcome.noConfusion
      · rw [finish_some]; split_ifs <;> exact Outcome.noConfusion
    · exact Outcome.noConfusion
    · exact Outcome.noConfusion
    · simp only [Gen.Samp.loopCond, decide_eq_true_eq] at hc
      obtain ⟨m1, m2, m3⟩ := hmid lo hi hlo hhi hc
      obtain ⟨n1, n2⟩ := strict_of_not_stall m1 m2 hst
      rcases bounds_cases e (aOf e lo hi) (e.mid lo hi) lo hi with hb | hb <;> rw [hb]
      · exact ih _ _ _ m3 hhi (Nat.lt_of_lt_of_le
          (card_filter_lt grid hlo m1 le_rfl ⟨le_rfl, hc.le⟩ (fun h => absurd h.1 n1.not_ge)) (Nat.le_of_lt_succ hn))
      · exact ih _ _ _ hlo m3 (Nat.lt_of_lt_of_le
          (card_filter_lt grid hhi le_rfl m2 ⟨hc.le, le_rfl⟩ (fun h => absurd h.2 n2.not_ge)) (Nat.le_of_lt_succ hn))

/-- `terminates_on_grid` with the midpoint hypothesis for all rationals `lo < hi`, on the grid or not:
    `e.mid lo hi` lies in `[lo, hi]` and in the finite set `grid`. -/
theorem terminates (e : Env) (grid : Finset ℚ)
    (hmid : ∀ lo hi, lo < hi → lo ≤ e.mid lo hi ∧ e.mid lo hi ≤ hi ∧ e.mid lo hi ∈ grid)
    (n : Nat) (lo hi : Rat) (last : Option (List Rat × Option Rat)) (hlo : lo ∈ grid) (hhi : hi ∈ grid)
    (hn : (grid.filter (fun g => lo ≤ g ∧ g ≤ hi)).card ≤ n) :
    loop e (n + 1) lo hi last ≠ .outOfFuel :=
  terminates_on_grid e grid (fun lo hi _ _ => hmid lo hi) n lo hi last hlo hhi hn

theorem loopG_fst {G : Type} (e : Env) (touch : G → G) (fuel : Nat) (lo hi : Rat)
    (last : Option (List Rat × Option Rat)) (g : G) : (loopG e touch fuel lo hi last g).1 = loop e fuel lo hi last := by
  induction fuel generalizing lo hi last g with
  | zero => rfl
  | succ n ih => unfold loopG loop; split <;> simp [ih]

theorem loopG_id {G : Type} (e : Env) (fuel : Nat) (lo hi : Rat)
    (last : Option (List Rat × Option Rat)) (g : G) : (loopG e (fun g => g) fuel lo hi last g).2 = g := by
  induction fuel generalizing lo hi last g with
  | zero => rfl
  | succ n ih => unfold loopG; split <;> simp [ih]

/-- **reproducibility**, as far as the model can say it: (1) with `seed = some s` the output of `samplerP` (a
    sampler with numba's private generator state `p` made explicit) does not depend on `p`, because the source
    re-seeds in every call (`Gen.Samp.samplerSeedsPrivateRng`); (2) the outcome of `poissonG` does not depend on
    the prior state `g` of NumPy's global generator, nor on what the calls do to it — `Env.sampler` is a function
    of the slope alone and cannot read `g`.  No statement relates `samplerP` or the seed to `Env.sampler`. -/
theorem deterministic {P D G : Type} :
    (∀ (sampleWith : D → Rat → List Rat) (ofSeed : Int → D) (ofState : P → D) (s : Int) (p₁ p₂ : P) (slope : Rat),
        samplerP sampleWith ofSeed ofState (some s) p₁ slope = samplerP sampleWith ofSeed ofState (some s) p₂ slope) ∧
    (∀ (e : Env) (seeded : Bool) (touch pyTouch touch' pyTouch' : G → G) (fuel : Nat) (g₁ g₂ : G),
        (poissonG e seeded touch pyTouch fuel g₁).1 = (poissonG e seeded touch' pyTouch' fuel g₂).1) := by
  constructor
  · intro sampleWith ofSeed ofState s p₁ p₂ slope
    simp [samplerP, structure_ok.2.2.2.2.2.1]
  · intro e seeded touch pyTouch touch' pyTouch' fuel g₁ g₂
    unfold poissonG
    simp only [loopG_fst]
    split <;> rfl

/-- **global generator state, seeded call**: whenever a seeded call returns a mask, NumPy's global state is
    exactly the state before the call — whatever the sampler or the driver did to it in between
    (`get_state` before the loop, `set_state` before `return`). -/
theorem global_rng_frame {G : Type} (e : Env) (touch pyTouch : G → G) (fuel : Nat) (g : G) (m : List Rat)
    (h : (poissonG e true touch pyTouch fuel g).1 = .returned m) : (poissonG e true touch pyTouch fuel g).2 = g := by
  have hs : (true && Gen.Samp.savesRngWhenSeeded && Gen.Samp.restoresRngWhenSeeded) = true := by
    rw [structure_ok.2.2.1, structure_ok.2.2.2.1]; rfl
  unfold poissonG at h ⊢
  dsimp only at h ⊢
  rw [hs] at h ⊢
  generalize loopG _ _ _ _ _ _ _ = r at h ⊢
  obtain ⟨o, g'⟩ := r
  cases o <;> simp_all

/-- **global generator state, every path** (also `seed=None` and the `ValueError` path, where nothing is
    restored): the state is untouched provided `_poisson` does not write it (numba's generator is private —
    assumption, checked on the real code by the search) — the Python driver itself makes no other
    `np.random` call (`Gen.Samp.pythonSideRngCalls = 0`). -/
theorem global_rng_frame_private {G : Type} (e : Env) (seeded : Bool) (pyTouch : G → G) (fuel : Nat) (g : G) :
    (poissonG e seeded (fun g => g) pyTouch fuel g).2 = g := by
  have hp : pyEffect pyTouch = (fun g : G => g) := by
    unfold pyEffect; rw [if_pos structure_ok.2.2.2.2.1]; rfl
  unfold poissonG
  simp only [hp, loopG_id]
  split <;> simp

/-- a 2×2 grid, `accel = 2`, sampler returning three samples of which the crop removes one: the first iteration
    breaks and the mask is returned -/
def exEnv : Env := { nx := 2, ny := 2, accel := 2, tol := 1 / 10, crop := true, keep := [true, true, true, false],
                     mid := Gen.Samp.slopeMid, sampler := fun _ => [1, 0, 1, 1] }

example : ∃ m, poissonD exEnv 3 = .returned m ∧ m = [1, 0, 1, 0] := by
  refine ⟨[1, 0, 1, 0], ?_, rfl⟩
  decide +kernel

/-- a midpoint that rounds to the upper end and a sampler that is too sparse: the stall break fires in the
    first iteration and the call raises -/
def stuckEnv : Env := { nx := 2, ny := 2, accel := 2, tol := 1 / 10, crop := false, keep := [],
                        mid := fun _ hi => hi, sampler := fun _ => [1, 0, 0, 0] }

example : poissonD stuckEnv 1 = .raised := by decide +kernel

end SigpyVerif.C18
