/-
  C20 — the bridge between the two instantiations of the generated formulas.

  `Props/C20.lean` proves the property about `trapGrad opsR` / `minTrapGrad opsR` over ℝ (`Nat.ceil`,
  `Real.sqrt`).  `trapGradRat` / `minTrapGradRat` (Model/C20.lean) are the *same generic definitions* over `Rat`
  with the exact rational ceiling `(Rat.ceil q).toNat` and integer hints for the two square-root operations,
  accepted only if `trapHintOk` / `minHintOk` (squared inequalities, no root).  The driver computes them, and
  beside them the same definitions with the per-site overrides of `ratOps` along the float code's path; the
  theorems here are about the exact ones (no overrides).

  Casting the rational inputs to ℝ commutes with the generated formulas, with the whole designs and with the
  waveforms, so the ℝ-theorems transfer to the exact rational designs.  Nothing about this bridge is assumed.

  Also here: exactly when the ceiling of a perturbed argument (the double the float code rounded) differs from
  the ceiling of the exact argument.
-/
import SigpyVerif.Props.C20
import Mathlib.Data.Rat.Floor
import Mathlib.Data.Rat.Cast.Order
import Mathlib.Data.Rat.BigOperators
import Mathlib.Tactic.NormNum
namespace SigpyVerif.C20
open SigpyVerif.Gen.TrapGrad

/-- core `Rat.ceil` is Mathlib's `Int.ceil` on ℚ -/
theorem ratCeil_eq (q : ℚ) : Rat.ceil q = ⌈q⌉ := by
  rw [Rat.ceil_eq_neg_floor_neg]; rfl

/-- the driver's ceiling `(Rat.ceil q).toNat` is `Nat.ceil` of the cast (negative arguments: both 0) -/
theorem ratCeilNat_cast (q : ℚ) : ratCeilNat q = ⌈(q : ℝ)⌉₊ := by
  unfold ratCeilNat
  rw [← Int.ceil_toNat, Rat.ceil_cast, ratCeil_eq]

/-- **When can the ceiling of a perturbed argument differ?**  `⌈y⌉ ≠ ⌈x⌉` exactly when an integer separates
them: `x ≤ m < y` or `y ≤ m < x`.  (`y` = the double `fl(fl(gmax/dgdt)/dt)` the float code hands to `np.ceil`,
which is exact on doubles; `x` = the exact quotient.) -/
theorem ceil_perturb_iff (x y : ℝ) : ⌈y⌉ ≠ ⌈x⌉ ↔ ∃ m : ℤ, (x ≤ m ∧ (m : ℝ) < y) ∨ (y ≤ m ∧ (m : ℝ) < x) := by
  constructor
  · intro h
    rcases lt_or_gt_of_ne h with h | h
    · exact ⟨⌈y⌉, Or.inr ⟨Int.le_ceil y, Int.lt_ceil.mp h⟩⟩
    · exact ⟨⌈x⌉, Or.inl ⟨Int.le_ceil x, Int.lt_ceil.mp h⟩⟩
  · rintro ⟨m, ⟨h1, h2⟩ | ⟨h1, h2⟩⟩ h
    · have := Int.ceil_le.mpr h1
      have := Int.lt_ceil.mpr h2
      omega
    · have := Int.ceil_le.mpr h1
      have := Int.lt_ceil.mpr h2
      omega

/-- if no integer lies within `ε` of the exact argument, an
evaluation error of at most `ε` cannot change the ceiling.  For `x = gmax/dgdt/dt` evaluated in double
precision `ε = 2·2⁻⁵³·|x|·(1+2⁻⁵³)` (two correctly rounded divisions). -/
theorem ceil_stable {x y ε : ℝ} (hx : ∀ m : ℤ, ε < |x - m|) (hy : |y - x| ≤ ε) : ⌈y⌉ = ⌈x⌉ := by
  by_contra h
  obtain ⟨m, ⟨h1, h2⟩ | ⟨h1, h2⟩⟩ := (ceil_perturb_iff x y).mp h
  · have := hx m
    rw [abs_le] at hy
    rw [abs_of_nonpos (by linarith)] at this
    linarith
  · have := hx m
    rw [abs_le] at hy
    rw [abs_of_nonneg (by linarith)] at this
    linarith

/-- the same for the natural-number ceiling the generated formulas use -/
theorem natCeil_stable {x y ε : ℝ} (hx : ∀ m : ℤ, ε < |x - m|) (hy : |y - x| ≤ ε) : ⌈y⌉₊ = ⌈x⌉₊ := by
  rw [← Int.ceil_toNat, ← Int.ceil_toNat, ceil_stable hx hy]

/-- a tie really flips the result: at an exact integer `x = m` any upward perturbation gives `m + 1`
(non-vacuity of the exclusion in `ceil_stable`) -/
example : ⌈((3 : ℤ) : ℝ)⌉ = 3 ∧ ⌈((3 : ℤ) : ℝ) + 1 / 2 ^ 50⌉ = 4 := by
  constructor
  · exact Int.ceil_intCast 3
  · rw [Int.ceil_eq_iff]; norm_num

/-- a design with its scale cast to ℝ -/
def Design.toReal (d : Design ℚ) : Design ℝ := ⟨d.ramppts, d.nflat, (d.scale : ℝ)⟩

theorem absG_cast (q : ℚ) : ((absG q : ℚ) : ℝ) = absG (q : ℝ) := by
  unfold absG
  have : (q < ((0 : ℕ) : ℚ)) ↔ ((q : ℝ) < ((0 : ℕ) : ℝ)) := by norm_cast
  by_cases h : q < ((0 : ℕ) : ℚ)
  · rw [if_pos h, if_pos (this.mp h)]; push_cast; rfl
  · rw [if_neg h, if_neg (fun h' => h (this.mpr h'))]

theorem ratOps_ceil (hc hf : ℕ) (site : ℕ) (q : ℚ) : (ratOps hc hf [] []).ceil site q = ⌈(q : ℝ)⌉₊ := by
  simp [ratOps, ratCeilNat_cast]

theorem ratOps_lt (hc hf : ℕ) (site : ℕ) (a b : ℚ) :
    (ratOps hc hf [] []).lt site a b = decide ((a : ℝ) < (b : ℝ)) := by
  simp [ratOps]

theorem pulse_cast (r n : ℕ) : (pulse r n : List ℚ).map (Rat.cast : ℚ → ℝ) = (pulse r n : List ℝ) := by
  simp only [pulse, rampUp, rampDn, List.map_append, List.map_map, List.map_replicate, Function.comp_def,
    Rat.cast_div, Rat.cast_natCast]

theorem pulse_sum_cast (r n : ℕ) : (((pulse r n : List ℚ).sum : ℚ) : ℝ) = (pulse r n : List ℝ).sum := by
  rw [Rat.cast_list_sum, pulse_cast]

theorem ceilSqrtDiv2Ok_cast (x y z : ℚ) (r : ℕ) :
    ceilSqrtDiv2Ok (x : ℝ) (y : ℝ) (z : ℝ) r = ceilSqrtDiv2Ok x y z r := by
  simp only [ceilSqrtDiv2Ok, ← Rat.cast_natCast (α := ℝ), ← Rat.cast_mul, Rat.cast_lt]

theorem floorDivSqrt2Ok_cast (x s z : ℚ) (p : ℕ) :
    floorDivSqrt2Ok (x : ℝ) (s : ℝ) (z : ℝ) p = floorDivSqrt2Ok x s z p := by
  simp only [floorDivSqrt2Ok, ← Rat.cast_natCast (α := ℝ), ← Rat.cast_mul, Rat.cast_lt]

/-- a hint accepted by `trapHintOk` IS the real `⌈√(|area|·dgdt)/dgdt/dt⌉` -/
theorem trapTriRamppts_cast {a s d : ℚ} (ha : 0 < a) (hs : 0 < s) (hd : 0 < d) {hc : ℕ}
    (hint : trapHintOk a s d hc = true) (hf : ℕ) :
    trapTriRamppts (ratOps hc hf [] []) a s d = trapTriRamppts opsR (a : ℝ) (s : ℝ) (d : ℝ) := by
  have haR : (0 : ℝ) < a := Rat.cast_pos.mpr ha
  have hsR : (0 : ℝ) < s := Rat.cast_pos.mpr hs
  have hdR : (0 : ℝ) < d := Rat.cast_pos.mpr hd
  simp only [trapHintOk, trapTriRamppts, beq_iff_eq] at hint
  have hok : ceilSqrtDiv2Ok (absG a * s) s d hc = true := by
    by_contra hne
    rw [if_neg hne] at hint
    exact absurd hint (by decide)
  simp only [trapTriRamppts, ratOps]
  rw [← ceilSqrtDiv2Ok_cast] at hok
  push_cast [absG_cast] at hok
  rw [absG_of_pos haR] at hok ⊢
  exact (ceilSqrtDiv2Ok_iff (by positivity) hsR hdR hc).mp hok

/-- a hint accepted by `minHintOk` IS the real `max(⌊area/√(dgdt·area/2)/dt⌋, 1)` -/
theorem minPts_cast {a s d : ℚ} (ha : 0 < a) (hs : 0 < s) (hd : 0 < d) {hf : ℕ}
    (hint : minHintOk a s d hf = true) (hc : ℕ) :
    minPts (ratOps hc hf [] []) a s d = minPts opsR (a : ℝ) (s : ℝ) (d : ℝ) := by
  have haR : (0 : ℝ) < a := Rat.cast_pos.mpr ha
  have hsR : (0 : ℝ) < s := Rat.cast_pos.mpr hs
  have hdR : (0 : ℝ) < d := Rat.cast_pos.mpr hd
  simp only [minHintOk, minPts, beq_iff_eq] at hint
  have hok : floorDivSqrt2Ok a (s * a / ((2 : ℕ) : ℚ)) d hf = true := by
    by_contra hne
    rw [if_neg hne] at hint
    exact absurd hint (by decide)
  simp only [minPts, ratOps]
  rw [← floorDivSqrt2Ok_cast] at hok
  push_cast at hok
  have := (floorDivSqrt2Ok_iff haR (by positivity) hdR hf).mp hok
  push_cast
  rw [this]

section agree
variable (hc hf : ℕ) (a g s d tam fv sp : ℚ) (r n : ℕ)

theorem trapRamppts0_cast : trapRamppts0 (ratOps hc hf [] []) g s d = trapRamppts0 opsR (g : ℝ) (s : ℝ) (d : ℝ) := by
  simp only [trapRamppts0, ratOps_ceil, opsR_ceil]; push_cast; rfl

theorem trapTriareamax_cast : ((trapTriareamax r g d : ℚ) : ℝ) = trapTriareamax r (g : ℝ) (d : ℝ) := by
  simp only [trapTriareamax]; push_cast; rfl

theorem trapIsTriangle_cast :
    trapIsTriangle (ratOps hc hf [] []) tam a = trapIsTriangle opsR (tam : ℝ) (a : ℝ) := by
  simp only [trapIsTriangle, ratOps_lt, opsR_lt, absG_cast]

theorem trapNflat_cast :
    trapNflat (ratOps hc hf [] []) a tam g d = trapNflat opsR (a : ℝ) (tam : ℝ) (g : ℝ) (d : ℝ) := by
  simp only [trapNflat, ratOps_ceil, opsR_ceil]; push_cast; rfl

theorem trapScale_cast : ((trapScale a sp d : ℚ) : ℝ) = trapScale (a : ℝ) (sp : ℝ) (d : ℝ) := by
  simp only [trapScale]; push_cast; rfl

theorem minFlatVal_cast : ((minFlatVal n a d : ℚ) : ℝ) = minFlatVal n (a : ℝ) (d : ℝ) := by
  simp only [minFlatVal]; push_cast; rfl

theorem minOverGmax_cast : minOverGmax (ratOps hc hf [] []) fv g = minOverGmax opsR (fv : ℝ) (g : ℝ) := by
  simp only [minOverGmax, ratOps_lt, opsR_lt]

theorem minPts2_cast : minPts2 (ratOps hc hf [] []) a g d = minPts2 opsR (a : ℝ) (g : ℝ) (d : ℝ) := by
  simp only [minPts2, ratOps_ceil, opsR_ceil]; push_cast; rfl

theorem minRamppts_cast : minRamppts (ratOps hc hf [] []) fv s d = minRamppts opsR (fv : ℝ) (s : ℝ) (d : ℝ) := by
  simp only [minRamppts, ratOps_ceil, opsR_ceil]; push_cast; rfl

end agree

/-- The generated formulas that use no square-root operation (all but `trapTriRamppts` and `minPts`, for which
see `trapTriRamppts_cast`, `minPts_cast`), evaluated by the exact rational operations, agree with the same
formula over ℝ: naturals are equal, field values are equal after the cast, tests are equal.  (`Rat.cast` is an ordered-field embedding; `Rat.ceil` is `Int.ceil`; `Int.ceil` of
a cast is the ceiling in ℚ; `Nat.ceil = toNat ∘ Int.ceil`.) -/
theorem rat_real_agree (hc hf : ℕ) (a g s d tam fv sp : ℚ) (r n : ℕ) :
    trapRamppts0 (ratOps hc hf [] []) g s d = trapRamppts0 opsR (g : ℝ) (s : ℝ) (d : ℝ) ∧
    ((trapTriareamax r g d : ℚ) : ℝ) = trapTriareamax r (g : ℝ) (d : ℝ) ∧
    trapIsTriangle (ratOps hc hf [] []) tam a = trapIsTriangle opsR (tam : ℝ) (a : ℝ) ∧
    trapNflat (ratOps hc hf [] []) a tam g d = trapNflat opsR (a : ℝ) (tam : ℝ) (g : ℝ) (d : ℝ) ∧
    ((trapScale a sp d : ℚ) : ℝ) = trapScale (a : ℝ) (sp : ℝ) (d : ℝ) ∧
    ((minFlatVal n a d : ℚ) : ℝ) = minFlatVal n (a : ℝ) (d : ℝ) ∧
    minOverGmax (ratOps hc hf [] []) fv g = minOverGmax opsR (fv : ℝ) (g : ℝ) ∧
    minPts2 (ratOps hc hf [] []) a g d = minPts2 opsR (a : ℝ) (g : ℝ) (d : ℝ) ∧
    minRamppts (ratOps hc hf [] []) fv s d = minRamppts opsR (fv : ℝ) (s : ℝ) (d : ℝ) :=
  ⟨trapRamppts0_cast hc hf g s d, trapTriareamax_cast g d r, trapIsTriangle_cast hc hf a tam,
    trapNflat_cast hc hf a g d tam, trapScale_cast a d sp, minFlatVal_cast a d n, minOverGmax_cast hc hf g fv,
    minPts2_cast hc hf a g d, minRamppts_cast hc hf s d fv⟩

theorem wave_cast (d : Design ℚ) : d.wave.map (Rat.cast : ℚ → ℝ) = d.toReal.wave := by
  simp only [Design.wave, Design.toReal, ← pulse_cast, List.map_map]
  apply List.map_congr_left; intro q _; simp

theorem flat_cast (d : Design ℚ) : d.flat.map (Rat.cast : ℚ → ℝ) = d.toReal.flat := by
  simp only [Design.flat, Design.toReal, List.map_replicate]
  simp

/-- `trapGradRat` with an accepted hint, cast to ℝ, is the design the ℝ-theorems are about -/
theorem trapGrad_cast {a g s d : ℚ} (ha : 0 < a) (hs : 0 < s) (hd : 0 < d) {hc : ℕ}
    (hint : trapHintOk a s d hc = true) :
    (trapGradRat hc a g s d).toReal = trapGrad opsR (a : ℝ) (g : ℝ) (s : ℝ) (d : ℝ) := by
  unfold trapGradRat trapGrad
  simp only [trapRamppts0_cast, trapIsTriangle_cast, trapNflat_cast, trapTriareamax_cast,
    trapTriRamppts_cast ha hs hd hint 0, apply_ite Design.toReal]
  simp only [Design.toReal, trapScale_cast, pulse_sum_cast]

/-- the same for `minTrapGradRat` (a design or the error branch) -/
theorem minTrapGrad_cast {a g s d : ℚ} (ha : 0 < a) (hs : 0 < s) (hd : 0 < d) {hf : ℕ}
    (hint : minHintOk a s d hf = true) :
    (minTrapGradRat hf a g s d).map Design.toReal = minTrapGrad opsR (a : ℝ) (g : ℝ) (s : ℝ) (d : ℝ) := by
  unfold minTrapGradRat minTrapGrad
  simp only [minPts_cast ha hs hd hint 0, minPts2_cast, minOverGmax_cast, minFlatVal_cast, minRamppts_cast,
    apply_ite (Option.map Design.toReal), Option.map_none, Option.map_some, Design.toReal]

/-- the end points, the amplitude bound and the slew bound of a rational list follow from those of its cast -/
theorem cast_list_facts (w : List ℚ) (g s d : ℚ)
    (h : let v := w.map (Rat.cast : ℚ → ℝ)
      (v.head? = some 0 ∧ v.getLast? = some 0) ∧ (∀ x ∈ v, |x| ≤ (g : ℝ)) ∧
      List.IsChain (fun x y : ℝ => |y - x| / (d : ℝ) ≤ (s : ℝ)) v) :
    (w.head? = some 0 ∧ w.getLast? = some 0) ∧ (∀ x ∈ w, |x| ≤ g) ∧
      List.IsChain (fun x y : ℚ => |y - x| / d ≤ s) w := by
  obtain ⟨⟨h1, h2⟩, h3, h4⟩ := h
  have zero : ∀ o : Option ℚ, o.map (Rat.cast : ℚ → ℝ) = some 0 → o = some 0 := fun o ho => by
    obtain ⟨a, rfl, h0⟩ := Option.map_eq_some_iff.mp ho
    rw [Rat.cast_eq_zero.mp h0]
  refine ⟨⟨zero _ (List.head?_map ▸ h1), zero _ (List.getLast?_map ▸ h2)⟩, ?_, ?_⟩
  · intro x hx
    exact_mod_cast h3 (x : ℝ) (List.mem_map.mpr ⟨x, hx, rfl⟩)
  · rw [List.isChain_map] at h4
    exact h4.imp fun x y hxy => by exact_mod_cast hxy

/-- **C20 for `trap_grad`, on the exact rational waveform**: for positive rational inputs (every float is one) and
a hint accepted by `trapHintOk`, the waveform of `trapGradRat` (exact operations; the driver's samples are these
when the correspondence passes no per-site override) starts and ends at zero, never exceeds `gmax`, never changes by
more than `dgdt·dt` between samples, and has area exactly `area`. -/
theorem trap_meets_limits_rat {a g s d : ℚ} (ha : 0 < a) (hg : 0 < g) (hs : 0 < s) (hd : 0 < d) {hc : ℕ}
    (hint : trapHintOk a s d hc = true) :
    let w := (trapGradRat hc a g s d).wave
    ((w.head? = some 0 ∧ w.getLast? = some 0) ∧ (∀ x ∈ w, |x| ≤ g) ∧
      List.IsChain (fun x y : ℚ => |y - x| / d ≤ s) w) ∧ w.sum * d = a := by
  have haR : (0 : ℝ) < a := Rat.cast_pos.mpr ha
  have hgR : (0 : ℝ) < g := Rat.cast_pos.mpr hg
  have hsR : (0 : ℝ) < s := Rat.cast_pos.mpr hs
  have hdR : (0 : ℝ) < d := Rat.cast_pos.mpr hd
  intro w
  constructor
  · apply cast_list_facts w g s d
    rw [wave_cast, trapGrad_cast ha hs hd hint]
    exact trap_meets_limits haR hgR hsR hdR
  · have := trap_area haR hgR hsR hdR
    rw [← trapGrad_cast ha hs hd hint, ← wave_cast, ← Rat.cast_list_sum] at this
    exact_mod_cast this

theorem trap_area_rat {a g s d : ℚ} (ha : 0 < a) (hg : 0 < g) (hs : 0 < s) (hd : 0 < d) {hc : ℕ}
    (hint : trapHintOk a s d hc = true) : (trapGradRat hc a g s d).wave.sum * d = a :=
  (trap_meets_limits_rat ha hg hs hd hint).2

/-- **C20 for `min_trap_grad`, on the exact rational waveform** of `minTrapGradRat` -/
theorem min_trap_meets_limits_rat {a g s d : ℚ} (ha : 0 < a) (hg : 0 < g) (hs : 0 < s) (hd : 0 < d) {hf : ℕ}
    (hint : minHintOk a s d hf = true) (D : Design ℚ) (hD : minTrapGradRat hf a g s d = some D) :
    1 ≤ D.ramppts ∧ 1 ≤ D.nflat ∧ D.flat.sum * d = a ∧
    (D.wave.head? = some 0 ∧ D.wave.getLast? = some 0) ∧ (∀ x ∈ D.wave, |x| ≤ g) ∧
    List.IsChain (fun x y : ℚ => |y - x| / d ≤ s) D.wave := by
  have e := minTrapGrad_cast (g := g) ha hs hd hint
  rw [hD, Option.map_some] at e
  obtain ⟨h1, h2, h3, h4⟩ := min_trap_meets_limits (Rat.cast_pos.mpr ha) (Rat.cast_pos.mpr hg)
    (Rat.cast_pos.mpr hs) (Rat.cast_pos.mpr hd) D.toReal e.symm
  refine ⟨h1, h2, ?_, ?_⟩
  · rw [← flat_cast, ← Rat.cast_list_sum] at h3
    exact_mod_cast h3
  · apply cast_list_facts D.wave g s d
    rw [wave_cast]
    exact h4

/-- `minTrapGradRat` never takes the error branch (transfer of `min_trap_defined`; the proof goes through the cast and
uses `hint` only for that) -/
theorem min_trap_defined_rat {a g s d : ℚ} (ha : 0 < a) (hg : 0 < g) (hs : 0 < s) (hd : 0 < d) {hf : ℕ}
    (hint : minHintOk a s d hf = true) : ∃ D, minTrapGradRat hf a g s d = some D := by
  obtain ⟨D, hD⟩ := min_trap_defined (dgdt := (s : ℝ)) (Rat.cast_pos.mpr ha) (Rat.cast_pos.mpr hg)
    (Rat.cast_pos.mpr hd)
  obtain ⟨D', h, _⟩ := Option.map_eq_some_iff.mp ((minTrapGrad_cast (g := g) ha hs hd hint).trans hD)
  exact ⟨D', h⟩

/-- a concrete accepted hint for each designer: area 1, dgdt 1, dt 1 (`⌈√1/1/1⌉ = 1`); area 2, dgdt 1, dt 1
(`⌊2/√1/1⌋ = 2`) -/
example : trapHintOk 1 1 1 1 = true := by decide +kernel

example : minHintOk 2 1 1 2 = true := by decide +kernel

end SigpyVerif.C20
