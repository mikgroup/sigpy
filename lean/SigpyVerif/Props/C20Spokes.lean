/-
  C20 — `spokes_grad`: the assembly.

  `Gen/Spokes.lean` is generated from the source of `spokes_grad` (sigpy/mri/rf/trajgrad.py): the per-spoke loop
  (`gz_sign *= -1`, `gz.extend(gz_sign * subgz)`, zero padding of `gx`/`gy` by `np.size(subgz)`, the blip placement
  `gx = gx[: len(gx) - len(gxblip.T)]` followed by `extend`), the rewinder `trap_grad(gts * sum(subgz) / 2, …)`,
  `gzref = -gref`, and the k-space differences `np.diff(concatenate((k[:, c], zeros(1)))) / 4257`.  The two designers
  are abstract functions `minTrap`, `trap : area ↦ samples`.

  The theorems are about the generated `spokesStep` / `spokesGrad` over ℝ, inside THE DOMAIN CONDITION (hypotheses
  `hfx`, `hfy`): every blip fits into one slice-select lobe.  Joints between sub-waveforms are `0 → 0`, so the slew
  across a joint is bounded by the sub-waveform's own first/last step.
  Outside the domain condition the generated assembly — like the real code — either cuts into the previous spoke's
  samples or produces rows of different lengths (the real `np.vstack` raises): the correspondence runs the real code
  and the generated model there too and records what happens (observation, not a violation).
  Not proved: anything about the `Rat` instance `spokesGradRat` (Model/C20.lean) the driver executes; it is the same
  generic `spokesGrad`, but no theorem carries the statements over ℝ to it.
-/
import SigpyVerif.Props.C20
import SigpyVerif.Gen.Spokes
import Mathlib.Tactic.Ring
import Mathlib.Tactic.Linarith
import Mathlib.Tactic.Positivity
import Mathlib.Tactic.FieldSimp
namespace SigpyVerif.C20
open SigpyVerif.Gen.TrapGrad SigpyVerif.Gen.Spokes

/-- `(l ++ zeros m)[: len - c] = l ++ zeros (m - c)` when the removed tail fits into the zeros -/
theorem pySliceTo_append_zeros (l : List ℝ) (m c : ℕ) (hc : c ≤ m) :
    pySliceTo (l ++ List.replicate m (0 : ℝ)) ((((l ++ List.replicate m (0 : ℝ)).length : ℕ) : ℤ) - ((c : ℕ) : ℤ))
      = l ++ List.replicate (m - c) (0 : ℝ) := by
  unfold pySliceTo
  rw [List.length_append, List.length_replicate, if_neg (by omega),
    show (((l.length + m : ℕ) : ℤ) - ((c : ℕ) : ℤ)).toNat = l.length + (m - c) by omega,
    List.take_length_add_append, List.take_replicate, Nat.min_eq_left (Nat.sub_le m c)]

theorem abs_sgnG_le (x : ℝ) : |((sgnG x : ℤ) : ℝ)| ≤ 1 := by
  unfold sgnG
  split_ifs <;> simp

theorem sgnG_mul_abs (x : ℝ) : ((sgnG x : ℤ) : ℝ) * |x| = x := by
  unfold sgnG
  simp only [Nat.cast_zero]
  split_ifs with h1 h2
  · rw [abs_of_neg h1]; push_cast; ring
  · rw [abs_of_pos h2]; push_cast; ring
  · have : x = 0 := le_antisymm (not_lt.mp h2) (not_lt.mp h1)
    simp [this]

/-- the signed blip the generated step places for an entry `a` of an area array -/
noncomputable def blipOf (trap : ℝ → List ℝ) (a : ℝ) : List ℝ :=
  (trap (absG a)).map fun v => ((sgnG a : ℤ) : ℝ) * v

/-- the segment of length `L` a spoke contributes to an in-plane axis (inside the domain condition) -/
noncomputable def segOf (trap : ℝ → List ℝ) (L : ℕ) (a : ℝ) : List ℝ :=
  if (0 : ℝ) < absG a then List.replicate (L - (blipOf trap a).length) (0 : ℝ) ++ blipOf trap a
  else List.replicate L (0 : ℝ)

/-- what one iteration of the generated loop does, inside the domain condition: it appends one segment to each
in-plane axis and the sign-alternated slice-select lobe to the slice axis -/
theorem spokesStep_eq (trap : ℝ → List ℝ) (subgz : List ℝ) (gxa gya : ℕ → ℝ) (ii : ℕ) (s : St ℝ)
    (hfx : 0 < absG (gxa ii) → (trap (absG (gxa ii))).length ≤ subgz.length)
    (hfy : 0 < absG (gya ii) → (trap (absG (gya ii))).length ≤ subgz.length) :
    spokesStep trap subgz gxa gya ii s =
      ⟨s.gx ++ segOf trap subgz.length (gxa ii), s.gy ++ segOf trap subgz.length (gya ii),
       s.gz ++ subgz.map (fun v => ((s.gz_sign * (-1) : ℤ) : ℝ) * v), s.gz_sign * (-1)⟩ := by
  have key : ∀ (l : List ℝ) (a : ℝ), (0 < absG a → (trap (absG a)).length ≤ subgz.length) →
      (if decide ((((0 : ℕ) : ℝ)) < absG a) = true then
        pySliceTo (l ++ List.replicate (((subgz.length : ℕ) : ℤ)).toNat (0 : ℝ))
          ((((l ++ List.replicate (((subgz.length : ℕ) : ℤ)).toNat (0 : ℝ)).length : ℕ) : ℤ) -
            ((((trap (absG a)).map fun v => ((sgnG a : ℤ) : ℝ) * v).length : ℕ) : ℤ)) ++
          ((trap (absG a)).map fun v => ((sgnG a : ℤ) : ℝ) * v)
       else l ++ List.replicate (((subgz.length : ℕ) : ℤ)).toNat (0 : ℝ)) = l ++ segOf trap subgz.length a := by
    intro l a hf
    simp only [Int.toNat_natCast, Nat.cast_zero, decide_eq_true_eq, segOf, blipOf, List.length_map]
    split_ifs with h
    · rw [pySliceTo_append_zeros l _ _ (hf (by simpa using h)), List.append_assoc]
    · rfl
  simp only [spokesStep]
  rw [key s.gx (gxa ii) hfx, key s.gy (gya ii) hfy]

theorem segOf_length (trap : ℝ → List ℝ) (L : ℕ) (a : ℝ) (hf : 0 < absG a → (trap (absG a)).length ≤ L) :
    (segOf trap L a).length = L := by
  unfold segOf
  split_ifs with h
  · have := hf h
    simp only [blipOf, List.length_append, List.length_replicate, List.length_map]
    omega
  · simp

theorem segOf_zeroEnded {B D : ℝ} (hB : 0 ≤ B) (hD : 0 ≤ D) (trap : ℝ → List ℝ) (L : ℕ) (a : ℝ)
    (htrap : ∀ a, 0 < a → ZeroEnded B D (trap a)) : ZeroEnded B D (segOf trap L a) := by
  unfold segOf
  split_ifs with h
  · exact ZeroEnded.append hD (ZeroEnded.zeros hB hD _) ((htrap _ h).scale (abs_sgnG_le a))
  · exact ZeroEnded.zeros hB hD _

/-- the generated loop over the first `m` spokes -/
noncomputable def loopState (trap : ℝ → List ℝ) (subgz : List ℝ) (gxa gya : ℕ → ℝ) (m : ℕ) : St ℝ :=
  (List.range m).foldl (fun s ii => spokesStep trap subgz gxa gya ii s) ⟨[], [], [], -1⟩

/-- **closed form of the generated loop** inside the domain condition -/
theorem loopState_eq (trap : ℝ → List ℝ) (subgz : List ℝ) (gxa gya : ℕ → ℝ) (m : ℕ)
    (hfx : ∀ ii < m, 0 < absG (gxa ii) → (trap (absG (gxa ii))).length ≤ subgz.length)
    (hfy : ∀ ii < m, 0 < absG (gya ii) → (trap (absG (gya ii))).length ≤ subgz.length) :
    loopState trap subgz gxa gya m =
      ⟨((List.range m).map fun ii => segOf trap subgz.length (gxa ii)).flatten,
       ((List.range m).map fun ii => segOf trap subgz.length (gya ii)).flatten,
       ((List.range m).map fun ii => subgz.map fun v => (((-1) ^ ii : ℤ) : ℝ) * v).flatten,
       (-1) ^ (m + 1)⟩ := by
  induction m with
  | zero => rfl
  | succ m ih =>
    have ih' := ih (fun ii h => hfx ii (by omega)) (fun ii h => hfy ii (by omega))
    unfold loopState at ih' ⊢
    rw [List.range_succ, List.foldl_append, List.foldl_cons, List.foldl_nil, ih',
      spokesStep_eq _ _ _ _ _ _ (hfx m (by omega)) (hfy m (by omega))]
    simp only [List.map_append, List.flatten_append, List.map_cons, List.map_nil, List.flatten_cons, List.flatten_nil,
      List.append_nil, pow_succ, mul_neg, mul_one, neg_neg]

/-- inside the domain condition the generated `spokesGrad` returns, on the in-plane axes, one zero-padded blip segment
(`segOf`) per spoke followed by zeros for the rewinder, and on the slice axis the sign-alternated lobes followed by the
negated rewinder -/
theorem spokes_closed_form (minTrap trap : ℝ → List ℝ) (kx ky : ℕ → ℝ) (n : ℕ) (tbw sl gts : ℝ)
    (hfx : ∀ ii < n, 0 < absG (gxareaOf kx n ii) →
      (trap (absG (gxareaOf kx n ii))).length ≤ (minTrap (areaOf tbw sl gts)).length)
    (hfy : ∀ ii < n, 0 < absG (gyareaOf ky n ii) →
      (trap (absG (gyareaOf ky n ii))).length ≤ (minTrap (areaOf tbw sl gts)).length) :
    let sub := minTrap (areaOf tbw sl gts)
    let ref := trap (gts * sub.sum / ((2 : ℕ) : ℝ))
    spokesGrad minTrap trap kx ky n tbw sl gts =
      (((List.range n).map fun ii => segOf trap sub.length (gxareaOf kx n ii)).flatten ++ List.replicate ref.length 0,
       ((List.range n).map fun ii => segOf trap sub.length (gyareaOf ky n ii)).flatten ++ List.replicate ref.length 0,
       ((List.range n).map fun ii => sub.map fun v => (((-1) ^ ii : ℤ) : ℝ) * v).flatten ++ ref.map fun v => -v) := by
  have h := loopState_eq trap (minTrap (areaOf tbw sl gts)) (gxareaOf kx n) (gyareaOf ky n) n hfx hfy
  unfold loopState at h
  intro sub ref
  simp only [spokesGrad, List.length_map, Int.toNat_natCast]
  rw [h]

/-- the hand-written `spokesAxis` (Model/C20.lean; its limits are `spokes_axis_limits`, Props/C20.lean) on the blips
`blipOf` of a list of areas has the shape of the in-plane axes in `spokes_closed_form`: segments `segOf`, then zeros
(the two are not composed here) -/
theorem spokesAxis_eq (trap : ℝ → List ℝ) (L nref : ℕ) (as : List ℝ) :
    spokesAxis L nref (as.map fun a => if (0 : ℝ) < absG a then some (blipOf trap a) else none)
      = (as.map fun a => segOf trap L a).flatten ++ List.replicate nref 0 := by
  unfold spokesAxis
  rw [List.map_map]
  congr 2
  apply List.map_congr_left
  intro a _
  simp only [Function.comp, segOf]
  split_ifs <;> rfl

/-- Every axis waveform of the generated `spokes_grad` assembly is a concatenation of zero-ended
sub-waveforms each meeting the limits, hence starts and ends at zero, stays within `B` (= gmax) and never steps by
more than `D` (= dgdt·dt) — provided (`hfx`, `hfy`: the domain condition) every blip is no longer than one slice-select
lobe. `hmin`/`htrap` are what `min_trap_zeroEnded`/`trap_zeroEnded` prove for the real designers. -/
theorem spokes_limits {B D : ℝ} (hB : 0 ≤ B) (hD : 0 ≤ D) (minTrap trap : ℝ → List ℝ) (kx ky : ℕ → ℝ) (n : ℕ)
    (tbw sl gts : ℝ) (hgts : 0 < gts) (ha : 0 < areaOf tbw sl gts)
    (hmin : ∀ a, 0 < a → ZeroEnded B D (minTrap a) ∧ 0 < (minTrap a).sum)
    (htrap : ∀ a, 0 < a → ZeroEnded B D (trap a))
    (hfx : ∀ ii < n, 0 < absG (gxareaOf kx n ii) →
      (trap (absG (gxareaOf kx n ii))).length ≤ (minTrap (areaOf tbw sl gts)).length)
    (hfy : ∀ ii < n, 0 < absG (gyareaOf ky n ii) →
      (trap (absG (gyareaOf ky n ii))).length ≤ (minTrap (areaOf tbw sl gts)).length) :
    let g := spokesGrad minTrap trap kx ky n tbw sl gts
    ZeroEnded B D g.1 ∧ ZeroEnded B D g.2.1 ∧ ZeroEnded B D g.2.2 := by
  intro g
  have hg : g = _ := spokes_closed_form minTrap trap kx ky n tbw sl gts hfx hfy
  obtain ⟨hsub, hsum⟩ := hmin _ ha
  have href : ZeroEnded B D (trap (gts * (minTrap (areaOf tbw sl gts)).sum / ((2 : ℕ) : ℝ))) :=
    htrap _ (by positivity)
  have axis : ∀ (f : ℕ → ℝ) (L m : ℕ),
      ZeroEnded B D (((List.range n).map fun ii => segOf trap L (f ii)).flatten ++ List.replicate m 0) :=
    fun f L m => ZeroEnded.append hD
      (ZeroEnded.flatten_map hD _ _ fun ii _ => segOf_zeroEnded hB hD trap L (f ii) htrap) (ZeroEnded.zeros hB hD m)
  rw [hg]
  refine ⟨axis _ _ _, axis _ _ _, ZeroEnded.append hD (ZeroEnded.flatten_map hD _ _ fun ii _ => ?_) href.neg⟩
  refine hsub.scale ?_
  rw [Int.cast_pow, abs_pow, Int.cast_neg, Int.cast_one, abs_neg, abs_one, one_pow]

/-- With a blip designer of exact area (`trap_area`), the segment of spoke `i` on an in-plane
axis integrates to the requested k-space increment: `4257 · Σ g · dt = k[i+1] − k[i]`, where `k[n] = 0` (the last blip
returns to the centre); with no blip (equal coordinates) the segment is zero and so is the increment. -/
theorem spokes_kspace (trap : ℝ → List ℝ) (dt : ℝ) (harea : ∀ a, 0 < a → (trap a).sum * dt = a)
    (kx : ℕ → ℝ) (n L i : ℕ) :
    4257 * ((segOf trap L (gxareaOf kx n i)).sum * dt) = catZero kx n (i + 1) - catZero kx n i := by
  have hk : gxareaOf kx n i * 4257 = catZero kx n (i + 1) - catZero kx n i := by
    simp only [gxareaOf]; push_cast; field_simp
  rw [← hk]
  generalize gxareaOf kx n i = a
  unfold segOf
  split_ifs with h
  · rw [List.sum_append, List.sum_replicate, smul_zero, zero_add, blipOf, List.sum_map_mul_left, List.map_id',
      mul_assoc, harea _ h, absG_eq_abs, sgnG_mul_abs, mul_comm]
  · rw [absG_eq_abs, abs_pos, not_not] at h
    rw [h, List.sum_replicate, smul_zero, zero_mul, mul_zero, zero_mul]

/-- the same for the second in-plane axis (`gyareaOf` is generated separately from the source) -/
theorem spokes_kspace_y (trap : ℝ → List ℝ) (dt : ℝ) (harea : ∀ a, 0 < a → (trap a).sum * dt = a)
    (ky : ℕ → ℝ) (n L i : ℕ) :
    4257 * ((segOf trap L (gyareaOf ky n i)).sum * dt) = catZero ky n (i + 1) - catZero ky n i := by
  have e : gyareaOf ky n i = gxareaOf ky n i := rfl
  rw [e]; exact spokes_kspace trap dt harea ky n L i

/-- samples of `trap_grad(a, gmax, dgdt, dt)[0]` -/
noncomputable def trapWave (gmax dgdt dt : ℝ) (a : ℝ) : List ℝ := (trapGrad opsR a gmax dgdt dt).wave

/-- samples of `min_trap_grad(a, gmax, dgdt, dt)[0]` -/
noncomputable def minTrapWave (gmax dgdt dt : ℝ) (a : ℝ) : List ℝ :=
  ((minTrapGrad opsR a gmax dgdt dt).map Design.wave).getD []

/-- **`spokes_grad` with the modelled designers meets the limits on all three axes** whenever every blip fits into
one slice-select lobe (`hfx`, `hfy`, about the lengths of the designed waveforms); the limits of the designed
sub-waveforms are discharged by `trap_zeroEnded` / `min_trap_zeroEnded`. -/
theorem spokes_limits_designers {gmax dgdt dt : ℝ} (hg : 0 < gmax) (hs : 0 < dgdt) (hdt : 0 < dt)
    (kx ky : ℕ → ℝ) (n : ℕ) (tbw sl : ℝ) (ha : 0 < areaOf tbw sl dt)
    (hfx : ∀ ii < n, 0 < absG (gxareaOf kx n ii) →
      (trapWave gmax dgdt dt (absG (gxareaOf kx n ii))).length ≤ (minTrapWave gmax dgdt dt (areaOf tbw sl dt)).length)
    (hfy : ∀ ii < n, 0 < absG (gyareaOf ky n ii) →
      (trapWave gmax dgdt dt (absG (gyareaOf ky n ii))).length ≤ (minTrapWave gmax dgdt dt (areaOf tbw sl dt)).length) :
    let g := spokesGrad (minTrapWave gmax dgdt dt) (trapWave gmax dgdt dt) kx ky n tbw sl dt
    ZeroEnded gmax (dgdt * dt) g.1 ∧ ZeroEnded gmax (dgdt * dt) g.2.1 ∧ ZeroEnded gmax (dgdt * dt) g.2.2 := by
  refine spokes_limits hg.le (by positivity) _ _ kx ky n tbw sl dt hdt ha ?_ ?_ hfx hfy
  · intro a ha
    obtain ⟨d, hd⟩ := min_trap_defined (dgdt := dgdt) ha hg hdt
    obtain ⟨hr, hn, hfa, _⟩ := min_trap_meets_limits ha hg hs hdt d hd
    simp only [minTrapWave, hd, Option.map_some, Option.getD_some]
    refine ⟨min_trap_zeroEnded ha hg hs hdt d hd, ?_⟩
    -- Σ wave = (r + 1 + n) · scale with n · scale · dt = area > 0
    have hsc : 0 < d.scale := by
      rw [← hfa, flat_sum] at ha
      exact (mul_pos_iff_of_pos_left (Nat.cast_pos.mpr hn)).mp ((mul_pos_iff_of_pos_right hdt).mp ha)
    rw [wave_sum d hr]
    positivity
  · intro a ha
    exact trap_zeroEnded ha hg hs hdt

/-- k-space increments with the modelled blip designer: `trap_area` discharges the exact-area hypothesis -/
theorem spokes_kspace_designers {gmax dgdt dt : ℝ} (hg : 0 < gmax) (hs : 0 < dgdt) (hdt : 0 < dt)
    (kx : ℕ → ℝ) (n L i : ℕ) :
    4257 * ((segOf (trapWave gmax dgdt dt) L (gxareaOf kx n i)).sum * dt) = catZero kx n (i + 1) - catZero kx n i :=
  spokes_kspace _ dt (fun _ ha => trap_area ha hg hs hdt) kx n L i

/-- the closed form on one spoke at the origin with a 3-sample lobe; both areas are zero, so there is no blip and
`hfx`, `hfy` hold for lack of one -/
example : spokesGrad (α := ℝ) (fun _ => [0, 1, 0]) (fun _ => [0, 0]) (fun _ => 0) (fun _ => 0) 1 1 1 1
    = ([0, 0, 0, 0, 0], [0, 0, 0, 0, 0], [0, 1, 0, -0, -0]) := by
  have h := spokes_closed_form (fun _ => [0, 1, 0]) (fun _ => [0, 0]) (fun _ => 0) (fun _ => 0) 1 1 1 1
    (by intro ii _ h; simp [gxareaOf, catZero, absG] at h) (by intro ii _ h; simp [gyareaOf, catZero, absG] at h)
  simp only [] at h
  rw [h]
  simp [segOf, gxareaOf, gyareaOf, catZero, absG]

end SigpyVerif.C20
