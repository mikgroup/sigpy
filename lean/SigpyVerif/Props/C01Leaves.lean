import SigpyVerif.Props.C01
import SigpyVerif.Lemmas.C01Index
import SigpyVerif.Props.C09Nd
/-
  C01 — leaf pairs proved at the entry level, for all valid parameters.

  For each operator class `L` below, the entries the model gives to `L._adjoint_linop()` are a
  permutation of the index-swapped, conjugated entries of `L` (`E'.Perm (adjE star E)`), hence
  `⟨L x, y⟩ = ⟨x, L.H y⟩` (`isAdj_of_perm`).  This file: the classes whose index maps are hand-written
  in the model from numpy contracts and the C09 formulas (Flip, Circshift, Down/Upsample, Resize,
  Sum/Tile, Transpose, Multiply).  Props/C01LeavesGen.lean: the classes built on the regenerated loop
  nests (blocks, interp/gridding) and `adj_denote_leaves`, which plugs everything into `adj_denote`.
-/
set_option linter.unusedSectionVars false
namespace SigpyVerif.C01
open SigpyVerif

section
variable {α : Type} [CommRing α] [StarRing α]

theorem applyF_perm {ι κ : Type} [DecidableEq ι] {A B : List (ι × κ × α)} (h : A.Perm B)
    (x : κ → α) (o : ι) : applyF A x o = applyF B x o := by
  unfold applyF
  exact (h.map _).sum_eq

/-- an entry list that is, as a multiset, the conjugate transpose of `E` acts as the adjoint of `E` -/
theorem isAdj_of_perm (n m : Nat) (E E' : List (Ent α)) (h : InRange n m E)
    (hp : E'.Perm (adjE star E)) : IsAdj n m E E' := by
  intro x y
  rw [isAdj_of_entries n m E h x y]
  have : applyF E' y = applyF (adjE star E) y := by funext o; exact applyF_perm hp y o
  rw [this]

theorem inRangeE_adjE (n m : Nat) (E : List (Ent α)) :
    inRangeE m n (adjE star E) = adjE star (inRangeE n m E) := by
  unfold inRangeE adjE
  rw [List.filter_map]
  congr 1
  apply List.filter_congr
  intro e _
  simp only [Function.comp, Bool.decide_and]
  exact Bool.and_comm _ _

theorem isAdj_clip_of_perm (n m : Nat) (E E' : List (Ent α)) (hp : E'.Perm (adjE star E)) :
    IsAdj n m (inRangeE n m E) (inRangeE m n E') := by
  apply isAdj_of_perm _ _ _ _ (inRangeE_inRange n m E)
  rw [← inRangeE_adjE]
  unfold inRangeE
  exact hp.filter _

theorem adjE_adjE (E : List (Ent α)) : adjE star (adjE star E) = E := by
  unfold adjE
  rw [List.map_map]
  conv_rhs => rw [← List.map_id E]
  apply List.map_congr_left
  intro e _
  simp

theorem perm_adjE_symm {E E' : List (Ent α)} (h : E'.Perm (adjE star E)) : E.Perm (adjE star E') := by
  have := (h.map fun e : Ent α => ((e.2.1, e.1, star e.2.2) : Ent α)).symm
  have e : (adjE star E).map (fun e : Ent α => ((e.2.1, e.1, star e.2.2) : Ent α)) = E := adjE_adjE E
  rw [e] at this
  exact this

variable (ofRat : Rat → α)

/-- template: the adjoint leaf denotes (before clipping) swapped shapes and a permutation of the
    conjugate-transposed entries -/
theorem adjOK_of_perm (l l' : Leaf α) (hadj : adjLeaf star l = .leaf l')
    (h : ∀ s, leafSem0 star ofRat l = some s → ∃ s', leafSem0 star ofRat l' = some s' ∧
      s'.osh = s.ish ∧ s'.ish = s.osh ∧ s'.E.Perm (adjE star s.E)) :
    AdjOK ofRat (.leaf l) :=
  adjOK_of_isAdj ofRat l l' hadj fun s hs =>
    let ⟨s', h', ho, hi, hp⟩ := h s hs
    ⟨s', h', ho, hi, isAdj_clip_of_perm _ _ _ _ hp⟩

theorem normAxes_idem (axes : List Int) (n : Nat) : normAxes (normAxes axes n) n = normAxes axes n := by
  unfold normAxes
  rw [List.map_map]
  apply List.map_congr_left
  intro a _
  simp only [Function.comp]
  rcases Nat.eq_zero_or_pos n with h | h
  · subst h; simp [pyMod]
  · have hn : (0 : Int) < n := by exact_mod_cast h
    rw [pyMod_of_pos _ hn, pyMod_of_pos _ hn, Int.emod_emod_of_dvd _ (dvd_refl _)]

theorem normAxes_of_inRange {l : List Int} {n : Nat} (h : ∀ a ∈ l, 0 ≤ a ∧ a < n) : normAxes l n = l := by
  refine (List.map_congr_left fun a ha => ?_).trans (List.map_id l)
  obtain ⟨h0, h1⟩ := h a ha
  rw [pyMod_of_pos _ (by omega)]
  exact Int.emod_eq_of_lt h0 h1

theorem gatherE_some (osh ish : List Int) (h : List Int → List Int) :
    (gatherE osh ish (fun k => some (h k)) : List (Ent α))
      = (allIdx osh).map fun k => (fl osh k, fl ish (h k), (1 : α)) := by
  unfold gatherE
  simp only [Option.map_some]
  induction allIdx osh with
  | nil => rfl
  | cons a l ih => simp [ih]

theorem adjE_of_ones (E : List (Ent α)) (h : ∀ e ∈ E, e.2.2 = 1) : adjE star E = swapE E :=
  weights_one_swap E h

/-- `Sum(ishape, axes).H = Tile(ishape, axes)` is the true adjoint, for any axes (negative, out of order):
    the adjoint's entries are literally the index-swapped entries. -/
theorem sum_leaf_adjoint (ish axes : List Int) : AdjOK ofRat (.leaf (.sum ish axes : Leaf α)) := by
  refine adjOK_of_perm ofRat _ (.tile ish (normAxes axes ish.length)) rfl ?_
  intro s hs
  simp only [leafSem0, Option.some.injEq] at hs ⊢
  subst hs
  refine ⟨_, rfl, ?_, ?_, ?_⟩
  · simp only [tileSem, sumSem]
  · simp only [tileSem, sumSem, normAxes_idem]
  · simp only [tileSem, sumSem, normAxes_idem, gatherE_some]
    rw [adjE_of_ones]
    · unfold swapE; rw [List.map_map]; exact List.Perm.refl _
    · intro e he
      obtain ⟨k, _, rfl⟩ := List.mem_map.mp he
      rfl

/-- `Tile(oshape, axes).H = Sum(oshape, axes)` -/
theorem tile_leaf_adjoint (osh axes : List Int) : AdjOK ofRat (.leaf (.tile osh axes : Leaf α)) := by
  refine adjOK_of_perm ofRat _ (.sum osh (normAxes axes osh.length)) rfl ?_
  intro s hs
  simp only [leafSem0, Option.some.injEq] at hs ⊢
  subst hs
  refine ⟨_, rfl, ?_, ?_, ?_⟩
  · simp only [tileSem, sumSem, normAxes_idem]
  · simp only [tileSem, sumSem]
  · simp only [tileSem, sumSem, normAxes_idem, gatherE_some]
    rw [adjE_of_ones]
    · unfold swapE; rw [List.map_map]; exact List.Perm.refl _
    · intro e he
      obtain ⟨k, _, rfl⟩ := List.mem_map.mp he
      rfl

/-- per-axis index map of `util.flip` -/
def flipφ (ax : List Int) : Nat → Int → Int → Int :=
  fun d n x => if ax.contains (d : Int) then n - 1 - x else x

theorem flipφ_spec (ax : List Int) (d : Nat) (n x : Int) (h0 : 0 ≤ x) (h1 : x < n) :
    (0 ≤ flipφ ax d n x ∧ flipφ ax d n x < n) ∧ flipφ ax d n (flipφ ax d n x) = x := by
  unfold flipφ
  have := C09.flip_index n x h0 h1
  split_ifs <;> omega

theorem flip_entries (sh : List Int) (axes : Option (List Int)) :
    (labelE (shapeProd sh).toNat (C09.flip sh axes) : List (Ent α))
      = gatherE sh sh fun k => some (axmap (flipφ (C09.normalizeAxes axes sh.length)) sh k) := by
  apply labelE_eq_gatherE sh sh _ (C09.flip sh axes) rfl
  intro k hk j hj
  simp only [Option.some.injEq] at hj
  subst hj
  exact axmap_mem _ (fun d n x h0 h1 => (flipφ_spec _ d n x h0 h1).1) hk

/-- `Flip(shape, axes).H = Flip(shape, axes)` is the true adjoint for every shape and axes list:
    `util.flip`'s index map `k ↦ n-1-k` on the flipped axes is an involution of the in-bounds
    multi-indices. -/
theorem flip_leaf_adjoint (sh : List Int) (axes : Option (List Int)) :
    AdjOK ofRat (.leaf (.flip sh axes : Leaf α)) := by
  refine adjOK_of_perm ofRat _ (.flip sh axes) rfl ?_
  intro s hs
  simp only [leafSem0, Option.some.injEq] at hs
  subst hs
  refine ⟨_, rfl, rfl, rfl, ?_⟩
  rw [flip_entries, adjE_of_ones _ (gatherE_weights _ _ _)]
  exact gatherE_axmap_perm sh _ _
    (fun d n x h0 h1 => (flipφ_spec _ d n x h0 h1).1) (fun d n x h0 h1 => (flipφ_spec _ d n x h0 h1).1)
    (fun d n x h0 h1 => (flipφ_spec _ d n x h0 h1).2) (fun d n x h0 h1 => (flipφ_spec _ d n x h0 h1).2)

/-- one `numpy.roll` along axis `a` by `s` -/
def rollφ (a s : Int) : Nat → Int → Int → Int :=
  fun d n x => if (d : Int) = a then C09.rollSrc n s x else x

/-- all axes rolled by their total shifts -/
def totφ (T : Nat → Int) : Nat → Int → Int → Int := fun d n x => C09.rollSrc n (T d) x

/-- the array that holds, at the position of `k`, what `x` holds at the position of `axmap φ k` -/
def layAx (sh : List Int) (φ : Nat → Int → Int → Int) (x : Array Nat) : Array Nat :=
  ((allIdx sh).map fun k => x.getD (fl sh (axmap φ sh k)) 0).toArray

def updT (T : Nat → Int) (p : Int × Int) : Nat → Int := fun d => T d + if (d : Int) = p.1 then p.2 else 0

theorem layAx_getD (sh : List Int) (hsh : ∀ n ∈ sh, 0 ≤ n) (φ : Nat → Int → Int → Int) (x : Array Nat)
    (j : List Int) (hj : j ∈ allIdx sh) :
    (layAx sh φ x).getD (fl sh j) 0 = x.getD (fl sh (axmap φ sh j)) 0 :=
  getD_toArray_map_allIdx sh hsh (fun k => x.getD (fl sh (axmap φ sh k)) 0) 0 j hj

theorem rollSrc_rollSrc (n s t x : Int) (hn : 0 < n) :
    C09.rollSrc n t (C09.rollSrc n s x) = C09.rollSrc n (t + s) x := by
  unfold C09.rollSrc
  rw [pyMod_of_pos _ hn, pyMod_of_pos _ hn, pyMod_of_pos _ hn, Int.emod_sub_emod]
  congr 1; ring

theorem rollSrc_zero (n x : Int) (h0 : 0 ≤ x) (h1 : x < n) : C09.rollSrc n 0 x = x := by
  unfold C09.rollSrc
  rw [pyMod_of_pos _ (by omega)]
  simpa using Int.emod_eq_of_lt h0 h1

theorem totφ_range (T : Nat → Int) (d : Nat) (n x : Int) (h0 : 0 ≤ x) (h1 : x < n) :
    0 ≤ totφ T d n x ∧ totφ T d n x < n := C09.roll_in_range n (T d) x (by omega)

theorem rollφ_range (a s : Int) (d : Nat) (n x : Int) (h0 : 0 ≤ x) (h1 : x < n) :
    0 ≤ rollφ a s d n x ∧ rollφ a s d n x < n := by
  unfold rollφ
  split_ifs
  · exact C09.roll_in_range n s x (by omega)
  · exact ⟨h0, h1⟩

theorem layAx_step (sh : List Int) (hsh : ∀ n ∈ sh, 0 ≤ n) (T : Nat → Int) (p : Int × Int) (x : Array Nat) :
    layAx sh (rollφ p.1 p.2) (layAx sh (totφ T) x) = layAx sh (totφ (updT T p)) x := by
  conv_lhs => unfold layAx
  conv_rhs => unfold layAx
  congr 1
  apply List.map_congr_left
  intro k hk
  have hget := layAx_getD sh hsh (totφ T) x _ (axmap_mem _ (rollφ_range p.1 p.2) hk)
  unfold layAx at hget
  rw [hget, axmap_comp _ _ hk]
  congr 2
  apply axmap_congr _ _ _ hk
  intro d n x h0 h1
  unfold totφ rollφ updT
  split_ifs
  · exact rollSrc_rollSrc n p.2 (T d) x (by omega)
  · simp

theorem circ_fold (sh : List Int) (hsh : ∀ n ∈ sh, 0 ≤ n) (L : List (Int × Int)) (T : Nat → Int)
    (x : Array Nat) :
    L.foldl (fun cur p => layAx sh (rollφ p.1 p.2) cur) (layAx sh (totφ T) x)
      = layAx sh (totφ (L.foldl updT T)) x := by
  induction L generalizing T with
  | nil => rfl
  | cons p L ih => rw [List.foldl_cons, List.foldl_cons, layAx_step sh hsh, ih]

theorem layAx_id (sh : List Int) (hsh : ∀ n ∈ sh, 0 ≤ n) (φ : Nat → Int → Int → Int)
    (hφ : ∀ d n x, 0 ≤ x → x < n → φ d n x = x) (x : Array Nat) (hx : x.size = (shapeProd sh).toNat) :
    layAx sh φ x = x := by
  unfold layAx
  apply Array.ext'
  have e : ((allIdx sh).map fun k => x.getD (fl sh (axmap φ sh k)) 0)
      = ((allIdx sh).map (fl sh)).map fun i => x.getD i 0 := by
    rw [List.map_map]
    apply List.map_congr_left
    intro k hk
    simp only [Function.comp]
    rw [axmap_eq, axmapFrom_id φ hφ (mem_allIdx.mp hk)]
  rw [e, allIdx_map_fl sh hsh, ← hx]
  apply List.ext_getElem
  · simp
  · intro i h1 h2
    simp at h1
    simp [Array.getD, h1]

theorem neg_fold (ax sf : List Int) (T : Nat → Int) :
    (List.zip ax (sf.map fun s => -s)).foldl updT (fun d => -(T d))
      = fun d => -((List.zip ax sf).foldl updT T d) := by
  induction ax generalizing sf T with
  | nil => simp
  | cons a ax ih =>
    cases sf with
    | nil => simp
    | cons s sf =>
      simp only [List.map_cons, List.zip_cons_cons, List.foldl_cons]
      rw [← ih sf (updT T (a, s))]
      congr 1
      funext d
      unfold updT
      split_ifs <;> ring

theorem circshift_eval (sh sf : List Int) (axes : Option (List Int)) (x : Array Nat) :
    C09.circshift sh sf axes x =
      if ((axes.getD (pyRange0 sh.length)).map fun a => pyMod a sh.length).length ≠ sf.length then none
      else some ((List.zip ((axes.getD (pyRange0 sh.length)).map fun a => pyMod a sh.length) sf).foldl
        (fun cur p => layAx sh (rollφ p.1 p.2) cur) x) := by
  unfold C09.circshift
  dsimp only  -- the `let`
  split_ifs
  · rfl
  · rfl

/-- what `Circshift(shape, shifts, axes)` denotes: every axis rolled by the sum of its shifts -/
theorem circshift_entries (sh sf : List Int) (axes : Option (List Int)) (hsh : ∀ n ∈ sh, 0 ≤ n)
    (hlen : ((axes.getD (pyRange0 sh.length)).map fun a => pyMod a sh.length).length = sf.length) :
    (labelE (shapeProd sh).toNat (fun x => (C09.circshift sh sf axes x).getD #[]) : List (Ent α))
      = gatherE sh sh fun k => some (axmap (totφ ((List.zip
          ((axes.getD (pyRange0 sh.length)).map fun a => pyMod a sh.length) sf).foldl updT fun _ => 0)) sh k) := by
  apply labelE_eq_gatherE sh sh _ _ _
  · intro k hk j hj
    simp only [Option.some.injEq] at hj
    subst hj
    exact axmap_mem _ (totφ_range _) hk
  · simp only [circshift_eval, hlen, ne_eq, not_true_eq_false, if_false, Option.getD_some]
    have h0 := layAx_id sh hsh (totφ fun _ => 0) (fun d n x h0 h1 => rollSrc_zero n x h0 h1)
      ((Array.range (shapeProd sh).toNat).map (· + 1)) (by simp)
    conv_lhs => rw [← h0]
    rw [circ_fold sh hsh]
    rfl

/-- `Circshift(shape, shifts, axes).H = Circshift(shape, -shifts, axes)` is the true adjoint for
    every shape with non-negative extents, shift list and axes list (negative / repeated axes, `axes=None`):
    the sequential rolls compose to one roll per axis by the summed shift, and rolling by `-T` undoes rolling by `T`
    (C09 `roll_inverse`, `roll_in_range`). -/
theorem circshift_leaf_adjoint (sh sf : List Int) (axes : Option (List Int)) (hsh : ∀ n ∈ sh, 0 ≤ n) :
    AdjOK ofRat (.leaf (.circshift sh sf axes : Leaf α)) := by
  refine adjOK_of_perm ofRat _ (.circshift sh (sf.map fun s => -s) axes) rfl ?_
  intro s hs
  by_cases hlen : ((axes.getD (pyRange0 sh.length)).map fun a => pyMod a sh.length).length = sf.length
  · have hlen' : ((axes.getD (pyRange0 sh.length)).map fun a => pyMod a sh.length).length
        = (sf.map fun s => -s).length := by simpa using hlen
    have e1 := circshift_entries (α := α) sh sf axes hsh hlen
    have e2 := circshift_entries (α := α) sh (sf.map fun s => -s) axes hsh hlen'
    simp only [leafSem0] at hs ⊢
    rw [circshift_eval] at hs ⊢
    rw [if_neg (by simpa using hlen)] at hs
    rw [if_neg (by simpa using hlen')]
    simp only [Option.some.injEq] at hs ⊢
    subst hs
    refine ⟨_, rfl, rfl, rfl, ?_⟩
    rw [e1, e2, adjE_of_ones _ (gatherE_weights _ _ _)]
    have hn := neg_fold ((axes.getD (pyRange0 sh.length)).map fun a => pyMod a sh.length) sf (fun _ => 0)
    simp only [neg_zero] at hn
    rw [hn]
    refine gatherE_axmap_perm sh _ _ (totφ_range _) (totφ_range _) ?_ ?_
    · intro d n x h0 h1
      have := C09.roll_inverse n (-((List.zip ((axes.getD (pyRange0 sh.length)).map
        fun a => pyMod a sh.length) sf).foldl updT (fun _ => 0) d)) x (by omega) h0 h1
      simpa [totφ] using this
    · intro d n x h0 h1
      exact C09.roll_inverse n _ x (by omega) h0 h1
  · simp only [leafSem0] at hs
    rw [circshift_eval, if_pos (by simpa using hlen)] at hs
    simp at hs

/-- valid parameters: one positive factor and one shift `0 ≤ s ≤ n` per axis -/
def DSValid : List Int → List Int → List Int → Prop
  | n :: sh, f :: fs, s :: ss => 0 < f ∧ 0 ≤ s ∧ s ≤ n ∧ DSValid sh fs ss
  | [], [], [] => True
  | _, _, _ => False

theorem DSValid.lengths {sh f s : List Int} (h : DSValid sh f s) : f.length = sh.length ∧ s.length = sh.length := by
  fun_induction DSValid sh f s with
  | case1 n sh f fs s ss ih => simp [ih h.2.2.2]
  | case2 => simp
  | case3 => exact absurd h id

def downIdx (k s f : List Int) : List Int := C09.zip3With (fun kd s f => s + kd * f) k s f
def upQ (j s f : List Int) : List (Int × Int) := C09.zip3With (fun kd s f => (kd - s, f)) j s f
def upTest (q : List (Int × Int)) : Bool := q.all fun (d, f) => decide (0 ≤ d ∧ pyMod d f = 0)
def upIdx (q : List (Int × Int)) : List Int := q.map fun (d, f) => pyDiv d f
def dsLens (sh f s : List Int) : List Int := C09.zip3With Gen.downsampleLen sh f s

theorem dsLen_nonneg (n f s : Int) (hf : 0 < f) (hs : s ≤ n) : 0 ≤ Gen.downsampleLen n f s := by
  unfold Gen.downsampleLen
  rw [pyDiv_of_pos _ hf]
  exact Int.ediv_nonneg (by omega) (by omega)

theorem sliceLens_eq {sh f s : List Int} (h : DSValid sh f s) :
    C09.zip3With (fun n s f => (C09.sliceLen n s f : Int)) sh s f = dsLens sh f s := by
  fun_induction DSValid sh f s with
  | case1 n sh f fs s ss ih =>
    simp only [C09.zip3With, dsLens]
    rw [C09.sliceLen_eq_advertised n s f h.1 (dsLen_nonneg n f s h.1 h.2.2.1)]
    congr 1
    exact ih h.2.2.2
  | case2 => rfl
  | case3 => exact absurd h id

theorem down_then_up {sh f s : List Int} (h : DSValid sh f s) {k : List Int} (hk : InB (dsLens sh f s) k) :
    InB sh (downIdx k s f) ∧ upTest (upQ (downIdx k s f) s f) = true ∧ upIdx (upQ (downIdx k s f) s f) = k := by
  fun_induction DSValid sh f s generalizing k with
  | case1 n sh f fs s ss ih =>
    obtain ⟨hf, hs0, hsn, hv⟩ := h
    simp only [dsLens, C09.zip3With] at hk
    cases hk with
    | @cons _ kd _ k' hkd hk' =>
      obtain ⟨i1, i2, i3⟩ := ih hv hk'
      have hspec := (C09.downsampleLen_spec n f s kd hf).mpr hkd
      obtain ⟨u1, u2, u3⟩ := C09.up_down_index f s kd hf hkd.1
      have hnn : 0 ≤ kd * f := mul_nonneg hkd.1 (by omega)
      refine ⟨?_, ?_, ?_⟩
      · simp only [downIdx, C09.zip3With]
        exact List.Forall₂.cons ⟨by omega, hspec.2⟩ i1
      · simp only [downIdx, upQ, upTest, C09.zip3With, List.all_cons, Bool.and_eq_true, decide_eq_true_eq]
        exact ⟨⟨u1, u2⟩, i2⟩
      · simp only [downIdx, upQ, upIdx, C09.zip3With, List.map_cons]
        rw [u3]
        congr 1
  | case2 =>
    simp only [dsLens, C09.zip3With] at hk
    cases hk
    exact ⟨List.Forall₂.nil, rfl, rfl⟩
  | case3 => exact absurd h id

theorem up_then_down {sh f s : List Int} (h : DSValid sh f s) {j : List Int} (hj : InB sh j)
    (ht : upTest (upQ j s f) = true) :
    InB (dsLens sh f s) (upIdx (upQ j s f)) ∧ downIdx (upIdx (upQ j s f)) s f = j := by
  fun_induction DSValid sh f s generalizing j with
  | case1 n sh f fs s ss ih =>
    obtain ⟨hf, hs0, hsn, hv⟩ := h
    cases hj with
    | @cons _ jd _ j' hjd hj' =>
      simp only [upQ, upTest, C09.zip3With, List.all_cons, Bool.and_eq_true, decide_eq_true_eq] at ht
      obtain ⟨⟨t1, t2⟩, ht'⟩ := ht
      obtain ⟨i1, i2⟩ := ih hv hj' ht'
      obtain ⟨u1, u2⟩ := C09.up_test_is_sample f s jd hf t1 t2
      have hspec := (C09.downsampleLen_spec n f s (pyDiv (jd - s) f) hf).mp ⟨u2, by omega⟩
      refine ⟨?_, ?_⟩
      · simp only [upQ, upIdx, dsLens, C09.zip3With, List.map_cons]
        exact List.Forall₂.cons hspec i1
      · simp only [upQ, upIdx, downIdx, C09.zip3With, List.map_cons]
        rw [← u1]
        congr 1
  | case2 =>
    cases hj
    exact ⟨List.Forall₂.nil, rfl⟩
  | case3 => exact absurd h id

/-- gather maps of the two classes -/
def downG (f s : List Int) : List Int → Option (List Int) := fun k => some (downIdx k s f)
def upG (f s : List Int) : List Int → Option (List Int) :=
  fun j => if upTest (upQ j s f) then some (upIdx (upQ j s f)) else none

theorem downsample_entries (ish f s : List Int) (h : DSValid ish f s) :
    (labelE (shapeProd ish).toNat (fun x => (C09.downsample ish f (some s) x).2) : List (Ent α))
      = gatherE (dsLens ish f s) ish (downG f s) := by
  apply labelE_eq_gatherE (dsLens ish f s) ish _ _ _
  · intro k hk j hj
    simp only [downG, Option.some.injEq] at hj
    subst hj
    exact mem_allIdx.mpr (down_then_up h (mem_allIdx.mp hk)).1
  · simp only [C09.downsample, Option.getD_some, h.lengths.1, Nat.sub_self, List.replicate_zero,
      List.append_nil, sliceLens_eq h]
    rfl

theorem upsample_entries (osh f s : List Int) (h : DSValid osh f s) :
    (labelE (shapeProd (dsLens osh f s)).toNat (fun x => (C09.upsample osh f (some s) x).2) : List (Ent α))
      = gatherE osh (dsLens osh f s) (upG f s) := by
  apply labelE_eq_gatherE osh (dsLens osh f s) _ _ _
  · intro j hj k hk
    simp only [upG] at hk
    split_ifs at hk with ht
    simp only [Option.some.injEq] at hk
    subst hk
    exact mem_allIdx.mpr (up_then_down h (mem_allIdx.mp hj) ht).1
  · simp only [C09.upsample, Option.getD_some, h.lengths.1, Nat.sub_self, List.replicate_zero,
      List.append_nil, sliceLens_eq h]
    congr 1
    apply List.map_congr_left
    intro k _
    simp only [upG]
    by_cases ht : upTest (upQ k s f) = true
    · have ht' := ht
      unfold upTest upQ at ht'
      rw [if_pos ht', if_pos ht]
      rfl
    · have ht' := ht
      unfold upTest upQ at ht'
      rw [if_neg ht', if_neg ht]

theorem down_up_perm (sh f s : List Int) (h : DSValid sh f s) :
    (gatherE sh (dsLens sh f s) (upG f s) : List (Ent α)).Perm
      (swapE (gatherE (dsLens sh f s) sh (downG f s))) := by
  apply gatherE_perm_swap
  · intro k hk j hj
    simp only [downG, Option.some.injEq] at hj
    subst hj
    obtain ⟨i1, i2, i3⟩ := down_then_up h (mem_allIdx.mp hk)
    refine ⟨mem_allIdx.mpr i1, ?_⟩
    simp only [upG, i2, if_true, i3]
  · intro j hj k hk
    simp only [upG] at hk
    split_ifs at hk with ht
    simp only [Option.some.injEq] at hk
    subst hk
    obtain ⟨i1, i2⟩ := up_then_down h (mem_allIdx.mp hj) ht
    exact ⟨mem_allIdx.mpr i1, by simp only [downG, i2]⟩

/-- `Downsample(ishape, factors, shift).H = Upsample(ishape, factors, shift)` is the true adjoint
    for all positive factors and shifts `0 ≤ s ≤ n`: `input[s::f]` reads exactly the positions that
    pass `Upsample`'s membership test (C09 `downsampleLen_spec`, `up_down_index`, `up_test_is_sample`). -/
theorem downsample_leaf_adjoint (ish f s : List Int) (h : DSValid ish f s) :
    AdjOK ofRat (.leaf (.downsample ish f s : Leaf α)) := by
  refine adjOK_of_perm ofRat _ (.upsample ish f s) rfl ?_
  intro t ht
  simp only [leafSem0, h.lengths.1, h.lengths.2, ne_eq, not_true_eq_false, or_self, if_false,
    Option.some.injEq] at ht ⊢
  subst ht
  refine ⟨_, rfl, rfl, rfl, ?_⟩
  have e1 := downsample_entries (α := α) ish f s h
  have e2 := upsample_entries (α := α) ish f s h
  unfold dsLens at e1 e2
  rw [e1]
  -- `erw`: the model spells Upsample's extents with `Gen.upsampleLen`, which unfolds to the formula of
  -- `Gen.downsampleLen`
  erw [e2]
  rw [adjE_of_ones _ (gatherE_weights _ _ _)]
  exact down_up_perm ish f s h

/-- `Upsample(oshape, factors, shift).H = Downsample(oshape, factors, shift)`, same parameters as above -/
theorem upsample_leaf_adjoint (osh f s : List Int) (h : DSValid osh f s) :
    AdjOK ofRat (.leaf (.upsample osh f s : Leaf α)) := by
  refine adjOK_of_perm ofRat _ (.downsample osh f s) rfl ?_
  intro t ht
  simp only [leafSem0, h.lengths.1, h.lengths.2, ne_eq, not_true_eq_false, or_self, if_false,
    Option.some.injEq] at ht ⊢
  subst ht
  refine ⟨_, rfl, rfl, rfl, ?_⟩
  have e1 := downsample_entries (α := α) osh f s h
  have e2 := upsample_entries (α := α) osh f s h
  unfold dsLens at e1 e2
  rw [e1]
  erw [e2]
  apply perm_adjE_symm
  rw [adjE_of_ones _ (gatherE_weights _ _ _)]
  exact down_up_perm osh f s h

theorem resizeGo_cons (i o si so k : Int) (is os sis sos ks J : List Int) :
    C09.resizeSrc.go (i :: is) (o :: os) (si :: sis) (so :: sos) (k :: ks) = some J ↔
      ∃ j js, C09.resizeSrc1 i o si so k = some j ∧ C09.resizeSrc.go is os sis sos ks = some js ∧ J = j :: js :=
  C09.resizeSrc_cons_eq_some i o si so k is os sis sos ks J

/-- N-d: the copy relation of `resize(i→o, ishift, oshift)` is the transpose of the relation of
    `resize(o→i, oshift, ishift)` (per axis: C09 `resize_transpose`) -/
theorem resizeSrc_transpose (i o si so k j : List Int) :
    C09.resizeSrc i o si so k = some j ↔ C09.resizeSrc o i so si j = some k :=
  C09.resize_transpose_nd i o si so k j

theorem resizeSrc1_inB (i o si so k j : Int) (hsi : 0 ≤ si) (h : C09.resizeSrc1 i o si so k = some j) :
    0 ≤ j ∧ j < i := by
  unfold C09.resizeSrc1 Gen.resizeCopyLen pyMin at h
  split_ifs at h <;> simp at h <;> omega

theorem resizeSrc_inB (i o si so k j : List Int) (hsi : ∀ s ∈ si, 0 ≤ s)
    (h : C09.resizeSrc i o si so k = some j) : InB i j := by
  obtain ⟨-, -, -, -, e5, h⟩ := (C09.resizeSrc_spec ..).mp h
  exact mem_allIdx.mp (C09.mem_allIdx_iff_getD.mpr
    ⟨e5, fun d hd => resizeSrc1_inB _ _ _ _ _ _ (C09.getD_nonneg si hsi d) (h d hd)⟩)

theorem resize_gather_perm (ie oe si so : List Int) (hsi : ∀ s ∈ si, 0 ≤ s) (hso : ∀ s ∈ so, 0 ≤ s) :
    (gatherE ie oe (C09.resizeSrc oe ie so si) : List (Ent α)).Perm
      (swapE (gatherE oe ie (C09.resizeSrc ie oe si so))) := by
  apply gatherE_perm_swap
  · intro k _ j hj
    exact ⟨mem_allIdx.mpr (resizeSrc_inB _ _ _ _ _ _ hsi hj), (resizeSrc_transpose _ _ _ _ _ _).mp hj⟩
  · intro j _ k hk
    exact ⟨mem_allIdx.mpr (resizeSrc_inB _ _ _ _ _ _ hso hk), (resizeSrc_transpose _ _ _ _ _ _).mpr hk⟩

theorem shapeProd_ones (m : Nat) (a : List Int) : shapeProd (List.replicate m 1 ++ a) = shapeProd a := by
  induction m with
  | zero => simp
  | succ m ih => rw [List.replicate_succ, List.cons_append, shapeProd_cons, ih]; ring

theorem expandShapes_swap (a b : List Int) :
    C09.expandShapes b a = ((C09.expandShapes a b).2, (C09.expandShapes a b).1) := by
  unfold C09.expandShapes
  simp only [Nat.max_comm]

theorem expandShapes_prod (a b : List Int) :
    shapeProd (C09.expandShapes a b).1 = shapeProd a ∧ shapeProd (C09.expandShapes a b).2 = shapeProd b := by
  unfold C09.expandShapes
  exact ⟨shapeProd_ones _ _, shapeProd_ones _ _⟩

theorem zipWith_default_swap (a b : List Int) :
    List.zipWith Gen.resizeIshiftDefault a b = List.zipWith Gen.resizeOshiftDefault b a := by
  induction a generalizing b with
  | nil => cases b <;> rfl
  | cons x a ih =>
    cases b with
    | nil => rfl
    | cons y b => simp only [List.zipWith_cons_cons, ih b, C09.resize_default_swap]

theorem default_shift_nonneg (a b : List Int) :
    (∀ s ∈ List.zipWith Gen.resizeIshiftDefault a b, 0 ≤ s) ∧
    (∀ s ∈ List.zipWith Gen.resizeOshiftDefault a b, 0 ≤ s) := by
  constructor <;> intro s hs <;> rw [List.mem_iff_getElem] at hs <;> obtain ⟨n, hn, rfl⟩ := hs <;>
    simp only [List.getElem_zipWith, Gen.resizeIshiftDefault, Gen.resizeOshiftDefault, pyMax] <;>
    split_ifs <;> omega

/-- explicit shifts, when given, are non-negative (sigpy indexes with them) -/
def ShiftOK (sft : Option (List Int)) : Prop := ∀ l, sft = some l → ∀ s ∈ l, 0 ≤ s

theorem labelE_id (n : Nat) : (labelE n (fun x => x) : List (Ent α)) = idE n := by
  unfold labelE idE
  simp only [Array.size_map, Array.size_range]
  rw [← List.filterMap_eq_map]
  apply List.filterMap_congr
  intro o ho
  have ho' : o < n := List.mem_range.mp ho
  simp [Array.getD, ho']

/-- entries of `Resize` and of the operator its `_adjoint_linop` builds, in the non-trivial case -/
theorem resize_entries (ish osh : List Int) (is' os' : Option (List Int))
    (hne : ((C09.expandShapes ish osh).1 == (C09.expandShapes ish osh).2) = false)
    (hi : ShiftOK is') :
    (labelE (shapeProd ish).toNat (C09.resize ish osh is' os') : List (Ent α))
      = gatherE (C09.expandShapes ish osh).2 (C09.expandShapes ish osh).1
          (C09.resizeSrc (C09.expandShapes ish osh).1 (C09.expandShapes ish osh).2
            (is'.getD (List.zipWith Gen.resizeIshiftDefault (C09.expandShapes ish osh).1 (C09.expandShapes ish osh).2))
            (os'.getD (List.zipWith Gen.resizeOshiftDefault (C09.expandShapes ish osh).1 (C09.expandShapes ish osh).2))) := by
  rw [← (expandShapes_prod ish osh).1]
  apply labelE_eq_gatherE
  · unfold C09.resize
    simp only [hne, Bool.false_eq_true, if_false]
    rfl
  · intro k _ j hj
    refine mem_allIdx.mpr (resizeSrc_inB _ _ _ _ _ _ ?_ hj)
    cases is' with
    | none => exact (default_shift_nonneg _ _).1
    | some l => exact hi l rfl

/-- `Resize(oshape, ishape, ishift, oshift).H = Resize(ishape, oshape, oshift, ishift)` is the true
    adjoint in N dimensions, for default shifts and for any non-negative explicit shifts, ranks that
    differ (left-padded with ones) and the early-return case of equal shapes. -/
theorem resize_leaf_adjoint (osh ish : List Int) (is' os' : Option (List Int)) (hi : ShiftOK is')
    (ho : ShiftOK os') : AdjOK ofRat (.leaf (.resize osh ish is' os' : Leaf α)) := by
  refine adjOK_of_perm ofRat _ (.resize ish osh os' is') rfl ?_
  intro t ht
  simp only [leafSem0, Option.some.injEq] at ht ⊢
  subst ht
  refine ⟨_, rfl, rfl, rfl, ?_⟩
  by_cases heq : ((C09.expandShapes ish osh).1 == (C09.expandShapes ish osh).2) = true
  · have heq' : ((C09.expandShapes osh ish).1 == (C09.expandShapes osh ish).2) = true := by
      rw [expandShapes_swap]; simp only [beq_iff_eq] at heq ⊢; exact heq.symm
    have hp : shapeProd osh = shapeProd ish := by
      rw [← (expandShapes_prod ish osh).1, ← (expandShapes_prod ish osh).2, beq_iff_eq.mp heq]
    have e1 : C09.resize (α := Nat) ish osh is' os' = fun x => x := by
      funext x; unfold C09.resize; simp only [heq, if_true]
    have e2 : C09.resize (α := Nat) osh ish os' is' = fun x => x := by
      funext x; unfold C09.resize; simp only [heq', if_true]
    rw [e1, e2, labelE_id, labelE_id, hp, adjE_of_ones _ (idE_spec _).2, swapE_of_diag _ (idE_spec _).1]
  · have hne : ((C09.expandShapes ish osh).1 == (C09.expandShapes ish osh).2) = false := by
      simpa using heq
    have hne' : ((C09.expandShapes osh ish).1 == (C09.expandShapes osh ish).2) = false := by
      rw [expandShapes_swap]
      simp only [beq_eq_false_iff_ne, ne_eq] at hne ⊢
      exact fun h => hne h.symm
    rw [resize_entries ish osh is' os' hne hi, resize_entries osh ish os' is' hne' ho,
      adjE_of_ones _ (gatherE_weights _ _ _)]
    simp only [expandShapes_swap ish osh]
    rw [zipWith_default_swap (C09.expandShapes ish osh).2, ← zipWith_default_swap (C09.expandShapes ish osh).1]
    apply resize_gather_perm
    · cases is' with
      | none => exact (default_shift_nonneg _ _).1
      | some l => exact hi l rfl
    · cases os' with
      | none => exact (default_shift_nonneg _ _).2
      | some l => exact ho l rfl

/-- `axes` is a permutation of `0..n-1` (what `Transpose.__init__` / numpy require) -/
def AxValid (ax : List Int) (n : Nat) : Prop :=
  ax.length = n ∧ (List.range n).all (fun (a : Nat) => ax.contains (a : Int)) = true

theorem AxValid.perm {ax : List Int} {n : Nat} (h : AxValid ax n) :
    ((List.range n).map fun (a : Nat) => (a : Int)).Perm ax := by
  obtain ⟨hl, hc⟩ := h
  have hnd : ((List.range n).map fun (a : Nat) => (a : Int)).Nodup :=
    List.nodup_range.map (fun a b h => by exact_mod_cast h)
  have hsub : ((List.range n).map fun (a : Nat) => (a : Int)) ⊆ ax := by
    intro x hx
    obtain ⟨a, ha, rfl⟩ := List.mem_map.mp hx
    have := List.all_eq_true.mp hc a ha
    simpa using this
  exact (List.subperm_of_subset hnd hsub).perm_of_length_le (by simp [hl])

theorem AxValid.mem {ax : List Int} {n : Nat} (h : AxValid ax n) (a : Nat) (ha : a < n) : (a : Int) ∈ ax :=
  h.perm.subset (List.mem_map.mpr ⟨a, List.mem_range.mpr ha, rfl⟩)

theorem AxValid.idx {ax : List Int} {n : Nat} (h : AxValid ax n) (a : Nat) (ha : a < n) :
    ax.idxOf (a : Int) < n ∧ getI ax (ax.idxOf (a : Int)) = a := by
  have hm := h.mem a ha
  have hlt : ax.idxOf (a : Int) < ax.length := List.idxOf_lt_length_iff.mpr hm
  refine ⟨h.1 ▸ hlt, ?_⟩
  rw [getI_eq_getElem _ _ hlt]
  exact List.getElem_idxOf hlt

theorem AxValid.get {ax : List Int} {n : Nat} (h : AxValid ax n) (d : Nat) (hd : d < n) :
    (∃ m : Nat, m < n ∧ getI ax d = m) ∧ ax.idxOf (getI ax d) = d := by
  have hd' : d < ax.length := h.1 ▸ hd
  rw [getI_eq_getElem _ _ hd']
  constructor
  · have : ax[d] ∈ ((List.range n).map fun (a : Nat) => (a : Int)) := h.perm.symm.subset (List.getElem_mem hd')
    obtain ⟨m, hm, he⟩ := List.mem_map.mp this
    exact ⟨m, List.mem_range.mp hm, he.symm⟩
  · exact (h.perm.nodup_iff.mp (List.nodup_range.map (fun a b h => by exact_mod_cast h))).idxOf_getElem d hd'

/-- the heart of `Transpose.H`: for a permutation `ax` and the list `ax'` of its argsort,
    `Transpose(osh, ax')` has output shape `ish` and is the transposed gather of `Transpose(ish, ax)` -/
theorem transpose_pair (n : Nat) (ish ax ax' : List Int) (hl : ish.length = n) (h : AxValid ax n)
    (h' : AxValid ax' n) (hK : ∀ a, a < n → getI ax' a = ((ax.idxOf (a : Int) : Nat) : Int)) :
    ax'.map (fun a => getI (ax.map fun a => getI ish a.toNat) a.toNat) = ish ∧
    (gatherE ish (ax.map fun a => getI ish a.toNat)
        (fun j => some (permIdx (fun d => ax'.idxOf (d : Int)) n j)) : List (Ent α)).Perm
      (swapE (gatherE (ax.map fun a => getI ish a.toNat) ish
        fun k => some (permIdx (fun a => ax.idxOf (a : Int)) n k))) := by
  have hosh : ∀ d, d < n → getI (ax.map fun a => getI ish a.toNat) d = getI ish (getI ax d).toNat := by
    intro d hd
    have hd' : d < ax.length := h.1 ▸ hd
    rw [getI_eq_getElem _ _ (by simpa using hd'), getI_eq_getElem ax _ hd']
    simp
  have hsh : ∀ a, a < n → getI ish a = getI (ax.map fun a => getI ish a.toNat) (ax.idxOf (a : Int)) := by
    intro a ha
    rw [hosh _ (h.idx a ha).1, (h.idx a ha).2]
    simp
  constructor
  · apply ext_getI
    · simp [h'.1, hl]
    · intro a ha
      simp only [List.length_map, h'.1] at ha
      rw [getI_eq_getElem _ _ (by simpa [h'.1] using ha)]
      simp only [List.getElem_map]
      rw [← getI_eq_getElem ax' a (h'.1 ▸ ha), hK a ha]
      simp only [Int.toNat_natCast]
      exact (hsh a ha).symm
  · refine gatherE_permIdx_perm n _ ish _ _ (by simp [h.1]) hl (fun a ha => (h.idx a ha).1)
      (fun d hd => (h'.idx d hd).1) ?_ ?_ hsh
    · intro a ha
      have := (h'.get a ha).2
      rw [hK a ha] at this
      exact this
    · intro d hd
      obtain ⟨⟨m, hm, hme⟩, hid⟩ := h.get d hd
      have e1 : getI ax' m = d := by rw [hK m hm, ← hme, hid]
      have e2 := (h'.get m hm).2
      rw [e1] at e2
      rw [e2, ← hme, hid]

/-- the normalised axes list `Transpose` works with -/
def axOf (n : Nat) (axes : Option (List Int)) : List Int :=
  match axes with
  | none => (List.range n).reverse.map (fun (a : Nat) => (a : Int))
  | some a => normAxes a n

theorem transposeSem_some (ish : List Int) (axes : Option (List Int)) (hv : AxValid (axOf ish.length axes) ish.length) :
    (transposeSem ish axes : Option (Sem α)) = some ⟨(axOf ish.length axes).map fun a => getI ish a.toNat, ish,
      gatherE ((axOf ish.length axes).map fun a => getI ish a.toNat) ish
        fun k => some (permIdx (fun a => (axOf ish.length axes).idxOf (a : Int)) ish.length k)⟩ := by
  unfold transposeSem
  cases axes with
  | none =>
    simp only [axOf] at hv ⊢
    rw [if_neg (by rintro (h | h); exacts [h hv.1, h hv.2])]
    rfl
  | some a =>
    simp only [axOf] at hv ⊢
    rw [if_neg (by rintro (h | h); exacts [h hv.1, h hv.2])]
    rfl

theorem transposeSem_valid (ish : List Int) (axes : Option (List Int)) (s : Sem α)
    (h : transposeSem ish axes = some s) : AxValid (axOf ish.length axes) ish.length := by
  unfold transposeSem at h
  cases axes with
  | none =>
    simp only [axOf] at h ⊢
    split_ifs at h with hc
    simp only [not_or, not_not, ne_eq] at hc
    exact ⟨hc.1, hc.2⟩
  | some a =>
    simp only [axOf] at h ⊢
    split_ifs at h with hc
    simp only [not_or, not_not, ne_eq] at hc
    exact ⟨hc.1, hc.2⟩

theorem revAx_valid (n : Nat) : AxValid ((List.range n).reverse.map (fun (a : Nat) => (a : Int))) n := by
  refine ⟨by simp, ?_⟩
  rw [List.all_eq_true]
  intro a ha
  simp only [List.contains_eq_mem, List.mem_map, List.mem_reverse, decide_eq_true_eq]
  exact ⟨a, ha, rfl⟩

theorem getI_revAx (n d : Nat) (hd : d < n) :
    getI ((List.range n).reverse.map (fun (a : Nat) => (a : Int))) d = ((n - 1 - d : Nat) : Int) := by
  rw [getI_eq_getElem _ _ (by simpa using hd)]
  simp [List.getElem_reverse]

theorem revAx_K (n a : Nat) (ha : a < n) :
    getI ((List.range n).reverse.map (fun (a : Nat) => (a : Int))) a
      = ((((List.range n).reverse.map (fun (a : Nat) => (a : Int))).idxOf (a : Int) : Nat) : Int) := by
  obtain ⟨hp, he⟩ := (revAx_valid n).idx a ha
  rw [getI_revAx n _ hp] at he
  rw [getI_revAx n a ha]
  omega

theorem reverse_eq_revAx_map (ish : List Int) :
    ish.reverse = ((List.range ish.length).reverse.map (fun (a : Nat) => (a : Int))).map fun a => getI ish a.toNat := by
  apply ext_getI
  · simp
  · intro d hd
    simp only [List.length_reverse] at hd
    rw [getI_eq_getElem _ _ (by simpa using hd), getI_eq_getElem _ _ (by simpa using hd)]
    simp only [List.getElem_reverse, List.getElem_map, List.getElem_range, Int.toNat_natCast,
      List.length_range]
    rw [getI_eq_getElem _ _ (by omega)]

theorem argsort_norm (ax : List Int) (n : Nat) (h : AxValid ax n) :
    normAxes (argsortInv ax) n = argsortInv ax := by
  refine normAxes_of_inRange fun a ha => ?_
  obtain ⟨d, hd, rfl⟩ := List.mem_map.mp ha
  have := (h.idx d (h.1 ▸ List.mem_range.mp hd)).1
  omega

theorem argsort_K (ax : List Int) (n : Nat) (h : AxValid ax n) (a : Nat) (ha : a < n) :
    getI (argsortInv ax) a = ((ax.idxOf (a : Int) : Nat) : Int) := by
  unfold argsortInv
  rw [getI_eq_getElem _ _ (by simpa [h.1] using ha)]
  simp

theorem argsort_valid (ax : List Int) (n : Nat) (h : AxValid ax n) : AxValid (argsortInv ax) n := by
  refine ⟨by simp [argsortInv, h.1], ?_⟩
  rw [List.all_eq_true]
  intro d hd
  have hd' := List.mem_range.mp hd
  obtain ⟨⟨m, hm, hme⟩, hid⟩ := h.get d hd'
  simp only [List.contains_eq_mem, decide_eq_true_eq, argsortInv, List.mem_map, List.mem_range]
  exact ⟨m, by rw [h.1]; exact hm, by rw [← hme, hid]⟩

/-- what `Transpose(ishape, axes)` and the operator `l'` its `_adjoint_linop` returns —
    `Transpose(ishape[::-1])` for `axes=None`, otherwise `Transpose(oshape, argsort(axes))` — denote:
    two gathers between `ishape` and the permuted shape that are transposes of each other -/
theorem transpose_adj_sem (ish : List Int) (axes : Option (List Int)) :
    ∃ l' : Leaf α, adjLeaf star (.transpose ish axes : Leaf α) = .leaf l' ∧
      ∀ s : Sem α, transposeSem ish axes = some s → ∃ g g' : List Int → Option (List Int),
        s = ⟨s.osh, ish, gatherE s.osh ish g⟩ ∧
        leafSem0 star ofRat l' = some ⟨ish, s.osh, gatherE ish s.osh g'⟩ ∧
        (gatherE ish s.osh g' : List (Ent α)).Perm (swapE (gatherE s.osh ish g)) := by
  cases axes with
  | none =>
    refine ⟨.transpose ish.reverse none, rfl, fun s hs => ?_⟩
    have hv := transposeSem_valid ish none s hs
    rw [transposeSem_some ish none hv] at hs
    obtain rfl := Option.some.inj hs
    have hv' : AxValid (axOf ish.reverse.length none) ish.reverse.length := by
      simpa [axOf] using revAx_valid ish.length
    obtain ⟨p1, p2⟩ := transpose_pair (α := α) ish.length ish _ _ rfl (revAx_valid ish.length)
      (revAx_valid ish.length) (revAx_K ish.length)
    refine ⟨_, _, rfl, ?_, p2⟩
    simp only [leafSem0]
    rw [transposeSem_some ish.reverse none hv']
    simp only [axOf, List.length_reverse]
    rw [reverse_eq_revAx_map ish, p1]
  | some a =>
    refine ⟨.transpose ((normAxes a ish.length).map fun d => getI ish d.toNat)
      (some (argsortInv (normAxes a ish.length))), rfl, fun s hs => ?_⟩
    have hv := transposeSem_valid ish (some a) s hs
    rw [transposeSem_some ish (some a) hv] at hs
    obtain rfl := Option.some.inj hs
    simp only [axOf] at hv
    have hlen : ((normAxes a ish.length).map fun d => getI ish d.toNat).length = ish.length := by
      rw [List.length_map, hv.1]
    have hv' : AxValid (axOf ((normAxes a ish.length).map fun d => getI ish d.toNat).length
        (some (argsortInv (normAxes a ish.length))))
        ((normAxes a ish.length).map fun d => getI ish d.toNat).length := by
      rw [hlen]
      simp only [axOf]
      rw [argsort_norm _ _ hv]
      exact argsort_valid _ _ hv
    obtain ⟨p1, p2⟩ := transpose_pair (α := α) ish.length ish _ _ rfl hv
      (argsort_valid _ _ hv) (argsort_K _ _ hv)
    refine ⟨_, _, rfl, ?_, p2⟩
    simp only [leafSem0]
    rw [transposeSem_some _ _ hv']
    simp only [axOf, hlen]
    rw [argsort_norm _ _ hv, p1]

/-- `Transpose(ishape, axes).H` — `Transpose(ishape[::-1])` for `axes=None`, otherwise
    `Transpose(oshape, argsort(axes))` — is the true adjoint for every axes permutation (negative
    entries included): its output shape is `ishape` and its gather is the transposed gather. -/
theorem transpose_leaf_adjoint (ish : List Int) (axes : Option (List Int)) :
    AdjOK ofRat (.leaf (.transpose ish axes : Leaf α)) := by
  obtain ⟨l', hadj, h⟩ := transpose_adj_sem ofRat ish axes
  refine adjOK_of_perm ofRat _ l' hadj fun s hs => ?_
  obtain ⟨g, g', hs', hl', hp⟩ := h s hs
  refine ⟨_, hl', (congrArg Sem.ish hs').symm, rfl, ?_⟩
  rw [hs', adjE_of_ones _ (gatherE_weights _ _ _)]
  exact hp

theorem applyF_idE (N : Nat) (v : Nat → α) (i : Nat) :
    applyF (idE N : List (Ent α)) v i = if i < N then v i else 0 := by
  unfold applyF idE
  rw [List.map_map]
  have e : (List.range N).map ((fun e : Ent α => if e.1 = i then e.2.2 * v e.2.1 else 0) ∘ fun k => (k, k, (1 : α)))
      = (List.range N).map fun k => if i = k then v k else 0 := by
    apply List.map_congr_left
    intro k _
    simp only [Function.comp, one_mul, eq_comm]
  rw [e]
  split_ifs with h
  · exact sum_ite_single (List.range N) List.nodup_range i (List.mem_range.mpr h) v
  · have : (List.range N).map (fun k => if i = k then v k else 0) = (List.range N).map fun _ => (0 : α) := by
      apply List.map_congr_left
      intro k hk
      have : i ≠ k := fun hik => h (hik ▸ List.mem_range.mp hk)
      simp [this]
    rw [this]; simp

/-- a trailing `Reshape` (identity on flat indices) does not change the adjoint relation -/
theorem isAdj_idE_comp (n m : Nat) (E Z : List (Ent α)) (h : IsAdj n m E Z) :
    IsAdj n m E (compE (idE m) Z) := by
  intro x y
  rw [h x y]
  unfold dotL
  congr 1
  apply List.map_congr_left
  intro i hi
  rw [applyF_compE, applyF_idE, if_pos (List.mem_range.mp hi)]

theorem bshape_eq_zip {a b o : List Int} (h : bshape a b = some o) : o = (a.zip b).map fun (i, m) => max i m := by
  induction a generalizing b o with
  | nil => cases h; rfl
  | cons x a ih =>
    cases b with
    | nil => cases h; rfl
    | cons y b =>
      obtain ⟨o', _, ho', rfl⟩ := (bshape_cons x y a b o).mp h
      rw [List.zip_cons_cons, List.map_cons, ← ih ho']

/-- entries of `Multiply` with output shape `osh`, expanded input shape `ie`, expanded multiplier
    shape `me` -/
def mulE (osh ie me : List Int) (mult : List α) (cj : Bool) : List (Ent α) :=
  (allIdx osh).map fun k =>
    (fl osh k, fl ie (bcast ie k),
      if cj then star (mult.getD (fl me (bcast me k)) 0) else mult.getD (fl me (bcast me k)) 0)

theorem multiplySem_iff (ish msh : List Int) (mult : List α) (cj : Bool) (s : Sem α) :
    multiplySem star ish msh mult cj = some s ↔
      ∃ osh, bshape (C09.expandShapes ish msh).1 (C09.expandShapes ish msh).2 = some osh ∧
        mult.length = (shapeProd msh).toNat ∧
        s = ⟨osh, ish, mulE osh (C09.expandShapes ish msh).1 (C09.expandShapes ish msh).2 mult cj⟩ := by
  unfold multiplySem mulE
  simp only [Option.bind_eq_bind, Option.pure_def, Option.bind_eq_some_iff]
  constructor
  · rintro ⟨osh, hb, h⟩
    by_cases hl : mult.length = (shapeProd msh).toNat
    · rw [if_neg (not_not.mpr hl)] at h
      simp only [Option.some.injEq] at h
      exact ⟨osh, hb, hl, h.symm⟩
    · rw [if_pos hl] at h
      simp at h
  · rintro ⟨osh, hb, hl, rfl⟩
    refine ⟨osh, hb, ?_⟩
    rw [if_neg (not_not.mpr hl)]

/-- valid parameters of `Multiply`: positive extents -/
def MulValid (ish msh : List Int) : Prop := (∀ d ∈ ish, 0 < d) ∧ (∀ d ∈ msh, 0 < d)

theorem expand_pos (a b : List Int) (ha : ∀ d ∈ a, 0 < d) (hb : ∀ d ∈ b, 0 < d) :
    (∀ d ∈ (C09.expandShapes a b).1, 0 < d) ∧ (∀ d ∈ (C09.expandShapes a b).2, 0 < d) := by
  unfold C09.expandShapes
  constructor <;> intro d hd <;> simp only [List.mem_append, List.mem_replicate] at hd
  · rcases hd with ⟨_, rfl⟩ | h
    · omega
    · exact ha d h
  · rcases hd with ⟨_, rfl⟩ | h
    · omega
    · exact hb d h

theorem expand_len (a b : List Int) :
    (C09.expandShapes a b).1.length = max a.length b.length ∧
    (C09.expandShapes a b).2.length = max a.length b.length := by
  unfold C09.expandShapes
  simp only [List.length_append, List.length_replicate]
  omega

theorem expand_fst_of_len (o b : List Int) (h : b.length ≤ o.length) : (C09.expandShapes o b).1 = o := by
  unfold C09.expandShapes
  simp [Nat.max_eq_left h]

theorem expand_snd_of_len (a o b : List Int) (ho : o.length = max a.length b.length) :
    (C09.expandShapes o b).2 = (C09.expandShapes a b).2 := by
  unfold C09.expandShapes
  rw [ho, Nat.max_assoc, Nat.max_self]

/-- `_get_multiply_adjoint_sum_axes` on the expanded shapes -/
def saOf (ie me osh : List Int) : List Int :=
  (List.range ie.length).filterMap fun d =>
    if getI ie d = 1 ∧ (getI me d ≠ 1 ∨ getI osh d ≠ 1) then some (d : Int) else none

theorem multiplySumAxes_eq (osh ish msh : List Int) :
    multiplySumAxes osh ish msh = saOf (C09.expandShapes ish msh).1 (C09.expandShapes ish msh).2 osh := rfl

theorem saOf_contains (ie me osh : List Int) (d : Nat) :
    (saOf ie me osh).contains (d : Int) = true ↔
      d < ie.length ∧ getI ie d = 1 ∧ (getI me d ≠ 1 ∨ getI osh d ≠ 1) := by
  unfold saOf
  simp only [List.contains_eq_mem, decide_eq_true_eq, List.mem_filterMap, List.mem_range]
  constructor
  · rintro ⟨d', hd', h⟩
    split_ifs at h with hc
    simp only [Option.some.injEq] at h
    have : d' = d := by exact_mod_cast h
    subst this
    exact ⟨hd', hc⟩
  · rintro ⟨hd, hc⟩
    exact ⟨d, hd, by rw [if_pos hc]⟩

theorem mem_saOf {ie me osh : List Int} {a : Int} (ha : a ∈ saOf ie me osh) :
    ∃ d : Nat, d < ie.length ∧ a = d := by
  obtain ⟨d, hd, h⟩ := List.mem_filterMap.mp ha
  split_ifs at h
  exact ⟨d, List.mem_range.mp hd, (Option.some.inj h).symm⟩

theorem saOf_norm (ie me osh : List Int) (n : Nat) (hn : ie.length = n) :
    normAxes (saOf ie me osh) n = saOf ie me osh :=
  normAxes_of_inRange fun a ha => by obtain ⟨d, hd, rfl⟩ := mem_saOf ha; omega

theorem getI_pos (l : List Int) (hl : ∀ d ∈ l, 0 < d) (t : Nat) (ht : t < l.length) : 0 < getI l t := by
  rw [getI_eq_getElem l t ht]; exact hl _ (List.getElem_mem ht)

theorem saOf_rm (ie me osh : List Int) (hl : ie.length = me.length) (hpi : ∀ d ∈ ie, 0 < d)
    (hpm : ∀ d ∈ me, 0 < d) (hb : bshape ie me = some osh) :
    ∀ t, t < osh.length →
      ((saOf ie me osh).contains ((0 + t : Nat) : Int) = true → getI ie t = 1) ∧
      ((saOf ie me osh).contains ((0 + t : Nat) : Int) = false → getI ie t = getI osh t) := by
  obtain ⟨hol, hax⟩ := bshape_spec hb hl
  intro t ht
  rw [hol] at ht
  obtain ⟨hc, hmax⟩ := hax t ht
  have pi := getI_pos ie hpi t ht
  have pm := getI_pos me hpm t (hl ▸ ht)
  rw [Nat.zero_add]
  constructor
  · intro hr
    exact ((saOf_contains ie me osh t).mp hr).2.1
  · intro hr
    have hneg : ¬ (t < ie.length ∧ getI ie t = 1 ∧ (getI me t ≠ 1 ∨ getI osh t ≠ 1)) := by
      intro h
      rw [(saOf_contains ie me osh t).mpr h] at hr
      exact Bool.noConfusion hr
    rw [hmax] at hneg ⊢
    rcases le_total (getI ie t) (getI me t) with hle | hle
    · rw [max_eq_right hle] at hneg ⊢
      by_contra hne
      apply hneg
      refine ⟨ht, ?_, ?_⟩ <;> omega
    · rw [max_eq_left hle]

/-- `Sum` over the axes `sa` on which `ie` was broadcast to `osh` (`h`, as `saOf_rm` gives it) undoes the
    broadcast on flat positions -/
theorem removeAxes_bcast (sa osh ie : List Int) (hl : ie.length = osh.length)
    (h : ∀ t, t < osh.length →
      (sa.contains ((0 + t : Nat) : Int) = true → getI ie t = 1) ∧
      (sa.contains ((0 + t : Nat) : Int) = false → getI ie t = getI osh t)) :
    shapeProd (removeAxes sa osh) = shapeProd ie ∧
    ∀ k ∈ allIdx osh, InB ie (bcast ie k) ∧
      fl (removeAxes sa osh) (removeAxes sa k) = fl ie (bcast ie k) ∧
      fl (removeAxes sa osh) (removeAxes sa k) < (shapeProd ie).toNat := by
  have hp := rm_prod (fun d => sa.contains (d : Int)) osh 0 ie hl h
  rw [← removeAxes_eq] at hp
  refine ⟨hp, fun k hk => ?_⟩
  obtain ⟨a1, a2, a3, _⟩ := rm_bcast (fun d => sa.contains (d : Int)) (mem_allIdx.mp hk) 0 ie hl h
  rw [← removeAxes_eq, ← removeAxes_eq] at a1 a3
  exact ⟨a2, congrArg Int.toNat a3, hp ▸ fl_lt a1⟩

theorem mulE_inRange (osh ie me : List Int) (mult : List α) (cj : Bool)
    (hb : ∀ k ∈ allIdx osh, InB ie (bcast ie k)) :
    InRange (shapeProd osh).toNat (shapeProd ie).toNat (mulE osh ie me mult cj) := by
  intro e he
  unfold mulE at he
  obtain ⟨k, hk, rfl⟩ := List.mem_map.mp he
  exact ⟨fl_lt (mem_allIdx.mp hk), fl_lt (hb k hk)⟩

theorem multiplySem_osh {ish msh osh : List Int} {mult : List α} (cj : Bool)
    (hb : bshape (C09.expandShapes ish msh).1 (C09.expandShapes ish msh).2 = some osh)
    (hlen : mult.length = (shapeProd msh).toNat) :
    multiplySem star osh msh mult cj
      = some ⟨osh, osh, mulE osh osh (C09.expandShapes ish msh).2 mult cj⟩ := by
  have hlie : (C09.expandShapes ish msh).1.length = (C09.expandShapes ish msh).2.length := by
    rw [(expand_len ish msh).1, (expand_len ish msh).2]
  have hol : osh.length = max ish.length msh.length := by
    rw [(bshape_spec hb hlie).1, (expand_len ish msh).1]
  have e1 : (C09.expandShapes osh msh).1 = osh := expand_fst_of_len osh msh (by omega)
  have e2 : (C09.expandShapes osh msh).2 = (C09.expandShapes ish msh).2 := expand_snd_of_len ish osh msh hol
  rw [multiplySem_iff]
  exact ⟨osh, by rw [e1, e2]; exact bshape_idem hb hlie, hlen, by rw [e1, e2]⟩

/-- template for the classes whose `_adjoint_linop` is `Reshape(ishape, ·) ∘ Sum(sa) ∘ L'`
    (the trailing `Reshape` is the identity on flat indices) -/
theorem adjOK_reshape_sum (l : Leaf α) (ish : List Int)
    (h : ∀ s, leafSem0 star ofRat l = some s → ∃ (l' : Leaf α) (sa : List Int) (m : Sem α),
      leafSem0 star ofRat l' = some m ∧
      adjLeaf star l = .comp (.leaf (.reshape ish (removeAxes sa m.osh)))
        (.comp (.leaf (.sum m.osh sa)) (.leaf l')) ∧
      shapeProd (removeAxes sa m.osh) = shapeProd ish ∧ normAxes sa m.osh.length = sa ∧
      m.ish = s.osh ∧ s.ish = ish ∧
      InRange (shapeProd s.osh).toNat (shapeProd ish).toNat s.E ∧
      InRange (shapeProd m.osh).toNat (shapeProd s.osh).toNat m.E ∧
      InRange (shapeProd ish).toNat (shapeProd m.osh).toNat ((allIdx m.osh).map fun j =>
        ((fl (removeAxes sa m.osh) (removeAxes sa j), fl m.osh j, (1 : α)) : Ent α)) ∧
      IsAdj (shapeProd s.osh).toNat (shapeProd ish).toNat s.E
        (compE ((allIdx m.osh).map fun j =>
          ((fl (removeAxes sa m.osh) (removeAxes sa j), fl m.osh j, (1 : α)) : Ent α)) m.E)) :
    AdjOK ofRat (.leaf l) := by
  intro s hs
  simp only [denote, leafSem] at hs
  cases h0 : leafSem0 star ofRat l with
  | none => simp [h0] at hs
  | some s0 =>
  simp only [h0, Option.map_some, Option.some.injEq] at hs
  subst hs
  obtain ⟨l', sa, m, hM, hadj, hprod, hnorm, hmi, hsi, hE, hME, hSE, hA⟩ := h s0 h0
  have hden : denote star ofRat (adj star (.leaf l)) = some ⟨ish, s0.osh,
      compE (inRangeE (shapeProd ish).toNat (shapeProd ish).toNat (idE (shapeProd ish).toNat))
        (compE (inRangeE (shapeProd ish).toNat (shapeProd m.osh).toNat
            ((allIdx m.osh).map fun j =>
              ((fl (removeAxes sa m.osh) (removeAxes sa j), fl m.osh j, (1 : α)) : Ent α)))
          (inRangeE (shapeProd m.osh).toNat (shapeProd s0.osh).toNat m.E))⟩ := by
    have hr : leafSem0 star ofRat (.reshape ish (removeAxes sa m.osh) : Leaf α)
        = some ⟨ish, removeAxes sa m.osh, idE (shapeProd ish).toNat⟩ := by
      simp only [leafSem0, hprod, if_true]
    have hs : leafSem0 star ofRat (.sum m.osh sa : Leaf α) = some (sumSem m.osh sa) := rfl
    simp only [adj, hadj, denote, leafSem, hr, hs, hM, Option.map_some]
    simp only [Sem.clip, Sem.osz, Sem.isz, sumSem, hnorm, hmi, hprod, if_true]
  refine ⟨_, hden, hsi.symm, rfl, ?_⟩
  simp only [Sem.clip, Sem.osz, Sem.isz, hsi]
  rw [inRangeE_id _ _ _ hE, inRangeE_id _ _ _ hME, inRangeE_id _ _ _ hSE, inRangeE_id _ _ _ (idE_inRange _)]
  exact isAdj_idE_comp _ _ _ _ hA

/-- `Multiply(ishape, mult, conj).H = Reshape ∘ Sum(axes broadcast over) ∘ Multiply(oshape, mult, not conj)`
    is the true adjoint, for a scalar or an array multiplier of any broadcast-compatible shape
    (either side may have the larger rank; positive extents, `MulValid`), with or without `conj`: the sum axes of
    `_get_multiply_adjoint_sum_axes` are exactly the axes on which the input was broadcast, and
    dropping them gives the input's flat index. -/
theorem multiply_leaf_adjoint (ish msh : List Int) (mult : List α) (cj : Bool) (hv : MulValid ish msh) :
    AdjOK ofRat (.leaf (.multiply ish msh mult cj : Leaf α)) := by
  refine adjOK_reshape_sum ofRat _ ish fun s0 hm => ?_
  obtain ⟨osh, hb, hlen, rfl⟩ := (multiplySem_iff ish msh mult cj s0).mp hm
  have hM := multiplySem_osh (!cj) hb hlen
  generalize hie : (C09.expandShapes ish msh).1 = ie at hb
  generalize hme : (C09.expandShapes ish msh).2 = me at hb hM
  have hpie : shapeProd ie = shapeProd ish := hie ▸ (expandShapes_prod ish msh).1
  have hlie : ie.length = me.length := by rw [← hie, ← hme, (expand_len ish msh).1, (expand_len ish msh).2]
  have hpi : ∀ d ∈ ie, 0 < d := hie ▸ (expand_pos ish msh hv.1 hv.2).1
  have hpm : ∀ d ∈ me, 0 < d := hme ▸ (expand_pos ish msh hv.1 hv.2).2
  have hol : osh.length = ie.length := (bshape_spec hb hlie).1
  have hrm := saOf_rm ie me osh hlie hpi hpm hb
  obtain ⟨hprod, hidx⟩ := removeAxes_bcast (saOf ie me osh) osh ie hol.symm hrm
  rw [hpie] at hprod hidx
  have hE : InRange (shapeProd osh).toNat (shapeProd ish).toNat (mulE osh ie me mult cj) :=
    hpie ▸ mulE_inRange osh ie me mult cj (fun k hk => (hidx k hk).1)
  have hME : InRange (shapeProd osh).toNat (shapeProd osh).toNat (mulE osh osh me mult (!cj)) :=
    mulE_inRange osh osh _ mult (!cj) (fun k hk => by rw [bcast_self (mem_allIdx.mp hk)]; exact mem_allIdx.mp hk)
  refine ⟨.multiply osh msh mult (!cj), saOf ie me osh, _, hM, ?_, hprod,
    saOf_norm ie me osh osh.length hol.symm, rfl, rfl, hE, hME, ?_, ?_⟩
  · simp only [adjLeaf, multiplySumAxes_eq, hie, hme, ← bshape_eq_zip hb]
  · intro e he
    obtain ⟨j, hj, rfl⟩ := List.mem_map.mp he
    dsimp only
    exact ⟨(hidx j hj).2.2, fl_lt (mem_allIdx.mp hj)⟩
  -- `Sum ∘ Multiply(conj)` has one entry per output index `k`, which is the conjugate transpose of
  -- the forward entry at `k`
  have hcomp := compE_along (α := α) (allIdx osh) (allIdx_nodup osh) (fl osh)
    (fun j hj k hk h => fl_inj osh hj hk h)
    (fun j => fl (removeAxes (saOf ie me osh) osh) (removeAxes (saOf ie me osh) j))
    (fun k => fl osh k) (fun _ => 1)
    (fun k => if (!cj) = true then star (mult.getD (fl me (bcast me k)) 0) else mult.getD (fl me (bcast me k)) 0)
  have hME' : mulE osh osh me mult (!cj) = (allIdx osh).map fun k =>
      ((fl osh k, fl osh k,
        if (!cj) = true then star (mult.getD (fl me (bcast me k)) 0) else mult.getD (fl me (bcast me k)) 0) : Ent α) :=
    List.map_congr_left fun k hk => by rw [bcast_self (mem_allIdx.mp hk)]
  rw [hME', hcomp]
  refine isAdj_of_perm _ _ _ _ hE (List.Perm.of_eq ?_)
  unfold mulE adjE
  rw [List.map_map]
  refine List.map_congr_left fun k hk => ?_
  simp only [Function.comp, (hidx k hk).2.1, one_mul]
  cases cj
  · simp only [Bool.not_false, if_true, Bool.false_eq_true, if_false]
  · simp only [Bool.not_true, if_true, Bool.false_eq_true, if_false, star_star]

end
end SigpyVerif.C01
