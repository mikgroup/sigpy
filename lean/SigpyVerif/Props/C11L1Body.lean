import SigpyVerif.Gen.ProxBody
import SigpyVerif.Props.C11Duchi
import Mathlib.Algebra.BigOperators.Group.List.Basic
import Mathlib.Algebra.BigOperators.Fin
import Mathlib.Algebra.Order.Field.Basic
/-
  C11 — the whole body of `thresh.l1_proj` (generated: `Gen.ProxBody.l1projWith`) returns THE Euclidean projection
  onto the l1 ball, in the input's shape.
-/
namespace SigpyVerif.C11
open SigpyVerif.Gen.Prox SigpyVerif.Gen.ProxBody Finset

section Generic
variable {K : Type} [Field K] [LinearOrder K] [IsStrictOrderedRing K]

/-- numpy's contract for `xp.sort` on a real 1-D array: *some* non-decreasing permutation of its argument -/
def SortContract (sort : List K → List K) : Prop := ∀ l, (sort l).Perm l ∧ (sort l).Pairwise (· ≤ ·)

theorem lsum_eq_sum (v : List K) : lsum v = v.sum := by
  induction v with
  | nil => rfl
  | cons a t ih => simp [lsum] at ih ⊢; rw [ih]

set_option linter.unusedSectionVars false in
theorem cumsumFrom_length (acc : K) (l : List K) : (cumsumFrom acc l).length = l.length := by
  induction l generalizing acc with
  | nil => rfl
  | cons a t ih => simp [cumsumFrom, ih]

set_option linter.unusedSectionVars false in
theorem cumsumFrom_getD (acc : K) (l : List K) (k : ℕ) (hk : k < l.length) :
    (cumsumFrom acc l).getD k 0 = acc + ∑ i ∈ range (k + 1), l.getD i 0 := by
  induction l generalizing acc k with
  | nil => exact absurd hk (Nat.not_lt_zero _)
  | cons a t ih =>
    cases k with
    | zero => rw [cumsumFrom, List.getD_cons_zero, sum_range_one, List.getD_cons_zero]
    | succ k =>
      rw [cumsumFrom, List.getD_cons_succ, ih _ _ (Nat.lt_of_succ_lt_succ hk), sum_range_succ' _ (k + 1)]
      simp only [List.getD_cons_succ, List.getD_cons_zero]
      ring

theorem flatnonzeroMax_none {m : List Bool} (h : flatnonzeroMax m = none) : ∀ j, m.getD j false = false := by
  induction m with
  | nil => intro j; rfl
  | cons c u ihu =>
    rw [flatnonzeroMax] at h
    cases hu : flatnonzeroMax u with
    | some _ => rw [hu] at h; cases h
    | none =>
      rw [hu] at h
      rintro (_ | j)
      · cases c
        · rfl
        · cases h
      · exact ihu hu j

theorem flatnonzeroMax_some {m : List Bool} {i : ℕ} (h : flatnonzeroMax m = some i) :
    i < m.length ∧ m.getD i false = true ∧ ∀ j, i < j → m.getD j false = false := by
  induction m generalizing i with
  | nil => cases h
  | cons b t ih =>
    rw [flatnonzeroMax] at h
    cases ht : flatnonzeroMax t with
    | some i' =>
      rw [ht] at h
      cases h
      obtain ⟨h1, h2, h3⟩ := ih ht
      refine ⟨Nat.succ_lt_succ h1, h2, ?_⟩
      rintro (_ | j) hj
      · exact absurd hj (Nat.not_lt_zero _)
      · exact h3 j (Nat.lt_of_succ_lt_succ hj)
    | none =>
      rw [ht] at h
      cases b
      · cases h
      · cases h
        refine ⟨Nat.succ_pos _, rfl, ?_⟩
        rintro (_ | j) hj
        · exact absurd hj (lt_irrefl 0)
        · exact flatnonzeroMax_none ht j

theorem getD_map_range {γ : Type} (g : ℕ → γ) (n k : ℕ) (d : γ) (hk : k < n) :
    ((List.range n).map g).getD k d = g k := by
  simp [List.getD_eq_getElem?_getD, hk]

/-- the candidate thresholds the generated body computes, as a function of the index -/
theorem l1body_st_eq (eps : K) (s : List K) :
    List.zipWith (fun v w => v / w) (List.map (fun v => v - eps) (cumsumG s))
        (List.map (fun v => v + (1 : K)) (arangeG s.length))
      = (List.range s.length).map fun k => ((∑ i ∈ range (k + 1), s.getD i 0) - eps) / ((k : K) + 1) := by
  rw [List.zipWith_map_left, arangeG, List.map_map, zipWith_map_range _ (cumsumG s) 0 _ (cumsumFrom_length 0 s)]
  refine List.map_congr_left fun k hk => ?_
  rw [cumsumG, cumsumFrom_getD 0 s k (List.mem_range.mp hk), zero_add]; rfl

/-- **the index search of the generated body returns a KKT threshold**: for non-negative moduli `mods` with
    `Σ mods ≥ eps > 0` (the else-branch) and ANY `sort` meeting numpy's contract (ties in any order),
    `flatnonzero(..).max()` is defined, `st[idx]` is in range, and `θ = st[idx]` has `θ ≥ 0`, `Σ (m - θ)₊ = eps`. -/
theorem l1body_theta (sort : List K → List K) (hsort : SortContract sort) (eps : K) (mods : List K)
    (hε : 0 < eps) (hnn : ∀ m ∈ mods, 0 ≤ m) (hsum : ¬ mods.sum < eps) :
    ∃ idx θ,
      flatnonzeroMax (List.map (fun v => decide (v > (0 : K)))
        (List.zipWith (fun v w => v - w) (sort mods).reverse
          (List.zipWith (fun v w => v / w) (List.map (fun v => v - eps) (cumsumG (sort mods).reverse))
            (List.map (fun v => v + (1 : K)) (arangeG mods.length))))) = some idx ∧
      (List.zipWith (fun v w => v / w) (List.map (fun v => v - eps) (cumsumG (sort mods).reverse))
            (List.map (fun v => v + (1 : K)) (arangeG mods.length)))[idx]? = some θ ∧
      0 ≤ θ ∧ (mods.map fun m => max (m - θ) 0).sum = eps := by
  set s := (sort mods).reverse with hs
  have hperm : s.Perm mods := (List.reverse_perm _).trans (hsort mods).1
  have hsorted : s.Pairwise (· ≥ ·) := by
    rw [hs, List.pairwise_reverse]; exact (hsort mods).2
  rw [← hperm.length_eq, l1body_st_eq]
  set T : ℕ → K := fun k => ((∑ i ∈ range (k + 1), s.getD i 0) - eps) / ((k : K) + 1)
  have hmask : List.map (fun v => decide (v > (0 : K)))
        (List.zipWith (fun v w => v - w) s ((List.range s.length).map T))
      = (List.range s.length).map fun k => decide (s.getD k 0 - T k > 0) := by
    rw [zipWith_map_range _ s 0 T rfl, List.map_map]; rfl
  rw [hmask]
  cases hfm : flatnonzeroMax ((List.range s.length).map fun k => decide (s.getD k 0 - T k > 0)) with
  | none =>
    -- index `0` always qualifies: `s₀ - (s₀ - eps)/1 = eps > 0`
    exfalso
    have hnpos : 0 < s.length :=
      List.length_pos_of_sum_pos s (hperm.sum_eq ▸ lt_of_lt_of_le hε (not_lt.mp hsum))
    have := flatnonzeroMax_none hfm 0
    rw [getD_map_range _ _ _ _ hnpos, decide_eq_false_iff_not] at this
    exact this (duchi_cond_zero (fun k => s.getD k 0) hε)
  | some ρ =>
    obtain ⟨h1, h2, h3⟩ := flatnonzeroMax_some hfm
    have hρ : ρ < s.length := by rwa [List.length_map, List.length_range] at h1
    rw [getD_map_range _ _ _ _ hρ, decide_eq_true_iff] at h2
    refine ⟨ρ, T ρ, rfl, by rw [List.getElem?_map, List.getElem?_range hρ]; rfl,
      duchi_core_sorted s mods hperm hsorted hnn (not_lt.mp hsum) ρ hρ h2 fun h => ?_⟩
    have := h3 (ρ + 1) (Nat.lt_succ_self ρ)
    rwa [getD_map_range _ _ _ _ h, decide_eq_false_iff_not] at this

/-- **the generated body of `thresh.l1_proj`, any entry type** (`absf` non-negative): either the early return
    (`‖input‖₁ < eps`: the input itself, in its own shape) or `soft_thresh(θ, input)` in the input's shape for a KKT
    threshold `θ`; never `none` (numpy never raises) for `eps > 0`. -/
theorem l1body_cases {β : Type} (absf : β → K) (habs : ∀ b, 0 ≤ absf b) (soft : K → β → β)
    (sort : List K → List K) (hsort : SortContract sort) {eps : K} (hε : 0 < eps) (sh : List Int) (data : List β) :
    ((data.map absf).sum < eps ∧ l1projWith absf soft sort eps ⟨sh, data⟩ = some ⟨sh, data⟩) ∨
    (¬ (data.map absf).sum < eps ∧ ∃ θ, 0 ≤ θ ∧ ((data.map absf).map fun m => max (m - θ) 0).sum = eps ∧
      l1projWith absf soft sort eps ⟨sh, data⟩ = some ⟨sh, data.map (soft θ)⟩) := by
  unfold l1projWith
  simp only [Arr.ravel, Arr.reshape, Arr.mapData, lsum_eq_sum]
  -- commuted spellings of the same candidates (`1 + arange`, `-eps + cumsum`) are normalised first
  try simp only [show (fun v : K => (1 : K) + v) = (fun v => v + 1) from funext fun v => add_comm _ _]
  by_cases hfe : (data.map absf).sum < eps
  · left; exact ⟨hfe, by rw [if_pos hfe]⟩
  · right
    refine ⟨hfe, ?_⟩
    rw [if_neg hfe]
    obtain ⟨idx, θ, h1, h2, h3, h4⟩ := l1body_theta sort hsort eps (data.map absf) hε
      (fun m hm => by obtain ⟨b, _, rfl⟩ := List.mem_map.mp hm; exact habs b) hfe
    rw [List.length_map] at h1 h2
    refine ⟨θ, h3, h4, ?_⟩
    rw [h1]
    simp only [Option.bind_some, h2, Option.map_some]

end Generic

/-- the numpy array (shape `sh`, row-major data) of a vector -/
def arrOf {n : ℕ} {𝕂 : Type} (sh : List Int) (y : Fin n → 𝕂) : Arr 𝕂 := ⟨sh, List.ofFn y⟩

/-- ascending merge sort meets the contract (the model's own executable sort) -/
theorem msort_contract {K : Type} [Field K] [LinearOrder K] [IsStrictOrderedRing K] : SortContract (msort (α := K)) := by
  intro l
  refine ⟨List.mergeSort_perm _ _, ?_⟩
  have := List.pairwise_mergeSort (le := fun a b : K => !decide (b < a))
    (fun a b c hab hbc => by simp only [Bool.not_eq_eq_eq_not, Bool.not_true, decide_eq_false_iff_not, not_lt] at *; exact le_trans hab hbc)
    (fun a b => by simp only [Bool.or_eq_true, Bool.not_eq_eq_eq_not, Bool.not_true, decide_eq_false_iff_not, not_lt]; exact le_total a b) l
  refine this.imp ?_
  intro a b h
  simpa using h

variable {n : ℕ}

/-- entries in any real inner product space: `xp.abs` is the norm, `soft_thresh` the block soft threshold -/
theorem l1_proj_body_norm {E : Type} [NormedAddCommGroup E] [InnerProductSpace ℝ E] (sort : List ℝ → List ℝ)
    (hsort : SortContract sort) {eps : ℝ} (hε : 0 < eps) (sh : List Int) (y : Vec (Fin n) E) :
    ∃ p : Vec (Fin n) E,
      l1projWith (fun v : E => ‖v‖) (fun θ v => blockSoft θ v) sort eps (arrOf sh y) = some (arrOf sh p) ∧
      IsProjOn {x : Vec (Fin n) E | ∑ i, ‖x i‖ ≤ eps} y p := by
  have hsumf : ∀ g : ℝ → ℝ, ((List.ofFn (fun i => y i)).map fun v => g ‖v‖).sum = ∑ i, g ‖y i‖ := by
    intro g; rw [List.map_ofFn, List.sum_ofFn]; rfl
  rcases l1body_cases (fun v : E => ‖v‖) norm_nonneg (fun θ v => blockSoft θ v) sort hsort hε sh
    (List.ofFn fun i => y i) with ⟨hf, hout⟩ | ⟨_, θ, hθ, hkkt, hout⟩
  · exact ⟨y, hout, isProjOn_self (((hsumf fun x => x).symm.trans_le hf.le : ∑ i, ‖y i‖ ≤ eps))⟩
  · refine ⟨vec fun i => blockSoft θ (y i), ?_, l1_proj_kkt hθ y ?_⟩
    · unfold arrOf; rw [hout, List.map_ofFn]; rfl
    · rw [List.map_map] at hkkt
      rw [← hkkt, ← hsumf fun m => max (m - θ) 0]; rfl

/-- **`thresh.l1_proj(eps, y)` (the generated body `l1projWith`) returns THE Euclidean projection of `y` onto the l1
    ball of radius `eps`, in the input's shape** — real arrays of any shape `sh` (`n` entries), any `eps > 0`, `xp.sort`
    any function meeting numpy's contract (so ties are sorted in any order).  The result is never `none` (no
    exception), and since the projection is unique (`prox_unique`) a feasible input is returned unchanged
    (`l1_proj_body_feasible`). -/
theorem l1_proj_body_real (sort : List ℝ → List ℝ) (hsort : SortContract sort) {eps : ℝ} (hε : 0 < eps)
    (sh : List Int) (y : Vec (Fin n) ℝ) :
    ∃ p : Vec (Fin n) ℝ,
      l1projWith (fun v : ℝ => |v|) (fun θ v => softThresh θ v |v|) sort eps (arrOf sh y) = some (arrOf sh p) ∧
      IsProjOn {x : Vec (Fin n) ℝ | ∑ i, |x i| ≤ eps} y p := by
  have := l1_proj_body_norm sort hsort hε sh y
  simp only [← softThresh_real] at this
  exact this

/-- the same for complex arrays (`xp.abs` = modulus, `soft_thresh` = modulus shrink with the phase kept) -/
theorem l1_proj_body_complex (sort : List ℝ → List ℝ) (hsort : SortContract sort) {eps : ℝ} (hε : 0 < eps)
    (sh : List Int) (y : Vec (Fin n) ℂ) :
    ∃ p : Vec (Fin n) ℂ,
      l1projWith (fun v : ℂ => ‖v‖) (fun θ v => csoft θ v) sort eps (arrOf sh y) = some (arrOf sh p) ∧
      IsProjOn {x : Vec (Fin n) ℂ | ∑ i, ‖x i‖ ≤ eps} y p := by
  have := l1_proj_body_norm sort hsort hε sh y
  simp only [← csoft_eq] at this
  exact this

/-- **end to end with the model's own sort** (merge sort; no hypothesis about numpy left in the statement) -/
theorem l1_proj_exact_real {eps : ℝ} (hε : 0 < eps) (sh : List Int) (y : Vec (Fin n) ℝ) :
    ∃ p : Vec (Fin n) ℝ,
      l1projWith (fun v : ℝ => |v|) (fun θ v => softThresh θ v |v|) msort eps (arrOf sh y) = some (arrOf sh p) ∧
      IsProjOn {x : Vec (Fin n) ℝ | ∑ i, |x i| ≤ eps} y p :=
  l1_proj_body_real msort msort_contract hε sh y

theorem l1_proj_exact_complex {eps : ℝ} (hε : 0 < eps) (sh : List Int) (y : Vec (Fin n) ℂ) :
    ∃ p : Vec (Fin n) ℂ,
      l1projWith (fun v : ℂ => ‖v‖) (fun θ v => csoft θ v) msort eps (arrOf sh y) = some (arrOf sh p) ∧
      IsProjOn {x : Vec (Fin n) ℂ | ∑ i, ‖x i‖ ≤ eps} y p :=
  l1_proj_body_complex msort msort_contract hε sh y

/-- **a feasible input (`‖y‖₁ ≤ eps`, boundary included) is returned unchanged, in its own shape** — on the early
    return path (`< eps`) and, at `‖y‖₁ = eps`, through the index search. -/
theorem l1_proj_body_feasible (sort : List ℝ → List ℝ) (hsort : SortContract sort) {eps : ℝ} (hε : 0 < eps)
    (sh : List Int) (y : Vec (Fin n) ℝ) (hy : ∑ i, |y i| ≤ eps) :
    l1projWith (fun v : ℝ => |v|) (fun θ v => softThresh θ v |v|) sort eps (arrOf sh y) = some (arrOf sh y) := by
  obtain ⟨p, h1, h2⟩ := l1_proj_body_real sort hsort hε sh y
  rw [h1, proj_feasible_fixed h2 hy]

/-- **the shape clause for `l1_proj`, all ranks**: whatever the shape list `sh`, the result carries exactly `sh` -/
theorem l1_proj_body_shape {β : Type} (absf : β → ℝ) (habs : ∀ b, 0 ≤ absf b) (soft : ℝ → β → β)
    (sort : List ℝ → List ℝ) (hsort : SortContract sort) {eps : ℝ} (hε : 0 < eps) (x : Arr β) :
    ∃ out, l1projWith absf soft sort eps x = some out ∧ out.shape = x.shape ∧ out.data.length = x.data.length := by
  rcases l1body_cases absf habs soft sort hsort hε x.shape x.data with ⟨_, h⟩ | ⟨_, θ, _, _, h⟩
  · exact ⟨_, h, rfl, rfl⟩
  · exact ⟨_, h, rfl, by simp⟩

/-! `y = (1, -3)`, `eps = 2` -/
example : SortContract (msort (α := ℝ)) := msort_contract
example : ∃ p : Vec (Fin 2) ℝ, l1projWith (fun v : ℝ => |v|) (fun θ v => softThresh θ v |v|) msort 2
    (arrOf [2] (vec ![1, -3])) = some (arrOf [2] p) ∧ IsProjOn {x : Vec (Fin 2) ℝ | ∑ i, |x i| ≤ 2} (vec ![1, -3]) p :=
  l1_proj_exact_real (by norm_num) _ _
end SigpyVerif.C11
