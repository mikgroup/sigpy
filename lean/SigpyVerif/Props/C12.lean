import SigpyVerif.Model.C12
import Mathlib.Analysis.InnerProductSpace.Basic
import Mathlib.Tactic.Ring
import Mathlib.Tactic.Linarith
import Mathlib.Tactic.FieldSimp
import Mathlib.Analysis.InnerProductSpace.Symmetric
import Mathlib.LinearAlgebra.FiniteDimensional.Lemmas
/-
  C12 — conjugate gradient produces the Krylov-optimal iterate at every step.
  All theorems are about `C12.init / update_ / update / done / run` of `Model/C12.lean`, which ARE
  `Gen.C12.init / update_ / update / done`: the statement-by-statement translation of
  `sigpy.alg.ConjugateGradient.__init__/_update/_done` (+ `Alg.__init__`, `Alg.update`) that
  harness/translate/gen_c12.py regenerates from the source on every check.  The driver executes the same
  definitions over exact Gaussian rationals and the correspondence check compares them with the real
  class after every update.
-/
namespace SigpyVerif.C12

section generic
variable {V S : Type} (o : Ops V S) (A : V → V) (P : Option (V → V)) (b x : V) (M : Int)

/-- the model's machine is, by definition, the generated one -/
theorem model_is_generated (tol : S) (s : State V S) :
    init o A P b x M = Gen.C12.init o A P b x M ∧ update_ o A P M s = Gen.C12.update_ o A P M s ∧
      update o A P M s = Gen.C12.update o A P M s ∧ done o M tol s = Gen.C12.done o M tol s :=
  ⟨rfl, rfl, rfl, rfl⟩

/-- `__init__` in one formula: `P=None` acts as the identity preconditioner, and `alias` records
    `max_iter <= 1` (no private copy of `z`). -/
theorem init_eq : init o A P b x M =
    { x := x, r := o.sub b (A x), p := P.getD id (o.sub b (A x)),
      rzold := o.rdot (o.sub b (A x)) (P.getD id (o.sub b (A x))),
      resid2 := o.rdot (o.sub b (A x)) (P.getD id (o.sub b (A x))), npd := false, iter := 0,
      «alias» := !decide (M > 1) } := by
  cases P <;> simp only [init, Gen.C12.init] <;> split_ifs with h <;> simp [h]

theorem update_eq (s : State V S) :
    update o A P M s = { update_ o A P M s with iter := (update_ o A P M s).iter + 1 } := rfl

/-- `update()` in one formula, its three paths (breakdown `return`, full update, skipped residual
    update) side by side; `P=None` acts as the identity preconditioner. -/
theorem update_def (s : State V S) : update o A P M s =
    if o.nonpos (o.rdot s.p (A s.p)) then { s with npd := true, iter := s.iter + 1 }
    else
      let α := o.div s.rzold (o.rdot s.p (A s.p))
      if s.iter < M - 1 then
        let r := o.axpy s.r (o.neg α) (A s.p)
        let ρ := o.rdot r (P.getD id r)
        { s with x := o.axpy s.x α s.p, r := r, p := o.xpay s.p (o.div ρ s.rzold) (P.getD id r),
                 rzold := ρ, resid2 := ρ, iter := s.iter + 1 }
      else { s with x := o.axpy s.x α s.p, resid2 := s.rzold, iter := s.iter + 1 } := by
  cases P <;> simp only [update, Gen.C12.update, Gen.C12.update_] <;> split_ifs <;> rfl

/-- `update()` advances the counter by exactly one, whatever branch `_update` takes
    (breakdown `return`, skipped residual update, full update). -/
theorem update_iter (s : State V S) : (update o A P M s).iter = s.iter + 1 := by
  simp only [update_def, apply_ite State.iter, ite_self]

/-- `_update` never touches the counter, whatever branch it takes -/
theorem update_keeps_iter (s : State V S) : (update_ o A P M s).iter = s.iter :=
  add_right_cancel (update_iter o A P M s)

theorem iter_counts_updates (k : Nat) : (run o A P b x M k).iter = k := by
  induction k with
  | zero => rw [run, init_eq]; rfl
  | succ k ih => rw [run, update_iter, ih, Nat.cast_succ]

theorem run_alias (k : Nat) : (run o A P b x M k).alias = !decide (M > 1) := by
  induction k with
  | zero => rw [run, init_eq]
  | succ k ih => simp only [run, update_def, apply_ite State.alias, ite_self, ih]

set_option linter.unusedTactic false in
set_option linter.unreachableTactic false in
/-- `self.p` is (or may be) the array `self.r` — `__init__` made no private copy — only when
    `max_iter <= 1`, and then the condition under which `_update` updates `self.r` or `self.p` IN PLACE
    (`Gen.C12.updInplaceGuard`, collected by the translator from every in-place statement on these two
    arrays) is false: the sharing is unobservable, which is why the machine may treat arrays as values. -/
theorem alias_branch_unreachable (k : Nat) (h : (run o A P b x M k).alias = true) :
    Gen.C12.updInplaceGuard M (run o A P b x M k).iter = false := by
  rw [run_alias] at h
  rw [iter_counts_updates]
  simp at h
  -- whatever and / or combination of integer path conditions the translator collected
  first
    | (simp only [Gen.C12.updInplaceGuard, decide_eq_false_iff_not]; omega)
    | (simp [Gen.C12.updInplaceGuard] <;> omega)

/-- an assertion on the generated text, checked when this file is built: the translator's two flags are `true`, i.e. it
    found that `__init__` stores the caller's array as `self.x` and that no statement of `__init__` / `_update` rebinds
    it (the code updates it in place).  Nothing in Lean ties the flags to the machine. -/
theorem x_is_callers_array : Gen.C12.initXIsCaller = true ∧ Gen.C12.updXIsCaller = true := ⟨rfl, rfl⟩

/-- `resid` is always `rzold ** 0.5` (so `resid <= tol` tests the preconditioned residual norm). -/
theorem resid2_eq_rzold (k : Nat) :
    (run o A P b x M k).resid2 = (run o A P b x M k).rzold := by
  induction k with
  | zero => rw [run, init_eq]
  | succ k ih => simp only [run, update_def, apply_ite State.resid2, apply_ite State.rzold, ih]

/-- Non-positive curvature: if `p^H A p <= 0` the update leaves `x`, `r`, `p`, `rzold` untouched,
    sets the flag, still counts as an update, and `done()` is true from then on (for every `tol`). -/
theorem cg_breakdown (s : State V S) (tol : S) (h : o.nonpos (o.rdot s.p (A s.p)) = true) :
    let s' := update o A P M s
    s'.x = s.x ∧ s'.r = s.r ∧ s'.p = s.p ∧ s'.rzold = s.rzold ∧ s'.npd = true ∧
      s'.iter = s.iter + 1 ∧ done o M tol s' = true := by
  simp [update_def, h, done, Gen.C12.done]

theorem npd_sticky (s : State V S) (h : s.npd = true) : (update o A P M s).npd = true := by
  simp only [update_def, apply_ite State.npd, h, ite_self]

/-- the new `x` depends on neither `max_iter` nor `P`: the residual update, skipped or not, does not
    enter it. -/
theorem update_x (s : State V S) : (update o A P M s).x =
    if o.nonpos (o.rdot s.p (A s.p)) then s.x
    else o.axpy s.x (o.div s.rzold (o.rdot s.p (A s.p))) s.p := by
  simp only [update_def, apply_ite State.x, ite_self]

/-- states that agree on everything the code reads (all fields but the `alias` marker) -/
def Sim (s t : State V S) : Prop :=
  s.x = t.x ∧ s.r = t.r ∧ s.p = t.p ∧ s.rzold = t.rzold ∧ s.resid2 = t.resid2 ∧ s.npd = t.npd ∧ s.iter = t.iter

theorem sim_update (M' : Int) (s t : State V S) (h : Sim s t) (hM : M ≤ M') (hi : s.iter < M - 1) :
    Sim (update o A P M s) (update o A P M' t) := by
  obtain ⟨h1, h2, h3, h4, h5, h6, h7⟩ := h
  have hi' : s.iter < M' - 1 := by omega
  simp only [Sim, update_def, ← h1, ← h2, ← h3, ← h4, ← h5, ← h6, ← h7, hi, hi', if_true,
    apply_ite State.x, apply_ite State.r, apply_ite State.p, apply_ite State.rzold, apply_ite State.resid2,
    apply_ite State.npd, apply_ite State.iter, and_self]

theorem sim_run (M' : Int) (hM : M ≤ M') (k : Nat) (hk : (k : Int) ≤ M - 1) :
    Sim (run o A P b x M k) (run o A P b x M' k) := by
  induction k with
  | zero => simp only [Sim, run, init_eq, and_self]
  | succ k ih =>
    rw [Nat.cast_succ] at hk
    exact sim_update o A P M M' _ _ (ih (by omega)) hM (by rw [iter_counts_updates]; omega)

/-- The iterate after `k ≤ max_iter` updates does not depend on `max_iter`: the skipped residual
    update of the last permitted iteration affects `r`, `p`, `rzold` only.  (All the theorems below
    about `x_k` for `k ≤ max_iter - 1` therefore also hold for the final `x_{max_iter}`,
    see `cg_optimal_last`.) -/
theorem cg_x_maxiter_irrelevant (M' : Int) (hM : M ≤ M') (k : Nat) (hk : (k : Int) ≤ M) :
    (run o A P b x M k).x = (run o A P b x M' k).x := by
  cases k with
  | zero => rw [run, run, init_eq, init_eq]
  | succ k =>
    rw [Nat.cast_succ] at hk
    have h := sim_run o A P b x M M' hM k (by omega)
    rw [run, run, update_x, update_x, h.1, h.2.2.1, h.2.2.2.1]

end generic


/-! ### the same machine in an inner-product space over `𝕜 = ℝ` or `ℂ` -/
section hilbert
open RCLike
variable {𝕜 E : Type} [RCLike 𝕜] [NormedAddCommGroup E] [InnerProductSpace 𝕜 E]

local notation "⟪" x ", " y "⟫" => inner 𝕜 x y

/-- the operations `ConjugateGradient` uses, in an inner-product space: `vdot(a,b) = ⟪a,b⟫`
    (conjugate-linear in the first argument, like numpy), real scalars. -/
noncomputable def ipOps (𝕜 : Type) {E : Type} [RCLike 𝕜] [NormedAddCommGroup E] [InnerProductSpace 𝕜 E] :
    Ops E ℝ where
  sub := fun a b => a - b
  axpy := fun y a x => y + (a : 𝕜) • x
  xpay := fun y a x => (a : 𝕜) • y + x
  rdot := fun a b => re (inner 𝕜 a b)
  div := fun a b => a / b
  neg := fun a => -a
  nonpos := fun s => decide (s ≤ 0)
  sqrtLe := fun r2 tol => decide (Real.sqrt r2 ≤ tol)

/-- Hermitian positive definite -/
structure HPD (T : E →ₗ[𝕜] E) : Prop where
  symm : ∀ u v, ⟪T u, v⟫ = ⟪u, T v⟫
  pos : ∀ v, v ≠ 0 → 0 < re ⟪v, T v⟫

/-- `xp.real(xp.vdot(v, T v))` loses nothing: for Hermitian `T` the form `⟪v, T v⟫` is real. -/
theorem cg_real_inner (T : E →ₗ[𝕜] E) (h : ∀ u v, ⟪T u, v⟫ = ⟪u, T v⟫) (v : E) :
    ((re ⟪v, T v⟫ : ℝ) : 𝕜) = ⟪v, T v⟫ := by
  apply RCLike.conj_eq_iff_re.mp
  rw [inner_conj_symm, h]

theorem HPD.eq_zero {T : E →ₗ[𝕜] E} (h : HPD T) (v : E) (hv : re ⟪v, T v⟫ ≤ 0) : v = 0 := by
  by_contra hne
  exact absurd (h.pos v hne) (not_lt.mpr hv)

theorem HPD.nonneg {T : E →ₗ[𝕜] E} (h : HPD T) (v : E) : 0 ≤ re ⟪v, T v⟫ := by
  by_cases hv : v = 0
  · rw [hv, inner_zero_left, map_zero]
  · exact (h.pos v hv).le

/-- started at a solution of the system, the solver is `done()` before its first update (`P=None`, any `tol ≥ 0`) -/
theorem done_init_of_solved (A : E → E) (b x : E) (M : ℤ) (tol : ℝ) (htol : 0 ≤ tol) (h : b - A x = 0) :
    done (ipOps 𝕜) M tol (init (ipOps 𝕜) A none b x M) = true := by
  rw [init_eq]
  simp only [done, Gen.C12.done, ipOps, h, inner_zero_left, RCLike.zero_re, Real.sqrt_zero, htol, decide_true,
    Bool.or_true]

variable (A P : E →ₗ[𝕜] E) (b x0 : E) (M : ℤ)

/-- state after `k` updates of `ConjugateGradient(A, b, x0, P=P, max_iter=M)` -/
noncomputable def st (k : ℕ) : State E ℝ := run (ipOps 𝕜) (⇑A) (some ⇑P) b x0 M k

/-- the curvature `pAp` the `k+1`-st update computes -/
noncomputable def pAp (k : ℕ) : ℝ := re ⟪(st A P b x0 M k).p, A (st A P b x0 M k).p⟫

theorem st_zero : st A P b x0 M 0 =
    { x := x0, r := b - A x0, p := P (b - A x0), rzold := re ⟪b - A x0, P (b - A x0)⟫,
      resid2 := re ⟪b - A x0, P (b - A x0)⟫, npd := false, iter := 0, «alias» := !decide (M > 1) } :=
  init_eq (ipOps 𝕜) (⇑A) (some ⇑P) b x0 M

/-- span of the first `k` search directions -/
def Dsp (p : ℕ → E) : ℕ → Submodule 𝕜 E
  | 0 => ⊥
  | k + 1 => Dsp p k ⊔ Submodule.span 𝕜 {p k}

/-- `K_k(T, z) = span{z, T z, …, T^(k-1) z}` -/
def Ksp (T : E →ₗ[𝕜] E) (z : E) : ℕ → Submodule 𝕜 E
  | 0 => ⊥
  | k + 1 => Submodule.span 𝕜 {z} ⊔ (Ksp T z k).map T

theorem Dsp_le_succ (p : ℕ → E) (k : ℕ) : Dsp (𝕜 := 𝕜) p k ≤ Dsp p (k + 1) := le_sup_left

theorem Dsp_mono (p : ℕ → E) {i j : ℕ} (h : i ≤ j) : Dsp (𝕜 := 𝕜) p i ≤ Dsp p j := by
  induction h with
  | refl => exact le_rfl
  | step _ ih => exact ih.trans (Dsp_le_succ p _)

theorem mem_Dsp_self (p : ℕ → E) (k : ℕ) : p k ∈ Dsp (𝕜 := 𝕜) p (k + 1) :=
  Submodule.mem_sup_right (Submodule.subset_span rfl)

theorem Ksp_le_succ (T : E →ₗ[𝕜] E) (z : E) (k : ℕ) : Ksp T z k ≤ Ksp T z (k + 1) := by
  induction k with
  | zero => exact bot_le
  | succ k ih => exact sup_le_sup_left (Submodule.map_mono ih) _

theorem Ksp_map (T : E →ₗ[𝕜] E) (z : E) (k : ℕ) {v : E} (hv : v ∈ Ksp T z k) : T v ∈ Ksp T z (k + 1) :=
  Submodule.mem_sup_right (Submodule.mem_map_of_mem hv)

theorem Ksp_self (T : E →ₗ[𝕜] E) (z : E) (k : ℕ) : z ∈ Ksp T z (k + 1) :=
  Submodule.mem_sup_left (Submodule.subset_span rfl)


local notation "X[" k "]" => State.x (st A P b x0 M k)
local notation "R[" k "]" => State.r (st A P b x0 M k)
local notation "Pd[" k "]" => State.p (st A P b x0 M k)
local notation "ρ[" k "]" => State.rzold (st A P b x0 M k)
local notation "D[" k "]" => Dsp (𝕜 := 𝕜) (fun j => State.p (st A P b x0 M j)) k
local notation "K[" k "]" => Ksp (P ∘ₗ A) (P (b - A x0)) k

/-- a full (non-breakdown, non-final) update, in formulas -/
theorem st_succ (k : ℕ) (hk : (k : ℤ) < M - 1) (hpos : 0 < pAp A P b x0 M k) :
    X[k + 1] = X[k] + ((ρ[k] / pAp A P b x0 M k : ℝ) : 𝕜) • Pd[k] ∧
    R[k + 1] = R[k] - ((ρ[k] / pAp A P b x0 M k : ℝ) : 𝕜) • A Pd[k] ∧
    ρ[k + 1] = re ⟪R[k + 1], P R[k + 1]⟫ ∧
    Pd[k + 1] = ((ρ[k + 1] / ρ[k] : ℝ) : 𝕜) • Pd[k] + P R[k + 1] := by
  have hi : (st A P b x0 M k).iter < M - 1 := by rw [st, iter_counts_updates]; exact hk
  have hnp : ¬ decide (pAp A P b x0 M k ≤ 0) = true := by rw [decide_eq_true_eq]; exact not_le.mpr hpos
  have e : st A P b x0 M (k + 1) = _ :=
    (update_def (ipOps 𝕜) (⇑A) (some ⇑P) M (st A P b x0 M k)).trans ((if_neg hnp).trans (if_pos hi))
  rw [e]
  exact ⟨rfl, by rw [sub_eq_add_neg, ← neg_smul, ← RCLike.ofReal_neg]; rfl, rfl, rfl⟩

/-- the CG invariants after `k` full updates -/
structure Inv (k : ℕ) : Prop where
  res : R[k] = b - A X[k]
  rz : ρ[k] = re ⟪R[k], P R[k]⟫
  r_orth : ∀ v ∈ D[k], ⟪R[k], v⟫ = 0
  p_conj : ∀ v ∈ D[k], ⟪Pd[k], A v⟫ = 0
  pz : Pd[k] - P R[k] ∈ D[k]
  PA_D : ∀ v ∈ D[k], P (A v) ∈ D[k + 1]
  x_mem : X[k] - x0 ∈ D[k]
  kryD : D[k] ≤ K[k]
  pK : Pd[k] ∈ K[k + 1]
  zK : P R[k] ∈ K[k + 1]
  kryK : K[k] ≤ D[k]

theorem inv_zero : Inv A P b x0 M 0 := by
  have hbot : ∀ v ∈ D[0], v = 0 := fun v hv => (Submodule.mem_bot 𝕜).mp hv
  have hx : X[0] = x0 := congrArg State.x (st_zero A P b x0 M)
  have hr : R[0] = b - A x0 := congrArg State.r (st_zero A P b x0 M)
  have hp : Pd[0] = P (b - A x0) := congrArg State.p (st_zero A P b x0 M)
  have hρ : ρ[0] = re ⟪b - A x0, P (b - A x0)⟫ := congrArg State.rzold (st_zero A P b x0 M)
  refine ⟨by rw [hr, hx], by rw [hρ, hr], fun v hv => ?_, fun v hv => ?_, ?_, fun v hv => ?_, ?_, bot_le, ?_, ?_,
    bot_le⟩
  · rw [hbot v hv, inner_zero_right]
  · rw [hbot v hv, LinearMap.map_zero, inner_zero_right]
  · rw [hp, hr, sub_self]; exact zero_mem _
  · rw [hbot v hv, LinearMap.map_zero, LinearMap.map_zero]; exact zero_mem _
  · rw [hx, sub_self]; exact zero_mem _
  · rw [hp]; exact Ksp_self _ _ 0
  · rw [hr]; exact Ksp_self _ _ 0

theorem mem_D_self (k : ℕ) : Pd[k] ∈ D[k + 1] := mem_Dsp_self (𝕜 := 𝕜) (fun j => Pd[j]) k

section step
variable {A P b x0 M}

theorem inner_map_eq_zero_of_mem_sup {D : Submodule 𝕜 E} {u p : E} (T : E →ₗ[𝕜] E)
    (hD : ∀ v ∈ D, ⟪u, T v⟫ = 0) (hp : ⟪u, T p⟫ = 0) : ∀ v ∈ D ⊔ Submodule.span 𝕜 {p}, ⟪u, T v⟫ = 0 := by
  intro v hv
  obtain ⟨y, hy, _, hz, rfl⟩ := Submodule.mem_sup.mp hv
  obtain ⟨a, rfl⟩ := Submodule.mem_span_singleton.mp hz
  rw [LinearMap.map_add, LinearMap.map_smul, inner_add_right, inner_smul_right, hD y hy, hp, mul_zero,
    add_zero]

theorem Inv.rp {k : ℕ} (I : Inv A P b x0 M k) (hP : HPD P) : ⟪R[k], Pd[k]⟫ = ((ρ[k] : ℝ) : 𝕜) := by
  have h1 := I.r_orth _ I.pz
  rw [inner_sub_right, sub_eq_zero] at h1
  rw [h1, I.rz]; exact (cg_real_inner P hP.symm _).symm

theorem Inv.z_mem {k : ℕ} (I : Inv A P b x0 M k) : P R[k] ∈ D[k + 1] := by
  have := Submodule.sub_mem _ (mem_D_self A P b x0 M k) (Dsp_le_succ _ k I.pz)
  rwa [sub_sub_cancel] at this

theorem Inv.solved {k : ℕ} (I : Inv A P b x0 M k) (h : R[k] = 0) : A X[k] = b :=
  (sub_eq_zero.mp (I.res.symm.trans h)).symm

/-- once `rzold = 0` the residual vanishes, the search direction falls into the span of the old ones and the next
    curvature is zero: a regular update has `rzold ≠ 0` -/
theorem Inv.pAp_eq_zero {k : ℕ} (I : Inv A P b x0 M k) (hP : HPD P) (h : ρ[k] = 0) : pAp A P b x0 M k = 0 := by
  have hr0 : R[k] = 0 := hP.eq_zero _ (by rw [← I.rz, h])
  have hpD := I.pz
  rw [hr0, LinearMap.map_zero, sub_zero] at hpD
  rw [pAp, I.p_conj _ hpD, RCLike.zero_re]

end step

theorem inv_succ (hA : HPD A) (hP : HPD P) (k : ℕ) (I : Inv A P b x0 M k) (hk : (k : ℤ) < M - 1)
    (hpos : 0 < pAp A P b x0 M k) : Inv A P b x0 M (k + 1) := by
  obtain ⟨hx, hr, hrz, hp⟩ := st_succ A P b x0 M k hk hpos
  have hπ0 : pAp A P b x0 M k ≠ 0 := hpos.ne'
  have hρ0 : ρ[k] ≠ 0 := fun h => hπ0 (I.pAp_eq_zero hP h)
  have hpp : ⟪Pd[k], A Pd[k]⟫ = ((pAp A P b x0 M k : ℝ) : 𝕜) := (cg_real_inner A hA.symm _).symm
  have hrr' : ⟪R[k + 1], P R[k + 1]⟫ = ((ρ[k + 1] : ℝ) : 𝕜) := by
    rw [hrz]; exact (cg_real_inner P hP.symm _).symm
  have hpD : Pd[k] ∈ D[k + 1] := mem_D_self A P b x0 M k
  have hzD : P R[k] ∈ D[k + 1] := I.z_mem
  -- all that the rest uses of the step lengths `alpha = rzold / pAp`, `beta = rznew / rzold`
  have hα0 : (((ρ[k] / pAp A P b x0 M k : ℝ)) : 𝕜) ≠ 0 := RCLike.ofReal_ne_zero.mpr (div_ne_zero hρ0 hπ0)
  have hαc := RCLike.conj_ofReal (K := 𝕜) (ρ[k] / pAp A P b x0 M k)
  have hαπ : ((ρ[k] / pAp A P b x0 M k : ℝ) : 𝕜) * ((pAp A P b x0 M k : ℝ) : 𝕜) = ((ρ[k] : ℝ) : 𝕜) := by
    rw [← RCLike.ofReal_mul, div_mul_cancel₀ _ hπ0]
  have hβc := RCLike.conj_ofReal (K := 𝕜) (ρ[k + 1] / ρ[k])
  have hβρ : ((ρ[k + 1] / ρ[k] : ℝ) : 𝕜) * ((ρ[k] : ℝ) : 𝕜) = ((ρ[k + 1] : ℝ) : 𝕜) := by
    rw [← RCLike.ofReal_mul, div_mul_cancel₀ _ hρ0]
  generalize ((ρ[k] / pAp A P b x0 M k : ℝ) : 𝕜) = α at hx hr hα0 hαc hαπ
  generalize ((ρ[k + 1] / ρ[k] : ℝ) : 𝕜) = β at hp hβc hβρ
  -- the new residual is orthogonal to the old directions and, by the choice of `alpha`, to `p_k`
  have r_orth' : ∀ v ∈ D[k + 1], ⟪R[k + 1], v⟫ = 0 := by
    refine inner_map_eq_zero_of_mem_sup LinearMap.id (fun y hy => ?_) ?_
    · show ⟪R[k + 1], y⟫ = 0
      rw [hr, inner_sub_left, inner_smul_left, I.r_orth y hy, hA.symm, I.p_conj y hy, mul_zero, sub_zero]
    · show ⟪R[k + 1], Pd[k]⟫ = 0
      rw [hr, inner_sub_left, inner_smul_left, I.rp hP, hA.symm, hpp, hαc, hαπ, sub_self]
  have hz' : P R[k + 1] = P R[k] - α • P (A Pd[k]) := by rw [hr, LinearMap.map_sub, LinearMap.map_smul]
  have hPAp : P (A Pd[k]) = α⁻¹ • (P R[k] - P R[k + 1]) := by
    rw [hz', sub_sub_cancel, smul_smul, inv_mul_cancel₀ hα0, one_smul]
  have hz'D : P R[k + 1] ∈ D[k + 2] := by
    have := Submodule.sub_mem _ (mem_D_self A P b x0 M (k + 1))
      (Submodule.smul_mem _ β (Dsp_le_succ _ (k + 1) hpD))
    rwa [hp, add_sub_cancel_left] at this
  have hz'K : P R[k + 1] ∈ K[k + 2] := by
    rw [hz']
    exact Submodule.sub_mem _ (Ksp_le_succ _ _ (k + 1) I.zK) (Submodule.smul_mem _ _ (Ksp_map _ _ (k + 1) I.pK))
  refine ⟨?_, hrz, r_orth', ?_, ?_, ?_, ?_, ?_, ?_, hz'K, ?_⟩
  · -- residual identity
    rw [hr, hx, I.res, LinearMap.map_add, LinearMap.map_smul, sub_sub]
  · -- conjugacy: to the old directions because `P A D_k ⊆ D_{k+1} ⊥ r_{k+1}`, to `p_k` by the choice of `beta`
    refine inner_map_eq_zero_of_mem_sup A (fun y hy => ?_) ?_
    · rw [hp, inner_add_left, inner_smul_left, I.p_conj y hy, hP.symm, r_orth' _ (I.PA_D y hy), mul_zero, add_zero]
    · have key : β * ((pAp A P b x0 M k : ℝ) : 𝕜) = α⁻¹ * ((ρ[k + 1] : ℝ) : 𝕜) := by
        rw [← hβρ, ← hαπ, mul_left_comm, inv_mul_cancel_left₀ hα0]
      rw [hp, inner_add_left, inner_smul_left, hpp, hP.symm, hPAp, inner_smul_right, inner_sub_right,
        r_orth' _ hzD, hrr', hβc, key, zero_sub, mul_neg, add_neg_cancel]
  · -- p_{k+1} - z_{k+1} = β p_k
    rw [hp, add_sub_cancel_right]
    exact Submodule.smul_mem _ _ hpD
  · -- P A D_{k+1} ⊆ D_{k+2}
    intro v hv
    obtain ⟨y, hy, _, hz, rfl⟩ := Submodule.mem_sup.mp hv
    obtain ⟨a, rfl⟩ := Submodule.mem_span_singleton.mp hz
    rw [LinearMap.map_add, LinearMap.map_add, LinearMap.map_smul, LinearMap.map_smul, hPAp]
    exact Submodule.add_mem _ (Dsp_le_succ _ (k + 1) (I.PA_D y hy)) (Submodule.smul_mem _ _
      (Submodule.smul_mem _ _ (Submodule.sub_mem _ (Dsp_le_succ _ (k + 1) hzD) hz'D)))
  · -- x_{k+1} - x0
    rw [hx, add_sub_right_comm]
    exact Submodule.add_mem _ (Dsp_le_succ _ k I.x_mem) (Submodule.smul_mem _ _ hpD)
  · -- D_{k+1} ≤ K_{k+1}
    exact sup_le (I.kryD.trans (Ksp_le_succ _ _ k)) ((Submodule.span_singleton_le_iff_mem _ _).mpr I.pK)
  · -- p_{k+1} ∈ K_{k+2}
    rw [hp]
    exact Submodule.add_mem _ (Submodule.smul_mem _ _ (Ksp_le_succ _ _ (k + 1) I.pK)) hz'K
  · -- K_{k+1} ≤ D_{k+1}
    refine sup_le ((Submodule.span_singleton_le_iff_mem _ _).mpr ?_) ?_
    · have h0 : P (b - A x0) = Pd[0] := by rw [st_zero]
      rw [h0]
      exact Dsp_mono _ (Nat.succ_le_succ (Nat.zero_le k)) (mem_D_self A P b x0 M 0)
    · rintro _ ⟨v, hv, rfl⟩
      exact I.PA_D v (I.kryK hv)

theorem inv_all (hA : HPD A) (hP : HPD P) (k : ℕ) (h : ∀ j < k, 0 < pAp A P b x0 M j)
    (hk : (k : ℤ) ≤ M - 1) : Inv A P b x0 M k := by
  induction k with
  | zero => exact inv_zero A P b x0 M
  | succ k ih =>
    exact inv_succ A P b x0 M hA hP k (ih (fun j hj => h j (Nat.lt_succ_of_lt hj)) (by push_cast at hk; omega))
      (by push_cast at hk; omega) (h k (Nat.lt_succ_self k))

/-! #### the property theorems.  Hypotheses common to all: `A`, `P` Hermitian positive definite
(`P = id` is the un-preconditioned solver, see `run_none`), the first `k` updates met positive
curvature (`pAp j > 0`, i.e. no breakdown `return`), and `k ≤ max_iter - 1` (the residual update
was performed in each of them; the final permitted update is covered by `cg_optimal_last`). -/

/-- `P=None` is the solver with the identity preconditioner. -/
theorem run_none (k : ℕ) :
    run (ipOps 𝕜) (⇑A) none b x0 M k = run (ipOps 𝕜) (⇑A) (some ⇑(LinearMap.id : E →ₗ[𝕜] E)) b x0 M k := by
  induction k with
  | zero => rfl
  | succ k ih => simp only [run, ih]; rfl

theorem hpd_id : HPD (LinearMap.id : E →ₗ[𝕜] E) :=
  ⟨fun _ _ => rfl, fun v hv => by
    simp only [LinearMap.id_coe, id_eq, inner_self_eq_norm_sq_to_K]
    have : 0 < ‖v‖ := norm_pos_iff.mpr hv
    norm_cast; positivity⟩

/-- The residual the solver tracks is the true residual: `alg.r = b - A alg.x` after every update
    in which the residual update is performed (all but the last permitted one). -/
theorem cg_residual (hA : HPD A) (hP : HPD P) (k : ℕ) (h : ∀ j < k, 0 < pAp A P b x0 M j)
    (hk : (k : ℤ) ≤ M - 1) : R[k] = b - A X[k] :=
  (inv_all A P b x0 M hA hP k h hk).res

/-- consecutive residuals are `P`-orthogonal: `⟪r_{k+1}, P r_k⟫ = 0` -/
theorem cg_orth_local (hA : HPD A) (hP : HPD P) (k : ℕ) (h : ∀ j < k + 1, 0 < pAp A P b x0 M j)
    (hk : ((k + 1 : ℕ) : ℤ) ≤ M - 1) : ⟪R[k + 1], P R[k]⟫ = 0 := by
  have I := inv_all A P b x0 M hA hP k (fun j hj => h j (Nat.lt_succ_of_lt hj)) (by push_cast at hk ⊢; omega)
  have I' := inv_all A P b x0 M hA hP (k + 1) h hk
  exact I'.r_orth _ I.z_mem

/-- consecutive search directions are `A`-conjugate: `⟪p_{k+1}, A p_k⟫ = 0` -/
theorem cg_conj_local (hA : HPD A) (hP : HPD P) (k : ℕ) (h : ∀ j < k + 1, 0 < pAp A P b x0 M j)
    (hk : ((k + 1 : ℕ) : ℤ) ≤ M - 1) : ⟪Pd[k + 1], A Pd[k]⟫ = 0 :=
  (inv_all A P b x0 M hA hP (k + 1) h hk).p_conj _ (mem_D_self A P b x0 M k)

/-- full orthogonality: `⟪r_k, P r_j⟫ = 0` for all `j < k` -/
theorem cg_orth (hA : HPD A) (hP : HPD P) (k j : ℕ) (hj : j < k) (h : ∀ i < k, 0 < pAp A P b x0 M i)
    (hk : (k : ℤ) ≤ M - 1) : ⟪R[k], P R[j]⟫ = 0 := by
  have I := inv_all A P b x0 M hA hP j (fun i hi => h i (hi.trans hj)) (by omega)
  have I' := inv_all A P b x0 M hA hP k h hk
  exact I'.r_orth _ (Dsp_mono _ hj I.z_mem)

/-- full conjugacy: `⟪p_k, A p_j⟫ = 0` for all `j < k` -/
theorem cg_conj (hA : HPD A) (hP : HPD P) (k j : ℕ) (hj : j < k) (h : ∀ i < k, 0 < pAp A P b x0 M i)
    (hk : (k : ℤ) ≤ M - 1) : ⟪Pd[k], A Pd[j]⟫ = 0 :=
  (inv_all A P b x0 M hA hP k h hk).p_conj _ (Dsp_mono _ hj (mem_D_self A P b x0 M j))

/-- `x_k - x_0` lies in the preconditioned Krylov space `K_k(PA, P r_0)` -/
theorem cg_krylov (hA : HPD A) (hP : HPD P) (k : ℕ) (h : ∀ j < k, 0 < pAp A P b x0 M j)
    (hk : (k : ℤ) ≤ M - 1) : X[k] - x0 ∈ K[k] :=
  let I := inv_all A P b x0 M hA hP k h hk
  I.kryD I.x_mem

/-- … and the search directions span exactly that Krylov space -/
theorem cg_krylov_eq (hA : HPD A) (hP : HPD P) (k : ℕ) (h : ∀ j < k, 0 < pAp A P b x0 M j)
    (hk : (k : ℤ) ≤ M - 1) : D[k] = K[k] :=
  let I := inv_all A P b x0 M hA hP k h hk
  le_antisymm I.kryD I.kryK

/-- Pythagoras in the `T`-norm: adding a `T`-conjugate vector does not shorten -/
theorem HPD.le_add_of_conj {T : E →ₗ[𝕜] E} (h : HPD T) {e d : E} (hed : ⟪e, T d⟫ = 0) :
    re ⟪e, T e⟫ ≤ re ⟪e + d, T (e + d)⟫ := by
  have hde : ⟪d, T e⟫ = 0 := by rw [← h.symm, ← inner_conj_symm, hed, map_zero]
  rw [LinearMap.map_add, inner_add_left, inner_add_right, inner_add_right, hed, hde, add_zero, zero_add,
    AddMonoidHom.map_add]
  exact le_add_of_nonneg_right (h.nonneg d)

theorem optimal_of_inv (hA : HPD A) (k : ℕ) (I : Inv A P b x0 M k) (xs : E) (hxs : A xs = b) (y : E)
    (hy : y - x0 ∈ D[k]) :
    re ⟪xs - X[k], A (xs - X[k])⟫ ≤ re ⟪xs - y, A (xs - y)⟫ := by
  have hd : X[k] - y ∈ D[k] := by
    have := Submodule.sub_mem _ I.x_mem hy
    rwa [sub_sub_sub_cancel_right] at this
  -- the error is `A`-conjugate to `D_k` because its image under `A` is the residual
  have h : ⟪xs - X[k], A (X[k] - y)⟫ = 0 := by
    rw [← hA.symm, LinearMap.map_sub, hxs, ← I.res]; exact I.r_orth _ hd
  rw [← sub_add_sub_cancel xs X[k] y]
  exact hA.le_add_of_conj h

/-- **Krylov optimality.**  After `k` updates the iterate minimises the `A`-norm of the error
    `‖x* - y‖_A² = re ⟪x* - y, A (x* - y)⟫` over all `y ∈ x_0 + K_k(PA, P r_0)` (span over `𝕜`:
    the complex Krylov space for complex systems). -/
theorem cg_optimal (hA : HPD A) (hP : HPD P) (k : ℕ) (h : ∀ j < k, 0 < pAp A P b x0 M j)
    (hk : (k : ℤ) ≤ M - 1) (xs : E) (hxs : A xs = b) (y : E) (hy : y - x0 ∈ K[k]) :
    re ⟪xs - X[k], A (xs - X[k])⟫ ≤ re ⟪xs - y, A (xs - y)⟫ :=
  let I := inv_all A P b x0 M hA hP k h hk
  optimal_of_inv A P b x0 M hA k I xs hxs y (I.kryK hy)

/-- the `A`-norm error never increases -/
theorem cg_monotone (hA : HPD A) (hP : HPD P) (k : ℕ) (h : ∀ j < k + 1, 0 < pAp A P b x0 M j)
    (hk : ((k + 1 : ℕ) : ℤ) ≤ M - 1) (xs : E) (hxs : A xs = b) :
    re ⟪xs - X[k + 1], A (xs - X[k + 1])⟫ ≤ re ⟪xs - X[k], A (xs - X[k])⟫ := by
  have I := inv_all A P b x0 M hA hP k (fun j hj => h j (Nat.lt_succ_of_lt hj)) (by push_cast at hk ⊢; omega)
  have I' := inv_all A P b x0 M hA hP (k + 1) h hk
  exact optimal_of_inv A P b x0 M hA (k + 1) I' xs hxs _ (Dsp_le_succ _ k I.x_mem)

/-- Breakdown under a positive definite `A` means convergence: if the `k+1`-st update meets
    `pAp ≤ 0` then `r_k = 0`, i.e. `x_k` already solves the system (and by `cg_breakdown` the
    update leaves `x` alone and `done()` turns true). -/
theorem cg_breakdown_converged (hA : HPD A) (hP : HPD P) (k : ℕ) (h : ∀ j < k, 0 < pAp A P b x0 M j)
    (hk : (k : ℤ) ≤ M - 1) (hb : pAp A P b x0 M k ≤ 0) : R[k] = 0 ∧ A X[k] = b := by
  have I := inv_all A P b x0 M hA hP k h hk
  have hp0 : Pd[k] = 0 := hA.eq_zero _ hb
  have hρ : ρ[k] = 0 := by
    have := I.rp hP
    rw [hp0, inner_zero_right] at this
    exact RCLike.ofReal_eq_zero.mp this.symm
  have hr0 : R[k] = 0 := hP.eq_zero _ (by rw [← I.rz, hρ])
  exact ⟨hr0, I.solved hr0⟩


/-- **Finite termination.**  In dimension `n`, if the first `n` updates are regular, the residual
    after them is exactly zero: `x_n` solves `A x = b`.  (If some earlier update breaks down the
    system was already solved there: `cg_breakdown_converged`, and `x` stays put: `cg_breakdown`.) -/
theorem cg_finite [FiniteDimensional 𝕜 E] (hA : HPD A) (hP : HPD P)
    (h : ∀ j < Module.finrank 𝕜 E, 0 < pAp A P b x0 M j) (hk : (Module.finrank 𝕜 E : ℤ) ≤ M - 1) :
    R[Module.finrank 𝕜 E] = 0 ∧ A X[Module.finrank 𝕜 E] = b := by
  have hrank : ∀ k ≤ Module.finrank 𝕜 E, k ≤ Module.finrank 𝕜 D[k] := by
    intro k
    induction k with
    | zero => intro _; exact Nat.zero_le _
    | succ k ih =>
      intro hle
      have hk' : k < Module.finrank 𝕜 E := hle
      have I := inv_all A P b x0 M hA hP k (fun j hj => h j (hj.trans hk')) (by omega)
      have hnot : Pd[k] ∉ D[k] := fun hmem => by
        have hp := h k hk'
        rw [pAp, I.p_conj _ hmem, RCLike.zero_re] at hp
        exact lt_irrefl _ hp
      have hlt : D[k] < D[k + 1] :=
        lt_of_le_of_ne (Dsp_le_succ _ k) (fun heq => hnot (heq ▸ mem_D_self A P b x0 M k))
      have := Submodule.finrank_lt_finrank_of_lt hlt
      have := ih hk'.le
      omega
  have I := inv_all A P b x0 M hA hP _ h hk
  have htop : D[Module.finrank 𝕜 E] = ⊤ :=
    Submodule.eq_top_of_finrank_eq (le_antisymm (Submodule.finrank_le _) (hrank _ le_rfl))
  have hr0 : R[Module.finrank 𝕜 E] = 0 := by
    have := I.r_orth (R[Module.finrank 𝕜 E]) (by rw [htop]; exact Submodule.mem_top)
    exact inner_self_eq_zero.mp this
  exact ⟨hr0, I.solved hr0⟩

/-- the curvature values seen by the solver with budget `M` and with budget `M+1` coincide for the
    first `M` updates (so the hypothesis of `cg_optimal_last` may be read on the actual run). -/
theorem pAp_budget (k : ℕ) (hk : (k : ℤ) ≤ M - 1) : pAp A P b x0 M k = pAp A P b x0 (M + 1) k := by
  have h := sim_run (ipOps 𝕜) (⇑A) (some ⇑P) b x0 M (M + 1) (by omega) k hk
  simp only [pAp, st]
  rw [h.2.2.1]

/-- **Krylov optimality of the final iterate.**  The last permitted update (`iter = max_iter - 1`)
    skips the residual update but not the `x` update: `x_{max_iter}` is the iterate a solver with a
    larger budget would produce (`cg_x_maxiter_irrelevant`) and is therefore optimal over
    `x_0 + K_{max_iter}`. -/
theorem cg_optimal_last (hA : HPD A) (hP : HPD P) (k : ℕ) (hkM : (k : ℤ) = M)
    (h : ∀ j < k, 0 < pAp A P b x0 (M + 1) j) (xs : E) (hxs : A xs = b) (y : E) (hy : y - x0 ∈ K[k]) :
    re ⟪xs - X[k], A (xs - X[k])⟫ ≤ re ⟪xs - y, A (xs - y)⟫ := by
  have hx : X[k] = (st A P b x0 (M + 1) k).x :=
    cg_x_maxiter_irrelevant (ipOps 𝕜) (⇑A) (some ⇑P) b x0 M (M + 1) (by omega) k (by omega)
  rw [hx]
  exact cg_optimal A P b x0 (M + 1) hA hP k h (by omega) xs hxs y hy

/-- `rzold = re ⟪r, P r⟫` at all times (breakdown and skipped updates included) -/
theorem rz_always (k : ℕ) : ρ[k] = re ⟪R[k], P R[k]⟫ := by
  induction k with
  | zero => rw [st_zero]
  | succ k ih =>
    rw [st, run, update_def]
    split_ifs <;> first | exact ih | rfl

/-- the `not_positive_definite` flag stays `False` while the updates are regular -/
theorem npd_false_of_regular (k : ℕ) (h : ∀ j < k, 0 < pAp A P b x0 M j) : (st A P b x0 M k).npd = false := by
  induction k with
  | zero => rw [st_zero]
  | succ k ih =>
    have hnp : ¬ decide (pAp A P b x0 M k ≤ 0) = true := by
      rw [decide_eq_true_eq]; exact not_le.mpr (h k k.lt_succ_self)
    have e : st A P b x0 M (k + 1) = _ :=
      (update_def (ipOps 𝕜) (⇑A) (some ⇑P) M (st A P b x0 M k)).trans (if_neg hnp)
    simp only [e, apply_ite State.npd, ite_self]
    exact ih fun j hj => h j (Nat.lt_succ_of_lt hj)

/-- **The whole run, `P=None`.**  For a Hermitian positive definite system of dimension `n < max_iter` the machine
    started anywhere solves `A x = b` after some `K ≤ n` updates, all of them regular; `done()` is then true for
    every `tol ≥ 0`, and with `tol = 0` it was false before: `while not done(): update()` performs exactly `K`
    updates. -/
theorem cg_run_solves [FiniteDimensional 𝕜 E] (hA : HPD A) (hM : (Module.finrank 𝕜 E : ℤ) ≤ M - 1) :
    ∃ K ≤ Module.finrank 𝕜 E, A (run (ipOps 𝕜) (⇑A) none b x0 M K).x = b ∧
      (∀ tol : ℝ, 0 ≤ tol → done (ipOps 𝕜) M tol (run (ipOps 𝕜) (⇑A) none b x0 M K) = true) ∧
      (∀ j < K, done (ipOps 𝕜) M 0 (run (ipOps 𝕜) (⇑A) none b x0 M j) = false) := by
  have hI : HPD (LinearMap.id : E →ₗ[𝕜] E) := hpd_id
  have hrun : ∀ k, run (ipOps 𝕜) (⇑A) none b x0 M k = st A LinearMap.id b x0 M k := run_none A b x0 M
  simp only [hrun]
  -- `K`: the first update that meets non-positive curvature, or `n` if there is none
  classical
  have hex : ∃ j, pAp A LinearMap.id b x0 M j ≤ 0 ∨ j = Module.finrank 𝕜 E := ⟨_, .inr rfl⟩
  obtain ⟨K, hKn, hreg, hK⟩ : ∃ K ≤ Module.finrank 𝕜 E, (∀ j < K, 0 < pAp A LinearMap.id b x0 M j) ∧
      (pAp A LinearMap.id b x0 M K ≤ 0 ∨ K = Module.finrank 𝕜 E) :=
    ⟨Nat.find hex, Nat.find_min' hex (.inr rfl),
      fun j hj => not_le.mp fun hle => Nat.find_min hex hj (.inl hle), Nat.find_spec hex⟩
  have hsol : (st A LinearMap.id b x0 M K).r = 0 ∧ A (st A LinearMap.id b x0 M K).x = b := by
    rcases hK with hb | rfl
    · exact cg_breakdown_converged A LinearMap.id b x0 M hA hI K hreg (by omega) hb
    · exact cg_finite A LinearMap.id b x0 M hA hI hreg hM
  -- `done()` looks at `resid² = re ⟪r, r⟫`
  have hres : ∀ k, (st A LinearMap.id b x0 M k).resid2 =
      re ⟪(st A LinearMap.id b x0 M k).r, (st A LinearMap.id b x0 M k).r⟫ := fun k =>
    (resid2_eq_rzold _ _ _ _ _ _ _).trans (rz_always A LinearMap.id b x0 M k)
  refine ⟨K, hKn, hsol.2, fun tol htol => ?_, fun j hj => ?_⟩
  · simp only [done, Gen.C12.done, ipOps, hres, hsol.1, inner_zero_left, RCLike.zero_re, Real.sqrt_zero, htol,
      decide_true, Bool.or_true]
  · have hregj : ∀ i < j, 0 < pAp A LinearMap.id b x0 M i := fun i hi => hreg i (hi.trans hj)
    -- a vanishing residual would make the curvature vanish
    have hpos : 0 < (st A LinearMap.id b x0 M j).resid2 := by
      refine lt_of_le_of_ne (by rw [hres]; exact hI.nonneg _) fun h0 => (hreg j hj).ne' ?_
      exact (inv_all A LinearMap.id b x0 M hA hI j hregj (by omega)).pAp_eq_zero hI
        ((resid2_eq_rzold _ _ _ _ _ _ _).symm.trans h0.symm)
    have hiter : ¬ ((st A LinearMap.id b x0 M j).iter ≥ M) := by
      rw [show (st A LinearMap.id b x0 M j).iter = j from iter_counts_updates _ _ _ _ _ _ _]; omega
    simp only [done, Gen.C12.done, ipOps, npd_false_of_regular A LinearMap.id b x0 M j hregj,
      not_le.mpr (Real.sqrt_pos.mpr hpos), hiter, decide_false, Bool.or_false]

/-- **Early stop is a fixed point (C15).**  With `tol = 0`, `resid <= tol` means
    `rzold ** 0.5 <= 0`; for positive definite `P` then `rzold = 0`, and the next `update()` leaves
    `x` unchanged (it either reports breakdown or takes a step of length `alpha = 0`). -/
theorem cg_early_stop_fixed (hP : HPD P) (k : ℕ) (hd : Real.sqrt (st A P b x0 M k).resid2 ≤ 0) :
    X[k + 1] = X[k] := by
  have h2 : (st A P b x0 M k).resid2 = ρ[k] := resid2_eq_rzold _ _ _ _ _ _ _
  have hnn : 0 ≤ ρ[k] := by rw [rz_always]; exact hP.nonneg _
  have h0 : ρ[k] = 0 := by
    rw [h2] at hd
    exact le_antisymm (Real.sqrt_eq_zero'.mp (le_antisymm hd (Real.sqrt_nonneg _))) hnn
  rw [st, run, update_x, ← st, h0]
  split_ifs
  · rfl
  · simp only [ipOps, zero_div, RCLike.ofReal_zero, zero_smul, add_zero]

/-! the hypotheses are satisfiable: `𝕜 = E = ℝ`, `A = P = id`, `b = 1`, `x0 = 0`, `M = 3` -/
example : HPD (LinearMap.id : ℝ →ₗ[ℝ] ℝ) := hpd_id

example : ∀ j < 1, 0 < pAp (LinearMap.id : ℝ →ₗ[ℝ] ℝ) LinearMap.id 1 0 3 j := by
  intro j hj
  have : j = 0 := by omega
  subst this
  simp [pAp, st_zero]

end hilbert

end SigpyVerif.C12
