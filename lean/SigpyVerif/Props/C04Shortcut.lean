import SigpyVerif.Props.C04
import SigpyVerif.Props.C01Leaves
import SigpyVerif.Props.C01LeavesGen
import SigpyVerif.Props.C01Gen
import SigpyVerif.Lemmas.C04CoverND
import SigpyVerif.Lemmas.C04CoverIff
/-
  C04 — the `_normal_linop` shortcuts `Identity(ishape)` of Identity / Reshape / Transpose /
  Circshift agree with `Aᴴ A`, proved at the entry level of the model, and `normal_denote_leaves`:
  for every tree over the proved leaf classes, `A.N` acts as `x ↦ Aᴴ(A x)` with `Aᴴ` the true adjoint.

  Permutation classes: the entry list of the operator is a gather whose index map is a bijection of
  the in-bounds multi-indices (its transposed gather is the entry list of `.H`: `transpose_pair`,
  `gatherE_axmap_perm` from Props/C01Leaves), every flat output and every flat input index occurs
  exactly once (`PermMat`), hence `Pᴴ P = I` (`perm_normal_id`).
  FFT / IFFT: `normal = Identity` is `fft_shortcut_exact` (Props/C04Gen.lean), from `C05.fft_table_unitary`.
-/
namespace SigpyVerif.C04
open SigpyVerif SigpyVerif.C01

section
variable {α : Type} [CommRing α] [StarRing α]

/-- in an entry list whose output indices are pairwise different, row `e.1` holds only `e` -/
theorem applyF_of_out_nodup (E : List (Ent α)) (hout : (E.map (·.1)).Nodup) (e : Ent α) (he : e ∈ E)
    (x : Nat → α) : applyF E x e.1 = e.2.2 * x e.2.1 := by
  induction E with
  | nil => simp at he
  | cons a E ih =>
    rw [List.map_cons, List.nodup_cons] at hout
    rw [applyF_cons]
    rcases List.mem_cons.mp he with rfl | h
    · have h0 : applyF E x e.1 = 0 := by
        unfold applyF
        apply List.sum_eq_zero
        intro z hz
        obtain ⟨b, hb, rfl⟩ := List.mem_map.mp hz
        have : b.1 ≠ e.1 := fun h => hout.1 (List.mem_map.mpr ⟨b, hb, h⟩)
        simp [this]
      simp [h0]
    · have hne : a.1 ≠ e.1 := fun h' => hout.1 (List.mem_map.mpr ⟨e, h, h'.symm⟩)
      simp [hne, ih hout.2 h]

theorem applyF_adjE (E : List (Ent α)) (y : Nat → α) (j : Nat) :
    applyF (adjE star E) y j = (E.map fun e => if e.2.1 = j then star e.2.2 * y e.1 else 0).sum := by
  unfold applyF adjE
  rw [List.map_map]
  rfl

/-- **`Pᴴ P = I`.**  `E` has unit weights, every output index at most once and every input index at
    most once; `E'` is (a rearrangement of) its conjugate transpose.  Then `E' (E x)` returns `x` at
    every input index that occurs in `E`. -/
theorem perm_normal_id (E E' : List (Ent α)) (hw : ∀ e ∈ E, e.2.2 = 1)
    (hp : E'.Perm (adjE star E)) (hout : (E.map (·.1)).Nodup) (hin : (E.map (·.2.1)).Nodup)
    (x : Nat → α) (j : Nat) (hj : j ∈ E.map (·.2.1)) :
    applyF (compE E' E) x j = x j := by
  rw [applyF_compE, applyF_perm hp, applyF_adjE]
  have e1 : (E.map fun e => if e.2.1 = j then star e.2.2 * applyF E x e.1 else 0)
      = (E.map (·.2.1)).map fun i => if j = i then x i else 0 := by
    rw [List.map_map]
    apply List.map_congr_left
    intro e he
    simp only [Function.comp]
    rw [applyF_of_out_nodup E hout e he x, hw e he]
    by_cases h : e.2.1 = j
    · simp [h]
    · have h' : ¬ j = e.2.1 := fun hh => h hh.symm
      simp [h, h']
  rw [e1, sum_ite_single _ hin j hj]

/-- `s` denotes a permutation matrix: unit weights, in range, every output index at most once,
    the input indices are exactly `0 .. isz-1`, each once -/
def PermMat (s : Sem α) : Prop :=
  (∀ e ∈ s.E, e.2.2 = 1) ∧ InRange s.osz s.isz s.E ∧ (s.E.map (·.1)).Nodup ∧
    (s.E.map (·.2.1)).Perm (List.range s.isz)

theorem gatherE_map_out (osh ish : List Int) (h : List Int → List Int) :
    ((gatherE osh ish (fun k => some (h k)) : List (Ent α)).map (·.1)) = (allIdx osh).map (fl osh) := by
  rw [gatherE_some, List.map_map]; rfl

omit [CommRing α] [StarRing α] in
theorem swapE_map_out (E : List (Ent α)) : (swapE E).map (·.1) = E.map (·.2.1) := by
  unfold swapE; rw [List.map_map]; rfl

/-- a total gather whose transposed gather is again a total gather is a permutation matrix -/
theorem gather_permMat (osh ish : List Int) (hish : ∀ n ∈ ish, 0 ≤ n) (h h' : List Int → List Int)
    (hp : (gatherE ish osh (fun j => some (h' j)) : List (Ent α)).Perm
      (swapE (gatherE osh ish fun k => some (h k)))) :
    PermMat (⟨osh, ish, gatherE osh ish fun k => some (h k)⟩ : Sem α) := by
  have hin : ((gatherE osh ish (fun k => some (h k)) : List (Ent α)).map (·.2.1)).Perm
      (List.range (shapeProd ish).toNat) := by
    rw [← swapE_map_out, ← allIdx_map_fl ish hish, ← gatherE_map_out (α := α) ish osh h']
    exact (hp.map _).symm
  refine ⟨gatherE_weights _ _ _, ?_, ?_, hin⟩
  · intro e he
    constructor
    · rw [gatherE_some] at he
      obtain ⟨k, hk, rfl⟩ := List.mem_map.mp he
      exact fl_lt (mem_allIdx.mp hk)
    · have : e.2.1 ∈ List.range (shapeProd ish).toNat :=
        hin.subset (List.mem_map.mpr ⟨e, he, rfl⟩)
      exact List.mem_range.mp this
  · rw [gatherE_map_out]
    exact (allIdx_nodup osh).map_on fun k hk k' hk' hh => fl_inj osh hk hk' hh

variable (ofRat : Rat → α)

/-- "`A.H A = I` on the input range, and the `Identity(ishape)` that `_normal_linop` returns says the
    same": the conclusion of the shortcut theorems -/
def ShortcutOK (e : Expr α) : Prop :=
  ∀ s, denote star ofRat e = some s →
    ∃ sH sN, denote star ofRat (adj star e) = some sH ∧ sH.osh = s.ish ∧ sH.ish = s.osh ∧
      denote star ofRat (normal star e) = some sN ∧ sN.osh = s.ish ∧ sN.ish = s.ish ∧
      ∀ (x : Nat → α) (j : Nat), j < s.isz →
        applyF (compE sH.E s.E) x j = x j ∧ applyF sN.E x j = x j

/-- clipping a rearrangement of the conjugate transpose gives one of the clipped list -/
theorem inRangeE_perm_adjE (n m : Nat) (E E' : List (Ent α)) (hp : E'.Perm (adjE star E)) :
    (inRangeE m n E').Perm (adjE star (inRangeE n m E)) := by
  rw [← inRangeE_adjE]
  unfold inRangeE
  exact hp.filter _

/-- template for the permutation classes: the leaf denotes a permutation matrix, `.H` is a leaf whose
    entries are a rearrangement of the conjugate transpose, and `.N` is `Identity(ishape)` -/
theorem shortcutOK_of_perm (l l' : Leaf α) (ish : List Int) (hadj : adjLeaf star l = .leaf l')
    (hnorm : normal star (.leaf l) = .leaf (.identity ish))
    (h : ∀ s, leafSem0 star ofRat l = some s → s.ish = ish ∧ PermMat s ∧
      ∃ s', leafSem0 star ofRat l' = some s' ∧ s'.osh = s.ish ∧ s'.ish = s.osh ∧
        s'.E.Perm (adjE star s.E)) :
    ShortcutOK ofRat (.leaf l) := by
  intro s hs
  obtain ⟨s0, h0, rfl⟩ := denote_leaf_some ofRat hs
  obtain ⟨hish, ⟨hw, hr, hout, hin⟩, s0', h0', ho, hi, hp⟩ := h s0 h0
  refine ⟨Sem.clip s0', Sem.clip ⟨ish, ish, idE (shapeProd ish).toNat⟩, ?_, ho, hi, ?_, hish.symm,
    hish.symm, ?_⟩
  · simp only [adj, hadj, denote, leafSem, h0', Option.map_some]
  · rw [hnorm]
    simp only [denote, leafSem, leafSem0, Option.map_some]
  · intro x j hj
    simp only [Sem.clip, Sem.osz, Sem.isz] at hr hin hj
    constructor
    · simp only [Sem.clip, Sem.osz, Sem.isz]
      rw [ho, hi, inRangeE_id _ _ _ hr]
      have hp' := inRangeE_perm_adjE (shapeProd s0.osh).toNat (shapeProd s0.ish).toNat _ _ hp
      rw [inRangeE_id _ _ _ hr] at hp'
      exact perm_normal_id s0.E _ hw hp' hout (hin.nodup_iff.mpr List.nodup_range) x j
        (hin.symm.subset (List.mem_range.mpr hj))
    · simp only [Sem.clip, Sem.osz, Sem.isz]
      rw [hish] at hj
      rw [inRangeE_id _ _ _ (idE_inRange _), applyF_idE, if_pos hj]

omit [StarRing α] in
theorem idE_map_out (m : Nat) : ((idE m : List (Ent α)).map (·.1)) = List.range m := by
  unfold idE; rw [List.map_map]; exact List.map_id' _

omit [StarRing α] in
theorem idE_map_in (m : Nat) : ((idE m : List (Ent α)).map (·.2.1)) = List.range m := by
  unfold idE; rw [List.map_map]; exact List.map_id' _

theorem idE_permMat (osh ish : List Int) (hp : shapeProd osh = shapeProd ish) :
    PermMat (⟨osh, ish, idE (shapeProd ish).toNat⟩ : Sem α) := by
  refine ⟨(idE_spec _).2, ?_, ?_, ?_⟩
  · simp only [Sem.osz, Sem.isz, hp]
    exact idE_inRange _
  · simp only [idE_map_out]; exact List.nodup_range
  · simp only [idE_map_in, Sem.isz]; exact List.Perm.refl _

theorem adjE_idE (m : Nat) : adjE star (idE m : List (Ent α)) = idE m := by
  rw [adjE_of_ones _ (idE_spec m).2, swapE_of_diag _ (idE_spec m).1]

/-- **`Identity.N = Identity`** agrees with `Aᴴ A`. -/
theorem shortcut_normal_is_identity_identity (sh : List Int) :
    ShortcutOK ofRat (.leaf (.identity sh : Leaf α)) := by
  refine shortcutOK_of_perm ofRat _ (.identity sh) sh rfl rfl ?_
  intro s hs
  simp only [leafSem0, Option.some.injEq] at hs ⊢
  subst hs
  refine ⟨rfl, idE_permMat sh sh rfl, _, rfl, rfl, rfl, ?_⟩
  rw [adjE_idE]

/-- **`Reshape.N = Identity(ishape)`** agrees with `Aᴴ A`: `Reshape(o,i).H (Reshape(o,i) x) = x`
    (row-major flat indices are untouched by both). -/
theorem shortcut_normal_is_identity_reshape (osh ish : List Int) :
    ShortcutOK ofRat (.leaf (.reshape osh ish : Leaf α)) := by
  refine shortcutOK_of_perm ofRat _ (.reshape ish osh) ish rfl rfl ?_
  intro s hs
  simp only [leafSem0] at hs ⊢
  by_cases hp : shapeProd osh = shapeProd ish
  swap
  · simp [hp] at hs
  simp only [if_pos hp, Option.some.injEq] at hs
  subst hs
  rw [if_pos hp.symm]
  refine ⟨rfl, idE_permMat osh ish hp, _, rfl, rfl, rfl, ?_⟩
  simp only []
  rw [adjE_idE, hp]

/-- whatever `Transpose` denotes is a gather along a total index map -/
theorem transposeSem_total {ish : List Int} {axes : Option (List Int)} {s : Sem α}
    (hs : transposeSem ish axes = some s) :
    ∃ (osh : List Int) (k : List Int → List Int), s = ⟨osh, ish, gatherE osh ish fun j => some (k j)⟩ := by
  rw [transposeSem_some ish axes (transposeSem_valid ish axes s hs)] at hs
  exact ⟨_, _, (Option.some.inj hs).symm⟩

/-- **`Transpose.N = Identity(ishape)`** agrees with `Aᴴ A` for every axes permutation (negative
    entries, `axes=None`): `Transpose(ishape, axes).H (Transpose(ishape, axes) x) = x` — the gather
    along the permuted axes is a bijection of the multi-indices and `.H` gathers along the inverse
    permutation.  (`hish`: extents are non-negative.) -/
theorem shortcut_normal_is_identity_transpose (ish : List Int) (axes : Option (List Int))
    (hish : ∀ n ∈ ish, 0 ≤ n) : ShortcutOK ofRat (.leaf (.transpose ish axes : Leaf α)) := by
  obtain ⟨l', hadj, h⟩ := transpose_adj_sem ofRat ish axes
  obtain ⟨ish', axes', rfl⟩ : ∃ ish' axes', l' = .transpose ish' axes' := by
    cases axes <;> exact ⟨_, _, (Expr.leaf.inj hadj).symm⟩
  refine shortcutOK_of_perm ofRat _ _ ish hadj rfl fun s hs => ?_
  obtain ⟨g, g', hs', hl', hp⟩ := h s hs
  -- `.H` is again a Transpose, so both gathers are total and `s` is a permutation matrix
  obtain ⟨osh, k, rfl⟩ := transposeSem_total hs
  obtain ⟨osh', k', ek'⟩ := transposeSem_total hl'
  obtain ⟨rfl, rfl, eg'⟩ := Sem.mk.inj ek'
  rw [← (Sem.mk.inj hs').2.2, eg'] at hp
  refine ⟨rfl, gather_permMat osh ish hish k k' hp, _, hl', rfl, rfl, ?_⟩
  rw [adjE_of_ones _ (gatherE_weights _ _ _), eg']
  exact hp

/-- **`Circshift.N = Identity(shape)`** agrees with `Aᴴ A` for every shift list and axes list
    (negative / repeated axes, `axes=None`): the sequential `numpy.roll`s compose to one roll per axis
    by the summed shift, a bijection of every axis, and `.H` rolls back by the same amounts. -/
theorem shortcut_normal_is_identity_circshift (sh sf : List Int) (axes : Option (List Int))
    (hsh : ∀ n ∈ sh, 0 ≤ n) : ShortcutOK ofRat (.leaf (.circshift sh sf axes : Leaf α)) := by
  refine shortcutOK_of_perm ofRat _ (.circshift sh (sf.map fun s => -s) axes) sh rfl rfl ?_
  intro s hs
  by_cases hlen : ((axes.getD (pyRange0 sh.length)).map fun a => pyMod a sh.length).length = sf.length
  · have hlen' : ((axes.getD (pyRange0 sh.length)).map fun a => pyMod a sh.length).length
        = (sf.map fun s => -s).length := by simpa using hlen
    have e1 := circshift_entries (α := α) sh sf axes hsh hlen
    have e2 := circshift_entries (α := α) sh (sf.map fun s => -s) axes hsh hlen'
    simp only [leafSem0] at hs ⊢
    rw [circshift_eval] at hs ⊢
    rw [if_neg (by simpa using hlen)] at hs
    rw [if_neg (by simpa using hlen')]
    simp only [Option.some.injEq] at hs ⊢
    subst hs
    have hn := neg_fold ((axes.getD (pyRange0 sh.length)).map fun a => pyMod a sh.length) sf (fun _ => 0)
    simp only [neg_zero] at hn
    -- `T d`: the summed shift of axis `d`; `.H` rolls by `-T d`
    set T := (List.zip ((axes.getD (pyRange0 sh.length)).map fun a => pyMod a sh.length) sf).foldl updT
      fun _ => 0 with hT
    have hperm : (gatherE sh sh (fun k => some (axmap (totφ fun d => -T d) sh k)) : List (Ent α)).Perm
        (swapE (gatherE sh sh fun k => some (axmap (totφ T) sh k))) :=
      gatherE_axmap_perm sh _ _ (totφ_range _) (totφ_range _)
        (fun d n x h0 h1 => (circshift_normal_axis n (T d) x (h0.trans_lt h1) h0 h1).2)
        (fun d n x h0 h1 => (circshift_normal_axis n (T d) x (h0.trans_lt h1) h0 h1).1)
    refine ⟨rfl, ?_, _, rfl, rfl, rfl, ?_⟩
    · rw [e1]
      exact gather_permMat sh sh hsh _ _ hperm
    · simp only []
      rw [e1, e2, adjE_of_ones _ (gatherE_weights _ _ _), hn]
      exact hperm
  · simp only [leafSem0] at hs
    rw [circshift_eval, if_pos (by simpa using hlen)] at hs
    simp at hs

/-- every class with a `_normal_linop` override in the model, with valid parameters -/
def ShortcutValid : Leaf α → Prop
  | .transpose ish _ => ∀ n ∈ ish, 0 ≤ n
  | .circshift sh _ _ => ∀ n ∈ sh, 0 ≤ n
  | _ => True

/-- **All `Identity(ishape)` overrides of `_normal_linop` (Identity, Reshape, Transpose, Circshift)
    agree with `Aᴴ A`.**  (FFT / IFFT: `fft_shortcut_exact`, Props/C04Gen.lean.) -/
theorem shortcut_normal_is_identity (e : Expr α) (h : Shortcut e)
    (hv : ∀ l, e = .leaf l → ShortcutValid l) : ShortcutOK ofRat e := by
  cases e with
  | leaf l =>
    have hl := hv l rfl
    cases l <;> simp only [Shortcut] at h
    · exact shortcut_normal_is_identity_identity ofRat _
    · exact shortcut_normal_is_identity_reshape ofRat _ _
    · exact shortcut_normal_is_identity_transpose ofRat _ _ hl
    · exact shortcut_normal_is_identity_circshift ofRat _ _ _ hl
  | _ => exact absurd h (by simp [Shortcut])

/-- the `j`-th unit vector -/
def unitVec (j : Nat) : Nat → α := fun i => if i = j then 1 else 0

theorem dotL_unit (n j : Nat) (hj : j < n) (g : Nat → α) : dotL star (List.range n) (unitVec j) g = g j := by
  unfold dotL
  have e1 : (List.range n).map (fun i => star (unitVec (α := α) j i) * g i)
      = (List.range n).map fun i => if j = i then g i else 0 := by
    apply List.map_congr_left
    intro i _
    unfold unitVec
    by_cases hh : j = i
    · rw [if_pos hh.symm, if_pos hh, star_one, one_mul]
    · rw [if_neg (Ne.symm hh), if_neg hh, star_zero, zero_mul]
  rw [e1, sum_ite_single _ List.nodup_range j (List.mem_range.mpr hj)]

/-- a true adjoint is determined on the index range: `(Aᴴ y)[j] = ⟨A e_j, y⟩ = Σ_o conj(A[o,j]) y[o]` -/
theorem isAdj_apply (n m : Nat) (E E' : List (Ent α)) (h : IsAdj n m E E') (y : Nat → α) (j : Nat)
    (hj : j < m) : applyF E' y j = dotL star (List.range n) (applyF E (unitVec j)) y := by
  rw [h (unitVec j) y, dotL_unit m j hj]

/-- leaf classes whose adjoint pairing is proved (`C01.LeafProved`) with, for the shortcut classes,
    non-negative extents -/
def NormalLeaf (l : Leaf α) : Prop := LeafProved l ∧ ShortcutValid l

/-- **`normal_denote_leaves`.**  For every expression tree built with Compose, Add, Conj, Hstack,
    Vstack, Diag over the leaf classes of `C01.LeafProved` (valid parameters), whenever the tree
    denotes an operator `A`: the tree that `.N` builds (`_normal_linop`: `Identity(ishape)` when the
    top node is Identity / Reshape / Transpose / Circshift, `A.H * A` otherwise) denotes an
    `ishape × ishape` operator that acts, on every index of the input range, as `x ↦ Aᴴ(A x)` where
    `Aᴴ` — what `.H` builds — is the true adjoint of `A` (`IsAdj`); entrywise
    `(A.N x)[j] = ⟨A e_j, A x⟩ = Σ_o conj(A[o,j]) (A x)[o]`. -/
theorem normal_denote_leaves (hreal : ∀ r, star (ofRat r) = ofRat r) (e : Expr α)
    (he : allLeaves NormalLeaf e) (s : Sem α) (hs : denote star ofRat e = some s) :
    ∃ sN sH, denote star ofRat (normal star e) = some sN ∧ denote star ofRat (adj star e) = some sH ∧
      sN.osh = s.ish ∧ sN.ish = s.ish ∧ IsAdj s.osz s.isz s.E sH.E ∧
      ∀ (x : Nat → α) (j : Nat), j < s.isz →
        applyF sN.E x j = applyF sH.E (applyF s.E x) j ∧
        applyF sN.E x j = dotL star (List.range s.osz) (applyF s.E (unitVec j)) (applyF s.E x) := by
  obtain ⟨sH, hH, ho, hi, hadj⟩ :=
    adj_denote_leaves ofRat hreal e (allLeaves_imp (fun l hl => hl.1) e he) s hs
  by_cases h : Shortcut e
  · have hv : ∀ l, e = .leaf l → ShortcutValid l := by
      intro l hl
      subst hl
      exact he.2
    obtain ⟨sH', sN, hH', _, _, hN, hNo, hNi, hact⟩ := shortcut_normal_is_identity ofRat e h hv s hs
    rw [hH] at hH'
    cases hH'
    refine ⟨sN, sH, hN, hH, hNo, hNi, hadj, ?_⟩
    intro x j hj
    obtain ⟨a1, a2⟩ := hact x j hj
    have e1 : applyF sN.E x j = applyF sH.E (applyF s.E x) j := by
      rw [a2, ← a1, applyF_compE]
    exact ⟨e1, by rw [e1]; exact isAdj_apply _ _ _ _ hadj _ j hj⟩
  · obtain ⟨sN, hN, hNo, hNi, hact⟩ := normal_default ofRat e h s sH hs hH hi
    refine ⟨sN, sH, hN, hH, by rw [hNo, ho], hNi, hadj, ?_⟩
    intro x j hj
    exact ⟨hact x j, by rw [hact x j]; exact isAdj_apply _ _ _ _ hadj _ j hj⟩

/- non-vacuity of the hypotheses of `normal_denote_leaves` and `shortcut_normal_is_identity` -/
example : allLeaves (α := α) NormalLeaf
    (.comp (.leaf (.transpose [2, 3] (some [-1, 0]))) (.leaf (.circshift [2, 3] [1, -2] none))) := by
  have h : ∀ n ∈ [2, 3], (0 : Int) ≤ n := by decide
  exact ⟨⟨trivial, h⟩, h, h⟩

example : Shortcut (.leaf (.transpose [2, 3] (some [-1, 0])) : Expr α) := trivial

/- a concrete transpose with a negative axis denotes a 6 × 6 permutation, its `.H` the inverse one,
   and `.N` the identity (scalars ℤ) -/
example : ((denote (α := ℤ) star (fun r => r.num) (.leaf (.transpose [2, 3] (some [-1, 0])))).map
    fun s => (s.osh, s.ish, s.E)) =
      some ([3, 2], [2, 3], [(0, 0, 1), (1, 3, 1), (2, 1, 1), (3, 4, 1), (4, 2, 1), (5, 5, 1)]) := by
  decide +kernel
example : ((denote (α := ℤ) star (fun r => r.num)
    (normal star (.leaf (.transpose [2, 3] (some [-1, 0]))))).map fun s => (s.osh, s.ish, s.E.length)) =
      some ([2, 3], [2, 3], 6) := by decide +kernel
example : ((denote (α := ℤ) star (fun r => r.num)
    (normal star (.comp (.leaf (.sum [2, 3] [0])) (.leaf (.circshift [2, 3] [1] (some [-1])))))).map
      fun s => (s.osh, s.ish, s.E.length)) = some ([2, 3], [2, 3], 12) := by decide +kernel

end
end SigpyVerif.C04
