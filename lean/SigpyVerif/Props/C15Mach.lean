import SigpyVerif.Props.C15
import SigpyVerif.Props.C12
/-
  C15, part 2 — theorems about the GENERATED machines of `Gen/C15Mach.lean` (regenerated from sigpy/alg.py and
  sigpy/app.py on every check by harness/translate/gen_c15m.py): `Alg.update`, the `_update` bodies of PowerMethod,
  GradientMethod, AltMin, AugmentedLagrangianMethod, ADMM, NewtonsMethod, GerchbergSaxton (statement order, branches,
  loops, `raise`), the stopping block of SDMM, the loop of `App.run`; together with `Gen/AlgDone.lean` (every `_done`)
  and `Gen/C12.lean` (ConjugateGradient).  The loop `while not done(): update()` performs EXACTLY
  `min(max_iter, first k with the early-stop test true)` updates (`max(max_iter, 0)` without such a `k`), for every integer
  `max_iter` incl. `≤ 0`; early stop happens only at fixed points of the generated `_update`s.
-/
namespace SigpyVerif.C15
open SigpyVerif.Gen.C15M

section loopx
variable {σ : Type} (done : σ → Bool) (update : σ → σ)

/-- if `done` first holds after `n` updates (and the fuel suffices), the loop performs exactly `n` updates and returns
    the `n`-th iterate -/
theorem runLoop_exact (n : Nat) : ∀ (fuel : Nat) (s : σ) (k0 : Nat), n ≤ fuel →
    (∀ k < n, done (update^[k] s) = false) → done (update^[n] s) = true →
    runLoop done update fuel s k0 = (update^[n] s, k0 + n, true) := by
  induction n with
  | zero =>
    intro fuel s k0 _ _ hd
    have hd' : done s = true := hd
    cases fuel with
    | zero => rw [runLoop, hd']; rfl
    | succ f => rw [runLoop, if_pos hd']; rfl
  | succ n ih =>
    intro fuel s k0 hf hnd hd
    obtain ⟨f, rfl⟩ : ∃ f, fuel = f + 1 := ⟨fuel - 1, by omega⟩
    have h0 : ¬ done s = true := by rw [show done s = false from hnd 0 (by omega)]; exact Bool.false_ne_true
    rw [runLoop, if_neg h0, ih f (update s) (k0 + 1) (by omega) (fun k hk => hnd (k + 1) (by omega)) hd,
      Nat.add_assoc, Nat.add_comm 1 n]
    rfl

theorem iter_iterate (iter : σ → Int) (hinc : ∀ s, iter (update s) = iter s + 1) (s : σ) (k : Nat) :
    iter (update^[k] s) = iter s + k := by
  induction k generalizing s with
  | zero => simp
  | succ k ih => rw [Function.iterate_succ_apply, ih, hinc]; push_cast; ring

variable (iter : σ → Int) (stop : σ → Bool) (M : Int)

/-- the general form: `n` is the first index at which `iter >= max_iter` or the early-stop test holds -/
theorem run_count_general (hinc : ∀ s, iter (update s) = iter s + 1)
    (hdone : ∀ s, done s = (decide (iter s ≥ M) || stop s)) (s0 : σ) (h0 : iter s0 = 0) (fuel n : Nat)
    (hat : (n : Int) ≥ M ∨ stop (update^[n] s0) = true)
    (hbefore : ∀ k < n, (k : Int) < M ∧ stop (update^[k] s0) = false) (hf : n ≤ fuel) :
    runLoop done update fuel s0 0 = (update^[n] s0, n, true) := by
  have hit : ∀ k, iter (update^[k] s0) = k := by
    intro k; rw [iter_iterate update iter hinc, h0]; simp
  have := runLoop_exact done update n fuel s0 0 hf
    (by
      intro k hk
      obtain ⟨h1, h2⟩ := hbefore k hk
      rw [hdone, hit, h2]
      simp only [Bool.or_false, decide_eq_false_iff_not]
      omega)
    (by
      rw [hdone, hit]
      rcases hat with h | h
      · simp [h]
      · simp [h])
  simpa using this

/-- **exact update count, with an early stop.**  If the early-stop test first holds after `k0` updates, the loop
    `while not done(): update()` performs exactly `min(max_iter, k0)` updates (`0` for `max_iter ≤ 0`) and ends by
    `done()`; the state returned is that iterate. -/
theorem run_count_stop (hinc : ∀ s, iter (update s) = iter s + 1)
    (hdone : ∀ s, done s = (decide (iter s ≥ M) || stop s)) (s0 : σ) (h0 : iter s0 = 0) (fuel k0 : Nat)
    (hbefore : ∀ k < k0, stop (update^[k] s0) = false) (hat : stop (update^[k0] s0) = true)
    (hf : min M.toNat k0 ≤ fuel) :
    runLoop done update fuel s0 0 = (update^[min M.toNat k0] s0, min M.toNat k0, true) := by
  apply run_count_general done update iter stop M hinc hdone s0 h0 fuel _ _ _ hf
  · rcases Nat.le_total M.toNat k0 with h | h
    · left; rw [Nat.min_eq_left h]; omega
    · right; rw [Nat.min_eq_right h]; exact hat
  · intro k hk
    have h1 : k < M.toNat := lt_of_lt_of_le hk (Nat.min_le_left _ _)
    have h2 : k < k0 := lt_of_lt_of_le hk (Nat.min_le_right _ _)
    exact ⟨by omega, hbefore k h2⟩

/-- **exact update count, without an early stop** within the budget: exactly `max(max_iter, 0)` updates -/
theorem run_count_nostop (hinc : ∀ s, iter (update s) = iter s + 1)
    (hdone : ∀ s, done s = (decide (iter s ≥ M) || stop s)) (s0 : σ) (h0 : iter s0 = 0) (fuel : Nat)
    (hnever : ∀ k < M.toNat, stop (update^[k] s0) = false) (hf : M.toNat ≤ fuel) :
    runLoop done update fuel s0 0 = (update^[M.toNat] s0, M.toNat, true) := by
  apply run_count_general done update iter stop M hinc hdone s0 h0 fuel _ _ _ hf
  · left; omega
  · intro k hk; exact ⟨by omega, hnever k hk⟩

/-- `whileFuel (not done) update` is `runLoop` (its state when it ended by `done`, `none` when the fuel ran out) -/
theorem whileFuel_eq_runLoop : ∀ (fuel : Nat) (s : σ) (n : Nat),
    whileFuel (fun s => !done s) update fuel s =
      if (runLoop done update fuel s n).2.2 then some (runLoop done update fuel s n).1 else none := by
  intro fuel
  induction fuel with
  | zero => intro s n; cases h : done s <;> simp [whileFuel, runLoop, h]
  | succ f ih =>
    intro s n
    cases h : done s
    · simp only [whileFuel, runLoop, h, Bool.not_false, if_true, Bool.false_eq_true, if_false]
      exact ih (update s) (n + 1)
    · simp [whileFuel, runLoop, h]

end loopx

section app
variable {σ : Type} (done : σ → Bool) (pre upd post summ : σ → σ) (iter : σ → Int) (stop : σ → Bool) (M : Int)

/-- an assertion on a generated constant, checked when this file is built: the translator counted one
    `self.alg.update()` per pass of the loop of `App.run` -/
theorem app_run_one_update_per_pass : appRunUpdates = 1 := rfl

/-- one pass of the generated `App.run` loop advances the counter by exactly one when the hooks (`_pre_update`,
    `_post_update`, `_summarize`) leave it alone -/
theorem app_pass_iter (hpre : ∀ s, iter (pre s) = iter s) (hpost : ∀ s, iter (post s) = iter s)
    (hsumm : ∀ s, iter (summ s) = iter s) (hupd : ∀ s, iter (upd s) = iter s + 1) (s : σ) :
    iter (appRunPass pre upd post summ s) = iter s + 1 := by
  simp [appRunPass, hpre, hpost, hsumm, hupd]

/-- **App.run, exactly.**  The generated `App.run` loop terminates (returns `some`) after exactly `n` passes — i.e.
    `n` calls of `alg.update()` — where `n` is the first index with `iter >= max_iter` or the early-stop test true along
    the passes; in particular (`run_count_stop`) `n = min(max_iter, first early-stop index)`.  The counter then equals
    `n`. -/
theorem app_run_exact (hpre : ∀ s, iter (pre s) = iter s) (hpost : ∀ s, iter (post s) = iter s)
    (hsumm : ∀ s, iter (summ s) = iter s) (hupd : ∀ s, iter (upd s) = iter s + 1)
    (hdone : ∀ s, done s = (decide (iter s ≥ M) || stop s)) (s0 : σ) (h0 : iter s0 = 0) (fuel n : Nat)
    (hat : (n : Int) ≥ M ∨ stop ((appRunPass pre upd post summ)^[n] s0) = true)
    (hbefore : ∀ k < n, (k : Int) < M ∧ stop ((appRunPass pre upd post summ)^[k] s0) = false) (hf : n ≤ fuel) :
    appRun done pre upd post summ fuel s0 = some ((appRunPass pre upd post summ)^[n] s0) ∧
      iter ((appRunPass pre upd post summ)^[n] s0) = n := by
  have hinc := app_pass_iter pre upd post summ iter hpre hpost hsumm hupd
  have h := run_count_general done (appRunPass pre upd post summ) iter stop M hinc hdone s0 h0 fuel n hat hbefore hf
  refine ⟨?_, by rw [iter_iterate _ iter hinc, h0]; simp⟩
  have e : appRunTest done = fun s => !done s := rfl
  rw [appRun, e, whileFuel_eq_runLoop done _ fuel s0 0, h]
  simp

/-- with the base class's hooks (`return`) and `max_iter` passes at most: the bound -/
theorem app_run_bound (hpre : ∀ s, iter (pre s) = iter s) (hpost : ∀ s, iter (post s) = iter s)
    (hsumm : ∀ s, iter (summ s) = iter s) (hupd : ∀ s, iter (upd s) = iter s + 1)
    (hdone : ∀ s, iter s ≥ M → done s = true) (s0 : σ) (h0 : iter s0 = 0) (fuel : Nat) (hf : M ≤ fuel) :
    ∃ s, appRun done pre upd post summ fuel s0 = some s ∧ iter s ≤ max M 0 ∧ done s = true := by
  have hinc := app_pass_iter pre upd post summ iter hpre hpost hsumm hupd
  have h := loop_bound done (appRunPass pre upd post summ) iter M hinc hdone s0 h0 fuel hf
  have e : appRunTest done = fun s => !done s := rfl
  refine ⟨(runLoop done (appRunPass pre upd post summ) fuel s0 0).1, ?_, ?_, h.2.2.2⟩
  · rw [appRun, e, whileFuel_eq_runLoop done _ fuel s0 0, h.1]; simp
  · rw [h.2.2.1]; exact h.2.1

end app

section loopR
variable {σ : Type} (done : σ → Bool) (update : σ → Res σ) (iter : σ → Int) (M : Int)

/-- `while not done(): update()` with an `update` that may raise: at most `max_iter` successful updates, the counter
    counts them, and the loop ends by `done()` or by the failure of an update — never by running on. -/
theorem runLoopR_bound (hinc : ∀ s s', update s = Res.ok s' → iter s' = iter s + 1)
    (hdone : ∀ s, iter s ≥ M → done s = true) (fuel : Nat) : ∀ (s : σ) (n : Nat), iter s = n → M - n ≤ fuel →
      ((runLoopR done update fuel s n).2.1 : Int) ≤ max M n ∧
        iter (runLoopR done update fuel s n).1 = (runLoopR done update fuel s n).2.1 ∧
        ((runLoopR done update fuel s n).2.2 = true → done (runLoopR done update fuel s n).1 = true) := by
  intro s n hs hf
  have h := runLoopR_spec done iter M update hinc hdone fuel s n hs hf
  exact ⟨h.1, h.2.1, h.2.2.1⟩

end loopR

/-! ### per class: the generated `_update` leaves the counter alone, `Alg.update` adds exactly one -/
section counters
set_option linter.unusedSectionVars false
variable {V S : Type} [Add S] [Sub S] [Mul S] [Div S] [Neg S] [NatCast S] [LT S] [∀ a b : S, Decidable (a < b)]

/-- generated `Alg.update`: the counter after `update()` is the counter after `_update()` plus one -/
theorem algUpdate_iter {D : Type} (upd_ : AlgSt D → AlgSt D) (s : AlgSt D) :
    (algUpdate upd_ s).iter = (upd_ s).iter + 1 := rfl

theorem algUpdateR_iter {D : Type} (upd_ : AlgSt D → Res (AlgSt D)) (s s' : AlgSt D)
    (h : algUpdateR upd_ s = Res.ok s') : ∃ s1, upd_ s = Res.ok s1 ∧ s'.iter = s1.iter + 1 ∧ s'.d = s1.d := by
  unfold algUpdateR at h
  split at h
  · cases h
  · cases h
  · rename_i s1 hs1
    injection h with h
    exact ⟨s1, hs1, by rw [← h], by rw [← h]⟩

theorem algUpdateR_iter_succ {D : Type} (upd_ : AlgSt D → Res (AlgSt D))
    (hupd : ∀ s s1, upd_ s = Res.ok s1 → s1.iter = s.iter) (s s' : AlgSt D) (h : algUpdateR upd_ s = Res.ok s') :
    s'.iter = s.iter + 1 := by
  obtain ⟨s1, h1, h2, _⟩ := algUpdateR_iter upd_ s s' h
  rw [h2, hupd s s1 h1]

theorem upd_iter_PowerMethod (o : MOps V S) (A : V → V) (nf : Option (V → S)) (s : AlgSt (PMData V S)) :
    (updPowerMethod o A nf s).iter = s.iter := by
  unfold updPowerMethod; split <;> rfl

theorem upd_iter_GradientMethod (o : MOps V S) (sqrt : S → S) (gradf : V → V) (proxg : Option (S → V → V)) (alpha : S)
    (acc : Bool) (s : AlgSt (GMData V S)) : (updGradientMethod o sqrt gradf proxg alpha acc s).iter = s.iter := by
  unfold updGradientMethod; split <;> split <;> rfl

theorem upd_iter_AltMin {D : Type} (min1 min2 : D → D) (s : AlgSt D) : (updAltMin min1 min2 s).iter = s.iter := rfl

theorem upd_iter_AugmentedLagrangianMethod (o : MOps V S) (minL : ALMData V → ALMData V) (g h : Option (V → V)) (mu : S)
    (s : AlgSt (ALMData V)) : (updAugmentedLagrangianMethod o minL g h mu s).iter = s.iter := by
  unfold updAugmentedLagrangianMethod; split <;> split <;> rfl

theorem upd_iter_ADMM (o : MOps V S) (mx mz : ADMMData V → ADMMData V) (A B : V → V) (c : V) (s : AlgSt (ADMMData V)) :
    (updADMM o mx mz A B c s).iter = s.iter := rfl

theorem upd_iter_NewtonsMethod (o : MOps V S) (sqrt : S → S) (gradf : V → V) (invH : V → V → V) (f : V → S) (beta : S)
    (fuel : Nat) (s s' : AlgSt (NMData V S)) (h : updNewtonsMethod o sqrt gradf invH f beta fuel s = Res.ok s') :
    s'.iter = s.iter := by
  unfold updNewtonsMethod at h
  simp only at h
  split_ifs at h
  · split at h
    · cases h
    · cases h; rfl
  · cases h; rfl

theorem upd_iter_GerchbergSaxton (o : MOps V S) (co : C12.Ops V S) (A AH : V → V) (y : V) (lamb : S) (fuel : Nat)
    (s s' : AlgSt (GSData V S)) (h : updGerchbergSaxton o co A AH y lamb fuel s = Res.ok s') : s'.iter = s.iter := by
  unfold updGerchbergSaxton at h
  simp only at h
  split at h
  · cases h
  · cases h; rfl

/-- **every `update()` advances the counter by exactly one** — generated `Alg.update` ∘ generated `_update`, class by
    class (ConjugateGradient: `C12.update_iter`; PrimalDualHybridGradient and SDMM: `self_incr_zero` + `ctr_iterate`) -/
theorem update_iter_all (o : MOps V S) (co : C12.Ops V S) (sqrt : S → S) :
    (∀ A nf (s : AlgSt (PMData V S)), (algUpdate (updPowerMethod o A nf) s).iter = s.iter + 1) ∧
    (∀ gradf proxg alpha acc (s : AlgSt (GMData V S)),
      (algUpdate (updGradientMethod o sqrt gradf proxg alpha acc) s).iter = s.iter + 1) ∧
    (∀ (D : Type) (m1 m2 : D → D) (s : AlgSt D), (algUpdate (updAltMin m1 m2) s).iter = s.iter + 1) ∧
    (∀ minL g h mu (s : AlgSt (ALMData V)),
      (algUpdate (updAugmentedLagrangianMethod o minL g h mu) s).iter = s.iter + 1) ∧
    (∀ mx mz A B c (s : AlgSt (ADMMData V)), (algUpdate (updADMM o mx mz A B c) s).iter = s.iter + 1) ∧
    (∀ gradf invH f beta fuel (s s' : AlgSt (NMData V S)),
      algUpdateR (updNewtonsMethod o sqrt gradf invH f beta fuel) s = Res.ok s' → s'.iter = s.iter + 1) ∧
    (∀ A AH y lamb fuel (s s' : AlgSt (GSData V S)),
      algUpdateR (updGerchbergSaxton o co A AH y lamb fuel) s = Res.ok s' → s'.iter = s.iter + 1) := by
  refine ⟨?_, ?_, ?_, ?_, ?_, ?_, ?_⟩
  · intro A nf s; rw [algUpdate_iter, upd_iter_PowerMethod]
  · intro g p a acc s; rw [algUpdate_iter, upd_iter_GradientMethod]
  · intro D m1 m2 s; rw [algUpdate_iter, upd_iter_AltMin]
  · intro minL g h mu s; rw [algUpdate_iter, upd_iter_AugmentedLagrangianMethod]
  · intro mx mz A B c s; rw [algUpdate_iter, upd_iter_ADMM]
  · exact fun gradf invH f beta fuel => algUpdateR_iter_succ _ (upd_iter_NewtonsMethod o sqrt gradf invH f beta fuel)
  · exact fun A AH y lamb fuel => algUpdateR_iter_succ _ (upd_iter_GerchbergSaxton o co A AH y lamb fuel)

end counters

/-! ### every generated `_done` is `iter >= max_iter or <early-stop test>` -/
section dones

/-- the early-stop disjunct of each class's generated `_done`: which quantity is compared with which threshold.
    Alg / PowerMethod / AltMin / AugmentedLagrangianMethod / ADMM: none; GradientMethod, PrimalDualHybridGradient:
    `resid <= tol`; ConjugateGradient: `not_positive_definite or resid <= tol`; SDMM: the flag `stop`;
    NewtonsMethod, GerchbergSaxton: `residual <= tol`. -/
theorem done_decomp (i M : Int) (r t : Rat) (fl : Bool) :
    Gen.doneAlg i M = (decide (i ≥ M) || false) ∧ Gen.donePowerMethod i M = (decide (i ≥ M) || false) ∧
    Gen.doneAltMin i M = (decide (i ≥ M) || false) ∧
    Gen.doneAugmentedLagrangianMethod i M = (decide (i ≥ M) || false) ∧ Gen.doneADMM i M = (decide (i ≥ M) || false) ∧
    Gen.doneGradientMethod i M r t = (decide (i ≥ M) || decide (r ≤ t)) ∧
    Gen.donePrimalDualHybridGradient i M r t = (decide (i ≥ M) || decide (r ≤ t)) ∧
    Gen.doneConjugateGradient i M fl r t = (decide (i ≥ M) || (fl || decide (r ≤ t))) ∧
    Gen.doneSDMM i M fl = (decide (i ≥ M) || fl) ∧
    Gen.doneNewtonsMethod i M r t = (decide (i ≥ M) || decide (r ≤ t)) ∧
    Gen.doneGerchbergSaxton i M r t = (decide (i ≥ M) || decide (r ≤ t)) := by
  simp only [Gen.doneAlg, Gen.donePowerMethod, Gen.doneAltMin, Gen.doneAugmentedLagrangianMethod, Gen.doneADMM,
    Gen.doneGradientMethod, Gen.donePrimalDualHybridGradient, Gen.doneConjugateGradient, Gen.doneSDMM,
    Gen.doneNewtonsMethod, Gen.doneGerchbergSaxton]
  generalize decide (i ≥ M) = a
  generalize decide (r ≤ t) = b
  cases a <;> cases b <;> cases fl <;> decide

/-- **no early stop** for the classes whose `_done` is the bare iteration bound: `done()` holds iff
    `iter >= max_iter` (so the loop performs exactly `max(max_iter, 0)` updates: `run_exact_ADMM` etc.) -/
theorem no_early_stop (i M : Int) :
    (Gen.doneAlg i M = true ↔ i ≥ M) ∧ (Gen.donePowerMethod i M = true ↔ i ≥ M) ∧ (Gen.doneAltMin i M = true ↔ i ≥ M) ∧
    (Gen.doneAugmentedLagrangianMethod i M = true ↔ i ≥ M) ∧ (Gen.doneADMM i M = true ↔ i ≥ M) := by
  have h := done_decomp i M 0 0 false
  refine ⟨?_, ?_, ?_, ?_, ?_⟩
  · rw [h.1]; simp
  · rw [h.2.1]; simp
  · rw [h.2.2.1]; simp
  · rw [h.2.2.2.1]; simp
  · rw [h.2.2.2.2.1]; simp

end dones

/-! ### exact update counts, class by class (generated `_update`, `Alg.update`, `_done`, initial counter) -/
section exact
set_option linter.unusedSectionVars false
variable {V S : Type} [Add S] [Sub S] [Mul S] [Div S] [Neg S] [NatCast S] [LT S] [∀ a b : S, Decidable (a < b)]

theorem run_exact_PowerMethod (o : MOps V S) (A : V → V) (nf : Option (V → S)) (M : Int) (d0 : PMData V S) (fuel : Nat)
    (hf : M.toNat ≤ fuel) :
    runLoop (fun s : AlgSt (PMData V S) => Gen.donePowerMethod s.iter M) (algUpdate (updPowerMethod o A nf)) fuel
        ⟨Gen.initIterPowerMethod, d0⟩ 0 =
      ((algUpdate (updPowerMethod o A nf))^[M.toNat] ⟨Gen.initIterPowerMethod, d0⟩, M.toNat, true) :=
  run_count_nostop _ _ (fun s => s.iter) (fun _ => false) M
    (fun s => by rw [algUpdate_iter, upd_iter_PowerMethod]) (fun s => (done_decomp s.iter M 0 0 false).2.1)
    _ rfl fuel (fun _ _ => rfl) hf

theorem run_exact_AltMin {D : Type} (m1 m2 : D → D) (M : Int) (d0 : D) (fuel : Nat) (hf : M.toNat ≤ fuel) :
    runLoop (fun s : AlgSt D => Gen.doneAltMin s.iter M) (algUpdate (updAltMin m1 m2)) fuel ⟨Gen.initIterAltMin, d0⟩ 0 =
      ((algUpdate (updAltMin m1 m2))^[M.toNat] ⟨Gen.initIterAltMin, d0⟩, M.toNat, true) :=
  run_count_nostop _ _ (fun s => s.iter) (fun _ => false) M
    (fun s => by rw [algUpdate_iter, upd_iter_AltMin]) (fun s => (done_decomp s.iter M 0 0 false).2.2.1)
    _ rfl fuel (fun _ _ => rfl) hf

theorem run_exact_AugmentedLagrangianMethod (o : MOps V S) (minL : ALMData V → ALMData V) (g h : Option (V → V)) (mu : S)
    (M : Int) (d0 : ALMData V) (fuel : Nat) (hf : M.toNat ≤ fuel) :
    runLoop (fun s : AlgSt (ALMData V) => Gen.doneAugmentedLagrangianMethod s.iter M)
        (algUpdate (updAugmentedLagrangianMethod o minL g h mu)) fuel ⟨Gen.initIterAugmentedLagrangianMethod, d0⟩ 0 =
      ((algUpdate (updAugmentedLagrangianMethod o minL g h mu))^[M.toNat] ⟨Gen.initIterAugmentedLagrangianMethod, d0⟩,
        M.toNat, true) :=
  run_count_nostop _ _ (fun s => s.iter) (fun _ => false) M
    (fun s => by rw [algUpdate_iter, upd_iter_AugmentedLagrangianMethod])
    (fun s => (done_decomp s.iter M 0 0 false).2.2.2.1) _ rfl fuel (fun _ _ => rfl) hf

theorem run_exact_ADMM (o : MOps V S) (mx mz : ADMMData V → ADMMData V) (A B : V → V) (c : V) (M : Int)
    (d0 : ADMMData V) (fuel : Nat) (hf : M.toNat ≤ fuel) :
    runLoop (fun s : AlgSt (ADMMData V) => Gen.doneADMM s.iter M) (algUpdate (updADMM o mx mz A B c)) fuel
        ⟨Gen.initIterADMM, d0⟩ 0 =
      ((algUpdate (updADMM o mx mz A B c))^[M.toNat] ⟨Gen.initIterADMM, d0⟩, M.toNat, true) :=
  run_count_nostop _ _ (fun s => s.iter) (fun _ => false) M
    (fun s => by rw [algUpdate_iter, upd_iter_ADMM]) (fun s => (done_decomp s.iter M 0 0 false).2.2.2.2.1)
    _ rfl fuel (fun _ _ => rfl) hf

/-- GradientMethod (`resid`, `tol` rational as in the generated `_done`): exactly `min(max_iter, k0)` updates when
    `resid <= tol` first holds after `k0` updates -/
theorem run_exact_GradientMethod (o : MOps V Rat) (sqrt : Rat → Rat) (gradf : V → V) (proxg : Option (Rat → V → V))
    (alpha tol : Rat) (acc : Bool) (M : Int) (d0 : GMData V Rat) (fuel k0 : Nat)
    (hbefore : ∀ k < k0, ¬ ((algUpdate (updGradientMethod o sqrt gradf proxg alpha acc))^[k]
        ⟨Gen.initIterGradientMethod, d0⟩).d.resid ≤ tol)
    (hat : ((algUpdate (updGradientMethod o sqrt gradf proxg alpha acc))^[k0] ⟨Gen.initIterGradientMethod, d0⟩).d.resid ≤ tol)
    (hf : min M.toNat k0 ≤ fuel) :
    runLoop (fun s : AlgSt (GMData V Rat) => Gen.doneGradientMethod s.iter M s.d.resid tol)
        (algUpdate (updGradientMethod o sqrt gradf proxg alpha acc)) fuel ⟨Gen.initIterGradientMethod, d0⟩ 0 =
      ((algUpdate (updGradientMethod o sqrt gradf proxg alpha acc))^[min M.toNat k0] ⟨Gen.initIterGradientMethod, d0⟩,
        min M.toNat k0, true) :=
  run_count_stop _ _ (fun s => s.iter) (fun s => decide (s.d.resid ≤ tol)) M
    (fun s => by rw [algUpdate_iter, upd_iter_GradientMethod])
    (fun s => (done_decomp s.iter M s.d.resid tol false).2.2.2.2.2.1) _ rfl fuel k0
    (fun k hk => by simpa using hbefore k hk) (by simpa using hat) hf

/-- ConjugateGradient (the generated machine of C12): exactly `min(max_iter, k0)` updates when
    `not_positive_definite or resid <= tol` first holds after `k0` updates.  (`co.sqrtLe` is total; in Python
    `rzold ** 0.5` is a `complex` for `rzold < 0` — a `P` that is not positive semidefinite — and `resid <= tol` then
    raises `TypeError`: that case is outside this statement.) -/
theorem run_exact_ConjugateGradient (co : C12.Ops V S) (A : V → V) (P : Option (V → V)) (b x : V) (tol : S) (M : Int)
    (fuel k0 : Nat)
    (hbefore : ∀ k < k0, ((Gen.C12.update co A P M)^[k] (Gen.C12.init co A P b x M)).npd = false ∧
      co.sqrtLe ((Gen.C12.update co A P M)^[k] (Gen.C12.init co A P b x M)).resid2 tol = false)
    (hat : ((Gen.C12.update co A P M)^[k0] (Gen.C12.init co A P b x M)).npd = true ∨
      co.sqrtLe ((Gen.C12.update co A P M)^[k0] (Gen.C12.init co A P b x M)).resid2 tol = true)
    (hf : min M.toNat k0 ≤ fuel) :
    runLoop (Gen.C12.done co M tol) (Gen.C12.update co A P M) fuel (Gen.C12.init co A P b x M) 0 =
      ((Gen.C12.update co A P M)^[min M.toNat k0] (Gen.C12.init co A P b x M), min M.toNat k0, true) :=
  run_count_stop _ _ (fun s => s.iter) (fun s => s.npd || co.sqrtLe s.resid2 tol) M
    (fun s => C12.update_iter co A P M s)
    (fun s => by simp only [Gen.C12.done]; cases decide (s.iter ≥ M) <;> cases s.npd <;> cases co.sqrtLe s.resid2 tol <;> rfl)
    _ (C12.iter_counts_updates co A P b x M 0) fuel k0
    (fun k hk => by obtain ⟨h1, h2⟩ := hbefore k hk; simp [h1, h2])
    (by rcases hat with h | h <;> simp [h]) hf

/-- NewtonsMethod / GerchbergSaxton (an `update()` may raise, resp. contains an inner loop): at most `max_iter`
    successful updates, the counter counts them, and the loop ends by `done()` or by the failure. -/
theorem run_bound_NewtonsMethod (o : MOps V Rat) (sqrt : Rat → Rat) (gradf : V → V) (invH : V → V → V) (f : V → Rat)
    (beta tol : Rat) (fuelU : Nat) (M : Int) (d0 : NMData V Rat) (fuel : Nat) (hf : M ≤ fuel) :
    let r := runLoopR (fun s : AlgSt (NMData V Rat) => Gen.doneNewtonsMethod s.iter M s.d.residual tol)
      (algUpdateR (updNewtonsMethod o sqrt gradf invH f beta fuelU)) fuel ⟨Gen.initIterNewtonsMethod, d0⟩ 0
    (r.2.1 : Int) ≤ max M 0 ∧ r.1.iter = r.2.1 := by
  intro r
  have := runLoopR_bound (fun s : AlgSt (NMData V Rat) => Gen.doneNewtonsMethod s.iter M s.d.residual tol)
    (algUpdateR (updNewtonsMethod o sqrt gradf invH f beta fuelU)) (fun s => s.iter) M
    (algUpdateR_iter_succ _ (upd_iter_NewtonsMethod o sqrt gradf invH f beta fuelU))
    (fun s h => by rw [(done_decomp s.iter M s.d.residual tol false).2.2.2.2.2.2.2.2.2.1, decide_eq_true h, Bool.true_or])
    fuel ⟨Gen.initIterNewtonsMethod, d0⟩ 0 rfl (by rw [Nat.cast_zero, sub_zero]; exact hf)
  exact ⟨Nat.cast_zero (R := ℤ) ▸ this.1, this.2.1⟩

theorem run_bound_GerchbergSaxton (o : MOps V Rat) (co : C12.Ops V Rat) (A AH : V → V) (y : V) (lamb tol : Rat)
    (fuelU : Nat) (M : Int) (d0 : GSData V Rat) (fuel : Nat) (hf : M ≤ fuel) :
    let r := runLoopR (fun s : AlgSt (GSData V Rat) => Gen.doneGerchbergSaxton s.iter M s.d.residual tol)
      (algUpdateR (updGerchbergSaxton o co A AH y lamb fuelU)) fuel ⟨Gen.initIterGerchbergSaxton, d0⟩ 0
    (r.2.1 : Int) ≤ max M 0 ∧ r.1.iter = r.2.1 := by
  intro r
  have := runLoopR_bound (fun s : AlgSt (GSData V Rat) => Gen.doneGerchbergSaxton s.iter M s.d.residual tol)
    (algUpdateR (updGerchbergSaxton o co A AH y lamb fuelU)) (fun s => s.iter) M
    (algUpdateR_iter_succ _ (upd_iter_GerchbergSaxton o co A AH y lamb fuelU))
    (fun s h => by rw [(done_decomp s.iter M s.d.residual tol false).2.2.2.2.2.2.2.2.2.2, decide_eq_true h, Bool.true_or])
    fuel ⟨Gen.initIterGerchbergSaxton, d0⟩ 0 rfl (by rw [Nat.cast_zero, sub_zero]; exact hf)
  exact ⟨Nat.cast_zero (R := ℤ) ▸ this.1, this.2.1⟩

end exact

/-! ### early stop only at fixed points — on the generated `_update`s -/
section fixedgen
variable {E : Type} [NormedAddCommGroup E] [InnerProductSpace ℝ E]

/-- the ops record interprets `+ - * neg norm vdot` as the operations of the real inner-product space `E` (a complex
    one is a real one); the elementwise operations (`relu mul phase vabs norm1`, `divs`) stay arbitrary -/
structure StdOps (o : MOps E ℝ) : Prop where
  add : ∀ a b, o.add a b = a + b
  sub : ∀ a b, o.sub a b = a - b
  smul : ∀ (c : ℝ) v, o.smul c v = c • v
  neg : ∀ v, o.neg v = -v
  norm : ∀ v, o.norm v = ‖v‖
  rdot : ∀ a b, o.rdot a b = inner ℝ a b

/-- an ops record with these properties exists -/
noncomputable def stdOps (E : Type) [NormedAddCommGroup E] [InnerProductSpace ℝ E] : MOps E ℝ where
  add := (· + ·)
  sub := (· - ·)
  smul := fun c v => c • v
  neg := fun v => -v
  divs := fun v c => (1 / c) • v
  norm := fun v => ‖v‖
  rdot := fun a b => inner ℝ a b
  relu := id
  mul := fun a _ => a
  phase := id
  vabs := id
  norm1 := fun v => ‖v‖

theorem stdOps_std : StdOps (stdOps E) := ⟨fun _ _ => rfl, fun _ _ => rfl, fun _ _ => rfl, fun _ => rfl, fun _ => rfl, fun _ _ => rfl⟩

omit [InnerProductSpace ℝ E] in
theorem norm_div_nonpos {v : E} {a : ℝ} (ha : 0 < a) (h : ‖v‖ / a ≤ 0) : v = 0 := by
  rw [div_le_iff₀ ha, zero_mul] at h
  exact norm_le_zero_iff.mp h

/-- **GradientMethod, generated `_update`, no acceleration.**  The quantity compared with `tol` is
    `resid = ‖x_new - x_old‖ / alpha`.  With `tol = 0` (and a positive step): `resid <= 0` after an update means
    `x_new = x_old`, i.e. `x = T(x)`, and one more `update()` leaves `x` unchanged. -/
theorem early_stop_fixed_gm_gen (o : MOps E ℝ) (ho : StdOps o) (sqrt : ℝ → ℝ) (gradf : E → E)
    (proxg : Option (ℝ → E → E)) (α : ℝ) (hα : 0 < α) (s : AlgSt (GMData E ℝ))
    (h : (updGradientMethod o sqrt gradf proxg α false s).d.resid ≤ 0) :
    (updGradientMethod o sqrt gradf proxg α false (updGradientMethod o sqrt gradf proxg α false s)).d.x =
      (updGradientMethod o sqrt gradf proxg α false s).d.x := by
  cases proxg
  all_goals
    simp only [updGradientMethod, Bool.false_eq_true, if_false, ho.add, ho.sub, ho.smul, ho.norm] at h ⊢
    have hx := sub_eq_zero.mp (norm_div_nonpos hα h)
    rw [hx]; exact hx

/-- **GradientMethod, tolerance.**  `resid <= tol` after an update from `x` means the fixed-point residual of the step
    map at `x` is small: `‖T(x) - x‖ <= alpha * tol` (the new iterate IS `T(x)`). -/
theorem gm_tol_bound (o : MOps E ℝ) (ho : StdOps o) (sqrt : ℝ → ℝ) (gradf : E → E) (proxg : Option (ℝ → E → E))
    (α tol : ℝ) (hα : 0 < α) (s : AlgSt (GMData E ℝ))
    (h : (updGradientMethod o sqrt gradf proxg α false s).d.resid ≤ tol) :
    ‖(updGradientMethod o sqrt gradf proxg α false s).d.x - s.d.x‖ ≤ α * tol := by
  cases proxg
  all_goals
    simp only [updGradientMethod, Bool.false_eq_true, if_false, ho.add, ho.sub, ho.smul, ho.norm] at h ⊢
    rwa [div_le_iff₀ hα, mul_comm] at h

/-- **accelerated GradientMethod, generated `_update`.**  `resid = (‖x_new - x_old‖²/α² + ‖x_new - z‖²/α²) ** 0.5`;
    `resid <= 0` means `x_new = x_old = z`; then the new extrapolated point is `x_new` and one more `update()` leaves
    `x` unchanged. -/
theorem early_stop_fixed_gm_accel_gen (o : MOps E ℝ) (ho : StdOps o) (gradf : E → E) (proxg : Option (ℝ → E → E))
    (α : ℝ) (hα : 0 < α) (s : AlgSt (GMData E ℝ))
    (h : (updGradientMethod o Real.sqrt gradf proxg α true s).d.resid ≤ 0) :
    (updGradientMethod o Real.sqrt gradf proxg α true (updGradientMethod o Real.sqrt gradf proxg α true s)).d.x =
      (updGradientMethod o Real.sqrt gradf proxg α true s).d.x := by
  have key : ∀ (a b : E), Real.sqrt (‖a‖ / α * (‖a‖ / α) + ‖b‖ / α * (‖b‖ / α)) ≤ 0 → a = 0 ∧ b = 0 := by
    intro a b hh
    have h0 := Real.sqrt_eq_zero'.mp (le_antisymm hh (Real.sqrt_nonneg _))
    have ha := mul_self_nonneg (‖a‖ / α)
    have hb := mul_self_nonneg (‖b‖ / α)
    have ha0 : ‖a‖ / α * (‖a‖ / α) = 0 := le_antisymm ((le_add_of_nonneg_right hb).trans h0) ha
    have hb0 : ‖b‖ / α * (‖b‖ / α) = 0 := le_antisymm ((le_add_of_nonneg_left ha).trans h0) hb
    exact ⟨norm_div_nonpos hα (le_of_eq (mul_self_eq_zero.mp ha0)), norm_div_nonpos hα (le_of_eq (mul_self_eq_zero.mp hb0))⟩
  cases proxg
  all_goals
    simp only [updGradientMethod, if_true, ho.add, ho.sub, ho.smul, ho.norm] at h ⊢
    obtain ⟨h1, h2⟩ := key _ _ h
    have hz := sub_eq_zero.mp h2
    rw [h1, smul_zero, add_zero, hz]; exact hz

/-- an invariant of the loop state survives `whileFuel` -/
theorem whileFuel_inv {σ : Type} (cond : σ → Bool) (body : σ → σ) (P : σ → Prop) (hP : ∀ s, P s → P (body s)) :
    ∀ (fuel : Nat) (s r : σ), P s → whileFuel cond body fuel s = some r → P r := by
  intro fuel
  induction fuel with
  | zero => intro s r hs h; simp only [whileFuel] at h; split_ifs at h; cases h; exact hs
  | succ f ih =>
    intro s r hs h
    simp only [whileFuel] at h
    split_ifs at h
    · exact ih _ r (hP s hs) h
    · cases h; exact hs

theorem whileFuel_of_not_cond {σ : Type} (cond : σ → Bool) (body : σ → σ) (fuel : Nat) (s : σ) (h : cond s = false) :
    whileFuel cond body fuel s = some s := by
  cases fuel <;> simp [whileFuel, h]

theorem updNewtonsMethod_ok (o : MOps E ℝ) (ho : StdOps o) (gradf : E → E) (invH : E → E → E) (f : E → ℝ) (β : ℝ)
    (fuel : ℕ) (s s' : AlgSt (NMData E ℝ)) (hrun : updNewtonsMethod o Real.sqrt gradf invH f β fuel s = Res.ok s') :
    s'.d.residual = Real.sqrt (-(inner ℝ (-(invH s.d.x (gradf s.d.x))) (gradf s.d.x))) ∧
      ∃ a : ℝ, s'.d.x = s.d.x + a • -(invH s.d.x (gradf s.d.x)) := by
  simp only [updNewtonsMethod, ho.add, ho.smul, ho.neg, ho.rdot] at hrun
  split_ifs at hrun
  · split at hrun
    · cases hrun
    · rename_i st hst
      cases hrun
      exact ⟨rfl, whileFuel_inv _ _ (fun st : ℝ × E => ∃ a : ℝ, st.2 = s.d.x + a • -(invH s.d.x (gradf s.d.x)))
        (fun st _ => ⟨_, rfl⟩) fuel _ st ⟨1, by rw [one_smul]⟩ hst⟩
  · cases hrun
    exact ⟨rfl, 1, by rw [one_smul]⟩

/-- **NewtonsMethod, generated `_update`** (line search or not; the `raise` for a non-descending direction included).
    The quantity compared with `tol` is `residual = lamda2 ** 0.5`, `lamda2 = re⟪H⁻¹g, g⟫` the squared Newton decrement
    at the point the step was taken FROM.  With `tol = 0`: if the update ran and `residual <= 0` then, for a positive
    definite inverse Hessian, the gradient there is zero (a stationary point), the step did not move `x` whatever `alpha`
    the line search chose, and one more `update()` succeeds (no raise, the loop exits at once, any fuel) and leaves
    `x` unchanged with `residual = 0` again. -/
theorem early_stop_fixed_newton_gen (o : MOps E ℝ) (ho : StdOps o) (gradf : E → E) (invH : E → E → E) (f : E → ℝ) (β : ℝ)
    (hH : ∀ x g, inner ℝ (invH x g) g ≤ 0 → g = 0) (h0 : ∀ x, invH x 0 = 0) (fuel : ℕ) (s s' : AlgSt (NMData E ℝ))
    (hrun : updNewtonsMethod o Real.sqrt gradf invH f β fuel s = Res.ok s') (h : s'.d.residual ≤ 0) :
    s'.d.x = s.d.x ∧ gradf s'.d.x = 0 ∧ ∀ fuel', updNewtonsMethod o Real.sqrt gradf invH f β fuel' s' =
      Res.ok ⟨s'.iter, ⟨s'.d.x, 0, 0⟩⟩ := by
  -- one update at a stationary point
  have key : ∀ (t : AlgSt (NMData E ℝ)), gradf t.d.x = 0 → ∀ fuel',
      updNewtonsMethod o Real.sqrt gradf invH f β fuel' t = Res.ok ⟨t.iter, ⟨t.d.x, 0, 0⟩⟩ := by
    intro t ht fuel'
    simp only [updNewtonsMethod, ho.add, ho.smul, ho.neg, ho.rdot, ht, h0, neg_zero, inner_zero_left, add_zero,
      Nat.cast_zero, lt_self_iff_false, if_false, Real.sqrt_zero, smul_zero]
    split_ifs
    · rw [whileFuel_of_not_cond _ _ _ _ (by simp)]
    · rfl
  obtain ⟨hres, a, hx'⟩ := updNewtonsMethod_ok o ho gradf invH f β fuel s s' hrun
  have hl : -(inner ℝ (-(invH s.d.x (gradf s.d.x))) (gradf s.d.x)) ≤ 0 := by
    rw [hres] at h
    exact Real.sqrt_eq_zero'.mp (le_antisymm h (Real.sqrt_nonneg _))
  have hg : gradf s.d.x = 0 := hH _ _ (by rwa [inner_neg_left, neg_neg] at hl)
  have hx : s'.d.x = s.d.x := by rw [hx', hg, h0, neg_zero, smul_zero, add_zero]
  exact ⟨hx, by rw [hx]; exact hg, key s' (by rw [hx]; exact hg)⟩

/-- **NewtonsMethod, tolerance.**  `residual <= tol` bounds the gradient at the point the step was taken from: if the
    inverse Hessian is bounded below, `m ‖g‖² <= re⟪H⁻¹g, g⟫` with `m > 0`, then `‖gradf x‖² <= tol² / m`. -/
theorem newton_tol_bound (o : MOps E ℝ) (ho : StdOps o) (gradf : E → E) (invH : E → E → E) (f : E → ℝ) (β tol m : ℝ)
    (hm : 0 < m) (htol : 0 ≤ tol) (hH : ∀ x g, m * ‖g‖ ^ 2 ≤ inner ℝ (invH x g) g) (fuel : ℕ) (s s' : AlgSt (NMData E ℝ))
    (hrun : updNewtonsMethod o Real.sqrt gradf invH f β fuel s = Res.ok s') (h : s'.d.residual ≤ tol) :
    ‖gradf s.d.x‖ ^ 2 ≤ tol ^ 2 / m := by
  have hres := (updNewtonsMethod_ok o ho gradf invH f β fuel s s' hrun).1
  rw [hres, inner_neg_left, neg_neg] at h
  have h1 := hH s.d.x (gradf s.d.x)
  have h2 : inner ℝ (invH s.d.x (gradf s.d.x)) (gradf s.d.x) ≤ tol ^ 2 := by
    have := Real.sqrt_le_left (x := inner ℝ (invH s.d.x (gradf s.d.x)) (gradf s.d.x)) htol |>.mp h
    exact this
  rw [le_div_iff₀ hm]
  linarith

end fixedgen

section gs
open RCLike
variable {𝕜 E : Type} [RCLike 𝕜] [NormedAddCommGroup E] [InnerProductSpace 𝕜 E]

/-- **GerchbergSaxton, generated `_update`** (inner solver = the generated ConjugateGradient of C12).  The quantity
    compared with `tol` is `residual = Σ | |A x| - y |`.  With `tol = 0`: `residual <= 0` after an update means
    `|A x| = y` elementwise; then `y_hat = y · exp(i·angle(A x)) = A x`, the inner system `(AᴴA + lamb) x' = Aᴴ y_hat`
    has residual `-lamb·x` at `x`, and — for `lamb = 0` (more generally `lamb·x = 0`) — the inner ConjugateGradient is
    `done()` before its first update, so one more `update()` leaves `x` unchanged (for every fuel).
    For `lamb·x ≠ 0` the stopping test does NOT certify a fixed point: it measures data consistency only. -/
theorem early_stop_fixed_gs (o : MOps E ℝ) (hadd : ∀ a b, o.add a b = a + b) (hsub : ∀ a b, o.sub a b = a - b)
    (hsmul : ∀ (c : ℝ) v, o.smul c v = (c : 𝕜) • v) (hn1 : ∀ v, o.norm1 v ≤ 0 → v = 0)
    (hph : ∀ w, o.mul (o.vabs w) (o.phase w) = w)
    (A AH : E → E) (y : E) (lamb : ℝ) (fuel : ℕ) (s s' : AlgSt (GSData E ℝ))
    (hrun : updGerchbergSaxton o (C12.ipOps 𝕜) A AH y lamb fuel s = Res.ok s') (h : s'.d.residual ≤ 0)
    (hl : (lamb : 𝕜) • s'.d.x = 0) :
    o.vabs (A s'.d.x) = y ∧ ∀ fuel', ∃ r, updGerchbergSaxton o (C12.ipOps 𝕜) A AH y lamb fuel' s' =
      Res.ok ⟨s'.iter, ⟨s'.d.x, r⟩⟩ := by
  have hres : s'.d.residual = o.norm1 (o.sub (o.vabs (A s'.d.x)) y) := by
    simp only [updGerchbergSaxton] at hrun
    split at hrun
    · cases hrun
    · cases hrun; rfl
  have hy : o.vabs (A s'.d.x) = y := by
    rw [hres] at h
    have := hn1 _ h
    rw [hsub] at this
    exact sub_eq_zero.mp this
  refine ⟨hy, fun fuel' => ?_⟩
  have hyh : o.mul y (o.phase (A s'.d.x)) = A s'.d.x := by rw [← hy]; exact hph _
  simp only [updGerchbergSaxton, hyh]
  rw [whileFuel_of_not_cond]
  · exact ⟨_, rfl⟩
  · -- the inner CG starts at a solution of its system
    have h0 : AH (A s'.d.x) - o.add (AH (A s'.d.x)) (o.smul lamb s'.d.x) = 0 := by
      rw [hadd, hsmul, hl, add_zero, sub_self]
    exact congrArg not (C12.done_init_of_solved (𝕜 := 𝕜) _ _ _ 5 _ (Nat.cast_nonneg 0) h0)

end gs

section sdmm

theorem stop_block_eq (ep ed : Rat) (rs : Rat × Rat) (b : Bool) :
    (if decide (ep < rs.1) || decide (ed < rs.2) then false else b) =
      (b && (decide (rs.1 ≤ ep) && decide (rs.2 ≤ ed))) := by
  by_cases h1 : ep < rs.1 <;> by_cases h2 : ed < rs.2 <;> simp [h1, h2, not_lt.mp, not_le.mpr]

theorem foldl_stop_eq (ep ed : Rat) (l : List (Rat × Rat)) : ∀ b : Bool,
    l.foldl (fun stop rs => if decide (ep < rs.1) || decide (ed < rs.2) then false else stop) b =
      (b && l.all fun rs => decide (rs.1 ≤ ep) && decide (rs.2 ≤ ed)) := by
  induction l with
  | nil => intro b; rw [List.foldl_nil, List.all_nil, Bool.and_true]
  | cons a l ih =>
    intro b
    rw [List.foldl_cons, ih, stop_block_eq, List.all_cons, Bool.and_assoc]

/-- **SDMM, generated stopping block.**  After an update `self.stop` is true iff EVERY constraint block (each `L_i`, the
    norm constraint, the max constraint when present) has `‖r‖ <= eps_pri` and `‖s‖ <= eps_dual`, where `r = L_i x - z_i`
    is the primal and `s = (1/rho_i) L_iᵀ (z_i - z_i_old)` the dual residual the block computes.  (PARTIAL with respect to
    the property: this pins WHAT is compared; that the `s` the code computes is the genuine dual change is refuted on the
    real code — `z_old = self.z` is an alias, see the known finding `C15:SDMM:early-stop`.) -/
theorem sdmm_stop_iff_partial (ep ed : Rat) (rsL : List (Rat × Rat)) (rsNorm rsMax : Option (Rat × Rat)) :
    sdmmStop ep ed rsL rsNorm rsMax = true ↔
      (∀ rs ∈ rsL, rs.1 ≤ ep ∧ rs.2 ≤ ed) ∧ (∀ rs, rsNorm = some rs → rs.1 ≤ ep ∧ rs.2 ≤ ed) ∧
        (∀ rs, rsMax = some rs → rs.1 ≤ ep ∧ rs.2 ≤ ed) := by
  simp only [sdmmStop, foldl_stop_eq]
  simp only [stop_block_eq]
  cases rsNorm <;> cases rsMax <;>
    simp only [Bool.true_and, Bool.and_eq_true, List.all_eq_true, decide_eq_true_eq, Prod.forall, and_assoc,
      Option.some.injEq, forall_eq', reduceCtorEq, IsEmpty.forall_iff, implies_true, and_self, and_true, true_and]

end sdmm

section pdtol
open SigpyVerif.C13
variable {E F : Type} [NormedAddCommGroup E] [InnerProductSpace ℝ E] [NormedAddCommGroup F] [InnerProductSpace ℝ F]

/-- **PDHG, tolerance.**  The quantity compared with `tol` is
    `resid = (‖x_new - x_old‖²_{τ'⁻¹} + ‖x_ext_old - x_old‖²_{τ'⁻¹} + ‖u_new - u_old‖²_{σ⁻¹}) ** 0.5` (τ' the rescaled primal
    step, generated formulas `Gen.C15.*`).  `resid <= tol` (i.e. `resid² <= tol²`, `tol >= 0`) bounds each of the three
    step-weighted moves by `tol²`: the fixed-point residual of the update in the step-weighted norms is at most
    `√3·tol`; with `tol = 0` all three vanish (`early_stop_fixed_pdhg_general`). -/
theorem pdhg_tol_bound (A : E → F) (AH : F → E) (proxfc : StepOp F → F → F) (proxg : StepOp E → E → E)
    (γp γd θ0 tol : ℝ) (s : PDState ℝ E F (StepOp E) (StepOp F)) (hτ : s.tau.Pos) (hσ : s.sigma.Pos)
    (htm : 0 ≤ s.tau_min) (hsm : 0 ≤ s.sigma_min)
    (h : (pdhgUpdateG Real.sqrt wn wn A AH proxfc proxg γp γd θ0 s).2 ≤ tol ^ 2) :
    wn (pdhgUpdateG Real.sqrt wn wn A AH proxfc proxg γp γd θ0 s).1.tau
        (Gen.C13.pdXDiff (pdhgUpdateG Real.sqrt wn wn A AH proxfc proxg γp γd θ0 s).1.x s.x) ≤ tol ^ 2 ∧
    wn (pdhgUpdateG Real.sqrt wn wn A AH proxfc proxg γp γd θ0 s).1.tau (Gen.C15.pdXExtDiff s.x_ext s.x) ≤ tol ^ 2 ∧
    Gen.C15.pdResidDual2 wn (pdhgUpdateG Real.sqrt wn wn A AH proxfc proxg γp γd θ0 s).1.u s.u s.sigma ≤ tol ^ 2 :=
  pdhg_resid_terms_le A AH proxfc proxg γp γd θ0 (tol ^ 2) s hτ hσ htm hsm h

end pdtol

/-- the hypotheses of `early_stop_fixed_newton_gen` / `newton_tol_bound` are satisfiable (`E = ℝ`, `H⁻¹ = id`, `m = 1`) -/
example : (∀ x g : ℝ, inner ℝ ((fun _ g => g) x g) g ≤ 0 → g = 0) ∧ (∀ x g : ℝ, 1 * ‖g‖ ^ 2 ≤ inner ℝ ((fun _ g => g) x g) g) := by
  refine ⟨fun x g h => real_inner_self_nonpos.mp h, fun x g => ?_⟩
  rw [one_mul]
  exact (real_inner_self_eq_norm_sq g).ge

/-- a generated Newton update at a stationary point of `f(x) = x²/2` over `ℝ` succeeds with `residual = 0`: the
    hypotheses `hrun`, `h` of `early_stop_fixed_newton_gen` hold together -/
example : updNewtonsMethod (stdOps ℝ) Real.sqrt (fun x => x) (fun _ g => g) (fun x => x * x / 2) (1 / 2) 3 ⟨0, ⟨0, 0, 0⟩⟩ =
    Res.ok ⟨0, ⟨0, 0, 0⟩⟩ := by
  simp [updNewtonsMethod, stdOps, whileFuel]

/-- the loop theorems are not vacuous: `max_iter = 2`, early stop never — two updates -/
example : runLoop (fun s : AlgSt Nat => Gen.doneAltMin s.iter 2) (algUpdate (updAltMin (· + 1) (· + 1))) 5
    ⟨Gen.initIterAltMin, 0⟩ 0 = (⟨2, 4⟩, 2, true) := by
  simp [runLoop, Gen.doneAltMin, Gen.initIterAltMin, algUpdate, updAltMin]

/-- … and `max_iter = 0` (and negative): no update at all -/
example : runLoop (fun s : AlgSt Nat => Gen.doneAltMin s.iter (-3)) (algUpdate (updAltMin (· + 1) (· + 1))) 5
    ⟨Gen.initIterAltMin, 0⟩ 0 = (⟨0, 0⟩, 0, true) := by
  simp [runLoop, Gen.doneAltMin, Gen.initIterAltMin]

/-! ### the normal form of `_done` (harness/translate/norm_alg.py `done_expr`)

Before `Gen/AlgDone.lean` is written, the translator brings the body of every `_done` to one boolean expression:
`if c: return c / True  else: return e` becomes `c or e`, `if c: return e else: return c / False` becomes `c and e`,
a negated guard swaps the branches, `not` is pushed inwards (De Morgan; comparisons are flipped under `not` only
between INTEGER operands — for floats `not (r > t)` and `r <= t` differ on NaN and are kept apart), nested `or` / `and`
are flattened and their operands sorted, comparisons are oriented.  Each rewrite is meant to be an instance of one of the
identities below (that `done_expr` performs no other rewrite is not proved: its Python is not modelled), so that
two spellings with the same normal form denote the same boolean function of the attributes read (all terms in the
accepted subset are attribute reads, constants and comparisons: no effects, so short-circuiting is unobservable). -/
/-- the Boolean identities of which the rewrites above are instances -/
theorem done_nf_sound :
    (∀ c e : Bool, (if c then c else e) = (c || e) ∧ (if c then true else e) = (c || e)) ∧
    (∀ c e : Bool, (if c then e else c) = (c && e) ∧ (if c then e else false) = (c && e)) ∧
    (∀ c e : Bool, (if c then false else e) = (!c && e) ∧ (if c then e else true) = (!c || e)) ∧
    (∀ c : Bool, (if c then true else false) = c ∧ (if c then false else true) = !c) ∧
    (∀ c a b : Bool, (if !c then a else b) = (if c then b else a)) ∧
    (∀ a b : Bool, (!(a || b)) = (!a && !b) ∧ (!(a && b)) = (!a || !b) ∧ (!!a) = a) ∧
    (∀ a b c : Bool, (a || (b || c)) = (a || b || c) ∧ (a && (b && c)) = (a && b && c)) ∧
    (∀ a b : Bool, (a || b) = (b || a) ∧ (a && b) = (b && a) ∧ (a || a) = a ∧ (a && a) = a) ∧
    (∀ i m : Int, (!decide (i < m)) = decide (i ≥ m) ∧ (!decide (i ≤ m)) = decide (i > m) ∧
      (!decide (i ≥ m)) = decide (i < m) ∧ (!decide (i > m)) = decide (i ≤ m)) ∧
    (∀ i m : Int, decide (i ≥ m) = decide (m ≤ i) ∧ decide (i > m) = decide (m < i) ∧ decide (i = m) = decide (m = i)) ∧
    (∀ r t : Rat, decide (r ≥ t) = decide (t ≤ r) ∧ decide (r > t) = decide (t < r) ∧ decide (r = t) = decide (t = r)) := by
  refine ⟨by decide, by decide, by decide, by decide, by decide, by decide, by decide, by decide, ?_, ?_, ?_⟩
  · intro i m
    refine ⟨?_, ?_, ?_, ?_⟩ <;> (rw [Bool.eq_iff_iff]; simp)
  · intro i m
    refine ⟨rfl, rfl, ?_⟩
    rw [Bool.eq_iff_iff]; simp [eq_comm]
  · intro r t
    refine ⟨rfl, rfl, ?_⟩
    rw [Bool.eq_iff_iff]; simp [eq_comm]

/-- two other spellings of `ConjugateGradient._done` (if/elif/else returning the operand; negated guard with the
    branches swapped) are the same function as the generated or-chain -/
example (i M : Int) (fl : Bool) (r t : Rat) :
    (if decide (i ≥ M) then decide (i ≥ M) else if fl then fl else decide (r ≤ t)) = Gen.doneConjugateGradient i M fl r t ∧
    (if decide (i < M) then (fl || decide (r ≤ t)) else true) = Gen.doneConjugateGradient i M fl r t := by
  constructor <;> (simp only [Gen.doneConjugateGradient]; by_cases h : i < M <;> cases fl <;> simp [h] <;> omega)

end SigpyVerif.C15
