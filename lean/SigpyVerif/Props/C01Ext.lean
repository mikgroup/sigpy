import SigpyVerif.Props.C01Gen
import SigpyVerif.Props.C08
/-
  C01 — leaf classes imported from other properties.

  An `ext` leaf (Model/C01.lean) carries the entries `E` of an operator class and the entries `E'` of the
  class its `_adjoint_linop` returns; `LeafProved (.ext ..)` asks that `E` and `E'` be adjoint matrices,
  and then `adj_denote_leaves` / `normal_gram_leaves` cover every tree that contains the leaf.

  Here: ConvolveData, ConvolveDataAdjoint, ConvolveFilter, ConvolveFilterAdjoint in the 1-D
  single-channel case (both modes, any stride; 'valid' with the data at least as long as the filter).
  `E` / `E'` are the matrices (columns = images of the unit signals) of the functions of the C08 model
  `C08.conv1At`, `C08.dataAdj1At`, `C08.filtAdj1At` — the model C08 ties to conv.py on every run — and
  *which* class with *which* arguments is the adjoint comes from the generated pairing table
  `Gen.LinopAdjoint.adjOpaque`; the adjointness is C08's `conv1_entries`, `data_adj_entries`,
  `filt_adj_entries`.
-/
set_option linter.unusedSectionVars false
namespace SigpyVerif.C01
open SigpyVerif

section
variable {α : Type} [CommRing α] [StarRing α]

theorem matOf_congr (p m : Nat) (F : (Int → α) → Int → α) (ent : Nat → Nat → α)
    (h : ∀ k < p, ∀ i < m, F (delta (i : Int)) (k : Int) = ent k i) :
    matOf p m F = (List.range p).flatMap fun k => (List.range m).flatMap fun i => [((k, i, ent k i) : Ent α)] := by
  unfold matOf
  apply List.flatMap_congr; intro k hk
  apply List.flatMap_congr; intro i hi
  rw [h k (List.mem_range.mp hk) i (List.mem_range.mp hi)]

/-- two maps whose matrices (on unit signals) are conjugate transposes of each other give adjoint entry lists -/
theorem matOf_isAdj (p m : Nat) (F F' : (Int → α) → Int → α) (ent : Nat → Nat → α)
    (hF : ∀ k < p, ∀ i < m, F (delta (i : Int)) (k : Int) = ent k i)
    (hF' : ∀ i < m, ∀ k < p, F' (delta (k : Int)) (i : Int) = star (ent k i)) :
    IsAdj p m (inRangeE p m (matOf p m F)) (inRangeE m p (matOf m p F')) := by
  apply isAdj_clip_of_perm
  rw [matOf_congr p m F ent hF, matOf_congr m p F' (fun i k => star (ent k i)) hF']
  unfold adjE
  simp only [List.map_flatMap, List.map_cons, List.map_nil]
  exact flatMap_swap_perm _ _ _

theorem sum_delta_right (n : Nat) (g : Nat → α) (i : Nat) (hi : i < n) :
    ∑ j ∈ Finset.range n, g j * delta (i : Int) (j : Int) = g i := by
  unfold delta
  rw [Finset.sum_eq_single i]
  · simp
  · intro j _ hj
    have : ¬ ((j : Int) = (i : Int)) := fun h => hj (by exact_mod_cast h)
    simp [this]
  · intro h; exact absurd (Finset.mem_range.mpr hi) h

theorem conv1Params_spec {ds fs : List Int} {mode : String} {st : Option (List Int)} {mc : Bool}
    {full : Bool} {m n s : Int} (h : conv1Params ds fs mode st mc = some (full, m, n, s)) :
    1 ≤ m ∧ 1 ≤ n ∧ 0 < s ∧ (full = true ∨ n ≤ m) := by
  unfold conv1Params at h
  split_ifs at h with h1 h2
  simp only [Option.some.injEq, Prod.mk.injEq] at h
  obtain ⟨rfl, rfl, rfl, rfl⟩ := h
  exact h2

/-- the leaf of an opaque operator: its own entries, and the entries of the operator that the *generated*
    `_adjoint_linop` table returns for it -/
def convLeaf (c : Opaque α) : Option (Leaf α) :=
  match convSem star c, convSem star (Gen.LinopAdjoint.adjOpaque c) with
  | some s, some s' => some (.ext 8 s.osh s.ish s.E s'.E)
  | _, _ => none

theorem shapeProd_single (a : Int) : shapeProd [a] = a := by
  rw [shapeProd_cons, shapeProd_nil, mul_one]

theorem conv_data_entries (full : Bool) (m n s : Int) (f : Int → α) (hm : 1 ≤ m) (hn : 1 ≤ n) (hs : 0 < s)
    (h : full = true ∨ n ≤ m) :
    (∀ k < (C08.codeLen full m n s).toNat, ∀ i < m.toNat,
      C08.conv1At full m n s (delta (i : Int)) f (k : Int) = C08.entD full m n s f (k : Int) (i : Int)) ∧
    (∀ i < m.toNat, ∀ k < (C08.codeLen full m n s).toNat,
      C08.dataAdj1At star full m n s (delta (k : Int)) f (i : Int) = star (C08.entD full m n s f (k : Int) (i : Int))) := by
  constructor
  · intro k _ i hi
    rw [(C08.conv1_entries full m n s (delta (i : Int)) f (k : Int)).1]
    exact sum_delta_right m.toNat (fun i' => C08.entD full m n s f (k : Int) (i' : Int)) i hi
  · intro i _ k hk
    rw [C08.data_adj_entries full m n s _ (delta (k : Int)) f (i : Int) hm hn hs (C08.code_len_counts full m n s hs h)]
    exact sum_delta_right _ (fun k' => star (C08.entD full m n s f (k' : Int) (i : Int))) k hk

theorem conv_filt_entries (full : Bool) (m n s : Int) (d : Int → α) (hm : 1 ≤ m) (hn : 1 ≤ n) (hs : 0 < s)
    (h : full = true ∨ n ≤ m) :
    (∀ k < (C08.codeLen full m n s).toNat, ∀ j < n.toNat,
      C08.conv1At full m n s d (delta (j : Int)) (k : Int) = C08.entF full m n s d (k : Int) (j : Int)) ∧
    (∀ j < n.toNat, ∀ k < (C08.codeLen full m n s).toNat,
      C08.filtAdj1At star full m n s (delta (k : Int)) d (j : Int) = star (C08.entF full m n s d (k : Int) (j : Int))) := by
  constructor
  · intro k _ j hj
    rw [(C08.conv1_entries full m n s d (delta (j : Int)) (k : Int)).2]
    exact sum_delta_right n.toNat (fun j' => C08.entF full m n s d (k : Int) (j' : Int)) j hj
  · intro j _ k hk
    rw [C08.filt_adj_entries full m n s _ (delta (k : Int)) d (j : Int) hm hn hs (C08.code_len_counts full m n s hs h)]
    exact sum_delta_right _ (fun k' => star (C08.entF full m n s d (k' : Int) (j : Int))) k hk

/-- **ConvolveData / ConvolveDataAdjoint / ConvolveFilter / ConvolveFilterAdjoint (1-D, single channel):**
    the leaf built from the C08 model of the class and of the class its generated `_adjoint_linop` returns
    satisfies `LeafProved`, for every length, filter / data array, mode and stride in C08's domain.  Trees
    over these leaves and the 19 exact classes are therefore covered by `adj_denote_leaves`. -/
theorem conv_leaf_proved (c : Opaque α) (l : Leaf α) (h : convLeaf c = some l) : LeafProved l := by
  unfold convLeaf at h
  cases c with
  | convData ds filt mode st mc =>
    simp only [convSem, Gen.LinopAdjoint.adjOpaque] at h
    cases hp : conv1Params ds filt.shape mode st mc with
    | none => simp [hp] at h
    | some q =>
      obtain ⟨full, m, n, s⟩ := q
      obtain ⟨hm, hn, hs, hv⟩ := conv1Params_spec hp
      simp only [hp, Option.map_some, Option.some.injEq] at h
      subst h
      simp only [LeafProved, shapeProd_single]
      obtain ⟨h1, h2⟩ := conv_data_entries full m n s (sig filt.data) hm hn hs hv
      exact matOf_isAdj _ _ _ _ (fun k i => C08.entD full m n s (sig filt.data) (k : Int) (i : Int)) h1 h2
  | convDataAdj ds filt mode st mc =>
    simp only [convSem, Gen.LinopAdjoint.adjOpaque] at h
    cases hp : conv1Params ds filt.shape mode st mc with
    | none => simp [hp] at h
    | some q =>
      obtain ⟨full, m, n, s⟩ := q
      obtain ⟨hm, hn, hs, hv⟩ := conv1Params_spec hp
      simp only [hp, Option.map_some, Option.some.injEq] at h
      subst h
      simp only [LeafProved, shapeProd_single]
      obtain ⟨h1, h2⟩ := conv_data_entries full m n s (sig filt.data) hm hn hs hv
      exact (matOf_isAdj _ _ _ _ (fun k i => C08.entD full m n s (sig filt.data) (k : Int) (i : Int)) h1 h2).symm
  | convFilt fs data mode st mc =>
    simp only [convSem, Gen.LinopAdjoint.adjOpaque] at h
    cases hp : conv1Params data.shape fs mode st mc with
    | none => simp [hp] at h
    | some q =>
      obtain ⟨full, m, n, s⟩ := q
      obtain ⟨hm, hn, hs, hv⟩ := conv1Params_spec hp
      simp only [hp, Option.map_some, Option.some.injEq] at h
      subst h
      simp only [LeafProved, shapeProd_single]
      obtain ⟨h1, h2⟩ := conv_filt_entries full m n s (sig data.data) hm hn hs hv
      exact matOf_isAdj _ _ _ _ (fun k j => C08.entF full m n s (sig data.data) (k : Int) (j : Int)) h1 h2
  | convFiltAdj fs data mode st mc =>
    simp only [convSem, Gen.LinopAdjoint.adjOpaque] at h
    cases hp : conv1Params data.shape fs mode st mc with
    | none => simp [hp] at h
    | some q =>
      obtain ⟨full, m, n, s⟩ := q
      obtain ⟨hm, hn, hs, hv⟩ := conv1Params_spec hp
      simp only [hp, Option.map_some, Option.some.injEq] at h
      subst h
      simp only [LeafProved, shapeProd_single]
      obtain ⟨h1, h2⟩ := conv_filt_entries full m n s (sig data.data) hm hn hs hv
      exact (matOf_isAdj _ _ _ _ (fun k j => C08.entF full m n s (sig data.data) (k : Int) (j : Int)) h1 h2).symm
  | _ => cases h

/-- **the pairing of the remaining opaque classes, as translated from their `_adjoint_linop`:**
    FFT ↔ IFFT with the same shape, axes and `center` (what C05's `ifft_table_eq_conjTranspose` /
    `sigpy_fft_unitary` need: the adjoint of the centred orthonormal DFT is the inverse on the same axes),
    Wavelet ↔ InverseWavelet with the same axes, wavelet name and level (C10's `iwt1_is_adjoint`),
    NUFFT ↔ NUFFTAdjoint with the same coordinates, oversampling and width (C06/C07).  Kernel-checked
    against the generated table on every run. -/
theorem adjOpaque_table :
    (∀ s a c, Gen.LinopAdjoint.adjOpaque (.fft s a c : Opaque α) = .ifft s a c) ∧
    (∀ s a c, Gen.LinopAdjoint.adjOpaque (.ifft s a c : Opaque α) = .fft s a c) ∧
    (∀ s a w l, Gen.LinopAdjoint.adjOpaque (.wavelet s a w l : Opaque α) = .iwavelet s a w l) ∧
    (∀ s a w l, Gen.LinopAdjoint.adjOpaque (.iwavelet s a w l : Opaque α) = .wavelet s a w l) ∧
    (∀ s c o w t, Gen.LinopAdjoint.adjOpaque (.nufft s c o w t : Opaque α) = .nufftAdj s c o w) ∧
    (∀ s c o w, Gen.LinopAdjoint.adjOpaque (.nufftAdj s c o w : Opaque α) = .nufft s c o w false) ∧
    (∀ d f m s c, Gen.LinopAdjoint.adjOpaque (.convData d f m s c : Opaque α) = .convDataAdj d f m s c) ∧
    (∀ d f m s c, Gen.LinopAdjoint.adjOpaque (.convDataAdj d f m s c : Opaque α) = .convData d f m s c) ∧
    (∀ d f m s c, Gen.LinopAdjoint.adjOpaque (.convFilt d f m s c : Opaque α) = .convFiltAdj d f m s c) ∧
    (∀ d f m s c, Gen.LinopAdjoint.adjOpaque (.convFiltAdj d f m s c : Opaque α) = .convFilt d f m s c) :=
  ⟨fun _ _ _ => rfl, fun _ _ _ => rfl, fun _ _ _ _ => rfl, fun _ _ _ _ => rfl, fun _ _ _ _ _ => rfl,
   fun _ _ _ _ => rfl, fun _ _ _ _ _ => rfl, fun _ _ _ _ _ => rfl, fun _ _ _ _ _ => rfl, fun _ _ _ _ _ => rfl⟩

variable (ofRat : Rat → α)

/-- `ConvolveData.H = ConvolveDataAdjoint(...)` etc. are true adjoints -/
theorem conv_leaf_adjoint (hreal : ∀ r, star (ofRat r) = ofRat r) (c : Opaque α) (l : Leaf α)
    (h : convLeaf c = some l) : AdjOK ofRat (.leaf l) :=
  leafProved_adjOK ofRat hreal l (conv_leaf_proved c l h)

/-- instance of `adj_denote_leaves`: a tree that places a convolution leaf among subtrees `e₁`, `e₂` whose
    leaves satisfy `LeafProved` -/
theorem conv_tree_adjoint (hreal : ∀ r, star (ofRat r) = ofRat r) (c : Opaque α) (l : Leaf α)
    (h : convLeaf c = some l) (e₁ e₂ : Expr α) (h₁ : allLeaves LeafProved e₁) (h₂ : allLeaves LeafProved e₂) :
    AdjOK ofRat (.comp e₁ (.add (.comp (.leaf l) e₂) (.comp (.leaf l) e₂))) :=
  adj_denote_leaves ofRat hreal _ ⟨h₁, ⟨conv_leaf_proved c l h, h₂⟩, ⟨conv_leaf_proved c l h, h₂⟩⟩

/-- non-vacuity: a concrete 'full' convolution of a length-4 signal with a length-2 filter, stride 2, is a
    `3 × 4` leaf whose adjoint side is the `4 × 3` matrix of `ConvolveDataAdjoint` -/
example : ((convLeaf (α := ℤ) (.convData [4] ⟨[2], [1, 2]⟩ "full" (some [2]) false)).map fun l =>
    match l with
    | .ext _ o i E E' => (o, i, E.length, E'.length)
    | _ => ([], [], 0, 0)) = some ([3], [4], 12, 12) := by decide +kernel

end
end SigpyVerif.C01
