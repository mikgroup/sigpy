import SigpyVerif.Props.C10
import SigpyVerif.Lemmas.C10Ml
/-
  C10, multi-level N-d: `sigpy.fwt / iwt` for ANY number of levels, ANY rank, ANY duplicate-free list of
  (normalised) axes, ANY shape (odd sizes: zero padding to even, centre crop back).

  Model (Model/C10Nd.lean, executed by the driver against `sp.fwt`/`sp.iwt`/`linop.Wavelet(.H)` on every run):
  `fwtn = fwtnRec J ∘ pad`, where one level is the 1-D analysis pair along every transformed axis laid out as
  `coeffs_to_array` does (`levelMap`: `[a | zero filling | d]`), and the next level acts on the approximation
  sub-box only and overwrites the sub-box of its packed shape.  `iwtn = crop ∘ iwtnRec J`.
  Negative axes: sigpy hands `axes` to PyWavelets unchanged and PyWavelets indexes `shape[ax]` / slices with them,
  i.e. `a` and `a + ndim` are the same axis; the driver requests carry `a % ndim` and the correspondence compares
  with the real call on the unnormalised tuple.
-/
namespace SigpyVerif.C10
open SigpyVerif Finset

variable {R : Type*} [CommRing R]

theorem levelMap_sum (h g : ℤ → R) {L : ℕ} (hL : 2 ≤ L) (J N : ℕ) (x : ℕ → R) (φ : ℕ → R → R)
    (hφ : ∀ k, φ k 0 = 0) :
    ∑ k ∈ range ((levelMap h g L J).len N), φ k ((levelMap h g L J).fwd N x k)
      = ∑ k ∈ range (dwtLen N L), φ k (ana h N x k)
        + ∑ k ∈ range (dwtLen N L), φ (packedLen (dwtLen N L) L J + k) (ana g N x k) := by
  have hnp := le_packedLen hL J (dwtLen N L)
  simp only [levelMap]
  rw [sum_packed_axis _ _ hnp _ (fun k h1 h2 => by rw [if_neg (by omega), if_pos h2, hφ])]
  congr 1
  · exact sum_congr rfl fun k hk => by rw [if_pos (mem_range.mp hk)]
  · exact sum_congr rfl fun k _ => by rw [if_neg (by omega), if_neg (by omega), Nat.add_sub_cancel_left]

theorem levelMap_isIso {L : ℕ} {h g : ℤ → R} (hh : SupportedOn L h) (hg : SupportedOn L g)
    (hc : Complete h g) (hL : 2 ≤ L) (J : ℕ) : (levelMap h g L J).IsIso := by
  intro N x
  rw [levelMap_sum h g hL J N x (fun _ v => v ^ 2) fun _ => zero_pow two_ne_zero]
  simpa only [sumN_eq_sum] using qmf_isometry_1level hh hg hc (dwtLen_window N L) x

theorem levelMap_isAdj (h g : ℤ → R) {L : ℕ} (hL : 2 ≤ L) (J : ℕ) : (levelMap h g L J).IsAdj := by
  intro N x c
  rw [levelMap_sum h g hL J N x (fun k v => v * c k) fun _ => zero_mul _]
  simpa only [sumN_eq_sum, levelMap] using
    synthesis_is_adjoint h g N (dwtLen N L) x c (fun k => c (packedLen (dwtLen N L) L J + k))

theorem levelMap_isInv {L : ℕ} {h g : ℤ → R} (hh : SupportedOn L h) (hg : SupportedOn L g)
    (hc : Complete h g) (hL : 2 ≤ L) (J : ℕ) : (levelMap h g L J).IsInv := by
  constructor
  · intro N x n hn
    have hnp := le_packedLen hL J (dwtLen N L)
    simp only [levelMap]
    rw [← qmf_perfect_reconstruction hh hg hc (M := dwtLen N L) (N := N) (dwtLen_window N L) x hn]
    apply syn_congr
    · intro k hk; rw [if_pos hk]
    · intro k _; rw [if_neg (by omega), if_neg (by omega), Nat.add_sub_cancel_left]
  · intro N c c' hcc n _
    simp only [levelMap] at hcc ⊢
    apply syn_congr
    · intro k hk; exact hcc k (by omega)
    · intro k hk; exact hcc _ (by omega)

theorem levelMap_fwd_zero (h g : ℤ → R) (L J N k : ℕ) : (levelMap h g L J).fwd N (fun _ => 0) k = 0 := by
  simp only [levelMap]
  split_ifs
  · exact ana_zero h N k
  · rfl
  · exact ana_zero g N _

/-- with no level to follow the layout is the tight `[a | d]` of `level1Map` -/
theorem levelMap_zero (h g : ℤ → R) (L : ℕ) : levelMap h g L 0 = level1Map h g L := by
  simp only [levelMap, level1Map, packedLen_zero]
  congr 1
  · funext N x k; split_ifs <;> rfl
  · funext N; omega

theorem lvSteps_cons (h g : ℤ → R) (L J c : ℕ) (as : List ℕ) :
    lvSteps h g L J (c :: as) = (c, levelMap h g L J) :: lvSteps h g L J as := rfl

theorem lvSteps_ok (h g : ℤ → R) (L J : ℕ) (axes shape : List ℕ) (hax : ∀ a ∈ axes, a < shape.length)
    (P : AxisMap R → Prop) (hP : P (levelMap h g L J)) :
    ∀ s ∈ lvSteps h g L J axes, s.1 < shape.length ∧ P s.2 :=
  map_steps_ok _ axes _ hax P hP

theorem shapeAxes_lvSteps (h g : ℤ → R) (L J : ℕ) (axes shape : List ℕ) (hnd : axes.Nodup)
    (hax : ∀ a ∈ axes, a < shape.length) :
    shapeAxes (lvSteps h g L J axes) shape = packShape L (J + 1) axes shape := by
  unfold lvSteps packShape
  rw [shapeAxes_map _ _ _ hnd hax]
  apply mapAxes_congr
  intro n
  simp only [levelMap]
  rw [packedLen_succ]

/-- the output of one level vanishes where a transformed index lies in the zero filling -/
theorem lvSteps_vanish (h g : ℤ → R) (L J : ℕ) : ∀ (axes shape : List ℕ) (X : List ℕ → R), axes.Nodup →
    ∀ a ∈ axes, ∀ idx : List ℕ, dwtLen (shape.getD a 0) L ≤ idx.getD a 0 →
      idx.getD a 0 < packedLen (dwtLen (shape.getD a 0) L) L J →
      applyAxes (lvSteps h g L J axes) shape X idx = 0 := by
  intro axes
  induction axes with
  | nil => intro shape X _ a ha; simp at ha
  | cons c as ih =>
    intro shape X hnd a ha idx h1 h2
    have hnd' := List.nodup_cons.mp hnd
    rw [lvSteps_cons]
    simp only [applyAxes]
    by_cases hac : a = c
    · subst hac
      apply applyAxes_vanish_other a
        (fun k => dwtLen (shape.getD a 0) L ≤ k ∧ k < packedLen (dwtLen (shape.getD a 0) L) L J) _ _ _ ?_ ?_ idx ⟨h1, h2⟩
      · intro s hs
        simp only [lvSteps, List.mem_map] at hs
        obtain ⟨b, hb, rfl⟩ := hs
        exact ⟨fun hba => hnd'.1 (hba ▸ hb), fun N k => levelMap_fwd_zero h g L J N k⟩
      · rintro idx' ⟨g1, g2⟩
        unfold alongAxis
        simp only [levelMap]
        rw [if_neg (by omega), if_pos g2]
    · have ha' : a ∈ as := by simpa [hac] using ha
      have := ih (shape.set c ((levelMap h g L J).len (shape.getD c 0)))
        (alongAxis c ((levelMap h g L J).fwd (shape.getD c 0)) X) hnd'.2 a ha' idx
      rw [getD_set_ne _ _ _ (Ne.symm hac)] at this
      exact this h1 h2

/-- … in box form: inside the packed approximation sub-box but outside the approximation sub-box -/
theorem lvSteps_zero_filling (h g : ℤ → R) (L J : ℕ) (axes shape : List ℕ) (X : List ℕ → R) (hnd : axes.Nodup)
    (idx : List ℕ) (hidx : InBox (mapAxes (fun n => packedLen (dwtLen n L) L J) axes shape) idx)
    (hout : ¬ InBox (mapAxes (dwtLen · L) axes shape) idx) :
    applyAxes (lvSteps h g L J axes) shape X idx = 0 := by
  rw [inBox_iff] at hidx hout
  simp only [length_mapAxes] at hidx hout
  push Not at hout
  obtain ⟨a, ha, hge⟩ := hout hidx.1
  have hlt := hidx.2 a ha
  rw [getD_mapAxes _ _ _ _ ha] at hge hlt
  by_cases hm : a ∈ axes
  · rw [if_pos hm] at hge hlt
    exact lvSteps_vanish h g L J axes shape X hnd a hm idx hge hlt
  · rw [if_neg hm] at hge hlt
    omega

section levels
variable {L : ℕ} {h g : ℤ → R} (axes : List ℕ)

theorem subBox_apx_packed (hL : 2 ≤ L) (J : ℕ) (shape : List ℕ) :
    SubBox (mapAxes (dwtLen · L) axes shape) (mapAxes (packedLen · L J) axes (mapAxes (dwtLen · L) axes shape)) := by
  rw [mapAxes_mapAxes]
  exact subBox_mapAxes _ _ _ _ (fun n => le_packedLen hL J _)

theorem subBox_packed_out (J : ℕ) (shape : List ℕ) :
    SubBox (mapAxes (packedLen · L J) axes (mapAxes (dwtLen · L) axes shape)) (packShape L (J + 1) axes shape) := by
  rw [mapAxes_mapAxes]
  unfold packShape
  exact subBox_mapAxes _ _ _ _ (fun n => by rw [packedLen_succ]; omega)

/-- **C10 isometry, all levels, N-d** (on an already padded array): the packed coefficient array of
    `coeffs_to_array(wavedecn(X, level=J, axes))`, zero filling included, has the norm of `X`. -/
theorem fwtnRec_isometry (hh : SupportedOn L h) (hg : SupportedOn L g) (hc : Complete h g) (hL : 2 ≤ L)
    (hnd : axes.Nodup) : ∀ (J : ℕ) (shape : List ℕ) (X : List ℕ → R), (∀ a ∈ axes, a < shape.length) →
    boxSum (packShape L J axes shape) (fun idx => fwtnRec h g L axes J shape X idx ^ 2)
      = boxSum shape (fun idx => X idx ^ 2) := by
  intro J
  induction J with
  | zero =>
    intro shape X _
    simp only [fwtnRec, packShape]
    rw [mapAxes_id _ _ _ (fun n => packedLen_zero n L)]
  | succ J ih =>
    intro shape X hax
    have hax1 : ∀ a ∈ axes, a < (mapAxes (dwtLen · L) axes shape).length := by
      intro a ha; rw [length_mapAxes]; exact hax a ha
    have sub1 := subBox_apx_packed axes hL J shape
    have sub2 := subBox_packed_out (L := L) axes J shape
    simp only [fwtnRec, ite_pow]
    have ih' := ih (mapAxes (dwtLen · L) axes shape) (applyAxes (lvSteps h g L J axes) shape X) hax1
    unfold packShape at ih'
    rw [boxSum_ite _ _ sub2, ih']
    have e2 : boxSum (mapAxes (packedLen · L J) axes (mapAxes (dwtLen · L) axes shape))
          (fun idx => applyAxes (lvSteps h g L J axes) shape X idx ^ 2)
        = boxSum (mapAxes (dwtLen · L) axes shape) (fun idx => applyAxes (lvSteps h g L J axes) shape X idx ^ 2) := by
      rw [← boxSum_indicator _ _ _ sub1]
      apply boxSum_congr; intro idx hidx
      split_ifs with hin
      · rfl
      · rw [mapAxes_mapAxes] at hidx
        rw [lvSteps_zero_filling h g L J axes shape X hnd idx hidx (by rwa [← inBoxB_iff])]
        ring
    rw [e2, sub_self, zero_add, ← shapeAxes_lvSteps h g L J axes shape hnd hax,
      applyAxes_isometry _ shape X (lvSteps_ok h g L J axes shape hax AxisMap.IsIso (levelMap_isIso hh hg hc hL J))]

/-- **C10 adjoint, all levels, N-d**: `⟨pack (wavedecn X), C⟩ = ⟨X, waverecn (unpack C)⟩` for ANY filters and
    ARBITRARY arrays `C` on the packed box (whatever they hold in the zero filling). -/
theorem fwtnRec_adjoint (h g : ℤ → R) (hL : 2 ≤ L) (hnd : axes.Nodup) :
    ∀ (J : ℕ) (shape : List ℕ) (X C : List ℕ → R), (∀ a ∈ axes, a < shape.length) →
    boxSum (packShape L J axes shape) (fun idx => fwtnRec h g L axes J shape X idx * C idx)
      = boxSum shape (fun idx => X idx * iwtnRec h g L axes J shape C idx) := by
  intro J
  induction J with
  | zero =>
    intro shape X C _
    simp only [fwtnRec, iwtnRec, packShape]
    rw [mapAxes_id _ _ _ (fun n => packedLen_zero n L)]
  | succ J ih =>
    intro shape X C hax
    have hax1 : ∀ a ∈ axes, a < (mapAxes (dwtLen · L) axes shape).length := by
      intro a ha; rw [length_mapAxes]; exact hax a ha
    have sub1 := subBox_apx_packed axes hL J shape
    have sub2 := subBox_packed_out (L := L) axes J shape
    simp only [fwtnRec, iwtnRec, ite_mul]
    have ih' := ih (mapAxes (dwtLen · L) axes shape) (applyAxes (lvSteps h g L J axes) shape X) C hax1
    unfold packShape at ih'
    rw [boxSum_ite _ _ sub2, ih', ← applyAxes_adjoint _ shape X _ (lvSteps_ok h g L J axes shape hax AxisMap.IsAdj (levelMap_isAdj h g hL J)),
      shapeAxes_lvSteps h g L J axes shape hnd hax]
    -- the adjoint of "overwrite the packed sub-box": read the approximation sub-box, drop the zero filling
    simp only [mul_ite, mul_zero]
    rw [boxSum_ite _ _ (sub1.trans sub2), boxSum_ite _ _ sub2, boxSum_zero,
      boxSum_congr _ _ (fun _ => 0) fun idx hidx => if_pos ((inBoxB_iff _ _).mpr (sub1.inBox hidx)), boxSum_zero]
    ring

/-- **C10 perfect reconstruction, all levels, N-d**: `waverecn(array_to_coeffs(C))` returns `X` at every multi-index
    of the box for every array `C` that agrees with `coeffs_to_array(wavedecn(X))` on the packed box (the inverse
    reads nothing else; the trimming of over-long approximations is the restriction to the box). -/
theorem fwtnRec_pr (hh : SupportedOn L h) (hg : SupportedOn L g) (hc : Complete h g) (hL : 2 ≤ L)
    (hnd : axes.Nodup) : ∀ (J : ℕ) (shape : List ℕ) (X C : List ℕ → R), (∀ a ∈ axes, a < shape.length) →
    (∀ idx, InBox (packShape L J axes shape) idx → C idx = fwtnRec h g L axes J shape X idx) →
    ∀ idx, InBox shape idx → iwtnRec h g L axes J shape C idx = X idx := by
  intro J
  induction J with
  | zero =>
    intro shape X C _ hC idx hidx
    simp only [fwtnRec, packShape] at hC
    rw [mapAxes_id _ _ _ (fun n => packedLen_zero n L)] at hC
    simp only [iwtnRec]
    exact hC idx hidx
  | succ J ih =>
    intro shape X C hax hC idx hidx
    have hax1 : ∀ a ∈ axes, a < (mapAxes (dwtLen · L) axes shape).length := by
      intro a ha; rw [length_mapAxes]; exact hax a ha
    have sub1 := subBox_apx_packed axes hL J shape
    have sub2 := subBox_packed_out (L := L) axes J shape
    simp only [fwtnRec] at hC
    simp only [iwtnRec]
    apply applyAxes_left_inverse_on _ shape X _ idx
      (lvSteps_ok h g L J axes shape hax AxisMap.IsInv (levelMap_isInv hh hg hc hL J)) ?_ hidx
    intro i2 hi2
    rw [shapeAxes_lvSteps h g L J axes shape hnd hax] at hi2
    by_cases h1 : inBoxB (mapAxes (dwtLen · L) axes shape) i2 = true
    · rw [if_pos h1]
      apply ih (mapAxes (dwtLen · L) axes shape) (applyAxes (lvSteps h g L J axes) shape X) C hax1 ?_ i2
        ((inBoxB_iff _ _).mp h1)
      intro i3 hi3
      unfold packShape at hi3
      rw [hC i3 (sub2.inBox hi3), if_pos ((inBoxB_iff _ _).mpr hi3)]
    · rw [if_neg h1]
      by_cases h2 : inBoxB (mapAxes (packedLen · L J) axes (mapAxes (dwtLen · L) axes shape)) i2 = true
      · rw [if_pos h2]
        have hi2' := (inBoxB_iff _ _).mp h2
        rw [mapAxes_mapAxes] at hi2'
        exact (lvSteps_zero_filling h g L J axes shape X hnd i2 hi2' (by rwa [← inBoxB_iff])).symm
      · rw [if_neg h2, hC i2 hi2, if_neg h2]

end levels

theorem padSteps_ok (shape : List ℕ) (P : AxisMap R → Prop) (hP : P padMap) :
    ∀ s ∈ (padSteps shape.length : List (ℕ × AxisMap R)), s.1 < shape.length ∧ P s.2 :=
  map_steps_ok _ _ _ (fun _ ha => List.mem_range.mp ha) P hP

theorem shapeAxes_padSteps (shape : List ℕ) :
    shapeAxes (padSteps shape.length : List (ℕ × AxisMap R)) shape = zShape shape := by
  unfold padSteps
  rw [shapeAxes_map _ _ _ List.nodup_range (fun a ha => List.mem_range.mp ha)]
  apply ext_getD 0 (by simp [length_mapAxes, zShape])
  intro b hb
  rw [length_mapAxes] at hb
  rw [getD_mapAxes _ _ _ _ hb, if_pos (List.mem_range.mpr hb)]
  simp only [padMap, zShape]
  rw [List.getD_eq_getElem?_getD, List.getD_eq_getElem?_getD, List.getElem?_map, List.getElem?_eq_getElem hb]
  rfl

theorem length_zShape (shape : List ℕ) : (zShape shape).length = shape.length := by simp [zShape]

/-- the padded shape is the generated `zshape` formula of `sigpy/wavelet.py` applied to every axis length -/
theorem zShape_eq_gen (shape : List ℕ) :
    zShape shape = shape.map fun (i : ℕ) => (Gen.waveZshapeShape (i : Int)).toNat := by
  unfold zShape
  apply List.map_congr_left
  intro n _
  rw [zshapeShape_natCast, Int.toNat_natCast]

/-- `padMap` (the padding step of the N-d model) has the generated padded length and reads where the C09 resize
    model with the generated default shifts reads (`padSrc`) -/
theorem padMap_eq_gen (N k : ℕ) (x : ℕ → R) (hk : k < zlen N) :
    (padMap : AxisMap R).len N = zlen N ∧
    (padMap : AxisMap R).fwd N x k = (match padSrc (N : Int) (k : Int) with | some j => x j.toNat | none => 0) := by
  refine ⟨(zlen_eq N).symm, ?_⟩
  rw [zlen_eq] at hk
  rw [padSrc_eq]
  simp only [padMap]
  rcases Nat.mod_two_eq_zero_or_one N with h0 | h1
  · rw [if_pos h0, show (N : Int) % 2 = 0 by exact_mod_cast h0, if_pos (by omega)]
    exact congrArg x (by omega)
  · rw [if_neg (by omega), show (N : Int) % 2 = 1 by exact_mod_cast h1]
    cases k with
    | zero => rw [if_pos rfl, if_neg (by omega)]
    | succ k =>
      rw [if_neg (Nat.succ_ne_zero k), if_pos (by omega)]
      exact congrArg x (by omega)

section pipeline
variable {L : ℕ} {h g : ℤ → R} (axes : List ℕ)

/-- **C10 isometry — sigpy.fwt, every level count (incl. `level=None`), every rank, every duplicate-free axes
    list, every shape (odd sizes included).**  The sum of squares of `fwt(X)` over the advertised coefficient
    box equals the sum of squares of `X`. -/
theorem fwtn_isometry (hh : SupportedOn L h) (hg : SupportedOn L g) (hc : Complete h g) (hL : 2 ≤ L)
    (hnd : axes.Nodup) (level : Option ℕ) (shape : List ℕ) (hax : ∀ a ∈ axes, a < shape.length)
    (X : List ℕ → R) :
    boxSum (fwtnOutShape L axes level shape) (fun idx => fwtn h g L axes level shape X idx ^ 2)
      = boxSum shape (fun idx => X idx ^ 2) := by
  unfold fwtn fwtnOutShape
  rw [fwtnRec_isometry axes hh hg hc hL hnd _ _ _ (by rw [length_zShape]; exact hax),
    ← shapeAxes_padSteps (R := R) shape]
  exact applyAxes_isometry _ shape X (padSteps_ok shape AxisMap.IsIso padMap_isIso)

/-- **C10 adjoint — `iwt = fwtᴴ`, every level count, rank, axes list and shape; ANY filters, ARBITRARY
    coefficient arrays.** -/
theorem fwtn_adjoint (h g : ℤ → R) (hL : 2 ≤ L) (hnd : axes.Nodup) (level : Option ℕ) (shape : List ℕ)
    (hax : ∀ a ∈ axes, a < shape.length) (X C : List ℕ → R) :
    boxSum (fwtnOutShape L axes level shape) (fun idx => fwtn h g L axes level shape X idx * C idx)
      = boxSum shape (fun idx => X idx * iwtn h g L axes level shape C idx) := by
  unfold fwtn iwtn fwtnOutShape
  rw [fwtnRec_adjoint axes h g hL hnd _ _ _ _ (by rw [length_zShape]; exact hax),
    ← shapeAxes_padSteps (R := R) shape]
  exact applyAxes_adjoint _ shape X _ (padSteps_ok shape AxisMap.IsAdj padMap_isAdj)

/-- **C10 perfect reconstruction — `iwt(fwt(X)) = X`, every level count, rank, axes list and shape**, at every
    multi-index of the input box. -/
theorem fwtn_pr (hh : SupportedOn L h) (hg : SupportedOn L g) (hc : Complete h g) (hL : 2 ≤ L)
    (hnd : axes.Nodup) (level : Option ℕ) (shape : List ℕ) (hax : ∀ a ∈ axes, a < shape.length)
    (X : List ℕ → R) (idx : List ℕ) (hidx : InBox shape idx) :
    iwtn h g L axes level shape (fwtn h g L axes level shape X) idx = X idx := by
  unfold fwtn iwtn
  apply applyAxes_left_inverse_on _ shape X _ idx (padSteps_ok shape AxisMap.IsInv padMap_isInv) ?_ hidx
  intro i2 hi2
  rw [shapeAxes_padSteps] at hi2
  exact fwtnRec_pr axes hh hg hc hL hnd _ _ _ _ (by rw [length_zShape]; exact hax) (fun _ _ => rfl) i2 hi2

end pipeline

section exec
variable {α : Type*} [Add α] [Mul α] [Zero α]

theorem fwtnRecM_app (h g : ℤ → α) (L : ℕ) (axes : List ℕ) : ∀ (J : ℕ) (shape : List ℕ) (X : Fn α),
    (fwtnRecM h g L axes J shape X).app = fwtnRec h g L axes J shape X.app := by
  intro J
  induction J with
  | zero => intro shape X; rfl
  | succ J ih => intro shape X; simp only [fwtnRecM, fwtnRec, selM, ih, tabM_app]

theorem iwtnRecM_app (h g : ℤ → α) (L : ℕ) (axes : List ℕ) : ∀ (J : ℕ) (shape : List ℕ) (C : Fn α),
    (iwtnRecM h g L axes J shape C).app = iwtnRec h g L axes J shape C.app := by
  intro J
  induction J with
  | zero => intro shape C; rfl
  | succ J ih => intro shape C; simp only [iwtnRecM, iwtnRec, selAdjM, ih, tabM_app]

/-- the function the driver executes against `sp.fwt` is `fwtn`, the function of `fwtn_isometry/_adjoint/_pr` -/
theorem fwtnM_app (h g : ℤ → α) (L : ℕ) (axes : List ℕ) (level : Option ℕ) (shape : List ℕ) (X : List ℕ → α) :
    (fwtnM h g L axes level shape X).app = fwtn h g L axes level shape X := by
  simp only [fwtnM, fwtn, fwtnRecM_app, tabM_app]

/-- the function the driver executes against `sp.iwt` is `iwtn` -/
theorem iwtnM_app (h g : ℤ → α) (L : ℕ) (axes : List ℕ) (level : Option ℕ) (shape : List ℕ) (C : List ℕ → α) :
    (iwtnM h g L axes level shape C).app = iwtn h g L axes level shape C := by
  simp only [iwtnM, iwtn, iwtnRecM_app, tabM_app]

end exec

/-- **C10 advertised shape.**  The box on which `fwtn_isometry/_adjoint/_pr` are stated is `waveShape`, the model
    of `get_wavelet_shape(...)[0]` = `Wavelet.oshape` = `InverseWavelet.ishape` (compared with the real code by the
    `shapes` stream), for every shape, level (`none` included) and axes list. -/
theorem fwtnOutShape_eq_waveShape (L : ℕ) (axes : List ℕ) (level : Option ℕ) (shape : List ℕ) :
    fwtnOutShape L axes level shape = waveShape shape axes L level := by
  unfold fwtnOutShape waveShape packShape
  simp only []
  rw [← zShape_eq_gen]
  apply ext_getD 0 (by simp [length_mapAxes])
  intro b hb
  rw [length_mapAxes] at hb
  rw [getD_mapAxes _ _ _ _ hb]
  rw [List.getD_eq_getElem?_getD (l := List.map _ _), List.getElem?_map, List.getElem?_range hb]
  simp only [Option.map_some, Option.getD_some, List.contains_iff_mem]
  rfl

/-- `level=None`: `maxLevel n L` is the largest `J ≤ 64` with `(L-1)·2^J ≤ n` — PyWavelets'
    `dwt_max_level = ⌊log2(n/(L-1))⌋` (contract: the formula is PyWavelets' C code; compared on every run through
    the `shapes` stream with `level=None`). -/
theorem maxLevel_spec (n L : ℕ) (hn : n < (L - 1) * 2 ^ 65) :
    (maxLevel n L = 0 ∨ (L - 1) * 2 ^ maxLevel n L ≤ n) ∧ n < (L - 1) * 2 ^ (maxLevel n L + 1) := by
  have gen : ∀ K : ℕ,
      let r := (List.range K).foldl (fun J j => if (L - 1) * 2 ^ (j + 1) ≤ n then j + 1 else J) 0
      r ≤ K ∧ (r = 0 ∨ (L - 1) * 2 ^ r ≤ n) ∧ ∀ j, r < j → j ≤ K → n < (L - 1) * 2 ^ j := by
    intro K
    induction K with
    | zero => simp; intro j hj hj0; omega
    | succ K ih =>
      simp only [List.range_succ, List.foldl_append, List.foldl_cons, List.foldl_nil]
      obtain ⟨h1, h2, h3⟩ := ih
      split_ifs with hc
      · exact ⟨le_refl _, Or.inr hc, fun j hj hjK => by omega⟩
      · refine ⟨by omega, h2, fun j hj hjK => ?_⟩
        by_cases hjK' : j ≤ K
        · exact h3 j hj hjK'
        · have : j = K + 1 := by omega
          subst this; omega
  obtain ⟨h1, h2, h3⟩ := gen 64
  refine ⟨h2, ?_⟩
  by_cases h64 : maxLevel n L + 1 ≤ 64
  · exact h3 _ (by unfold maxLevel; omega) h64
  · have : maxLevel n L = 64 := by unfold maxLevel at h64 ⊢; omega
    rw [this]; exact hn

/-- Haar over ℝ, two levels over both axes of a 5 × 6 array (odd size: padded to 6 × 6): an instance of
    `fwtn_isometry`; and concrete packed shapes incl. one with zero filling (db2-length filter, 8 → 5 → 4: `2·4 > 5`). -/
example (X : List ℕ → ℝ) :
    boxSum (fwtnOutShape 2 [0, 1] (some 2) [5, 6])
        (fun idx => fwtn (haarLo (Real.sqrt 2 / 2)) (haarHi (Real.sqrt 2 / 2)) 2 [0, 1] (some 2) [5, 6] X idx ^ 2)
      = boxSum [5, 6] (fun idx => X idx ^ 2) :=
  fwtn_isometry [0, 1] haar_real.1 haar_real.2.1 haar_real.2.2.1 (by norm_num) (by decide) _ _ (by decide) X

example : fwtnOutShape 2 [0, 1] (some 2) [5, 6] = [7, 7] ∧ fwtnOutShape 4 [0, 1] (some 2) [8, 3] = [13, 9]
    ∧ fwtnOutShape 4 [1] none [7, 8] = [8, 10] ∧ maxLevel 8 4 = 1 ∧ maxLevel 24 4 = 3 := by decide

end SigpyVerif.C10
