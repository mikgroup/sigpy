import SigpyVerif.Props.C09
import SigpyVerif.Lemmas.C09
/-
  C09 — `util.downsample` / `util.upsample` on whole arrays (N-d), and their two compositions.
  Everything is about `C09.downsample` / `C09.upsample` of Model/C09.lean, which the correspondence
  check runs against `sigpy.util.downsample/upsample` and `linop.Downsample/Upsample` on every run.
-/
namespace SigpyVerif.C09
open SigpyVerif

/-- factors padded with ones to the rank of the array (`slice(None)` on the remaining axes) -/
def sampF (rank : Nat) (factors : List Int) : List Int :=
  factors ++ List.replicate (rank - factors.length) 1

/-- shifts (default zeros) padded with zeros to the rank of the array -/
def sampS (rank : Nat) (factors : List Int) (shift : Option (List Int)) : List Int :=
  shift.getD (factors.map fun _ => 0) ++ List.replicate (rank - factors.length) 0

/-- shape of `x[s_0::f_0, s_1::f_1, …]` -/
def smallShape (shape s' f' : List Int) : List Int := zip3With (fun n s f => sliceLen n s f) shape s' f'

/-- position in the big array of entry `k` of the small array: `s + k·f` on every axis -/
def downSrc (k s' f' : List Int) : List Int := zip3With (fun kd s f => s + kd * f) k s' f'

/-- the membership test of upsample: on every axis `k - s` is a non-negative multiple of `f` -/
def upTest (k s' f' : List Int) : Bool :=
  (zip3With (fun kd s f => (kd - s, f)) k s' f').all fun (d, f) => decide (0 ≤ d ∧ pyMod d f = 0)

/-- position in the small array of a big-array position that passes the test: `(k - s) // f` -/
def upSrc (k s' f' : List Int) : List Int :=
  (zip3With (fun kd s f => (kd - s, f)) k s' f').map fun (d, f) => pyDiv d f

/-- `k` indexes the slice `s::f` of an axis of length `n` iff `s + k·f < n` -/
theorem sliceLen_spec (n s f k : Int) (hf : 0 < f) (hk : 0 ≤ k) :
    k < sliceLen n s f ↔ s + k * f < n := by
  unfold sliceLen pyRange
  rw [if_neg (Int.not_le.mpr hf), List.length_map, List.length_range]
  have := lt_ceilDiv_iff (k := k) (d := n - s) hf
  omega

/-- a sampled position lies inside the big array -/
theorem downSrc_mem (shape s' f' k : List Int) (hs : s'.length = shape.length)
    (hf : f'.length = shape.length) (hfpos : ∀ f ∈ f', 0 < f) (hs0 : ∀ s ∈ s', 0 ≤ s)
    (hk : k ∈ allIdx (smallShape shape s' f')) : downSrc k s' f' ∈ allIdx shape := by
  induction shape generalizing s' f' k with
  | nil =>
    obtain rfl := List.length_eq_zero_iff.mp hs
    obtain rfl := List.length_eq_zero_iff.mp hf
    obtain rfl : k = [] := List.mem_singleton.mp hk
    exact List.mem_singleton_self _
  | cons n shape ih =>
    obtain ⟨s, s', rfl⟩ := List.exists_cons_of_length_eq_add_one hs
    obtain ⟨f, f', rfl⟩ := List.exists_cons_of_length_eq_add_one hf
    have hsm : smallShape (n :: shape) (s :: s') (f :: f') = sliceLen n s f :: smallShape shape s' f' := rfl
    rw [hsm, mem_allIdx] at hk
    cases hk with
    | cons hk0 hks =>
    rename_i k0 ks
    have hfp : 0 < f := hfpos f List.mem_cons_self
    have hsp : 0 ≤ s := hs0 s List.mem_cons_self
    have := ih s' f' ks (Nat.succ_injective hs) (Nat.succ_injective hf)
      (fun g hg => hfpos g (List.mem_cons_of_mem _ hg)) (fun g hg => hs0 g (List.mem_cons_of_mem _ hg))
      (mem_allIdx.mpr hks)
    have hd : downSrc (k0 :: ks) (s :: s') (f :: f') = (s + k0 * f) :: downSrc ks s' f' := rfl
    have h0 : 0 ≤ k0 * f := Int.mul_nonneg hk0.1 hfp.le
    rw [hd, mem_allIdx]
    exact List.Forall₂.cons ⟨by omega, (sliceLen_spec n s f k0 hfp hk0.1).mp hk0.2⟩ (mem_allIdx.mp this)

/-- a sampled position passes upsample's test and is mapped back to the index it came from -/
theorem up_of_down (k s' f' : List Int) (hs : s'.length = k.length) (hf : f'.length = k.length)
    (hfpos : ∀ f ∈ f', 0 < f) (hk : ∀ v ∈ k, 0 ≤ v) :
    upTest (downSrc k s' f') s' f' = true ∧ upSrc (downSrc k s' f') s' f' = k := by
  induction k generalizing s' f' with
  | nil =>
    obtain rfl := List.length_eq_zero_iff.mp hs
    obtain rfl := List.length_eq_zero_iff.mp hf
    exact ⟨rfl, rfl⟩
  | cons k0 ks ih =>
    obtain ⟨s, s', rfl⟩ := List.exists_cons_of_length_eq_add_one hs
    obtain ⟨f, f', rfl⟩ := List.exists_cons_of_length_eq_add_one hf
    have hfp : 0 < f := hfpos f List.mem_cons_self
    have hk0 : 0 ≤ k0 := hk k0 List.mem_cons_self
    obtain ⟨t1, t2⟩ := ih s' f' (Nat.succ_injective hs) (Nat.succ_injective hf)
      (fun g hg => hfpos g (List.mem_cons_of_mem _ hg)) (fun g hg => hk g (List.mem_cons_of_mem _ hg))
    obtain ⟨a1, a2, a3⟩ := up_down_index f s k0 hfp hk0
    unfold upTest upSrc downSrc at *
    simp only [zip3With, List.all_cons, List.map_cons, Bool.and_eq_true, decide_eq_true_eq]
    exact ⟨⟨⟨a1, a2⟩, t1⟩, by rw [a3, t2]⟩

/-- a big-array position that passes the test comes from an in-range small-array index, and
    sampling that index gives the position back -/
theorem down_of_up (shape s' f' k : List Int) (hs : s'.length = shape.length)
    (hf : f'.length = shape.length) (hfpos : ∀ f ∈ f', 0 < f) (hk : k ∈ allIdx shape)
    (ht : upTest k s' f' = true) :
    upSrc k s' f' ∈ allIdx (smallShape shape s' f') ∧ downSrc (upSrc k s' f') s' f' = k := by
  induction shape generalizing s' f' k with
  | nil =>
    obtain rfl := List.length_eq_zero_iff.mp hs
    obtain rfl := List.length_eq_zero_iff.mp hf
    obtain rfl : k = [] := List.mem_singleton.mp hk
    exact ⟨List.mem_singleton_self _, rfl⟩
  | cons n shape ih =>
    obtain ⟨s, s', rfl⟩ := List.exists_cons_of_length_eq_add_one hs
    obtain ⟨f, f', rfl⟩ := List.exists_cons_of_length_eq_add_one hf
    rw [mem_allIdx] at hk
    cases hk with
    | cons hk0 hks =>
    rename_i k0 ks
    have hfp : 0 < f := hfpos f List.mem_cons_self
    have ht' : (0 ≤ k0 - s ∧ pyMod (k0 - s) f = 0) ∧ upTest ks s' f' = true := by
      unfold upTest at ht ⊢
      simpa only [zip3With, List.all_cons, Bool.and_eq_true, decide_eq_true_eq] using ht
    obtain ⟨⟨c0, c1⟩, ht2⟩ := ht'
    obtain ⟨r1, r2⟩ := ih s' f' ks (Nat.succ_injective hs) (Nat.succ_injective hf)
      (fun g hg => hfpos g (List.mem_cons_of_mem _ hg)) (mem_allIdx.mpr hks) ht2
    obtain ⟨b1, b2⟩ := up_test_is_sample f s k0 hfp c0 c1
    have e1 : upSrc (k0 :: ks) (s :: s') (f :: f') = pyDiv (k0 - s) f :: upSrc ks s' f' := rfl
    have e2 : smallShape (n :: shape) (s :: s') (f :: f') = sliceLen n s f :: smallShape shape s' f' := rfl
    have e3 : downSrc (pyDiv (k0 - s) f :: upSrc ks s' f') (s :: s') (f :: f')
        = (s + pyDiv (k0 - s) f * f) :: downSrc (upSrc ks s' f') s' f' := rfl
    rw [e1, e2, e3, r2, ← b1]
    refine ⟨?_, rfl⟩
    rw [mem_allIdx]
    exact List.Forall₂.cons ⟨b2, (sliceLen_spec n s f _ hfp b2).mpr (b1 ▸ hk0.2)⟩ (mem_allIdx.mp r1)

/-- **`util.downsample` on arrays.**  The result has shape `smallShape` (the lengths of the slices
    `s::f`), and its entry at multi-index `k` is the input entry at `s + k·f` on every axis. -/
theorem downsample_array_spec {α : Type} [Zero α] (shape factors : List Int)
    (shift : Option (List Int)) (x : Array α) :
    (downsample shape factors shift x).1
        = smallShape shape (sampS shape.length factors shift) (sampF shape.length factors) ∧
    ∀ k ∈ allIdx (smallShape shape (sampS shape.length factors shift) (sampF shape.length factors)),
      (downsample shape factors shift x).2.getD
          (ravel (smallShape shape (sampS shape.length factors shift) (sampF shape.length factors)) k).toNat 0
        = x.getD (ravel shape
            (downSrc k (sampS shape.length factors shift) (sampF shape.length factors))).toNat 0 := by
  refine ⟨rfl, fun k hk => ?_⟩
  unfold downsample
  exact map_allIdx_getD _ _ k hk

/-- **`util.upsample` on arrays.**  The entry of the output at multi-index `k` of `oshape` is the
    input entry at `(k - s) // f` when `k - s` is a non-negative multiple of `f` on every axis, and
    zero otherwise. -/
theorem upsample_array_spec {α : Type} [Zero α] (oshape factors : List Int)
    (shift : Option (List Int)) (x : Array α) (k : List Int) (hk : k ∈ allIdx oshape) :
    (upsample oshape factors shift x).2.getD (ravel oshape k).toNat 0
      = if upTest k (sampS oshape.length factors shift) (sampF oshape.length factors) = true then
          x.getD (ravel (smallShape oshape (sampS oshape.length factors shift) (sampF oshape.length factors))
            (upSrc k (sampS oshape.length factors shift) (sampF oshape.length factors))).toNat 0
        else 0 := by
  unfold upsample
  exact map_allIdx_getD _ _ k hk

/-- the padded parameter lists have the rank of the array, positive factors and non-negative shifts
    whenever the user's lists do -/
theorem samp_params_ok (rank : Nat) (factors : List Int) (shift : Option (List Int))
    (hlen : factors.length ≤ rank) (hsl : ∀ s, shift = some s → s.length = factors.length)
    (hf : ∀ f ∈ factors, 0 < f) (hs : ∀ s, shift = some s → ∀ v ∈ s, 0 ≤ v) :
    (sampS rank factors shift).length = rank ∧ (sampF rank factors).length = rank ∧
    (∀ f ∈ sampF rank factors, 0 < f) ∧ (∀ s ∈ sampS rank factors shift, 0 ≤ s) := by
  have hsh : (shift.getD (factors.map fun _ => 0)).length = factors.length := by
    cases shift with
    | none => exact List.length_map _
    | some s => exact hsl s rfl
  unfold sampS sampF
  refine ⟨by rw [List.length_append, List.length_replicate, hsh]; omega,
    by rw [List.length_append, List.length_replicate]; omega, fun f hfm => ?_, fun v hv => ?_⟩
  · rcases List.mem_append.mp hfm with h | h
    · exact hf f h
    · rw [List.mem_replicate] at h; omega
  · rcases List.mem_append.mp hv with h | h
    · cases shift with
      | none => rw [Option.getD_none, List.mem_map] at h; omega
      | some s => exact hs s rfl v h
    · rw [List.mem_replicate] at h; omega

/-- **`downsample ∘ upsample = id`** on arrays: every entry of `x` is recovered. -/
theorem downsample_upsample_id {α : Type} [Zero α] (oshape factors : List Int)
    (shift : Option (List Int)) (x : Array α)
    (hS : (sampS oshape.length factors shift).length = oshape.length)
    (hF : (sampF oshape.length factors).length = oshape.length)
    (hFpos : ∀ f ∈ sampF oshape.length factors, 0 < f)
    (hS0 : ∀ s ∈ sampS oshape.length factors shift, 0 ≤ s) (k : List Int)
    (hk : k ∈ allIdx (smallShape oshape (sampS oshape.length factors shift) (sampF oshape.length factors))) :
    (downsample oshape factors shift (upsample oshape factors shift x).2).2.getD
        (ravel (smallShape oshape (sampS oshape.length factors shift) (sampF oshape.length factors)) k).toNat 0
      = x.getD (ravel (smallShape oshape (sampS oshape.length factors shift)
          (sampF oshape.length factors)) k).toNat 0 := by
  rw [(downsample_array_spec oshape factors shift _).2 k hk]
  have hmem := downSrc_mem oshape _ _ k hS hF hFpos hS0 hk
  rw [upsample_array_spec oshape factors shift x _ hmem]
  have hkl : k.length = oshape.length :=
    (length_of_mem_allIdx hk).trans (length_zip3With _ _ _ _ hS hF)
  obtain ⟨t1, t2⟩ := up_of_down k (sampS oshape.length factors shift) (sampF oshape.length factors)
    (hS.trans hkl.symm) (hF.trans hkl.symm) hFpos (nonneg_of_mem_allIdx hk)
  rw [if_pos t1, t2]

/-- **`upsample ∘ downsample` = mask** on arrays: the sampled positions keep their value, every
    other entry becomes zero. -/
theorem upsample_downsample_mask {α : Type} [Zero α] (shape factors : List Int)
    (shift : Option (List Int)) (x : Array α)
    (hS : (sampS shape.length factors shift).length = shape.length)
    (hF : (sampF shape.length factors).length = shape.length)
    (hFpos : ∀ f ∈ sampF shape.length factors, 0 < f) (k : List Int) (hk : k ∈ allIdx shape) :
    (upsample shape factors shift (downsample shape factors shift x).2).2.getD (ravel shape k).toNat 0
      = if upTest k (sampS shape.length factors shift) (sampF shape.length factors) = true then
          x.getD (ravel shape k).toNat 0 else 0 := by
  rw [upsample_array_spec shape factors shift _ k hk]
  split_ifs with ht
  · obtain ⟨r1, r2⟩ := down_of_up shape _ _ k hS hF hFpos hk ht
    rw [(downsample_array_spec shape factors shift x).2 _ r1, r2]
  · rfl

example : downsample [7] [3] (some [1]) #[(10 : Int), 11, 12, 13, 14, 15, 16] = ([2], #[11, 14]) := by
  decide +kernel
example : (upsample [7] [3] (some [1]) #[(5 : Int), 6]).2 = #[0, 5, 0, 0, 6, 0, 0] := by decide +kernel
example : upTest [4, 2] [1, 0] [3, 1] = true ∧ upSrc [4, 2] [1, 0] [3, 1] = [1, 2] := by decide +kernel
example : (samp_params_ok 2 [3] (some [1]) (by decide) (by simp) (by simp) (by simp)).1 = rfl := rfl

end SigpyVerif.C09
