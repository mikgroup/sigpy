import SigpyVerif.Gen.Prox
import SigpyVerif.Props.C11
/-
  C11 — remaining class variants: `L1Reg` with an array `lamda`, `L2Proj` with `axes` (and bias) about the generated
  entry formula, `BoxConstraint` with `lower == upper`, `LInfProj` with a complex bias; the complex soft threshold as
  literal complex arithmetic of the numba kernel (modulus shrink, phase kept); `hard_thresh` at the tie `|y| = λ`.
-/
namespace SigpyVerif.C11
open SigpyVerif.Gen.Prox InnerProductSpace

variable {ι : Type} [Fintype ι]

/-- **`L1Reg(shape, lamda)` with an ARRAY `lamda`** (per-entry weights `lamda i ≥ 0`; `soft_thresh` broadcasts the
    threshold `lamda * alpha`): the result minimises `½‖x-y‖² + α Σ_i lamda_i |x_i|`. -/
theorem l1reg_prox_real_array {lamda : ι → ℝ} {α : ℝ} (hl : ∀ i, 0 ≤ lamda i) (hα : 0 < α) (y : Vec ι ℝ) :
    IsProxOn Set.univ (fun x : Vec ι ℝ => α * ∑ i, lamda i * |x i|) y
      (vec fun i => softThresh (l1regLam (lamda i) α) (y i) |y i|) := by
  simp only [softThresh_real]
  exact l1reg_blockSoft hl hα y

theorem l1reg_prox_complex_array {lamda : ι → ℝ} {α : ℝ} (hl : ∀ i, 0 ≤ lamda i) (hα : 0 < α) (y : Vec ι ℂ) :
    IsProxOn Set.univ (fun x : Vec ι ℂ => α * ∑ i, lamda i * ‖x i‖) y
      (vec fun i => csoft (l1regLam (lamda i) α) (y i)) := by
  simp only [csoft_eq]
  exact l1reg_blockSoft hl hα y

/-! ### `L2Proj(axes=…)`: entries indexed by (slice `k`, position `i` inside the slice) -/
variable {κ : Type} [Fintype κ]

/-- slice `k` of an array whose reduced axes are collected in `ι` -/
abbrev slice (x : Vec (κ × ι) ℝ) (k : κ) : Vec ι ℝ := vec fun i => x (k, i)

theorem norm_sq_slices (x : Vec (κ × ι) ℝ) : ‖x‖ ^ 2 = ∑ k, ‖slice x k‖ ^ 2 := by
  rw [PiLp.norm_sq_eq_of_L2, Fintype.sum_prod_type]
  refine Finset.sum_congr rfl fun k _ => ?_
  rw [PiLp.norm_sq_eq_of_L2]

/-- slicewise minimisers assemble to the minimiser of the slice-separable objective -/
theorem isProxOn_slices {C : κ → Set (Vec ι ℝ)} {F : κ → Vec ι ℝ → ℝ} (y p : Vec (κ × ι) ℝ)
    (h : ∀ k, IsProxOn (C k) (F k) (slice y k) (slice p k)) :
    IsProxOn {x | ∀ k, slice x k ∈ C k} (fun x => ∑ k, F k (slice x k)) y p :=
  isProxOn_of_blocks (E := Vec (κ × ι) ℝ) (fun k x => slice x k) (fun _ _ _ => rfl) norm_sq_slices y p h

/-- **`l2_proj(ε, y, axes)`**: the generated entry formula with `norm` = the l2 norm of the entry's own slice
    (`xp.sum(|y|², axis=axes, keepdims=True) ** 0.5`, broadcast back) is the projection onto the product of balls
    `{x | every slice has ‖·‖₂ ≤ ε}`. -/
theorem l2_proj_axes_generated {ε : ℝ} (hε : 0 ≤ ε) (y : Vec (κ × ι) ℝ) :
    IsProjOn {x : Vec (κ × ι) ℝ | ∀ k, ‖slice x k‖ ≤ ε} y
      (vec fun ki => l2projOut ε (y ki) ‖slice y ki.1‖) := by
  have := isProxOn_slices (C := fun _ => {x : Vec ι ℝ | ‖x‖ ≤ ε}) (F := fun _ _ => (0 : ℝ)) y
    (vec fun ki => l2projOut ε (y ki) ‖slice y ki.1‖) (fun k => l2_proj_prox hε (slice y k))
  exact this.congr rfl fun _ => Finset.sum_const_zero.symm

/-- **`L2Proj(shape, ε, y=b, axes=…)`**: `l2_proj(ε, input - b, axes) + b` is the projection onto the product of
    balls around the slices of `b`. -/
theorem l2proj_axes_bias_generated {ε : ℝ} (hε : 0 ≤ ε) (y b : Vec (κ × ι) ℝ) :
    IsProjOn {x : Vec (κ × ι) ℝ | ∀ k, ‖slice (x - b) k‖ ≤ ε} y
      (vec fun ki => l2projBiasOut (b ki)
        (l2projOut ε (l2projArgIn (y ki) (b ki)) ‖slice (vec fun kj => l2projArgIn (y kj) (b kj)) ki.1‖)) := by
  have e1 : (vec fun kj => l2projArgIn (y kj) (b kj)) = y - b := by ext j; simp [l2projArgIn]
  rw [e1]
  have e2 : (vec fun ki => l2projBiasOut (b ki) (l2projOut ε (l2projArgIn (y ki) (b ki)) ‖slice (y - b) ki.1‖))
      = (vec fun ki => l2projOut ε ((y - b) ki) ‖slice (y - b) ki.1‖) + b := by
    ext i; simp [l2projBiasOut, l2projArgIn]
  rw [e2]
  exact (l2_proj_axes_generated hε (y - b)).add_bias

/-- **`lower == upper`**: the box is the single point `c`, and `clip` returns it for every input -/
theorem box_proj_point (c : ι → ℝ) (y : Vec ι ℝ) :
    (vec fun i => boxOut (y i) (c i) (c i)) = vec c ∧
    IsProjOn {x : Vec ι ℝ | ∀ i, c i ≤ x i ∧ x i ≤ c i} y (vec fun i => boxOut (y i) (c i) (c i)) := by
  refine ⟨?_, box_proj (fun i => le_refl _) y⟩
  ext i
  simp only [boxOut, gclip_eq]
  rcases le_total (y i) (c i) with h | h
  · rw [max_eq_right h, min_self]
  · rw [max_eq_left h, min_eq_right h]

/-! ### `LInfProj` with a complex bias -/

theorem linf_bias_prox_complex {ε : ℝ} (hε : 0 ≤ ε) (y b : Vec ι ℂ) :
    IsProjOn {x : Vec ι ℂ | ∀ i, ‖x i - b i‖ ≤ ε} y (vec fun i => (y i - b i) - csoft ε (y i - b i) + b i) :=
  (linf_proj_prox_complex hε (y - b)).add_bias

/-- **the numba kernel on a complex entry, as literal complex arithmetic**: `mag * sign` with
    `mag = (|‖z‖ - λ| + (‖z‖ - λ))/2` (real) and `sign = z / ‖z‖` (`0` when `‖z‖ = 0`) is `csoft λ z`
    (the generated real formula on both components). -/
theorem csoft_kernel_arith (lam : ℝ) (z : ℂ) :
    csoft lam z = (((|‖z‖ - lam| + (‖z‖ - lam)) / 2 : ℝ) : ℂ) * (if ‖z‖ = 0 then 0 else z / ((‖z‖ : ℝ) : ℂ)) := by
  unfold csoft softThresh
  simp only [gabs_eq_abs, Nat.cast_ofNat]
  split_ifs with h
  · apply Complex.ext <;> simp
  · apply Complex.ext
    · rw [Complex.re_ofReal_mul, Complex.div_ofReal_re]
    · rw [Complex.im_ofReal_mul, Complex.div_ofReal_im]

/-- **modulus shrinks, phase is kept**: `soft(λ, z) = ((‖z‖ - λ)₊ / ‖z‖) · z` — a non-negative real multiple of `z` -/
theorem csoft_polar {lam : ℝ} (hl : 0 ≤ lam) (z : ℂ) :
    csoft lam z = ((max (‖z‖ - lam) 0 / ‖z‖ : ℝ) : ℂ) * z ∧ 0 ≤ max (‖z‖ - lam) 0 / ‖z‖ := by
  refine ⟨?_, div_nonneg (le_max_right _ _) (norm_nonneg z)⟩
  rw [csoft_eq]; unfold blockSoft
  split_ifs with h
  · rw [max_eq_right (by linarith)]; simp
  · rw [not_le] at h
    have hz : ‖z‖ ≠ 0 := ne_of_gt (lt_of_le_of_lt hl h)
    rw [max_eq_left (by linarith), Complex.real_smul]
    rw [sub_div, div_self hz]

/-- **tie behaviour, as is**: the kernel tests `abs_input > lamda` strictly, so an entry with `|y| = λ` is set to
    `0` (`0` and `y` are both global minimisers of `½(x-y)² + λ²/2·[x ≠ 0]` there: equal objective values). -/
theorem hard_thresh_tie {lam : ℝ} (y : ℝ) (h : |y| = lam) :
    hardThresh lam y |y| = 0 ∧
    (0 - y) ^ 2 / 2 + lam ^ 2 / 2 * (if (0 : ℝ) = 0 then 0 else 1) = (y - y) ^ 2 / 2 + lam ^ 2 / 2 * 1 := by
  constructor
  · unfold hardThresh; rw [if_neg (by rw [h]; exact lt_irrefl _)]
  · rw [← h]; simp only [if_true]; rw [sq_abs y]; ring

/-- complex entries: the kernel keeps `z` iff `‖z‖ > λ` (both components together), else returns `0` -/
theorem hard_thresh_complex (lam : ℝ) (z : ℂ) :
    (⟨hardThresh lam z.re ‖z‖, hardThresh lam z.im ‖z‖⟩ : ℂ) = if ‖z‖ > lam then z else 0 := by
  unfold hardThresh
  split_ifs <;> rfl

example : (vec fun i : Fin 2 => boxOut ((vec ![5, -7] : Vec (Fin 2) ℝ) i) (![1, 2] i) (![1, 2] i)) = vec ![1, 2] :=
  (box_proj_point ![1, 2] (vec ![5, -7])).1
example : hardThresh (2 : ℝ) 2 |2| = 0 := (hard_thresh_tie (lam := 2) 2 (by norm_num)).1

end SigpyVerif.C11
