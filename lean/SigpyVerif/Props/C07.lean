import SigpyVerif.Model.C07
import SigpyVerif.Lemmas.Py
import SigpyVerif.Lemmas.C07
/-
  C07 — interpolate / gridding implement the documented kernel sums.

  Every theorem below is about the definitions `Gen.interp1..3`, `Gen.grid1..3`, `Gen.splineKernel`
  that the translator regenerates from sigpy/interp.py on every run: a changed bound, rounding
  direction, index expression, axis pairing, wrap or update kind in the source changes the definition
  and the theorem no longer checks.  The kernel `K : Rat → Rat → Rat` is abstract (the statements hold
  for the spline and for Kaiser–Bessel alike); coordinates, widths and params are rationals.

  The Python wrappers `interpolate` / `gridding` (batch flattening, scalar/per-axis broadcasting, dispatch,
  reshape) are translator-generated too (`Gen.InterpWrappers`) and the theorems about them — and about the
  executable array application `applyUpd` vs. the function-level semantics `runUpd` used below — are in
  `Props/C07Wrap.lean` (`wrapper_spec`, `gridding_wrapper_spec`, `applyUpd_eq_runUpd`, `*_value_spec`).

  What is NOT carried by a theorem (validated by the correspondence check instead): float rounding of the
  weights, the numerical accuracy of the polynomial approximation of I0 in `_kaiser_bessel_kernel` (search
  oracle vs scipy.special.i0), numba's compilation of the loop nests, numpy's reshape / zeros.
-/
namespace SigpyVerif.C07
open SigpyVerif

/-- The loop bounds `x0 = ceil(c - W/2)`, `x1 = floor(c + W/2)` (inclusive) select exactly the integers
    with `|i - c| ≤ W/2` — for every rational centre and width, ties at the window edge included
    (e.g. half-integer `c` with odd `W`, integer `c` with even `W`). -/
theorem window_iff_abs (c W : Rat) (i : Int) :
    (Rat.ceil (c - W / 2) ≤ i ∧ i ≤ Rat.floor (c + W / 2)) ↔ |(i : Rat) - c| ≤ W / 2 :=
  window_iff_abs' c W i

-- non-vacuity / ties: centre 1/2, width 1: both 0 and 1 are in the window, 2 is not
example : Rat.ceil ((1 / 2 : Rat) - 1 / 2) ≤ 0 ∧ (0 : Int) ≤ Rat.floor ((1 / 2 : Rat) + 1 / 2) :=
  (window_iff_abs (1 / 2) 1 0).mpr (by norm_num)
example : Rat.ceil ((1 / 2 : Rat) - 1 / 2) ≤ 1 ∧ (1 : Int) ≤ Rat.floor ((1 / 2 : Rat) + 1 / 2) :=
  (window_iff_abs (1 / 2) 1 1).mpr (by norm_num)
example : ¬ (Rat.ceil ((1 / 2 : Rat) - 1 / 2) ≤ 2 ∧ (2 : Int) ≤ Rat.floor ((1 / 2 : Rat) + 1 / 2)) := by
  rw [window_iff_abs]; norm_num

/-- `_interpolate1`: `(dst, src, w)` is an update iff there are a point `j`, an integer `i` within
    `W/2` of `c_j` and a batch index `b` with `dst = [b, j]`, `src = [b, i mod n]`,
    `w = K((i - c_j)/(W/2), param)` — i.e. `y[b,j] += Σ_{|i - c_j| ≤ W/2} K(..) x[b, i mod n]` with
    periodic wrap, using `coord[j,-1]`, `width[-1]`, `param[-1]`. -/
theorem interp1_mem (K : Rat → Rat → Rat) (osh ish csh : Int → Int) (coord : Int → Int → Rat)
    (width param : Int → Rat) (u : Upd Rat) :
    u ∈ Gen.interp1 K osh ish csh coord width param ↔
      ∃ j i b : Int, 0 ≤ j ∧ j < csh 0 ∧ |(i : Rat) - coord j (-1)| ≤ width (-1) / 2 ∧ 0 ≤ b ∧ b < ish 0 ∧
        u = ([b, j], [b, pyMod i (ish 1)],
             K (((i : Rat) - coord j (-1)) / (width (-1) / 2)) (param (-1))) := by
  unfold Gen.interp1
  simp only [List.mem_flatMap, mem_pyRange0', mem_window, List.mem_singleton]
  simp only [cast2, and_assoc, exists_and_left]

/-- `_interpolate2`: same, with the separable product weight; the axis pairing is
    `coord[j,-1] ↔ last grid axis ↔ width[-1], param[-1]` and `coord[j,-2] ↔ first grid axis ↔ width[-2], param[-2]`. -/
theorem interp2_mem (K : Rat → Rat → Rat) (osh ish csh : Int → Int) (coord : Int → Int → Rat)
    (width param : Int → Rat) (u : Upd Rat) :
    u ∈ Gen.interp2 K osh ish csh coord width param ↔
      ∃ j iy ix b : Int, 0 ≤ j ∧ j < csh 0 ∧
        |(iy : Rat) - coord j (-2)| ≤ width (-2) / 2 ∧ |(ix : Rat) - coord j (-1)| ≤ width (-1) / 2 ∧
        0 ≤ b ∧ b < ish 0 ∧
        u = ([b, j], [b, pyMod iy (ish 1), pyMod ix (ish 2)],
             K (((iy : Rat) - coord j (-2)) / (width (-2) / 2)) (param (-2)) *
             K (((ix : Rat) - coord j (-1)) / (width (-1) / 2)) (param (-1))) := by
  unfold Gen.interp2
  simp only [List.mem_flatMap, mem_pyRange0', mem_window, List.mem_singleton]
  simp only [cast2, and_assoc, exists_and_left]

/-- `_interpolate3`: same in three dimensions (`coord[j,-3] ↔ first grid axis`). -/
theorem interp3_mem (K : Rat → Rat → Rat) (osh ish csh : Int → Int) (coord : Int → Int → Rat)
    (width param : Int → Rat) (u : Upd Rat) :
    u ∈ Gen.interp3 K osh ish csh coord width param ↔
      ∃ j iz iy ix b : Int, 0 ≤ j ∧ j < csh 0 ∧
        |(iz : Rat) - coord j (-3)| ≤ width (-3) / 2 ∧
        |(iy : Rat) - coord j (-2)| ≤ width (-2) / 2 ∧ |(ix : Rat) - coord j (-1)| ≤ width (-1) / 2 ∧
        0 ≤ b ∧ b < ish 0 ∧
        u = ([b, j], [b, pyMod iz (ish 1), pyMod iy (ish 2), pyMod ix (ish 3)],
             K (((iz : Rat) - coord j (-3)) / (width (-3) / 2)) (param (-3)) *
             K (((iy : Rat) - coord j (-2)) / (width (-2) / 2)) (param (-2)) *
             K (((ix : Rat) - coord j (-1)) / (width (-1) / 2)) (param (-1))) := by
  unfold Gen.interp3
  simp only [List.mem_flatMap, mem_pyRange0', mem_window, List.mem_singleton]
  simp only [cast2, and_assoc, exists_and_left]

-- non-vacuity: point 0 at c = 1/2 with W = 2 on a grid of 4 cells reads index 1 with linear weight 1/2
example : (([0, 0], [0, 1], (1 / 2 : Rat)) : Upd Rat) ∈
    Gen.interp1 (fun u _ => 1 - |u|) (fun _ => 1) (fun k => if k = 0 then 1 else 4) (fun _ => 1)
      (fun _ _ => 1 / 2) (fun _ => 2) (fun _ => 1) := by
  rw [interp1_mem]
  exact ⟨0, 1, 0, by norm_num, by norm_num, by norm_num, by norm_num, by norm_num, by
    simp only [Prod.mk.injEq, true_and]; refine ⟨by decide, by norm_num⟩⟩

/-- every index touched by `_interpolate1` is in bounds when the grid axis is non-empty: the `% n`
    wrap maps any integer (negative, far outside the grid) into `0..n-1`. -/
theorem interp1_in_bounds (K : Rat → Rat → Rat) (osh ish csh : Int → Int) (coord : Int → Int → Rat)
    (width param : Int → Rat) (hn : 0 < ish 1) (u : Upd Rat)
    (hu : u ∈ Gen.interp1 K osh ish csh coord width param) :
    ∃ b j s : Int, u.1 = [b, j] ∧ u.2.1 = [b, s] ∧ 0 ≤ b ∧ b < ish 0 ∧ 0 ≤ j ∧ j < csh 0 ∧
      0 ≤ s ∧ s < ish 1 := by
  obtain ⟨j, i, b, hj0, hj1, _, hb0, hb1, rfl⟩ := (interp1_mem ..).mp hu
  exact ⟨b, j, pyMod i (ish 1), rfl, rfl, hb0, hb1, hj0, hj1, (pyMod_range i _ hn).1, (pyMod_range i _ hn).2⟩

/-- `_gridding1` produces the update list of `_interpolate1` with destination and source swapped —
    the same points, the same windows, the same wrap, the same weights, in the same order. -/
theorem grid1_eq_transpose_interp1 (K : Rat → Rat → Rat) (gsh psh csh : Int → Int)
    (coord : Int → Int → Rat) (width param : Int → Rat) :
    Gen.grid1 K gsh psh csh coord width param =
      (Gen.interp1 K psh gsh csh coord width param).map swapUpd := by
  simp only [Gen.grid1, Gen.interp1, List.map_flatMap, List.map_cons, List.map_nil, swapUpd]

theorem grid2_eq_transpose_interp2 (K : Rat → Rat → Rat) (gsh psh csh : Int → Int)
    (coord : Int → Int → Rat) (width param : Int → Rat) :
    Gen.grid2 K gsh psh csh coord width param =
      (Gen.interp2 K psh gsh csh coord width param).map swapUpd := by
  simp only [Gen.grid2, Gen.interp2, List.map_flatMap, List.map_cons, List.map_nil, swapUpd]

theorem grid3_eq_transpose_interp3 (K : Rat → Rat → Rat) (gsh psh csh : Int → Int)
    (coord : Int → Int → Rat) (width param : Int → Rat) :
    Gen.grid3 K gsh psh csh coord width param =
      (Gen.interp3 K psh gsh csh coord width param).map swapUpd := by
  simp only [Gen.grid3, Gen.interp3, List.map_flatMap, List.map_cons, List.map_nil, swapUpd]

/-- hence the documented gridding sum: `x[b, i mod n] += K((i - c_j)/(W/2)) y[b, j]` over the same index set -/
theorem grid1_mem (K : Rat → Rat → Rat) (gsh psh csh : Int → Int) (coord : Int → Int → Rat)
    (width param : Int → Rat) (u : Upd Rat) :
    u ∈ Gen.grid1 K gsh psh csh coord width param ↔
      ∃ j i b : Int, 0 ≤ j ∧ j < csh 0 ∧ |(i : Rat) - coord j (-1)| ≤ width (-1) / 2 ∧ 0 ≤ b ∧ b < gsh 0 ∧
        u = ([b, pyMod i (gsh 1)], [b, j],
             K (((i : Rat) - coord j (-1)) / (width (-1) / 2)) (param (-1))) := by
  rw [grid1_eq_transpose_interp1, List.mem_map]
  constructor
  · rintro ⟨v, hv, rfl⟩
    obtain ⟨j, i, b, h1, h2, h3, h4, h5, rfl⟩ := (interp1_mem ..).mp hv
    exact ⟨j, i, b, h1, h2, h3, h4, h5, rfl⟩
  · rintro ⟨j, i, b, h1, h2, h3, h4, h5, rfl⟩
    exact ⟨_, (interp1_mem ..).mpr ⟨j, i, b, h1, h2, h3, h4, h5, rfl⟩, rfl⟩

/-- all six loop nests update with `+=` (never `=`) -/
theorem kernels_accumulate :
    Gen.interp1_accumulates = true ∧ Gen.interp2_accumulates = true ∧ Gen.interp3_accumulates = true ∧
    Gen.grid1_accumulates = true ∧ Gen.grid2_accumulates = true ∧ Gen.grid3_accumulates = true := by
  decide

/-- `Gen.kernelDispatchChecked` is the literal `true` that the translator writes after it has seen both
    entry points bind the kernel names to the same two kernel functions (it aborts otherwise).  Trusted:
    the statement itself carries no content. -/
theorem kernel_dispatch : Gen.kernelDispatchChecked = true := rfl

/-- With `+=` the final value at destination `d` is the initial value plus the sum — with multiplicity —
    of `w · x[src]` over *all* updates whose destination is `d`: duplicate coordinates, and window
    indices that wrap onto the same grid cell, add rather than overwrite. -/
theorem runUpd_acc_eq_sum {R : Type} [Semiring R] (E : List (Upd R)) (x out : List Int → R) (d : List Int) :
    runUpd true E x out d = out d + ((E.filter (fun u => u.1 = d)).map (fun u => u.2.2 * x u.2.1)).sum := by
  unfold runUpd
  induction E generalizing out with
  | nil => simp
  | cons u E ih =>
    rw [List.foldl_cons, ih]
    by_cases h : u.1 = d
    · subst h
      simp [add_assoc]
    · simp [h, Function.update_of_ne (Ne.symm h)]

/-- `⟨y, A x⟩ = Σ_updates y[dst] · w · x[src]` for the accumulate semantics (any finite index set `S`
    containing every destination). -/
theorem sum_mul_runUpd {R : Type} [CommSemiring R] (E : List (Upd R)) (y x : List Int → R)
    (S : Finset (List Int)) (hS : ∀ u ∈ E, u.1 ∈ S) :
    ∑ d ∈ S, y d * runUpd true E x (fun _ => 0) d = pairing E y x := by
  simp only [runUpd_acc_eq_sum, zero_add]
  unfold pairing
  induction E with
  | nil => simp
  | cons u E ih =>
    have step : ∀ d, (((u :: E).filter fun v => v.1 = d).map fun v => v.2.2 * x v.2.1).sum =
        (if u.1 = d then u.2.2 * x u.2.1 else 0) + ((E.filter fun v => v.1 = d).map fun v => v.2.2 * x v.2.1).sum :=
      fun d => by by_cases h : u.1 = d <;> simp [h]
    -- the new update contributes to the one destination `u.1 ∈ S`
    simp only [step, mul_add, mul_ite, mul_zero, Finset.sum_add_distrib, Finset.sum_ite_eq, hS u List.mem_cons_self,
      if_true, ih fun v hv => hS v (List.mem_cons_of_mem _ hv), List.map_cons, List.sum_cons]

/-- gridding is the transpose of interpolation at the level of values: for the update list `E` of
    `_interpolateD` and its swapped list (which is `_griddingD`'s, by `gridD_eq_transpose_interpD`),
    `Σ_i g[i] · (grid y)[i] = Σ_j y[j] · (interp g)[j]`.  The weights are real, so for complex data this is
    also the adjoint identity `⟨g, grid y⟩ = ⟨interp g, y⟩`. -/
theorem transpose_pairing {R : Type} [CommSemiring R] (E : List (Upd R)) (g y : List Int → R)
    (G P : Finset (List Int)) (hG : ∀ u ∈ E, u.2.1 ∈ G) (hP : ∀ u ∈ E, u.1 ∈ P) :
    ∑ i ∈ G, g i * runUpd true (E.map swapUpd) y (fun _ => 0) i =
      ∑ j ∈ P, y j * runUpd true E g (fun _ => 0) j := by
  rw [sum_mul_runUpd _ _ _ G, sum_mul_runUpd _ _ _ P hP, pairing_swap]
  intro u hu
  obtain ⟨v, hv, rfl⟩ := List.mem_map.mp hu
  exact hG v hv

/-- `_interpolate1`: replacing `c_j` by `c_j + m_j · n` gives literally the same update list. -/
theorem interp1_shift_period (K : Rat → Rat → Rat) (osh ish csh : Int → Int) (c c' : Int → Int → Rat)
    (width param : Int → Rat) (mx : Int → Int) (hn : 0 < ish 1)
    (hx : ∀ j, c' j (-1) = c j (-1) + ((mx j * ish 1 : Int) : Rat)) :
    Gen.interp1 K osh ish csh c' width param = Gen.interp1 K osh ish csh c width param := by
  unfold Gen.interp1
  apply List.flatMap_congr
  intro j _
  simp only [hx j, window_shift, List.flatMap_map, cast_shift_sub, pyMod_add_mul _ _ _ hn]

theorem interp2_shift_period (K : Rat → Rat → Rat) (osh ish csh : Int → Int) (c c' : Int → Int → Rat)
    (width param : Int → Rat) (my mx : Int → Int) (hny : 0 < ish 1) (hnx : 0 < ish 2)
    (hy : ∀ j, c' j (-2) = c j (-2) + ((my j * ish 1 : Int) : Rat))
    (hx : ∀ j, c' j (-1) = c j (-1) + ((mx j * ish 2 : Int) : Rat)) :
    Gen.interp2 K osh ish csh c' width param = Gen.interp2 K osh ish csh c width param := by
  unfold Gen.interp2
  apply List.flatMap_congr
  intro j _
  simp only [hx j, hy j, window_shift, List.flatMap_map, cast_shift_sub, pyMod_add_mul _ _ _ hnx,
    pyMod_add_mul _ _ _ hny]

theorem interp3_shift_period (K : Rat → Rat → Rat) (osh ish csh : Int → Int) (c c' : Int → Int → Rat)
    (width param : Int → Rat) (mz my mx : Int → Int) (hnz : 0 < ish 1) (hny : 0 < ish 2) (hnx : 0 < ish 3)
    (hz : ∀ j, c' j (-3) = c j (-3) + ((mz j * ish 1 : Int) : Rat))
    (hy : ∀ j, c' j (-2) = c j (-2) + ((my j * ish 2 : Int) : Rat))
    (hx : ∀ j, c' j (-1) = c j (-1) + ((mx j * ish 3 : Int) : Rat)) :
    Gen.interp3 K osh ish csh c' width param = Gen.interp3 K osh ish csh c width param := by
  unfold Gen.interp3
  apply List.flatMap_congr
  intro j _
  simp only [hx j, hy j, hz j, window_shift, List.flatMap_map, cast_shift_sub, pyMod_add_mul _ _ _ hnx,
    pyMod_add_mul _ _ _ hny, pyMod_add_mul _ _ _ hnz]

/-- the generated `_spline_kernel` with its integer literals read as rationals -/
theorem splineKernel_eq (x o : Rat) : Gen.splineKernel x o =
    if 1 < |x| then 0 else if o = 0 then 1 else if o = 1 then 1 - |x| else if o = 2 then
      (if 1 / 3 < |x| then 9 / 8 * (1 - |x|) ^ 2 else 3 / 4 * (1 - 3 * x ^ 2)) else 0 := by
  unfold Gen.splineKernel
  simp only [ratAbs_eq_abs]
  norm_num

/-- `_spline_kernel` is the documented cardinal B-spline on `[-1, 1]`: 0 outside; `1` (order 0),
    `1 - |x|` (order 1), and for order 2 `9/8 (1 - |x|)²` for `|x| > 1/3`, `3/4 (1 - 3x²)` for `|x| ≤ 1/3`. -/
theorem spline_kernel_doc (x : Rat) :
    (1 < |x| → ∀ o, Gen.splineKernel x o = 0) ∧
    (|x| ≤ 1 → Gen.splineKernel x 0 = 1 ∧ Gen.splineKernel x 1 = 1 - |x| ∧
      (1 / 3 < |x| → Gen.splineKernel x 2 = 9 / 8 * (1 - |x|) ^ 2) ∧
      (|x| ≤ 1 / 3 → Gen.splineKernel x 2 = 3 / 4 * (1 - 3 * x ^ 2))) := by
  simp only [splineKernel_eq]
  refine ⟨fun h o => if_pos h, fun h => ?_⟩
  simp only [if_neg (not_lt.mpr h)]
  have h21 : (2 : Rat) ≠ 1 := by norm_num
  exact ⟨if_pos trivial, by rw [if_neg one_ne_zero, if_pos trivial],
    fun h3 => by rw [if_neg two_ne_zero, if_neg h21, if_pos trivial, if_pos h3],
    fun h3 => by rw [if_neg two_ne_zero, if_neg h21, if_pos trivial, if_neg (not_lt.mpr h3)]⟩

/-- the docstring leaves `|x| = 1/3` to either branch; they agree there (value 1/2) -/
theorem spline2_breakpoint (x : Rat) (h : |x| = 1 / 3) :
    (9 / 8 * (1 - |x|) ^ 2 : Rat) = 3 / 4 * (1 - 3 * x ^ 2) := by
  have : x ^ 2 = |x| ^ 2 := (sq_abs x).symm
  rw [this, h]; norm_num

end SigpyVerif.C07
