import SigpyVerif.Props.C17
import SigpyVerif.Props.C14Power
/-
  C17, part "the power iteration": the GENERATED `PowerMethod` step with a norm function, run in a complex
  inner-product space, for ALL iteration counts.

  `EspiritCalib.__init__` builds `PowerMethod(forward, self.mps, norm_func=normalize, max_iter=max_iter)` (generated wiring:
  `Gen.Espirit.pmOperator / pmStart / pmNormFunc / pmMaxIter`, Props/C17 `pm_wiring`), and `App.run` calls the GENERATED
  `Gen.C14.pmUpdate` until the GENERATED `pmDone`.  Here the same generated step is instantiated in a complex
  inner-product space `E` (read: `ℂ^coils` at one voxel): operator a ℂ-linear `T` (read: `AHA[q]`), `norm_func = some ‖·‖`,
  `y / s = (1/s) • y`, start vector arbitrary.  `epw_eq_pw` shows this run is C14's generic `pw` (the `norm_func=None`
  run of the same generated step) for `T` read as an ℝ-linear map, so `Props/C14Power.lean` (`pm_nondegenerate`,
  `pm_unit`, `pm_estimate_rayleigh_sandwich`, `pm_estimate_mono`, `pm_done_iff`) applies.  `gramLin` is
  `EspiritCalib`'s per-voxel operator `(N/kw^d) Σ_k a_k a_kᴴ` (`gramOp` of Props/C17) as a linear map: Hermitian, PSD,
  Rayleigh bound 1 by `eig_le_one_espirit`.
  The list model of Props/C17 is tied to this run only through the norm (`normalize_eq_norm`: the generated `normalize`
  is the norm of `EuclideanSpace ℂ (Fin n)`).  NOT proved: that `powerRun cops (gram …) nc` (Model/C17: matrix `gram`,
  `voxOps.divS`, start `ones`) is `epw (gramLin …)` from `toE ones`.
  NOT proved: that the estimate CONVERGES to the largest eigenvalue (rate depends on the spectral gap), floating point.
-/
namespace SigpyVerif.C17
open SigpyVerif SigpyVerif.C14 SigpyVerif.Gen.C14
open scoped InnerProductSpace

variable {E : Type} [NormedAddCommGroup E] [InnerProductSpace ℂ E]

/- a complex inner-product space is a real one with `⟪x, y⟫_ℝ = re ⟪x, y⟫_ℂ` and the same norm (Mathlib) -/
attribute [local instance] InnerProductSpace.complexToReal

/-- state of `PowerMethod(T, x0, norm_func = ‖·‖)` after `k` updates: the GENERATED step with a norm function supplied,
    as `EspiritCalib` supplies one -/
noncomputable def epw (T : E →ₗ[ℂ] E) (x0 : E) (k : ℕ) : PmState E ℝ :=
  pmRun ipPmOps (⇑T) (some fun v => ‖v‖) x0 k

/-- supplying the ℓ2 norm as `norm_func` gives the same run as `norm_func=None` (C14's `pw`), `T` read as ℝ-linear -/
theorem epw_eq_pw (T : E →ₗ[ℂ] E) (x0 : E) (k : ℕ) : epw T x0 k = pw (T.restrictScalars ℝ) x0 k := by
  induction k with
  | zero => rfl
  | succ k ih => exact congrArg (pmUpdate ipPmOps (⇑T) (some fun v => ‖v‖)) ih

/-- `T` Hermitian for the complex inner product -/
def IsHerm (T : E →ₗ[ℂ] E) : Prop := ∀ x y, ⟪T x, y⟫_ℂ = ⟪x, T y⟫_ℂ

theorem isSymm_of_herm (T : E →ₗ[ℂ] E) (hT : IsHerm T) : IsSymm (T.restrictScalars ℝ) := by
  intro u v
  simp only [LinearMap.coe_restrictScalars]
  rw [real_inner_eq_re_inner ℂ, real_inner_eq_re_inner ℂ, hT]

/-- one update in formulas -/
theorem espirit_pm_step (T : E →ₗ[ℂ] E) (x0 : E) (k : ℕ) :
    (epw T x0 (k + 1)).maxEig = some ‖T (epw T x0 k).x‖ ∧
    (epw T x0 (k + 1)).x = (1 / ‖T (epw T x0 k).x‖) • T (epw T x0 k).x := ⟨rfl, rfl⟩

/-- **espirit_pm_unit.**  Hermitian `T`, `T x_0 ≠ 0`: no update divides by zero and every iterate after the first
    update is a unit vector. -/
theorem espirit_pm_unit (T : E →ₗ[ℂ] E) (hT : IsHerm T) (x0 : E) (h0 : T x0 ≠ 0) (k : ℕ) :
    T (epw T x0 k).x ≠ 0 ∧ ‖(epw T x0 (k + 1)).x‖ = 1 := by
  have hnd := pm_nondegenerate (T.restrictScalars ℝ) (isSymm_of_herm T hT) x0 h0 k
  rw [funext (epw_eq_pw T x0)]
  exact ⟨hnd, pm_unit (T.restrictScalars ℝ) x0 k hnd⟩

/-- **espirit_pm_estimate_range.**  Hermitian positive semi-definite `T` with Rayleigh bound `L` (`re ⟪v, T v⟫ ≤ L‖v‖²`,
    e.g. `L = λmax`), `T x_0 ≠ 0`: every eigenvalue estimate from the second update on is a Rayleigh-type quantity in
    `(0, L]`: it is `‖T x‖` at the unit iterate `x`, at least the Rayleigh quotient `re ⟪x, T x⟫` there, at most `L`. -/
theorem espirit_pm_estimate_range (T : E →ₗ[ℂ] E) (hT : IsHerm T) (hp : ∀ v, 0 ≤ (⟪v, T v⟫_ℂ).re) (L : ℝ)
    (hL : ∀ v, (⟪v, T v⟫_ℂ).re ≤ L * ‖v‖ ^ 2) (x0 : E) (h0 : T x0 ≠ 0) (k : ℕ) :
    ∃ me, (epw T x0 (k + 2)).maxEig = some me ∧ me = ‖T (epw T x0 (k + 1)).x‖ ∧ 0 < me ∧ me ≤ L ∧
      (⟪(epw T x0 (k + 1)).x, T (epw T x0 (k + 1)).x⟫_ℂ).re ≤ me := by
  have hsand := pm_estimate_rayleigh_sandwich (T.restrictScalars ℝ) (isSymm_of_herm T hT)
    (fun v => by rw [real_inner_eq_re_inner ℂ]; exact hp v) L
    (fun v => by rw [real_inner_eq_re_inner ℂ]; exact hL v) x0 h0 k
  rw [← epw_eq_pw, real_inner_eq_re_inner ℂ] at hsand
  exact ⟨_, (espirit_pm_step T x0 (k + 1)).1, rfl, norm_pos_iff.mpr (espirit_pm_unit T hT x0 h0 (k + 1)).1,
    hsand.2, hsand.1⟩

/-- **espirit_pm_estimate_mono.**  For Hermitian `T` the estimates are non-decreasing from the second update on. -/
theorem espirit_pm_estimate_mono (T : E →ₗ[ℂ] E) (hT : IsHerm T) (x0 : E) (h0 : T x0 ≠ 0) (k : ℕ) :
    ∃ a b, (epw T x0 (k + 2)).maxEig = some a ∧ (epw T x0 (k + 3)).maxEig = some b ∧ a ≤ b := by
  rw [funext (epw_eq_pw T x0)]
  exact pm_estimate_mono (T.restrictScalars ℝ) (isSymm_of_herm T hT) x0 h0 k

/-- **espirit_pm_budget.**  After `k` updates `done()` holds iff `max_iter ≤ k`, so `run()` (`while not done(): update()`)
    performs `max(max_iter, 0)` updates; `EspiritCalib` passes its budget on unchanged (`pmMaxIter max_iter = max_iter`,
    default 100). -/
theorem espirit_pm_budget (T : E →ₗ[ℂ] E) (x0 : E) (maxIter : Int) (k : ℕ) :
    pmDone (Gen.Espirit.pmMaxIter maxIter) (epw T x0 k) = true ↔ maxIter ≤ k :=
  pm_done_iff ipPmOps (⇑T) (some fun v => ‖v‖) x0 (Gen.Espirit.pmMaxIter maxIter) k

/-- the per-voxel Gram operator `c · Σ_k v_k v_kᴴ` as a ℂ-linear map -/
noncomputable def gramLin {ι : Type} (S : Finset ι) (v : ι → E) (c : ℝ) : E →ₗ[ℂ] E where
  toFun := gramOp S v c
  map_add' x y := by
    simp only [gramOp, inner_add_right, add_smul, Finset.sum_add_distrib, smul_add]
  map_smul' a x := by
    simp only [gramOp, inner_smul_right, RingHom.id_apply, Finset.smul_sum, smul_smul]
    congr 1
    funext k
    rw [mul_left_comm]

theorem gramLin_apply {ι : Type} (S : Finset ι) (v : ι → E) (c : ℝ) (x : E) : gramLin S v c x = gramOp S v c x := rfl

theorem gramLin_herm {ι : Type} (S : Finset ι) (v : ι → E) (c : ℝ) : IsHerm (gramLin S v c) :=
  fun x y => gram_symmetric S v c x y

theorem gramLin_psd {ι : Type} (S : Finset ι) (v : ι → E) (c : ℝ) (hc : 0 ≤ c) (x : E) :
    0 ≤ (⟪x, gramLin S v c x⟫_ℂ).re := by
  rw [← gramLin_herm S v c x x, gramLin_apply, (gram_psd S v c hc x).1, Complex.ofReal_re]
  exact (gram_psd S v c hc x).2

section espirit_instance
variable {C P : Type} [Fintype C] [Fintype P]

/-- **espirit_run_eig_unit_interval.**  The run `epw (gramLin …)` in `ℂ^coils` from an ARBITRARY start `x_0`: operator
    `AHA[q] = (N/kw^d)·Σ_{k ∈ S} a_k a_kᴴ` (scale generated; `S` ANY subset of the singular vectors, whatever the threshold
    test keeps), kernels orthonormal (numpy's SVD contract), image-domain values `a_k = Σ_p v_k[·,p] ε_p` with
    `|ε_p|² ≤ 1/N`.  If `AHA[q] x_0 ≠ 0`, then for EVERY number of updates: the iterate after `j+1` updates has unit ℓ2
    norm, and the eigenvalue estimate after `j+2` updates lies in `(0, 1]`.  No theorem identifies this run with the list
    model's `powerRun` (matrix `gram`, start `ones`). -/
theorem espirit_run_eig_unit_interval {ι : Type} (S : Finset ι) (v : ι → EuclideanSpace ℂ (C × P)) (hv : Orthonormal ℂ v)
    (ε : P → ℂ) (N kw : Int) (d : Nat) (hN : 0 < N) (hkw : 0 < kw) (hP : (Fintype.card P : Int) = kw ^ d)
    (hε : ∀ p, ‖ε p‖ ^ 2 ≤ 1 / (N : ℝ)) (x0 : EuclideanSpace ℂ C)
    (h0 : gramLin S (fun k => imgKernel ε (v k)) ((Gen.espiritScale N kw d : Rat) : ℝ) x0 ≠ 0) (j : ℕ) :
    ‖(epw (gramLin S (fun k => imgKernel ε (v k)) ((Gen.espiritScale N kw d : Rat) : ℝ)) x0 (j + 1)).x‖ = 1 ∧
    ∃ me, (epw (gramLin S (fun k => imgKernel ε (v k)) ((Gen.espiritScale N kw d : Rat) : ℝ)) x0 (j + 2)).maxEig = some me ∧
      0 < me ∧ me ≤ 1 := by
  have hH := gramLin_herm S (fun k => imgKernel ε (v k)) ((Gen.espiritScale N kw d : Rat) : ℝ)
  obtain ⟨me, h1, _, h3, h4, _⟩ :=
    espirit_pm_estimate_range _ hH (gramLin_psd _ _ _ (espiritScale_nonneg N kw d hN.le hkw.le)) 1
      (fun x => by
        rw [← hH x x, one_mul]
        exact (eig_le_one_espirit S v hv ε N kw d hN hkw hP hε x).2) x0 h0 j
  exact ⟨(espirit_pm_unit _ hH x0 h0 j).2, me, h1, h3, h4⟩

end espirit_instance

/-- a coil vector as an element of `ℂ^n` -/
noncomputable def toE (x : List ℂ) : EuclideanSpace ℂ (Fin x.length) := WithLp.toLp 2 fun i => x.get i

/-- `Σ_c |x_c|²` of the list model is `‖x‖²` in `ℂ^n`: the GENERATED `normalize` (`normalize_eq`) is the norm that
    `epw` is run with -/
theorem sumSq_eq_norm_sq (x : List ℂ) : sumSq x = ‖toE x‖ ^ 2 := by
  rw [EuclideanSpace.norm_sq_eq]
  unfold sumSq toE
  simp only
  rw [← List.sum_ofFn]
  congr 1
  apply List.ext_get
  · simp
  · intro n h1 h2
    simp

theorem normalize_eq_norm (x : List ℂ) : normalize cops x = ((‖toE x‖ : ℝ) : ℂ) := by
  rw [normalize_eq, sumSq_eq_norm_sq, Real.sqrt_sq (norm_nonneg _)]

/-- the hypotheses of `espirit_pm_estimate_range` can be met: `T = id` on `ℂ` (Hermitian, PSD, Rayleigh bound 1),
    `x_0 = 2`.  The first estimate is `2`: it depends on the start vector and is NOT `≤ 1`, which is why the range
    theorems start at the second update. -/
example : IsHerm (LinearMap.id : ℂ →ₗ[ℂ] ℂ) ∧ (∀ v : ℂ, 0 ≤ (⟪v, (LinearMap.id : ℂ →ₗ[ℂ] ℂ) v⟫_ℂ).re) ∧
    (∀ v : ℂ, (⟪v, (LinearMap.id : ℂ →ₗ[ℂ] ℂ) v⟫_ℂ).re ≤ 1 * ‖v‖ ^ 2) ∧ (LinearMap.id : ℂ →ₗ[ℂ] ℂ) 2 ≠ 0 ∧
    (epw (LinearMap.id : ℂ →ₗ[ℂ] ℂ) 2 1).maxEig = some 2 := by
  refine ⟨fun x y => rfl, fun v => ?_, fun v => ?_, by simp, ?_⟩
  · simp only [LinearMap.id_coe, id_eq]
    have h := inner_self_eq_norm_sq (𝕜 := ℂ) v
    simp only [RCLike.re_to_complex] at h
    rw [h]; positivity
  · simp only [LinearMap.id_coe, id_eq]
    have h := inner_self_eq_norm_sq (𝕜 := ℂ) v
    simp only [RCLike.re_to_complex] at h
    rw [h, one_mul]
  · rw [(espirit_pm_step _ _ 0).1]
    simp [epw, pmRun, pmInit]

end SigpyVerif.C17
