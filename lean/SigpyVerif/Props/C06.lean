import SigpyVerif.Model.C06
import SigpyVerif.Props.C07
import SigpyVerif.Props.C09
import SigpyVerif.Lemmas.C06
import Mathlib.Analysis.InnerProductSpace.Basic
import Mathlib.Analysis.SpecialFunctions.Pow.Real
import Mathlib.Analysis.SpecialFunctions.Complex.Log
import Mathlib.Tactic.FieldSimp
/-
  C06 — nufft approximates the NUDFT; nufft_adjoint is its exact adjoint with the same scaling.

  PARTIAL BY NATURE.  The accuracy bound (relative error < 3 % at oversamp = 1.25 / width 4 and < 0.3 % at
  oversamp = 2) is an analytic fact about Kaiser–Bessel interpolation with Beatty's beta and is NOT
  proved here; it is *measured* against the exact NUDFT by the search oracle (harness/props/c06.py).
  What the theorems carry is the structure around it — oversampled length, periodicity, one centre for all
  stages, scalings, and `nufft_adjoint` as the exact adjoint of `nufft` — stated about the definitions the
  translator regenerates from sigpy/fourier.py on every run (`Gen/NufftFormulas.lean`).  The pipelines
  themselves (`fwd`, `adj`, `nufft1`, `nufftAdjoint1` below) are compositions written here from those pieces; their stage
  order is the translator's syntactic check `Gen.nufftPipelineChecked` (trusted).  Remaining assumptions of
  the adjoint theorems: the apodisation weights are real numbers and the kernel is a real-valued function.
-/
namespace SigpyVerif.C06
open SigpyVerif
open scoped InnerProductSpace

/-- `_get_oversamp_shape`, `_scale_coord` and `_apodize` compute the oversampled length with the same
    formula; `scale = osN / N` and `shift = osN // 2`. -/
theorem os_sites_agree (os : Rat) (n : Int) :
    Gen.apodOsLen os n = Gen.oversampLen os n ∧
    Gen.scaleFactor os n = ((Gen.oversampLen os n : Int) : Rat) / (n : Rat) ∧
    Gen.scaleShift os n = pyDiv (Gen.oversampLen os n) 2 := by
  -- `rfl` for the source as written; robust to commuting the product inside `ceil` at any of the sites
  refine ⟨?_, ?_, ?_⟩ <;>
    first
      | rfl
      | simp only [Gen.apodOsLen, Gen.oversampLen, Gen.scaleFactor, Gen.scaleShift, mul_comm]

/-- for `oversamp ≥ 1` the oversampled grid is at least as long as the image: `util.resize` pads, never crops -/
theorem oversampLen_ge (os : Rat) (n : Int) (hos : 1 ≤ os) (hn : 0 ≤ n) : n ≤ Gen.oversampLen os n := by
  unfold Gen.oversampLen
  -- stated for any expression equal to `os · n` (robust to an algebraically equal spelling of the product)
  have key : ∀ q : Rat, q = os * ((n : Int) : Rat) → n ≤ Rat.ceil q := by
    intro q hq
    have h1 : ((n : Int) : Rat) ≤ q := by
      have : (0 : Rat) ≤ (n : Rat) := by exact_mod_cast hn
      rw [hq]; exact le_mul_of_one_le_left this hos
    have h2 : q ≤ ((Rat.ceil q : Int) : Rat) := Rat.le_ceil
    have : ((n : Int) : Rat) ≤ ((Rat.ceil q : Int) : Rat) := le_trans h1 h2
    exact_mod_cast this
  exact key _ (by ring)

-- N = 9, oversamp = 1.25: osN = ceil(11.25) = 12
example : Gen.oversampLen (5 / 4) 9 = 12 := by
  unfold Gen.oversampLen
  have key : ∀ q : Rat, q = 45 / 4 → Rat.ceil q = 12 := by
    intro q hq
    subst hq
    apply le_antisymm
    · rw [Rat.ceil_le_iff]; norm_num
    · have : (11 : Int) < Rat.ceil (45 / 4 : Rat) := by rw [Rat.lt_ceil_iff]; norm_num
      omega
  exact key _ (by norm_num)

/-- moving a coordinate by `m` image periods `N` moves the scaled coordinate by exactly `m` periods
    `ceil(os·N)` of the oversampled grid -/
theorem scaleCoord_period (os : Rat) (n : Int) (hn : n ≠ 0) (c : Rat) (m : Int) :
    Gen.scaleCoord os n (c + ((m * n : Int) : Rat)) =
      Gen.scaleCoord os n c + ((m * Gen.oversampLen os n : Int) : Rat) := by
  unfold Gen.scaleCoord
  rw [(os_sites_agree os n).2.1]
  have : ((n : Int) : Rat) ≠ 0 := by exact_mod_cast hn
  push_cast
  field_simp
  ring

/-- 1-D nufft: coordinates `c_j + m_j N` give literally the same interpolation update list as `c_j`
    (hence the same output): the transform is periodic with the period of the image, also far outside
    `[-N/2, N/2)`. `ish 1` is the oversampled grid length. -/
theorem nufft_periodic1 (K : Rat → Rat → Rat) (osh ish csh : Int → Int) (os : Rat) (shape : Int → Int)
    (c : Int → Int → Rat) (m : Int → Int) (width param : Int → Rat)
    (hN : 0 < shape (-1)) (hos : 1 ≤ os) (hg : ish 1 = Gen.oversampLen os (shape (-1))) :
    Gen.interp1 K osh ish csh (fun j k => Gen.scaleCoord os (shape k) (c j k + ((m j * shape k : Int) : Rat))) width param
      = Gen.interp1 K osh ish csh (fun j k => Gen.scaleCoord os (shape k) (c j k)) width param := by
  apply C07.interp1_shift_period (mx := m)
  · rw [hg]; exact lt_of_lt_of_le hN (oversampLen_ge os _ hos (le_of_lt hN))
  · intro j; rw [hg]; exact scaleCoord_period os _ (ne_of_gt hN) _ _

theorem nufft_periodic2 (K : Rat → Rat → Rat) (osh ish csh : Int → Int) (os : Rat) (shape : Int → Int)
    (c : Int → Int → Rat) (m : Int → Int → Int) (width param : Int → Rat)
    (hNy : 0 < shape (-2)) (hNx : 0 < shape (-1)) (hos : 1 ≤ os)
    (hgy : ish 1 = Gen.oversampLen os (shape (-2))) (hgx : ish 2 = Gen.oversampLen os (shape (-1))) :
    Gen.interp2 K osh ish csh (fun j k => Gen.scaleCoord os (shape k) (c j k + ((m j k * shape k : Int) : Rat))) width param
      = Gen.interp2 K osh ish csh (fun j k => Gen.scaleCoord os (shape k) (c j k)) width param := by
  apply C07.interp2_shift_period (my := fun j => m j (-2)) (mx := fun j => m j (-1))
  · rw [hgy]; exact lt_of_lt_of_le hNy (oversampLen_ge os _ hos (le_of_lt hNy))
  · rw [hgx]; exact lt_of_lt_of_le hNx (oversampLen_ge os _ hos (le_of_lt hNx))
  · intro j; rw [hgy]; exact scaleCoord_period os _ (ne_of_gt hNy) _ _
  · intro j; rw [hgx]; exact scaleCoord_period os _ (ne_of_gt hNx) _ _

theorem nufft_periodic3 (K : Rat → Rat → Rat) (osh ish csh : Int → Int) (os : Rat) (shape : Int → Int)
    (c : Int → Int → Rat) (m : Int → Int → Int) (width param : Int → Rat)
    (hNz : 0 < shape (-3)) (hNy : 0 < shape (-2)) (hNx : 0 < shape (-1)) (hos : 1 ≤ os)
    (hgz : ish 1 = Gen.oversampLen os (shape (-3))) (hgy : ish 2 = Gen.oversampLen os (shape (-2)))
    (hgx : ish 3 = Gen.oversampLen os (shape (-1))) :
    Gen.interp3 K osh ish csh (fun j k => Gen.scaleCoord os (shape k) (c j k + ((m j k * shape k : Int) : Rat))) width param
      = Gen.interp3 K osh ish csh (fun j k => Gen.scaleCoord os (shape k) (c j k)) width param := by
  apply C07.interp3_shift_period (mz := fun j => m j (-3)) (my := fun j => m j (-2)) (mx := fun j => m j (-1))
  · rw [hgz]; exact lt_of_lt_of_le hNz (oversampLen_ge os _ hos (le_of_lt hNz))
  · rw [hgy]; exact lt_of_lt_of_le hNy (oversampLen_ge os _ hos (le_of_lt hNy))
  · rw [hgx]; exact lt_of_lt_of_le hNx (oversampLen_ge os _ hos (le_of_lt hNx))
  · intro j; rw [hgz]; exact scaleCoord_period os _ (ne_of_gt hNz) _ _
  · intro j; rw [hgy]; exact scaleCoord_period os _ (ne_of_gt hNy) _ _
  · intro j; rw [hgx]; exact scaleCoord_period os _ (ne_of_gt hNx) _ _

/-- one term of the exact transform (the specification): `exp(-2πi k (n - N//2) / N)` -/
noncomputable def nudftTerm (N : ℤ) (k : ℝ) (n : ℤ) : ℂ :=
  Complex.exp (-2 * Real.pi * Complex.I * k * ((n - N / 2 : ℤ) : ℂ) / N)

/-- the exact transform has period `N` in each coordinate -/
theorem nudft_periodic (N : ℤ) (hN : N ≠ 0) (k : ℝ) (n m : ℤ) :
    nudftTerm N (k + m * N) n = nudftTerm N k n := by
  unfold nudftTerm
  rw [Complex.exp_eq_exp_iff_exists_int]
  refine ⟨-(m * (n - N / 2)), ?_⟩
  have : (N : ℂ) ≠ 0 := by exact_mod_cast hN
  rw [div_add' _ _ _ this, div_left_inj' this]
  push_cast
  ring

/-- zero-padding (`util.resize` with default shifts, `C09.resize_default_aligns`) puts image sample `j` on
    oversampled index `k` exactly when `j - apodCentre = k - scaleShift`: the image index `N//2` where
    `_apodize` is centred (and from which the NUDFT measures `n`) lands on `osN//2`, the `shift` that
    `_scale_coord` adds to the coordinates. -/
theorem grid_centre_consistency (os : Rat) (N k j : Int) :
    C09.resizeSrc1 N (Gen.oversampLen os N) (Gen.resizeIshiftDefault N (Gen.oversampLen os N))
        (Gen.resizeOshiftDefault N (Gen.oversampLen os N)) k = some j ↔
      (0 ≤ k ∧ k < Gen.oversampLen os N ∧ 0 ≤ j ∧ j < N ∧
        j - Gen.apodCentre N = k - Gen.scaleShift os N) := by
  rw [C09.resize_default_aligns, (os_sites_agree os N).2.2]
  unfold Gen.apodCentre
  simp only [pyDiv_of_pos _ (show (0 : Int) < 2 by decide)]

/-- the crop of `nufft_adjoint` uses the same alignment (it is the transposed relation) -/
theorem crop_centre_consistency (os : Rat) (N k j : Int) :
    C09.resizeSrc1 (Gen.oversampLen os N) N (Gen.resizeIshiftDefault (Gen.oversampLen os N) N)
        (Gen.resizeOshiftDefault (Gen.oversampLen os N) N) j = some k ↔
      (0 ≤ k ∧ k < Gen.oversampLen os N ∧ 0 ≤ j ∧ j < N ∧
        j - Gen.apodCentre N = k - Gen.scaleShift os N) := by
  rw [C09.resize_default_aligns, (os_sites_agree os N).2.2]
  unfold Gen.apodCentre
  simp only [pyDiv_of_pos _ (show (0 : Int) < 2 by decide)]
  constructor <;> rintro ⟨h1, h2, h3, h4, h5⟩ <;> exact ⟨h3, h4, h1, h2, by omega⟩

/-- frequency 0 is sent to the oversampled index `osN//2` -/
theorem dc_lands_on_centre (os : Rat) (N : Int) :
    Gen.scaleCoord os N 0 = ((Gen.scaleShift os N : Int) : Rat) := by
  unfold Gen.scaleCoord; simp

/-- the adjoint's multiplier `ΠosN / √ΠN` is the forward's `1/√ΠN` times `ΠosN` (the factor that turns
    numpy's unnormalised inverse FFT, which divides by `ΠosN`, into the adjoint of the unnormalised
    FFT), and both divide by the same `width ** ndim`. -/
theorem scale_consistency (prodOs prodN : Int) (width : ℝ) (ndim : Nat) :
    Gen.nufftAdjMul Real.sqrt prodOs prodN = (prodOs : ℝ) * (Gen.nufftFwdDiv Real.sqrt prodN)⁻¹ ∧
    Gen.nufftAdjWidthDiv Real.sqrt width ndim = Gen.nufftFwdWidthDiv Real.sqrt width ndim ∧
    Gen.nufftFwdDiv Real.sqrt prodN = Real.sqrt prodN ∧
    Gen.nufftFwdWidthDiv Real.sqrt width ndim = width ^ ndim := by
  refine ⟨?_, rfl, rfl, rfl⟩
  unfold Gen.nufftAdjMul Gen.nufftFwdDiv
  rw [div_eq_mul_inv]

/-- The two constants are the literal `true` that the translator writes after it has found the documented stage
    order, `width=width, param=beta` handed to both interpolation calls, one beta formula and `os_shape` from
    `_get_oversamp_shape` in both functions (it aborts otherwise).  Trusted: the statement itself carries no
    content. -/
theorem pipeline_checked : Gen.nufftPipelineChecked = true ∧ Gen.apodFormulaChecked = true := ⟨rfl, rfl⟩

section pipeline
variable {X G Y : Type*}
  [NormedAddCommGroup X] [InnerProductSpace ℂ X]
  [NormedAddCommGroup G] [InnerProductSpace ℂ G]
  [NormedAddCommGroup Y] [InnerProductSpace ℂ Y]

/-- `nufft` as the composition of its stages: apodise, divide by `a`, zero-pad, unnormalised FFT,
    interpolate, divide by `w`. -/
noncomputable def fwd (A : X →ₗ[ℂ] X) (R : X →ₗ[ℂ] G) (F : G →ₗ[ℂ] G) (I : G →ₗ[ℂ] Y) (a w : ℝ) (x : X) : Y :=
  ((w : ℂ)⁻¹) • I (F (R (((a : ℂ)⁻¹) • A x)))

/-- `nufft_adjoint`: grid, divide by `w`, unnormalised IFFT, crop, multiply by `s`, apodise. -/
noncomputable def adj (A : X →ₗ[ℂ] X) (Rt : G →ₗ[ℂ] X) (Fi : G →ₗ[ℂ] G) (Gr : Y →ₗ[ℂ] G) (s w : ℝ) (y : Y) : X :=
  A (((s : ℂ)) • Rt (Fi (((w : ℂ)⁻¹) • Gr y)))

/-- stagewise adjointness with real scalars `a, s, w` and `s = M / a` -/
theorem pipeline_adjoint (A : X →ₗ[ℂ] X) (R : X →ₗ[ℂ] G) (Rt : G →ₗ[ℂ] X) (F Fi : G →ₗ[ℂ] G)
    (I : G →ₗ[ℂ] Y) (Gr : Y →ₗ[ℂ] G) (a s w M : ℝ)
    (hA : ∀ u v, ⟪A u, v⟫_ℂ = ⟪u, A v⟫_ℂ)
    (hR : ∀ u v, ⟪R u, v⟫_ℂ = ⟪u, Rt v⟫_ℂ)
    (hF : ∀ u v, ⟪F u, v⟫_ℂ = ⟪u, (M : ℂ) • Fi v⟫_ℂ)
    (hI : ∀ u v, ⟪I u, v⟫_ℂ = ⟪u, Gr v⟫_ℂ)
    (hs : s = M * a⁻¹) (x : X) (y : Y) :
    ⟪fwd A R F I a w x, y⟫_ℂ = ⟪x, adj A Rt Fi Gr s w y⟫_ℂ := by
  unfold fwd adj
  simp only [map_smul, inner_smul_left, inner_smul_right, hI, hF, hR, hA, hs]
  simp only [map_inv₀, Complex.conj_ofReal]
  push_cast
  ring

/-- `nufft_adjoint` is exactly the adjoint of `nufft`, with the scalings the code uses
    (`Gen.nufftFwdDiv`, `Gen.nufftAdjMul`, `Gen.nufftFwdWidthDiv`, `Gen.nufftAdjWidthDiv` at `ℝ`), given
    the stage facts owned by the other properties:
    `hA` the apodisation is a real diagonal (self-adjoint), `hR` pad/crop are an adjoint pair (C09/C01),
    `hF` `ΠosN · uIFFT = uFFTᴴ` (C05), `hI` gridding = interpolationᴴ (C07, real weights). -/
theorem nufft_adjoint_is_adjoint (A : X →ₗ[ℂ] X) (R : X →ₗ[ℂ] G) (Rt : G →ₗ[ℂ] X) (F Fi : G →ₗ[ℂ] G)
    (I : G →ₗ[ℂ] Y) (Gr : Y →ₗ[ℂ] G) (prodOs prodN : Int) (width : ℝ) (ndim : Nat)
    (hA : ∀ u v, ⟪A u, v⟫_ℂ = ⟪u, A v⟫_ℂ)
    (hR : ∀ u v, ⟪R u, v⟫_ℂ = ⟪u, Rt v⟫_ℂ)
    (hF : ∀ u v, ⟪F u, v⟫_ℂ = ⟪u, ((prodOs : ℝ) : ℂ) • Fi v⟫_ℂ)
    (hI : ∀ u v, ⟪I u, v⟫_ℂ = ⟪u, Gr v⟫_ℂ) (x : X) (y : Y) :
    ⟪fwd A R F I (Gen.nufftFwdDiv Real.sqrt prodN) (Gen.nufftFwdWidthDiv Real.sqrt width ndim) x, y⟫_ℂ =
      ⟪x, adj A Rt Fi Gr (Gen.nufftAdjMul Real.sqrt prodOs prodN) (Gen.nufftAdjWidthDiv Real.sqrt width ndim) y⟫_ℂ :=
  pipeline_adjoint A R Rt F Fi I Gr _ _ _ (prodOs : ℝ) hA hR hF hI (scale_consistency prodOs prodN width ndim).1 x y

end pipeline

section concrete1d
open Matrix

/-- the root of unity of numpy's forward transform of length `L`: `exp(-2πi/L)` -/
noncomputable def fftRoot (L : ℕ) : ℂ := (Complex.exp (2 * Real.pi * Complex.I / L))⁻¹

theorem fftRoot_primitive (L : ℕ) (hL : 0 < L) : IsPrimitiveRoot (fftRoot L) L :=
  (Complex.isPrimitiveRoot_exp L hL.ne').inv

theorem dftMatrix_conjTranspose_one {ω : ℂ} {L : ℕ} (hω : IsPrimitiveRoot ω L) (center : Bool) :
    (C05.dftMatrix ω L center 1)ᴴ = (L : ℂ) • C05.dftMatrix ω⁻¹ L center (1 / L) := by
  rw [← C05.idftMatrix_eq_conjTranspose hω]
  ext k j
  have hL : (L : ℂ) ≠ 0 := Nat.cast_ne_zero.mpr k.pos.ne'
  simp only [C05.dftMatrix, Matrix.smul_apply, Matrix.of_apply, smul_eq_mul]
  rw [← mul_assoc, Complex.ofReal_div, Complex.ofReal_one, Complex.ofReal_natCast, mul_one_div_cancel hL]

/-- `_apodize` on one axis: multiplication by a REAL weight per image sample -/
noncomputable def apodLin (N : ℕ) (a : Fin N → ℝ) : EuclideanSpace ℂ (Fin N) →ₗ[ℂ] EuclideanSpace ℂ (Fin N) :=
  Matrix.toEuclideanLin (Matrix.diagonal fun n => ((a n : ℝ) : ℂ))

/-- `util.resize(output, os_shape)` / `util.resize(output, oshape)`: C09's model with default shifts -/
noncomputable def resizeLin (i o : ℕ) : EuclideanSpace ℂ (Fin i) →ₗ[ℂ] EuclideanSpace ℂ (Fin o) :=
  Matrix.toEuclideanLin (resizeMat i o)

/-- `fft(output, norm=None)`: C05's centred DFT matrix with scale 1 -/
noncomputable def ufftLin (L : ℕ) : EuclideanSpace ℂ (Fin L) →ₗ[ℂ] EuclideanSpace ℂ (Fin L) :=
  Matrix.toEuclideanLin (C05.dftMatrix (fftRoot L) L true 1)

/-- `ifft(output, norm=None)`: C05's centred inverse DFT matrix with numpy's scale `1/L` -/
noncomputable def uifftLin (L : ℕ) : EuclideanSpace ℂ (Fin L) →ₗ[ℂ] EuclideanSpace ℂ (Fin L) :=
  Matrix.toEuclideanLin (C05.dftMatrix (fftRoot L)⁻¹ L true (1 / L))

/-- shapes `[a, b]` as the kernels read them (`shape[0]`, `shape[1]`) -/
def shape2 (a b : ℤ) : ℤ → ℤ := fun k => if k = 0 then a else b

/-- `interp.interpolate` on one axis, batch size 1: C07's generated update list `Gen.interp1` (grid length `L`,
    `M` points), each rational weight / kernel argument sent through the real-valued `wt` and applied to
    complex data with `+=` (C07's `runUpd`).  Kaiser–Bessel: `K = fun u _ => u`, `wt = kb_β ∘ cast`;
    spline: `K = Gen.splineKernel`, `wt = cast`. -/
noncomputable def interpLin (K : Rat → Rat → Rat) (wt : Rat → ℝ) (L M : ℕ) (coord : Int → Int → Rat)
    (width param : Int → Rat) : EuclideanSpace ℂ (Fin L) →ₗ[ℂ] EuclideanSpace ℂ (Fin M) :=
  updLin (cw wt (Gen.interp1 K (shape2 1 M) (shape2 1 L) (shape2 M 1) coord width param)) L M

/-- `interp.gridding`: C07's generated `Gen.grid1`, same conventions -/
noncomputable def gridLin (K : Rat → Rat → Rat) (wt : Rat → ℝ) (L M : ℕ) (coord : Int → Int → Rat)
    (width param : Int → Rat) : EuclideanSpace ℂ (Fin M) →ₗ[ℂ] EuclideanSpace ℂ (Fin L) :=
  updLin (cw wt (Gen.grid1 K (shape2 1 L) (shape2 1 M) (shape2 M 1) coord width param)) M L

theorem apod_selfadjoint (N : ℕ) (a : Fin N → ℝ) (u v : EuclideanSpace ℂ (Fin N)) :
    ⟪apodLin N a u, v⟫_ℂ = ⟪u, apodLin N a v⟫_ℂ := by
  refine inner_toEuclideanLin_of_conjTranspose ?_ u v
  rw [Matrix.diagonal_conjTranspose]
  exact congrArg _ (funext fun n => Complex.conj_ofReal (a n))

/-- zero-pad and crop are an adjoint pair (C09: `resize_transpose`, `resize_default_swap`) -/
theorem resize_adjoint (i o : ℕ) (u : EuclideanSpace ℂ (Fin i)) (v : EuclideanSpace ℂ (Fin o)) :
    ⟪resizeLin i o u, v⟫_ℂ = ⟪u, resizeLin o i v⟫_ℂ :=
  inner_toEuclideanLin_of_conjTranspose (resizeMat_conjTranspose i o) u v

/-- `L · uIFFT = uFFTᴴ` (C05: `idftMatrix_eq_conjTranspose`) -/
theorem ufft_adjoint (L : ℕ) (hL : 0 < L) (u v : EuclideanSpace ℂ (Fin L)) :
    ⟪ufftLin L u, v⟫_ℂ = ⟪u, (((L : ℤ) : ℝ) : ℂ) • uifftLin L v⟫_ℂ := by
  have hc : (((L : ℤ) : ℝ) : ℂ) = (L : ℂ) := by push_cast; rfl
  rw [hc]
  exact inner_toEuclideanLin_of_conjTranspose_smul (dftMatrix_conjTranspose_one (fftRoot_primitive L hL) true) u v

/-- gridding = interpolationᴴ (C07: `grid1_eq_transpose_interp1`, `transpose_pairing`, `interp1_in_bounds`) -/
theorem interp_adjoint (K : Rat → Rat → Rat) (wt : Rat → ℝ) (L M : ℕ) (hL : 0 < L) (coord : Int → Int → Rat)
    (width param : Int → Rat) (u : EuclideanSpace ℂ (Fin L)) (v : EuclideanSpace ℂ (Fin M)) :
    ⟪interpLin K wt L M coord width param u, v⟫_ℂ = ⟪u, gridLin K wt L M coord width param v⟫_ℂ := by
  unfold interpLin gridLin
  rw [C07.grid1_eq_transpose_interp1, cw_swap]
  have hb : ∀ w ∈ cw wt (Gen.interp1 K (shape2 1 M) (shape2 1 L) (shape2 M 1) coord width param),
      (∃ j : Fin M, w.1 = [0, ((j : ℕ) : ℤ)]) ∧ (∃ s : Fin L, w.2.1 = [0, ((s : ℕ) : ℤ)]) := by
    intro w hw
    obtain ⟨v', hv', rfl⟩ := List.mem_map.mp hw
    obtain ⟨j, i, b, hj0, hj1, -, hb0, hb1, rfl⟩ := (C07.interp1_mem ..).mp hv'
    obtain rfl : b = 0 := le_antisymm (Int.lt_add_one_iff.mp hb1) hb0
    obtain ⟨sj, rfl⟩ := exists_fin_cast (n := M) hj0 hj1
    obtain ⟨si, hi⟩ := exists_fin_pyMod hL i
    exact ⟨⟨sj, rfl⟩, ⟨si, by simp only [hi]; rfl⟩⟩
  exact updLin_adjoint _ L M (cw_real wt _) (fun w hw => (hb w hw).1) (fun w hw => (hb w hw).2) u v

/-- `nufft_adjoint_is_adjoint` at Euclidean spaces.  Unifying the instances of the general statement with those of
    `EuclideanSpace` is by far the dearest step in each of the concrete cases (1-D, 2-D, batched); here it is done once. -/
theorem nufft_adjoint_is_adjoint_euclidean {ι γ κ : Type} [Fintype ι] [Fintype γ] [Fintype κ]
    (A : EuclideanSpace ℂ ι →ₗ[ℂ] EuclideanSpace ℂ ι) (R : EuclideanSpace ℂ ι →ₗ[ℂ] EuclideanSpace ℂ γ)
    (Rt : EuclideanSpace ℂ γ →ₗ[ℂ] EuclideanSpace ℂ ι) (F Fi : EuclideanSpace ℂ γ →ₗ[ℂ] EuclideanSpace ℂ γ)
    (I : EuclideanSpace ℂ γ →ₗ[ℂ] EuclideanSpace ℂ κ) (Gr : EuclideanSpace ℂ κ →ₗ[ℂ] EuclideanSpace ℂ γ)
    (prodOs prodN : Int) (width : ℝ) (ndim : Nat)
    (hA : ∀ u v, ⟪A u, v⟫_ℂ = ⟪u, A v⟫_ℂ)
    (hR : ∀ u v, ⟪R u, v⟫_ℂ = ⟪u, Rt v⟫_ℂ)
    (hF : ∀ u v, ⟪F u, v⟫_ℂ = ⟪u, ((prodOs : ℝ) : ℂ) • Fi v⟫_ℂ)
    (hI : ∀ u v, ⟪I u, v⟫_ℂ = ⟪u, Gr v⟫_ℂ) (x : EuclideanSpace ℂ ι) (y : EuclideanSpace ℂ κ) :
    ⟪fwd A R F I (Gen.nufftFwdDiv Real.sqrt prodN) (Gen.nufftFwdWidthDiv Real.sqrt width ndim) x, y⟫_ℂ =
      ⟪x, adj A Rt Fi Gr (Gen.nufftAdjMul Real.sqrt prodOs prodN) (Gen.nufftAdjWidthDiv Real.sqrt width ndim) y⟫_ℂ :=
  nufft_adjoint_is_adjoint A R Rt F Fi I Gr prodOs prodN width ndim hA hR hF hI x y

/-- `nufft` on one axis, assembled from the concrete stages with the code's constants -/
noncomputable def nufft1 (os : Rat) (N L M : ℕ) (a : Fin N → ℝ) (K : Rat → Rat → Rat) (wt : Rat → ℝ)
    (c : Int → Int → Rat) (W : Rat) (param : Int → Rat) (x : EuclideanSpace ℂ (Fin N)) : EuclideanSpace ℂ (Fin M) :=
  fwd (apodLin N a) (resizeLin N L) (ufftLin L)
    (interpLin K wt L M (fun j k => Gen.scaleCoord os N (c j k)) (fun _ => W) param)
    (Gen.nufftFwdDiv Real.sqrt (N : ℤ)) (Gen.nufftFwdWidthDiv Real.sqrt (W : ℝ) 1) x

/-- `nufft_adjoint` on one axis -/
noncomputable def nufftAdjoint1 (os : Rat) (N L M : ℕ) (a : Fin N → ℝ) (K : Rat → Rat → Rat) (wt : Rat → ℝ)
    (c : Int → Int → Rat) (W : Rat) (param : Int → Rat) (y : EuclideanSpace ℂ (Fin M)) : EuclideanSpace ℂ (Fin N) :=
  adj (apodLin N a) (resizeLin L N) (uifftLin L)
    (gridLin K wt L M (fun j k => Gen.scaleCoord os N (c j k)) (fun _ => W) param)
    (Gen.nufftAdjMul Real.sqrt (L : ℤ) (N : ℤ)) (Gen.nufftAdjWidthDiv Real.sqrt (W : ℝ) 1) y

/-- **`nufft_adjoint` is exactly the adjoint of `nufft` (one transform axis), no stage fact assumed.**
    The pipeline is built from: a real diagonal apodisation `a` (real weights: the only assumption on `_apodize`),
    C09's zero-pad / crop with default shifts, C05's centred unnormalised DFT / numpy-normalised inverse DFT matrices
    of the oversampled length `L > 0` (for sigpy `L = ceil(os·N)`, positive by `oversampLen_ge`), and C07's generated
    update lists `Gen.interp1` / `Gen.grid1` on the coordinates `Gen.scaleCoord os N c_j` with weights sent through a
    REAL-valued function `wt` (the only assumption on the Kaiser–Bessel kernel: it is real-valued), with the scalings
    `Gen.nufftFwdDiv`, `Gen.nufftFwdWidthDiv`, `Gen.nufftAdjMul`, `Gen.nufftAdjWidthDiv` generated from the code.
    Then `⟪nufft x, y⟫ = ⟪x, nufft_adjoint y⟫` for all `x ∈ ℂ^N`, `y ∈ ℂ^M`. -/
theorem nufft_adjoint_is_adjoint_1d (os : Rat) (N L M : ℕ) (hL : 0 < L) (a : Fin N → ℝ) (K : Rat → Rat → Rat)
    (wt : Rat → ℝ) (c : Int → Int → Rat) (W : Rat) (param : Int → Rat)
    (x : EuclideanSpace ℂ (Fin N)) (y : EuclideanSpace ℂ (Fin M)) :
    ⟪nufft1 os N L M a K wt c W param x, y⟫_ℂ = ⟪x, nufftAdjoint1 os N L M a K wt c W param y⟫_ℂ :=
  nufft_adjoint_is_adjoint_euclidean _ _ _ _ _ _ _ (L : ℤ) (N : ℤ) (W : ℝ) 1 (apod_selfadjoint N a)
    (resize_adjoint N L) (ufft_adjoint L hL) (interp_adjoint K wt L M hL _ _ _) x y

/-- the oversampled length sigpy uses is positive for a non-empty image and `oversamp ≥ 1` -/
theorem oversampLen_pos (os : Rat) (N : ℕ) (hN : 0 < N) (hos : 1 ≤ os) : 0 < (Gen.oversampLen os N).toNat := by
  have := oversampLen_ge os N hos (by omega)
  omega

/-- the same with sigpy's grid length `L = ceil(os·N)` (`Gen.oversampLen`) -/
theorem nufft_adjoint_is_adjoint_1d_code (os : Rat) (N M : ℕ) (hN : 0 < N) (hos : 1 ≤ os) (a : Fin N → ℝ)
    (K : Rat → Rat → Rat) (wt : Rat → ℝ) (c : Int → Int → Rat) (W : Rat) (param : Int → Rat)
    (x : EuclideanSpace ℂ (Fin N)) (y : EuclideanSpace ℂ (Fin M)) :
    ⟪nufft1 os N (Gen.oversampLen os N).toNat M a K wt c W param x, y⟫_ℂ =
      ⟪x, nufftAdjoint1 os N (Gen.oversampLen os N).toNat M a K wt c W param y⟫_ℂ :=
  nufft_adjoint_is_adjoint_1d os N _ M (oversampLen_pos os N hN hos) a K wt c W param x y

end concrete1d

end SigpyVerif.C06
