import SigpyVerif.Props.C09
import SigpyVerif.Lemmas.C09
/-
  C09 — `util.resize` in N dimensions.  `Props/C09.lean` proves the index map one axis at a time; here
  it is lifted to the function the driver runs (`C09.resize` of Model/C09.lean, compared with
  `sigpy.util.resize` on every run) on whole row-major arrays.
-/
namespace SigpyVerif.C09
open SigpyVerif

/-- `_expand_shapes` left-pads both shapes with ones to the common rank `max (len a) (len b)` -/
theorem expandShapes_spec (a b : List Int) :
    (expandShapes a b).1 = List.replicate (max a.length b.length - a.length) 1 ++ a ∧
    (expandShapes a b).2 = List.replicate (max a.length b.length - b.length) 1 ++ b ∧
    (expandShapes a b).1.length = max a.length b.length ∧
    (expandShapes a b).2.length = max a.length b.length := by
  unfold expandShapes
  refine ⟨rfl, rfl, ?_, ?_⟩
  · rw [List.length_append, List.length_replicate]; exact Nat.sub_add_cancel (le_max_left _ _)
  · rw [List.length_append, List.length_replicate]; exact Nat.sub_add_cancel (le_max_right _ _)

/-- padding with ones does not change the number of elements: the expanded input/output are
    reshapes of the original arrays -/
theorem expandShapes_prod (a b : List Int) :
    shapeProd (expandShapes a b).1 = shapeProd a ∧ shapeProd (expandShapes a b).2 = shapeProd b := by
  unfold expandShapes
  simp only [shapeProd_append, shapeProd_replicate_one, one_mul, and_self]

theorem expandShapes_same_rank (a b : List Int) (h : a.length = b.length) : expandShapes a b = (a, b) := by
  unfold expandShapes; simp [h]

example : expandShapes [3, 4] [2, 5, 6] = ([1, 3, 4], [2, 5, 6]) := by decide +kernel

/-- the recursion of `resizeSrc`: the leading axis goes through `resizeSrc1`, the other axes through `resizeSrc` -/
theorem resizeSrc_cons_eq_some (i o s1 s2 k0 : Int) (is os sis sos ks j : List Int) :
    resizeSrc (i :: is) (o :: os) (s1 :: sis) (s2 :: sos) (k0 :: ks) = some j ↔
      ∃ j0 js, resizeSrc1 i o s1 s2 k0 = some j0 ∧ resizeSrc is os sis sos ks = some js ∧ j = j0 :: js := by
  simp only [resizeSrc, resizeSrc.go, Option.pure_def, Option.bind_eq_bind, Option.bind_eq_some_iff,
    Option.some.injEq]
  constructor
  · rintro ⟨j0, h1, js, h2, rfl⟩; exact ⟨j0, js, h1, h2, rfl⟩
  · rintro ⟨j0, js, h1, h2, rfl⟩; exact ⟨j0, h1, js, h2, rfl⟩

theorem resizeSrc_cons_eq_some_cons (i o s1 s2 k0 j0 : Int) (is os sis sos ks js : List Int) :
    resizeSrc (i :: is) (o :: os) (s1 :: sis) (s2 :: sos) (k0 :: ks) = some (j0 :: js) ↔
      resizeSrc1 i o s1 s2 k0 = some j0 ∧ resizeSrc is os sis sos ks = some js := by
  rw [resizeSrc_cons_eq_some]
  constructor
  · rintro ⟨_, _, h1, h2, e⟩; cases e; exact ⟨h1, h2⟩
  · rintro ⟨h1, h2⟩; exact ⟨j0, js, h1, h2, rfl⟩

theorem resizeSrc_nil : resizeSrc [] [] [] [] [] = some [] := rfl

/-- **`resizeSrc` is `resizeSrc1` on every axis.**  Output multi-index `k` reads input multi-index `j`
    iff all six lists have the same rank and on every axis `d` the one-axis window rule holds. -/
theorem resizeSrc_spec (ish osh si so k j : List Int) :
    resizeSrc ish osh si so k = some j ↔
      (osh.length = ish.length ∧ si.length = ish.length ∧ so.length = ish.length ∧
        k.length = ish.length ∧ j.length = ish.length ∧
        ∀ d, d < ish.length →
          resizeSrc1 (ish.getD d 0) (osh.getD d 0) (si.getD d 0) (so.getD d 0) (k.getD d 0)
            = some (j.getD d 0)) := by
  constructor
  · intro h
    unfold resizeSrc at h
    -- along the recursion of `resizeSrc.go`: an answer is only given on five lists of one length
    fun_induction resizeSrc.go ish osh si so k generalizing j with
    | case1 i is o os s1 sis s2 sos k0 ks ih =>
      obtain ⟨j0, js, h1, h2, rfl⟩ := (resizeSrc_cons_eq_some ..).mp h
      obtain ⟨e1, e2, e3, e4, e5, e6⟩ := ih js h2
      simp only [List.length_cons, Nat.add_right_cancel_iff, Nat.forall_lt_succ_left,
        List.getD_cons_zero, List.getD_cons_succ]
      exact ⟨e1, e2, e3, e4, e5, h1, e6⟩
    | case2 => cases h; simp
    | case3 => cases h
  · rintro ⟨e1, e2, e3, e4, e5, e6⟩
    induction ish generalizing osh si so k j with
    | nil =>
      rw [List.length_nil, List.length_eq_zero_iff] at e1 e2 e3 e4 e5
      subst e1 e2 e3 e4 e5
      rfl
    | cons i is ih =>
      obtain ⟨o, os, rfl⟩ := List.exists_cons_of_length_eq_add_one e1
      obtain ⟨s1, sis, rfl⟩ := List.exists_cons_of_length_eq_add_one e2
      obtain ⟨s2, sos, rfl⟩ := List.exists_cons_of_length_eq_add_one e3
      obtain ⟨k0, ks, rfl⟩ := List.exists_cons_of_length_eq_add_one e4
      obtain ⟨j0, js, rfl⟩ := List.exists_cons_of_length_eq_add_one e5
      simp only [List.length_cons, Nat.add_right_cancel_iff, Nat.forall_lt_succ_left,
        List.getD_cons_zero, List.getD_cons_succ] at e1 e2 e3 e4 e5 e6
      exact (resizeSrc_cons_eq_some_cons ..).mpr ⟨e6.1, ih _ _ _ _ _ e1 e2 e3 e4 e5 e6.2⟩

/-- **Default alignment in N dimensions.**  With the default shifts of `util.resize`, output
    multi-index `k` reads input multi-index `j` exactly when both are in range and on *every* axis
    `j_d − i_d//2 = k_d − o_d//2`: the centres `i//2` and `o//2` are aligned axis by axis, every pair
    that can be copied is copied (pad, crop, and mixed per axis), nothing else is. -/
theorem resize_default_aligns_nd (ish osh k j : List Int) (hr : osh.length = ish.length) :
    resizeSrc ish osh (List.zipWith Gen.resizeIshiftDefault ish osh)
        (List.zipWith Gen.resizeOshiftDefault ish osh) k = some j ↔
      (k.length = ish.length ∧ j.length = ish.length ∧
        ∀ d, d < ish.length →
          0 ≤ k.getD d 0 ∧ k.getD d 0 < osh.getD d 0 ∧ 0 ≤ j.getD d 0 ∧ j.getD d 0 < ish.getD d 0 ∧
            j.getD d 0 - ish.getD d 0 / 2 = k.getD d 0 - osh.getD d 0 / 2) := by
  rw [resizeSrc_spec]
  simp only [List.length_zipWith, hr, Nat.min_self, true_and]
  refine and_congr_right fun _ => and_congr_right fun _ => forall₂_congr fun d hd => ?_
  rw [getD_zipWith _ _ _ d hd (hr ▸ hd), getD_zipWith _ _ _ d hd (hr ▸ hd), resize_default_aligns]

/-- **Transpose in N dimensions.**  Swapping input and output (and the two shift lists) transposes
    the index relation: `Resize(o, i, ishift, oshift).H = Resize(i, o, oshift, ishift)` entry by entry. -/
theorem resize_transpose_nd (ish osh si so k j : List Int) :
    resizeSrc ish osh si so k = some j ↔ resizeSrc osh ish so si j = some k := by
  have mp : ∀ ish osh si so k j, resizeSrc ish osh si so k = some j →
      resizeSrc osh ish so si j = some k := by
    intro ish osh si so k j h
    obtain ⟨e1, e2, e3, e4, e5, h⟩ := (resizeSrc_spec ..).mp h
    exact (resizeSrc_spec ..).mpr ⟨e1.symm, e3.trans e1.symm, e2.trans e1.symm, e5.trans e1.symm,
      e4.trans e1.symm, fun d hd => (resize_transpose ..).mp (h d (e1 ▸ hd))⟩
  exact ⟨mp ish osh si so k j, mp osh ish so si j k⟩

/-- non-negative shifts never read or write out of bounds, on any axis -/
theorem resize_in_bounds_nd (ish osh si so k j : List Int) (h1 : ∀ s ∈ si, 0 ≤ s)
    (h2 : ∀ s ∈ so, 0 ≤ s) (h : resizeSrc ish osh si so k = some j) :
    k ∈ allIdx osh ∧ j ∈ allIdx ish := by
  obtain ⟨e1, e2, e3, e4, e5, h⟩ := (resizeSrc_spec _ _ _ _ _ _).mp h
  rw [mem_allIdx_iff_getD, mem_allIdx_iff_getD]
  have hb : ∀ d, d < ish.length → _ := fun d hd =>
    resize_in_bounds _ _ _ _ _ _
      (getD_nonneg si h1 d) (getD_nonneg so h2 d) (h d hd)
  exact ⟨⟨e4.trans e1.symm, fun d hd => ⟨(hb d (e1 ▸ hd)).1, (hb d (e1 ▸ hd)).2.1⟩⟩,
    ⟨e5, fun d hd => ⟨(hb d hd).2.2.1, (hb d hd).2.2.2⟩⟩⟩

example : resizeSrc [5, 3] [8, 2] (List.zipWith Gen.resizeIshiftDefault [5, 3] [8, 2])
    (List.zipWith Gen.resizeOshiftDefault [5, 3] [8, 2]) [2, 0] = some [0, 0] := by decide +kernel

/-- the expanded shapes and the effective shifts `util.resize` works with -/
def resizeParams (ishape oshape : List Int) (ishift oshift : Option (List Int)) :
    List Int × List Int × List Int × List Int :=
  let ish := (expandShapes ishape oshape).1
  let osh := (expandShapes ishape oshape).2
  (ish, osh, ishift.getD (List.zipWith Gen.resizeIshiftDefault ish osh),
    oshift.getD (List.zipWith Gen.resizeOshiftDefault ish osh))

/-- **`util.resize` on arrays.**  When the expanded shapes differ, the entry of the output at
    (row-major) multi-index `k` is `x` at the flat position `ravel ish j` when `resizeSrc … k = some j`,
    and zero when it is `none`.  For non-negative shifts `j` is a multi-index of the input
    (`resize_in_bounds_nd`), so this is the input entry at `j`; negative shifts are not excluded here. -/
theorem resize_array_spec {α : Type} [Zero α] (ishape oshape : List Int)
    (ishift oshift : Option (List Int)) (x : Array α)
    (hne : (expandShapes ishape oshape).1 ≠ (expandShapes ishape oshape).2) (k : List Int)
    (hk : k ∈ allIdx (expandShapes ishape oshape).2) :
    (resize ishape oshape ishift oshift x).getD
        (ravel (resizeParams ishape oshape ishift oshift).2.1 k).toNat 0
      = match resizeSrc (resizeParams ishape oshape ishift oshift).1
            (resizeParams ishape oshape ishift oshift).2.1
            (resizeParams ishape oshape ishift oshift).2.2.1
            (resizeParams ishape oshape ishift oshift).2.2.2 k with
        | some j => x.getD (ravel (resizeParams ishape oshape ishift oshift).1 j).toNat 0
        | none => 0 := by
  have hb : ((expandShapes ishape oshape).1 == (expandShapes ishape oshape).2) = false := by
    simpa using hne
  unfold resize resizeParams
  simp only [hb, Bool.false_eq_true, if_false]
  exact map_allIdx_getD _ _ k hk

/-- the early return of `util.resize`: equal expanded shapes give the input back (a reshape) -/
theorem resize_same_shape {α : Type} [Zero α] (ishape oshape : List Int)
    (ishift oshift : Option (List Int)) (x : Array α)
    (h : (expandShapes ishape oshape).1 = (expandShapes ishape oshape).2) :
    resize ishape oshape ishift oshift x = x := by
  unfold resize
  simp [h]

/-- the output has `prod oshape` entries (row-major over the expanded output shape) -/
theorem resize_size {α : Type} [Zero α] (ishape oshape : List Int)
    (ishift oshift : Option (List Int)) (x : Array α)
    (hne : (expandShapes ishape oshape).1 ≠ (expandShapes ishape oshape).2)
    (ho : ∀ n ∈ oshape, 0 ≤ n) :
    (resize ishape oshape ishift oshift x).size = (shapeProd oshape).toNat := by
  have hb : ((expandShapes ishape oshape).1 == (expandShapes ishape oshape).2) = false := by
    simpa using hne
  unfold resize
  simp only [hb, Bool.false_eq_true, if_false]
  rw [map_allIdx_size, (expandShapes_prod ishape oshape).2]
  intro n hn
  rw [(expandShapes_spec ishape oshape).2.1, List.mem_append, List.mem_replicate] at hn
  rcases hn with ⟨_, rfl⟩ | hn
  · omega
  · exact ho n hn

/-- non-vacuity: 1-D pad 3 → 5 puts the input in the middle -/
example : resize [3] [5] none none #[(1 : Int), 2, 3] = #[0, 1, 2, 3, 0] := by decide +kernel

end SigpyVerif.C09
