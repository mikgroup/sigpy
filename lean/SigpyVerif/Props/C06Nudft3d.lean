import SigpyVerif.Props.C06Nudft2d
import SigpyVerif.Props.C06NudftBatch
/-
  C06 — the THREE-dimensional BATCHED pipeline `nufft3B` (composed in Props/C06Batch.lean) entry by entry:

      nufft(x)[b, j] = Σ_{n₁,n₂,n₃} x[b,n] (N₁N₂N₃)^{-1/2} Π_d e^{-2πi k_{j,d} ν_d/N_d} · a[b,n] · S_z(κ_z, ν₁) S_y(κ_y, ν₂) S_x(κ_x, ν₃)

  (`nufft3B_eq_nudft_times_kernel`; separable weights `hsep`, satisfiable for arbitrary real per-axis kernels by
  `sep_encoding3`).  Consequences: batch items never mix and see the same coefficients when the apodisation is
  batch-independent (`nufft3B_per_item`: item `b` of the batched transform = the `B = 1` transform of item `b`), and the
  3-D error factor is the product of the per-axis kernel factors `kernelSum`.
-/
namespace SigpyVerif.C06
open SigpyVerif Matrix ComplexConjugate Finset
open scoped InnerProductSpace

theorem list_sum3_factor (l1 l2 l3 : List ℤ) (p q r : ℤ → ℝ) (E1 E2 E3 : ℤ → ℂ) (T1 T2 T3 C : ℂ) :
    (l1.map fun iz => (l2.map fun iy => (l3.map fun ix =>
        ((p iz * q iy * r ix : ℝ) : ℂ) * (E1 iz * T1 * (E2 iy * T2) * (E3 ix * T3) * C)).sum).sum).sum =
      T1 * T2 * T3 * C * ((l1.map fun iz => ((p iz : ℝ) : ℂ) * E1 iz).sum *
        ((l2.map fun iy => ((q iy : ℝ) : ℂ) * E2 iy).sum * (l3.map fun ix => ((r ix : ℝ) : ℂ) * E3 ix).sum)) := by
  have hterm : ∀ iz iy ix : ℤ, ((p iz * q iy * r ix : ℝ) : ℂ) * (E1 iz * T1 * (E2 iy * T2) * (E3 ix * T3) * C) =
      (T1 * T2 * T3 * C) * ((((p iz : ℝ) : ℂ) * E1 iz) * ((((q iy : ℝ) : ℂ) * E2 iy) * (((r ix : ℝ) : ℂ) * E3 ix))) := by
    intro iz iy ix
    push_cast
    ring
  simp only [hterm, List.sum_map_mul_left, List.sum_map_mul_right]

/-- the generated 3-D interpolation with `batch_size = B`, explicitly -/
theorem interpLin3B_apply (K : Rat → Rat → Rat) (wt : Rat → ℝ) (B L1 L2 L3 M : ℕ) (h1 : 0 < L1) (h2 : 0 < L2)
    (h3 : 0 < L3) (coord : Int → Int → Rat) (width param : Int → Rat)
    (g : EuclideanSpace ℂ (Fin B × Fin L1 × Fin L2 × Fin L3)) (b : Fin B) (j : Fin M) :
    WithLp.ofLp (interpLin3B K wt B L1 L2 L3 M coord width param g) (b, j) =
      ((pyRange (Rat.ceil (coord ((j : ℕ) : ℤ) (-3) - width (-3) / 2))
          (Rat.floor (coord ((j : ℕ) : ℤ) (-3) + width (-3) / 2) + 1) 1).map fun iz : ℤ =>
        ((pyRange (Rat.ceil (coord ((j : ℕ) : ℤ) (-2) - width (-2) / 2))
            (Rat.floor (coord ((j : ℕ) : ℤ) (-2) + width (-2) / 2) + 1) 1).map fun iy : ℤ =>
          ((pyRange (Rat.ceil (coord ((j : ℕ) : ℤ) (-1) - width (-1) / 2))
              (Rat.floor (coord ((j : ℕ) : ℤ) (-1) + width (-1) / 2) + 1) 1).map fun ix : ℤ =>
            ((wt (K (((iz : Rat) - coord ((j : ℕ) : ℤ) (-3)) / (width (-3) / 2)) (param (-3)) *
                  K (((iy : Rat) - coord ((j : ℕ) : ℤ) (-2)) / (width (-2) / 2)) (param (-2)) *
                  K (((ix : Rat) - coord ((j : ℕ) : ℤ) (-1)) / (width (-1) / 2)) (param (-1))) : ℝ) : ℂ) *
              WithLp.ofLp g (b, wrapIdx L1 h1 iz, wrapIdx L2 h2 iy, wrapIdx L3 h3 ix)).sum).sum).sum := by
  have e1 : shape4 (B : ℤ) (L1 : ℤ) (L2 : ℤ) (L3 : ℤ) 1 = L1 := rfl
  have e2 : shape4 (B : ℤ) (L1 : ℤ) (L2 : ℤ) (L3 : ℤ) 2 = L2 := rfl
  have e3 : shape4 (B : ℤ) (L1 : ℤ) (L2 : ℤ) (L3 : ℤ) 3 = L3 := rfl
  unfold interpLin3B
  rw [updLinG_cw_apply, show bx1 B M (b, j) = [((b : ℕ) : ℤ), ((j : ℕ) : ℤ)] from rfl,
    C07.interp3_filter_dst K _ _ _ coord width param ((b : ℕ) : ℤ) ((j : ℕ) : ℤ)
      ⟨Int.natCast_nonneg _, Int.ofNat_lt.mpr b.2⟩ ⟨Int.natCast_nonneg _, Int.ofNat_lt.mpr j.2⟩,
    List.map_flatMap, list_sum_flatMap]
  refine congrArg List.sum (List.map_congr_left fun iz _ => ?_)
  rw [List.map_flatMap, list_sum_flatMap]
  refine congrArg List.sum (List.map_congr_left fun iy _ => ?_)
  rw [List.map_map]
  refine congrArg List.sum (List.map_congr_left fun ix _ => ?_)
  rw [← embG_apply (bx3_inj B L1 L2 L3) (WithLp.ofLp g) (b, wrapIdx L1 h1 iz, wrapIdx L2 h2 iy, wrapIdx L3 h3 ix)]
  simp only [Function.comp, bx3, wrapIdx_val, e1, e2, e3]

theorem resizeMatNd_bx3 (B i1 i2 i3 o1 o2 o3 : ℕ) :
    resizeMatNd [(B : ℤ), (i1 : ℤ), (i2 : ℤ), (i3 : ℤ)] [(B : ℤ), (o1 : ℤ), (o2 : ℤ), (o3 : ℤ)]
        (bx3 B i1 i2 i3) (bx3 B o1 o2 o3) =
      kroneckerMap (· * ·) (1 : Matrix (Fin B) (Fin B) ℂ) (kroneckerMap (· * ·) (resizeMat i1 o1)
        (kroneckerMap (· * ·) (resizeMat i2 o2) (resizeMat i3 o3))) := by
  rw [← resizeMat_self, ← resizeMatNd_single i3 o3, ← resizeMatNd_cons, ← resizeMatNd_cons, ← resizeMatNd_cons]
  rfl

/-- N-d zero-pad `[B,N₁,N₂,N₃] → [B,L₁,L₂,L₃]`: the batch index is copied, every transform axis padded around its centre -/
theorem resizeMatNd_padG3B (B N1 N2 N3 L1 L2 L3 : ℕ) (hNL1 : N1 ≤ L1) (hNL2 : N2 ≤ L2) (hNL3 : N3 ≤ L3)
    (m : Fin B × Fin L1 × Fin L2 × Fin L3) (n : Fin B × Fin N1 × Fin N2 × Fin N3) :
    resizeMatNd [(B : ℤ), (N1 : ℤ), (N2 : ℤ), (N3 : ℤ)] [(B : ℤ), (L1 : ℤ), (L2 : ℤ), (L3 : ℤ)]
        (bx3 B N1 N2 N3) (bx3 B L1 L2 L3) m n =
      if m = (n.1, padIdxG N1 L1 hNL1 n.2.1, padIdxG N2 L2 hNL2 n.2.2.1, padIdxG N3 L3 hNL3 n.2.2.2) then 1 else 0 := by
  simp only [resizeMatNd_bx3, kroneckerMap_apply, one_apply, resizeMat_padG _ _ hNL1, resizeMat_padG _ _ hNL2,
    resizeMat_padG _ _ hNL3, ite_zero_mul_ite_zero, mul_one, Prod.ext_iff]

/-- zero-pad then centred unnormalised FFT over the last three axes of a batched array, explicitly: item `b` only -/
theorem ufft_resize3B_apply (B N1 N2 N3 L1 L2 L3 : ℕ) (h1 : 0 < L1) (h2 : 0 < L2) (h3 : 0 < L3)
    (hNL1 : N1 ≤ L1) (hNL2 : N2 ≤ L2) (hNL3 : N3 ≤ L3) (u : EuclideanSpace ℂ (Fin B × Fin N1 × Fin N2 × Fin N3))
    (b : Fin B) (s : Fin L1 × Fin L2 × Fin L3) :
    WithLp.ofLp (ufftLin3B B L1 L2 L3 (resizeLin3B B N1 N2 N3 L1 L2 L3 u)) (b, s) =
      ∑ n : Fin N1 × Fin N2 × Fin N3,
        fftRoot L1 ^ ((((s.1 : ℕ) : ℤ) - (L1 : ℤ) / 2) * (((n.1 : ℕ) : ℤ) - (N1 : ℤ) / 2)) *
          fftRoot L2 ^ ((((s.2.1 : ℕ) : ℤ) - (L2 : ℤ) / 2) * (((n.2.1 : ℕ) : ℤ) - (N2 : ℤ) / 2)) *
          fftRoot L3 ^ ((((s.2.2 : ℕ) : ℤ) - (L3 : ℤ) / 2) * (((n.2.2 : ℕ) : ℤ) - (N3 : ℤ) / 2)) *
          WithLp.ofLp u (b, n) := by
  unfold ufftLin3B resizeLin3B
  rw [toEuclideanLin_mul_apply, resizeMatNd_bx3, ← mul_kronecker_mul, ← mul_kronecker_mul, ← mul_kronecker_mul, one_mul,
    sum_one_kronecker]
  simp only [kroneckerMap_apply, dft_mul_resizeMat_apply _ _ h1 hNL1, dft_mul_resizeMat_apply _ _ h2 hNL2,
    dft_mul_resizeMat_apply _ _ h3 hNL3, mul_assoc]

/-- **batched 3-D `nufft`, entry by entry** (pipeline `nufft3B`, separable weights) -/
theorem nufft3B_eq_nudft_times_kernel (os : Rat) (B N1 N2 N3 L1 L2 L3 M : ℕ) (hN1 : 0 < N1) (hN2 : 0 < N2)
    (hN3 : 0 < N3) (hos : 1 ≤ os) (hLen1 : (L1 : ℤ) = Gen.oversampLen os N1) (hLen2 : (L2 : ℤ) = Gen.oversampLen os N2)
    (hLen3 : (L3 : ℤ) = Gen.oversampLen os N3) (a : Fin B × Fin N1 × Fin N2 × Fin N3 → ℝ) (K : Rat → Rat → Rat)
    (wt : Rat → ℝ) (f1 f2 f3 : Rat → ℝ) (c : Int → Int → Rat) (W : Rat) (param : Int → Rat)
    (hsep : ∀ uz uy ux : Rat, wt (K uz (param (-3)) * K uy (param (-2)) * K ux (param (-1))) = f3 uz * f2 uy * f1 ux)
    (x : EuclideanSpace ℂ (Fin B × Fin N1 × Fin N2 × Fin N3)) (b : Fin B) (j : Fin M) :
    WithLp.ofLp (nufft3B os B N1 N2 N3 L1 L2 L3 M a K wt c W param x) (b, j) =
      ∑ n : Fin N1 × Fin N2 × Fin N3,
        WithLp.ofLp x (b, n) * ((Real.sqrt (((N1 : ℤ) * (N2 : ℤ) * (N3 : ℤ) : ℤ)) : ℝ) : ℂ)⁻¹ *
        (nudftTerm N1 (((c ((j : ℕ) : ℤ) (-3) : Rat)) : ℝ) ((n.1 : ℕ) : ℤ) *
          nudftTerm N2 (((c ((j : ℕ) : ℤ) (-2) : Rat)) : ℝ) ((n.2.1 : ℕ) : ℤ) *
          nudftTerm N3 (((c ((j : ℕ) : ℤ) (-1) : Rat)) : ℝ) ((n.2.2 : ℕ) : ℤ)) *
        (((a (b, n) : ℝ) : ℂ) *
          (kernelSum (fun u _ => u) f3 W 0 L1 (Gen.scaleCoord os N1 (c ((j : ℕ) : ℤ) (-3))) (((n.1 : ℕ) : ℤ) - (N1 : ℤ) / 2) *
           (kernelSum (fun u _ => u) f2 W 0 L2 (Gen.scaleCoord os N2 (c ((j : ℕ) : ℤ) (-2))) (((n.2.1 : ℕ) : ℤ) - (N2 : ℤ) / 2) *
            kernelSum (fun u _ => u) f1 W 0 L3 (Gen.scaleCoord os N3 (c ((j : ℕ) : ℤ) (-1))) (((n.2.2 : ℕ) : ℤ) - (N3 : ℤ) / 2)))) := by
  have hNL1 := le_of_oversampLen os N1 L1 hos hLen1
  have hNL2 := le_of_oversampLen os N2 L2 hos hLen2
  have hNL3 := le_of_oversampLen os N3 L3 hos hLen3
  have h1 : 0 < L1 := hN1.trans_le hNL1
  have h2 : 0 < L2 := hN2.trans_le hNL2
  have h3 : 0 < L3 := hN3.trans_le hNL3
  have e1 : imgShape3 (N1 : ℤ) (N2 : ℤ) (N3 : ℤ) (-3) = N1 := rfl
  have e2 : imgShape3 (N1 : ℤ) (N2 : ℤ) (N3 : ℤ) (-2) = N2 := rfl
  have e3 : imgShape3 (N1 : ℤ) (N2 : ℤ) (N3 : ℤ) (-1) = N3 := rfl
  unfold nufft3B fwd
  rw [WithLp.ofLp_smul, Pi.smul_apply, smul_eq_mul, interpLin3B_apply K wt B L1 L2 L3 M h1 h2 h3]
  simp only [ufft_resize3B_apply B N1 N2 N3 L1 L2 L3 h1 h2 h3 hNL1 hNL2 hNL3, hsep, e1, e2, e3,
    phase_wrap os N1 L1 hN1 h1 hLen1 (c ((j : ℕ) : ℤ) (-3)), phase_wrap os N2 L2 hN2 h2 hLen2 (c ((j : ℕ) : ℤ) (-2)),
    phase_wrap os N3 L3 hN3 h3 hLen3 (c ((j : ℕ) : ℤ) (-1)), WithLp.ofLp_smul, Pi.smul_apply, smul_eq_mul, apodLinG,
    toEuclideanLin_diagonal_apply, Finset.mul_sum, sum_list_comm]
  refine Finset.sum_congr rfl fun n _ => ?_
  rw [list_sum3_factor, kernelSum, kernelSum, kernelSum]
  unfold Gen.nufftFwdDiv Gen.nufftFwdWidthDiv
  rw [Complex.ofReal_pow]
  ring

/-- **the same linear map on every batch item, three transform axes**: with a batch-independent apodisation, item `b` of
    the batched transform is the `B = 1` transform of item `b` -/
theorem nufft3B_per_item (os : Rat) (B N1 N2 N3 L1 L2 L3 M : ℕ) (hN1 : 0 < N1) (hN2 : 0 < N2)
    (hN3 : 0 < N3) (hos : 1 ≤ os) (hLen1 : (L1 : ℤ) = Gen.oversampLen os N1) (hLen2 : (L2 : ℤ) = Gen.oversampLen os N2)
    (hLen3 : (L3 : ℤ) = Gen.oversampLen os N3) (a' : Fin N1 × Fin N2 × Fin N3 → ℝ) (K : Rat → Rat → Rat)
    (wt : Rat → ℝ) (f1 f2 f3 : Rat → ℝ) (c : Int → Int → Rat) (W : Rat) (param : Int → Rat)
    (hsep : ∀ uz uy ux : Rat, wt (K uz (param (-3)) * K uy (param (-2)) * K ux (param (-1))) = f3 uz * f2 uy * f1 ux)
    (x : EuclideanSpace ℂ (Fin B × Fin N1 × Fin N2 × Fin N3)) (b : Fin B) (j : Fin M) :
    WithLp.ofLp (nufft3B os B N1 N2 N3 L1 L2 L3 M (fun p => a' p.2) K wt c W param x) (b, j) =
      WithLp.ofLp (nufft3B os 1 N1 N2 N3 L1 L2 L3 M (fun p => a' p.2) K wt c W param
        (WithLp.toLp 2 fun p => WithLp.ofLp x (b, p.2))) ((0 : Fin 1), j) := by
  rw [nufft3B_eq_nudft_times_kernel os B N1 N2 N3 L1 L2 L3 M hN1 hN2 hN3 hos hLen1 hLen2 hLen3 _ K wt f1 f2 f3 c W param hsep,
    nufft3B_eq_nudft_times_kernel os 1 N1 N2 N3 L1 L2 L3 M hN1 hN2 hN3 hos hLen1 hLen2 hLen3 _ K wt f1 f2 f3 c W param hsep]

/-- the separability hypothesis is satisfiable for arbitrary real per-axis kernels -/
example (f1 f2 f3 : ℚ → ℝ) : ∀ uz uy ux : Rat,
    wtEnc3 f1 f2 f3 (Kenc uz (tagParam (-3)) * Kenc uy (tagParam (-2)) * Kenc ux (tagParam (-1))) =
      f3 uz * f2 uy * f1 ux := sep_encoding3 f1 f2 f3

end SigpyVerif.C06
