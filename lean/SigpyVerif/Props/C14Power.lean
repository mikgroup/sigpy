/-
  C14, part "the power-method gap": what `MaxEig(op).run()` — the `maxEig` the generated set-ups divide by —
  really is.

  `default_steps_*` (Props/C14.lean) assume that `max_eig` BOUNDS the Rayleigh quotient of the operator handed to
  `MaxEig`.  The real `MaxEig` runs `max_iter = 30` updates of `alg.PowerMethod` from a random start.  The machine
  `pmRun` (Model/C14Power.lean) iterates the GENERATED step `Gen.C14.pmUpdate` (regenerated from
  `PowerMethod._update` / `Alg.update` on every check); here it is instantiated in a real inner-product space
  (`norm = ‖·‖`, `y / s = (1/s) • y`).  A complex Hermitian operator is a symmetric operator of the underlying real
  space with `⟪·,·⟫_ℝ = re ⟪·,·⟫_ℂ` and the same norm (Props/C14Cplx.lean, `isAdj_restrict`), so nothing is lost.

  The theorems are about an abstract symmetric (= Hermitian) positive semi-definite `T`; that the `eig` operators of
  the generated set-ups (`AᴴA + λI`, `Aᴴ S A`, `K T Kᴴ`) are of this kind, and that the `maxEig` argument of the
  set-ups is the result of this run, is not stated by a theorem.

  Consequence for C13 (see Props/C14Join.lean `ista_descent_relaxed`): with the under-estimate, `(α, L) = (1/max_eig,
  λmax)` violates `hL : α·L ≤ 1` of `ista_rate` / `fista_rate` / `ista_descent` (equivalently, `(1/max_eig, max_eig)`
  violates `hd : Descent f gradf max_eig`); monotone descent of the un-accelerated method itself survives as long as
  `α·L ≤ 2`, i.e. `max_eig ≥ λmax/2`.
-/
import SigpyVerif.Model.C14Power
import Mathlib.Analysis.InnerProductSpace.Basic
import Mathlib.Algebra.QuadraticDiscriminant
import Mathlib.Tactic.Linarith
import Mathlib.Tactic.FieldSimp

namespace SigpyVerif.C14
open SigpyVerif.Gen.C14
open scoped RealInnerProductSpace

set_option linter.unusedSectionVars false
set_option linter.unusedVariables false

section generic
variable {V S : Type} (o : PmOps V S) (A : V → V) (nf : Option (V → S)) (x0 : V)

theorem pm_update_iter (s : PmState V S) : (pmUpdate o A nf s).iter = s.iter + 1 := rfl

theorem pm_iter_counts (k : Nat) : (pmRun o A nf x0 k).iter = k := by
  induction k with
  | zero => rfl
  | succ k ih => simp only [pmRun, pm_update_iter, ih]; push_cast; ring

/-- `done()` becomes true exactly after `max_iter` updates: `while not done(): update()` performs `max(max_iter, 0)`
    updates, so `MaxEig` (default `max_iter = 30`, `Gen.C14.maxEigDefaultIter`) returns the 30th estimate -/
theorem pm_done_iff (m : Int) (k : Nat) : pmDone m (pmRun o A nf x0 k) = true ↔ m ≤ k := by
  simp only [pmDone, pm_iter_counts, decide_eq_true_eq, ge_iff_le]

/-- `MaxEig` hands no `norm_func` to `PowerMethod` and its default budget is 30 updates -/
theorem maxEig_passes : (maxEigNormFunc : Option (V → S)) = none ∧ maxEigDefaultIter = 30 := ⟨rfl, rfl⟩

end generic

variable {E : Type} [NormedAddCommGroup E] [InnerProductSpace ℝ E]

/-- the two operations of `PowerMethod._update` in an inner-product space -/
noncomputable def ipPmOps : PmOps E ℝ where
  norm := fun v => ‖v‖
  divS := fun v s => (1 / s) • v

/-- state of `PowerMethod(T, x0)` (as `MaxEig` builds it: `norm_func=None`) after `k` updates -/
noncomputable def pw (T : E →ₗ[ℝ] E) (x0 : E) (k : ℕ) : PmState E ℝ := pmRun ipPmOps (⇑T) maxEigNormFunc x0 k

/-- one update in formulas: the new estimate is `‖T x_k‖`, the new iterate `T x_k / ‖T x_k‖` -/
theorem pm_step (T : E →ₗ[ℝ] E) (x0 : E) (k : ℕ) :
    (pw T x0 (k + 1)).maxEig = some ‖T (pw T x0 k).x‖ ∧
    (pw T x0 (k + 1)).x = (1 / ‖T (pw T x0 k).x‖) • T (pw T x0 k).x := ⟨rfl, rfl⟩

/-- before the first update the estimate is `np.inf` (`none`) and `x` is the start vector -/
theorem pm_zero (T : E →ₗ[ℝ] E) (x0 : E) : (pw T x0 0).maxEig = none ∧ (pw T x0 0).x = x0 := ⟨rfl, rfl⟩

/-- the new iterate is a unit vector unless the division was by zero -/
theorem pm_unit (T : E →ₗ[ℝ] E) (x0 : E) (k : ℕ) (h : T (pw T x0 k).x ≠ 0) : ‖(pw T x0 (k + 1)).x‖ = 1 := by
  rw [(pm_step T x0 k).2, norm_smul, Real.norm_eq_abs, abs_of_nonneg (by positivity), one_div,
    inv_mul_cancel₀ (norm_ne_zero_iff.mpr h)]

/-- `T` symmetric (real data) / Hermitian (complex data, real part of the inner product) -/
def IsSymm (T : E →ₗ[ℝ] E) : Prop := ∀ u v, ⟪T u, v⟫ = ⟪u, T v⟫

theorem sq_norm_le_of_symm (T : E →ₗ[ℝ] E) (hs : IsSymm T) (x : E) : ‖T x‖ ^ 2 ≤ ‖x‖ * ‖T (T x)‖ := by
  rw [← real_inner_self_eq_norm_sq, hs]
  exact real_inner_le_norm _ _

/-- a symmetric `T` never maps a power iterate to zero once `T x_0 ≠ 0`: no update divides by zero -/
theorem pm_nondegenerate (T : E →ₗ[ℝ] E) (hs : IsSymm T) (x0 : E) (h0 : T x0 ≠ 0) (k : ℕ) :
    T (pw T x0 k).x ≠ 0 := by
  induction k with
  | zero => exact h0
  | succ k ih =>
    rw [(pm_step T x0 k).2, LinearMap.map_smul]
    intro hz
    have hn : ‖T (pw T x0 k).x‖ ≠ 0 := norm_ne_zero_iff.mpr ih
    have h1 : T (T (pw T x0 k).x) = 0 := by
      rcases smul_eq_zero.mp hz with h | h
      · exact absurd h (one_div_ne_zero hn)
      · exact h
    have h2 := sq_norm_le_of_symm T hs (pw T x0 k).x
    rw [h1, norm_zero, mul_zero] at h2
    have : ‖T (pw T x0 k).x‖ ^ 2 = 0 := le_antisymm h2 (sq_nonneg _)
    exact hn (pow_eq_zero_iff two_ne_zero |>.mp this)

/-- the estimate dominates the Rayleigh quotient of the (unit) iterate it was computed from -/
theorem pm_estimate_ge_rayleigh (T : E →ₗ[ℝ] E) (x : E) (hx : ‖x‖ = 1) : ⟪x, T x⟫ ≤ ‖T x‖ := by
  have := real_inner_le_norm x (T x)
  rwa [hx, one_mul] at this

/-- one step of monotonicity: for a unit vector `x` the next estimate `‖T (T x / ‖T x‖)‖` is at least `‖T x‖` -/
theorem pm_mono_step (T : E →ₗ[ℝ] E) (hs : IsSymm T) (x : E) (hx : ‖x‖ = 1) (hne : T x ≠ 0) :
    ‖T x‖ ≤ ‖T ((1 / ‖T x‖) • T x)‖ := by
  have hpos : 0 < ‖T x‖ := norm_pos_iff.mpr hne
  rw [LinearMap.map_smul, norm_smul, Real.norm_eq_abs, abs_of_nonneg (by positivity), one_div, ← div_eq_inv_mul,
    le_div_iff₀ hpos]
  have := sq_norm_le_of_symm T hs x
  rw [hx, one_mul] at this
  linear_combination this

/-- Cauchy–Schwarz for the positive semi-definite form `⟪·, T ·⟫` -/
theorem psd_cauchy_schwarz (T : E →ₗ[ℝ] E) (hs : IsSymm T) (hp : ∀ v, 0 ≤ ⟪v, T v⟫) (u v : E) :
    ⟪u, T v⟫ ^ 2 ≤ ⟪u, T u⟫ * ⟪v, T v⟫ := by
  -- the quadratic `t ↦ ⟪u + t v, T (u + t v)⟫` is non-negative, so its discriminant is not positive
  have := discrim_le_zero (a := ⟪v, T v⟫) (b := 2 * ⟪u, T v⟫) (c := ⟪u, T u⟫) fun t => by
    have h := hp (u + t • v)
    rw [LinearMap.map_add, LinearMap.map_smul, inner_add_left, inner_add_right, inner_add_right, real_inner_smul_left,
      real_inner_smul_left, real_inner_smul_right, real_inner_smul_right, real_inner_comm (T u) v, hs u v] at h
    linear_combination h
  unfold discrim at this
  linear_combination this / 4

/-- for a symmetric positive semi-definite `T`, a bound `L` of the Rayleigh quotient bounds the operator norm:
    `‖T h‖ ≤ L ‖h‖` -/
theorem opnorm_le_of_rayleigh (T : E →ₗ[ℝ] E) (hs : IsSymm T) (hp : ∀ v, 0 ≤ ⟪v, T v⟫) (L : ℝ)
    (hL : ∀ v, ⟪v, T v⟫ ≤ L * ‖v‖ ^ 2) (h : E) : ‖T h‖ ≤ L * ‖h‖ := by
  rcases eq_or_ne h 0 with rfl | hh
  · rw [LinearMap.map_zero, norm_zero, mul_zero]
  have hpos : 0 < ‖h‖ := norm_pos_iff.mpr hh
  have hL0 : 0 ≤ L := nonneg_of_mul_nonneg_left ((hp h).trans (hL h)) (by positivity)
  refine (pow_le_pow_iff_left₀ (norm_nonneg _) (by positivity) two_ne_zero).mp ?_
  rcases eq_or_ne (T h) 0 with hz | hz
  · rw [hz, norm_zero, zero_pow two_ne_zero]; positivity
  -- Cauchy–Schwarz for `⟪·, T ·⟫` at `h`, `T h`: `‖T h‖⁴ = ⟪h, T (T h)⟫² ≤ ⟪h, T h⟫ ⟪T h, T (T h)⟫ ≤ L‖h‖² L‖T h‖²`
  have cs := psd_cauchy_schwarz T hs hp h (T h)
  rw [← hs, real_inner_self_eq_norm_sq] at cs
  have h4 := cs.trans (mul_le_mul (hL h) (hL (T h)) (hp (T h)) ((hp h).trans (hL h)))
  have h5 : ‖T h‖ ^ 2 * ‖T h‖ ^ 2 ≤ (L * ‖h‖) ^ 2 * ‖T h‖ ^ 2 := by linear_combination h4
  exact le_of_mul_le_mul_right h5 (pow_pos (norm_pos_iff.mpr hz) 2)

/-- the estimate is a Rayleigh-type quantity: it lies between the Rayleigh quotient of the current (unit) iterate
    and every Rayleigh bound -/
theorem pm_estimate_rayleigh_sandwich (T : E →ₗ[ℝ] E) (hs : IsSymm T) (hp : ∀ v, 0 ≤ ⟪v, T v⟫) (L : ℝ)
    (hL : ∀ v, ⟪v, T v⟫ ≤ L * ‖v‖ ^ 2) (x0 : E) (h0 : T x0 ≠ 0) (k : ℕ) :
    ⟪(pw T x0 (k + 1)).x, T (pw T x0 (k + 1)).x⟫ ≤ ‖T (pw T x0 (k + 1)).x‖ ∧ ‖T (pw T x0 (k + 1)).x‖ ≤ L := by
  have hu := pm_unit T x0 k (pm_nondegenerate T hs x0 h0 k)
  refine ⟨pm_estimate_ge_rayleigh T _ hu, ?_⟩
  have := opnorm_le_of_rayleigh T hs hp L hL (pw T x0 (k + 1)).x
  rwa [hu, mul_one] at this

/-- **the power method under-estimates.**  `T` symmetric positive semi-definite, `L` ANY bound of its Rayleigh quotient
    (e.g. `λmax`), `T x_0 ≠ 0`: every estimate from the second update on is `≤ L`. -/
theorem pm_estimate_le_lmax (T : E →ₗ[ℝ] E) (hs : IsSymm T) (hp : ∀ v, 0 ≤ ⟪v, T v⟫) (L : ℝ)
    (hL : ∀ v, ⟪v, T v⟫ ≤ L * ‖v‖ ^ 2) (x0 : E) (h0 : T x0 ≠ 0) (k : ℕ) :
    ∃ me, (pw T x0 (k + 2)).maxEig = some me ∧ 0 < me ∧ me ≤ L :=
  ⟨_, (pm_step T x0 (k + 1)).1, norm_pos_iff.mpr (pm_nondegenerate T hs x0 h0 (k + 1)),
    (pm_estimate_rayleigh_sandwich T hs hp L hL x0 h0 k).2⟩

/-- **monotone.**  For symmetric `T` the estimates `‖T x_k‖` are non-decreasing from the second update on
    (the first one, `‖T x_0‖`, depends on the scale of the random start vector). -/
theorem pm_estimate_mono (T : E →ₗ[ℝ] E) (hs : IsSymm T) (x0 : E) (h0 : T x0 ≠ 0) (k : ℕ) :
    ∃ a b, (pw T x0 (k + 2)).maxEig = some a ∧ (pw T x0 (k + 3)).maxEig = some b ∧ a ≤ b := by
  refine ⟨_, _, (pm_step T x0 (k + 1)).1, (pm_step T x0 (k + 2)).1, ?_⟩
  have hu := pm_unit T x0 k (pm_nondegenerate T hs x0 h0 k)
  have := pm_mono_step T hs (pw T x0 (k + 1)).x hu (pm_nondegenerate T hs x0 h0 (k + 1))
  rwa [← (pm_step T x0 (k + 1)).2] at this

/-- **how far the default step can exceed `1/L`.**  With `max_eig` the estimate after `k+2` power iterations and `L` a
    Rayleigh bound of `T` (`λmax`): the default `alpha = 1/max_eig` satisfies `1/L ≤ alpha` and
    `alpha · L = L / max_eig ≥ 1`, with equality iff the estimate is exact; one more power iteration never makes it
    worse (`alpha` is non-increasing in the number of power iterations). -/
theorem maxeig_default_alpha_gap (T : E →ₗ[ℝ] E) (hs : IsSymm T) (hp : ∀ v, 0 ≤ ⟪v, T v⟫) (L : ℝ)
    (hL : ∀ v, ⟪v, T v⟫ ≤ L * ‖v‖ ^ 2) (x0 : E) (h0 : T x0 ≠ 0) (k : ℕ) :
    ∃ me me', (pw T x0 (k + 2)).maxEig = some me ∧ (pw T x0 (k + 3)).maxEig = some me' ∧
      0 < me ∧ 1 / L ≤ 1 / me ∧ 1 ≤ 1 / me * L ∧ (1 / me * L = 1 ↔ me = L) ∧ 1 / me' ≤ 1 / me := by
  obtain ⟨a, b, ha, hb, hab⟩ := pm_estimate_mono T hs x0 h0 k
  obtain ⟨me, hme, hpos, hle⟩ := pm_estimate_le_lmax T hs hp L hL x0 h0 k
  rw [ha] at hme
  obtain rfl : a = me := by injection hme
  refine ⟨a, b, ha, hb, hpos, one_div_le_one_div_of_le hpos hle, ?_, ?_, one_div_le_one_div_of_le hpos hab⟩
  · rw [one_div, inv_mul_eq_div, le_div_iff₀ hpos, one_mul]; exact hle
  · rw [one_div, inv_mul_eq_div, div_eq_one_iff_eq hpos.ne', eq_comm]

/-- the hypotheses are satisfiable: `T = 2·id` is symmetric PSD with Rayleigh bound `2` -/
example : IsSymm ((2 : ℝ) • (LinearMap.id : E →ₗ[ℝ] E)) ∧
    (∀ v : E, 0 ≤ ⟪v, ((2 : ℝ) • (LinearMap.id : E →ₗ[ℝ] E)) v⟫) ∧
    (∀ v : E, ⟪v, ((2 : ℝ) • (LinearMap.id : E →ₗ[ℝ] E)) v⟫ ≤ 2 * ‖v‖ ^ 2) := by
  refine ⟨fun u v => ?_, fun v => ?_, fun v => ?_⟩
  · simp only [LinearMap.smul_apply, LinearMap.id_coe, id_eq, real_inner_smul_left, real_inner_smul_right]
  · simp only [LinearMap.smul_apply, LinearMap.id_coe, id_eq, real_inner_smul_right, real_inner_self_eq_norm_sq]
    positivity
  · simp only [LinearMap.smul_apply, LinearMap.id_coe, id_eq, real_inner_smul_right, real_inner_self_eq_norm_sq]
    exact le_rfl

/-- a concrete run on `E = ℝ`, `T = 2·id`, `x_0 = 3`: the first estimate is `‖T x_0‖ = 6` (NOT `≤ λmax = 2`: it
    depends on the scale of the start vector), the iterate is normalised to `1` -/
example : (pw ((2 : ℝ) • (LinearMap.id : ℝ →ₗ[ℝ] ℝ)) 3 1).maxEig = some 6 ∧
    (pw ((2 : ℝ) • (LinearMap.id : ℝ →ₗ[ℝ] ℝ)) 3 1).x = 1 := by
  refine ⟨?_, ?_⟩
  · rw [(pm_step _ _ 0).1]
    simp only [pw, pmRun, pmInit, LinearMap.smul_apply, LinearMap.id_coe, id_eq, smul_eq_mul, Real.norm_eq_abs]
    norm_num
  · rw [(pm_step _ _ 0).2]
    simp only [pw, pmRun, pmInit, LinearMap.smul_apply, LinearMap.id_coe, id_eq, smul_eq_mul, Real.norm_eq_abs]
    norm_num

end SigpyVerif.C14
