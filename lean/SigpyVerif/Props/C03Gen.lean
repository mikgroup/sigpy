import SigpyVerif.Model.C03
import SigpyVerif.Model.C03Np
import SigpyVerif.Model.C03Gen
import SigpyVerif.Lemmas.C03
import SigpyVerif.Props.C03
import SigpyVerif.Props.C03Loop
import SigpyVerif.Gen.StackParams
import SigpyVerif.Gen.LinopApply
/-
  C03 — the theorems of `Props/C03.lean`, restated about the TRANSLATOR-GENERATED definitions.

  `Gen/LinopApply.lean` (regenerated from sigpy/linop.py on every check) holds, statement by statement, the bodies of
  `Linop.apply`, `Compose._apply`, `Add._apply`, `Hstack._apply`, `Vstack._apply`, `Diag._apply` and the constructor guards
  `_check_shape_positive`, `_check_linops_same_ishape/_oshape`, `_check_compose_linops`; `Model/C03Gen.lean` (`G.*`) wires
  them into operators (this is what the driver runs in the correspondence).  Here:

    * guards:      the generated guards are the model's (`gen_positive_agree`, `gen_same_ishape_agree`, `gen_same_oshape_agree`,
                   `gen_compose_guard_agree`); a mis-fitting operand list is rejected at construction exactly when the model's
                   build fails (`G_compose_build_iff`, `G_add_build_iff`, `G_hstack_build_iff`, `G_vstack_build_iff`,
                   `G_diag_build_iff`, `G_build_agree`)
    * Linop.apply: the generated `Linop.apply` / `__call__` is `Op.call` for EVERY operator and input (`gen_linopApply_eq_call`),
                   hence accepts exactly the inputs whose shape agrees with `ishape` on the common prefix (`gen_call_accepts_iff`)
    * Compose:     the generated `_apply` is the model's for every input (`gen_composeApply_eq`), `G.compose = compose`
    * Add:         the generated `_apply` is the left-to-right numpy sum of the operand results (`gen_addApply_sum`, `G_add_apply`)
    * Hstack / Vstack / Diag: the generated `_apply` bodies compute the block row / column / diagonal
                   (`G_hstack_block_row`, `G_vstack_block_col`, `G_diag_block_diag`); `G_hstack_block_row` concludes with
                   the left-to-right numpy sum `sumSeq`, which is the model's `sumResults` when the outputs have the
                   advertised shape (`sumSeq_eq_sumResults`)
    * algebra:     `(A*B)*C = A*(B*C)` (`compose_assoc`, `compose_assoc_build`), `(A+B)*C = A*C + B*C`
                   (`add_compose_distrib`), through `Linop.__call__` of the built operators

  Proof architecture (robust to harmless rewrites): each generated loop body is shown equal to a canonical step
  (`*Step_eq`, `*Step_ok`, by unfolding + case analysis + `simp`/`omega`); the loops over `enumerate(linops)` are then compared
  iteration by iteration (`foldE_enum_congr`) with what `bounds`, `slabs` and `callAll` hold at the same index (`bounds_get`,
  `slabs_ok_iff`, `callAll_ok_iff`); everything else is proved once about the canonical steps.
-/
namespace SigpyVerif.C03

/-- the generated `_check_shape_positive` accepts exactly the shapes with positive entries -/
theorem gen_positive_agree (s : List Int) : Gen.checkShapePositive s = s.all (0 < ·) := by
  unfold Gen.checkShapePositive
  congr 1
  -- `1 ≤ x` (the canonical spelling the translator emits), `0 < x`, `x > 0` are closed by `congr` up to unfolding; any other
  -- spelling of "positive" (`¬ x ≤ 0`, `0 ≤ x - 1`, …) by linear arithmetic
  all_goals (funext x; exact decide_eq_decide.mpr (by omega))

theorem gen_same_ishape_agree {α} (l : List (Op α)) : Gen.checkLinopsSameIshape l = sameShapes Op.ishape l := by
  cases l with
  | nil => rfl
  | cons A t =>
    simp only [Gen.checkLinopsSameIshape, sameShapes]
    congr 1
    funext B
    by_cases h : B.ishape = A.ishape
    · simp [h]
    · have h' : ¬ A.ishape = B.ishape := fun e => h e.symm
      simp [h, h']

theorem gen_same_oshape_agree {α} (l : List (Op α)) : Gen.checkLinopsSameOshape l = sameShapes Op.oshape l := by
  cases l with
  | nil => rfl
  | cons A t =>
    simp only [Gen.checkLinopsSameOshape, sameShapes]
    congr 1
    funext B
    by_cases h : B.oshape = A.oshape
    · simp [h]
    · have h' : ¬ A.oshape = B.oshape := fun e => h e.symm
      simp [h, h']

/-- the generated `_check_compose_linops` (loop over `zip(linops[:-1], linops[1:])`) is the model's `composeOk` -/
theorem gen_compose_guard_agree {α} : ∀ (l : List (Op α)), Gen.checkComposeLinops l = composeOk l
  | [] => rfl
  | [_] => rfl
  | A :: B :: rest => by
    have ih := gen_compose_guard_agree (B :: rest)
    simp only [Gen.checkComposeLinops, List.dropLast_cons_cons, List.drop_succ_cons, List.drop_zero, List.zip_cons_cons,
      List.all_cons, composeOk] at ih ⊢
    rw [← ih]
    by_cases h : A.ishape = B.oshape <;> simp [h]

/-- **the generated `Linop.apply` is the model's `Op.call`**, for every operator and every input: `_check_ishape`, `_apply`,
    `_check_oshape`, every exception re-raised as RuntimeError. -/
theorem gen_linopApply_eq_call {α} [Add α] [Zero α] (A : Op α) (x : NDArr α) : Gen.linopApply A x = A.call x := by
  simp only [Gen.linopApply, Op.call, natGuard, (gen_guard_agree _ _).1, (gen_guard_agree _ _).2]
  by_cases h1 : zipGuard (x.shape.map Int.ofNat) (A.ishape.map Int.ofNat) = true
  · simp only [h1, Bool.true_eq_false, if_false, if_true]
    cases hA : A.app x with
    | error e => rfl
    | ok y =>
      by_cases h2 : zipGuard (y.shape.map Int.ofNat) (A.oshape.map Int.ofNat) = true
      · simp [h2]
      · simp [h2]
  · simp [h1]

theorem gen_linopCall_eq_call {α} [Add α] [Zero α] (A : Op α) (x : NDArr α) : Gen.linopCall A x = A.call x :=
  gen_linopApply_eq_call A x

/-- **which inputs `Linop.__call__` accepts** (generated code): `A(x)` returns `y` iff `x.shape` and `A.ishape` agree on their
    common prefix (first `min (rank x) (rank ishape)` entries — NOT shape equality: `zip` stops at the shorter), `_apply`
    returns `y`, and `y.shape` and `A.oshape` agree on their common prefix.  For an input of the advertised rank the first
    condition is `x.shape = A.ishape`. -/
theorem gen_call_accepts_iff {α} [Add α] [Zero α] (A : Op α) (x y : NDArr α) :
    Gen.linopCall A x = .ok y ↔
      (x.shape.take A.ishape.length = A.ishape.take x.shape.length ∧ A.app x = .ok y ∧
        y.shape.take A.oshape.length = A.oshape.take y.shape.length) := by
  rw [gen_linopCall_eq_call, call_iff, natGuard_iff_prefix, natGuard_iff_prefix]

/-- every error of `Linop.apply` is the RuntimeError -/
theorem call_error {α} (A : Op α) (x : NDArr α) (e : Err) (h : A.call x = .error e) : e = .apply := by
  unfold Op.call at h
  split at h
  · split at h
    · split at h <;> cases h; rfl
    · cases h; rfl
  · cases h; rfl

theorem bindE_pure {β : Type} (x : Except Err β) : bindE x (fun v => .ok v) = x := by cases x <;> rfl

theorem getElem?_of_length_eq {β γ : Type} {l : List β} {m : List γ} (h : l.length = m.length) {j : Nat} {b : β}
    (hb : l[j]? = some b) : ∃ c, m[j]? = some c :=
  ⟨m[j]'(h ▸ (List.getElem?_eq_some_iff.mp hb).1), List.getElem?_eq_getElem _⟩

/-- two loops of the same length whose `j`-th iterations agree on the states satisfying an invariant of the second -/
theorem foldE_congr_inv {σ β γ : Type} (f : σ → β → Except Err σ) (g : σ → γ → Except Err σ) (I : σ → Prop)
    (hI : ∀ s w s', I s → g s w = .ok s' → I s') :
    ∀ (l : List β) (ws : List γ) (s : σ), l.length = ws.length → I s →
      (∀ (j : Nat) b w, l[j]? = some b → ws[j]? = some w → ∀ s, I s → f s b = g s w) → foldE f s l = foldE g s ws
  | [], [], _, _, _, _ => rfl
  | [], _ :: _, _, h, _, _ => nomatch h
  | _ :: _, [], _, h, _, _ => nomatch h
  | b :: l, w :: ws, s, hl, hs, h => by
    simp only [foldE, h 0 b w rfl rfl s hs]
    cases hg : g s w with
    | error e => rfl
    | ok s' =>
      exact foldE_congr_inv f g I hI l ws s' (Nat.succ.inj hl) (hI s w s' hs hg) fun j b' w' => h (j + 1) b' w'

theorem foldE_congr_get {σ β γ : Type} (f : σ → β → Except Err σ) (g : σ → γ → Except Err σ)
    (l : List β) (ws : List γ) (s : σ) (hl : l.length = ws.length)
    (h : ∀ (j : Nat) b w, l[j]? = some b → ws[j]? = some w → ∀ s, f s b = g s w) : foldE f s l = foldE g s ws :=
  foldE_congr_inv f g (fun _ => True) (fun _ _ _ _ _ => trivial) l ws s hl trivial fun j b w hb hw s _ => h j b w hb hw s

theorem foldE_enum_congr {σ β γ : Type} (f : σ → Nat × β → Except Err σ) (g : σ → γ → Except Err σ)
    (l : List β) (ws : List γ) (s : σ) (hl : l.length = ws.length)
    (h : ∀ (j : Nat) A w, l[j]? = some A → ws[j]? = some w → ∀ s, f s (j, A) = g s w) :
    foldE f s (pyEnumerate l) = foldE g s ws := by
  refine foldE_congr_get f g _ ws s (by simp only [pyEnumerate, List.length_zip, List.length_range, Nat.min_self, hl])
    fun j p w hp hw s => ?_
  obtain ⟨h1, h2⟩ := List.getElem?_zip_eq_some.mp hp
  have hj := (List.getElem?_eq_some_iff.mp h1).1
  rw [List.length_range] at hj
  rw [List.getElem?_range hj] at h1
  obtain ⟨j', A⟩ := p
  cases h1
  exact h _ A w h2 hw s

theorem getElem?_replicate_length {β γ : Type} {l : List β} {j : Nat} {b : β} (x : γ) (h : l[j]? = some b) :
    (List.replicate l.length x)[j]? = some x := by
  rw [List.getElem?_replicate, if_pos (List.getElem?_eq_some_iff.mp h).1]

theorem composeStep_eq {α} [Add α] [Zero α] (l : List (Op α)) (x : NDArr α) :
    Gen.composeApplyStep l x = fun out A => A.call out := by
  funext out A
  simp only [Gen.composeApplyStep, gen_linopCall_eq_call, bindE_pure]

/-- **the generated `Compose._apply` is the model's `composeApp`** for every operand list and input: the operators are
    applied from the last to the first (`for linop in self.linops[::-1]`). -/
theorem gen_composeApply_eq {α} [Add α] [Zero α] (l : List (Op α)) (x : NDArr α) :
    Gen.composeApply l x = composeApp l x := by
  have key : ∀ (l : List (Op α)), foldE (fun out A => A.call out) x l.reverse = composeApp l x := by
    intro l
    induction l with
    | nil => rfl
    | cons A t ih =>
      rw [List.reverse_cons, foldE_append, ih]
      simp only [composeApp]
      cases composeApp t x <;> rfl
  simp only [Gen.composeApply, composeStep_eq, key, bindE_pure]

/-- the operator the driver builds for `Compose(l)` from the generated guard and `_apply` IS the model's -/
theorem G_compose_eq {α} [Add α] [Zero α] (l : List (Op α)) : G.compose l = compose l := by
  have : Gen.composeApply l = composeApp l := funext (gen_composeApply_eq l)
  simp only [G.compose, compose, gen_compose_guard_agree, this]
  cases l with
  | nil => simp
  | cons A t =>
    cases hZ : (A :: t).getLast? with
    | none => simp
    | some Z => simp

/-- **rejection, generated guard**: `A * B` is accepted exactly when `A.ishape = B.oshape` -/
theorem G_compose_build_iff {α} [Add α] [Zero α] (A B : Op α) :
    (∃ C, G.compose [A, B] = .ok C) ↔ A.ishape = B.oshape := by
  rw [G_compose_eq]; exact compose_build_iff A B

/-- the left-to-right numpy sum `((0 + y₁) + y₂) + …` -/
def sumSeq {α} [Add α] [Zero α] : PyAcc α → List (NDArr α) → Except Err (PyAcc α)
  | acc, [] => .ok acc
  | acc, y :: ys =>
    match npAdd acc y with
    | .ok s => sumSeq (some s) ys
    | .error e => .error e

theorem addStep_eq {α} [Add α] [Zero α] (l : List (Op α)) (x : NDArr α) (acc : PyAcc α) (A : Op α) :
    Gen.addApplyStep l x acc A = bindE (A.call x) fun y => bindE (npAdd acc y) fun s => .ok (some s) := by
  simp only [Gen.addApplyStep, gen_linopCall_eq_call]

theorem sumSeq_eq_foldE {α} [Add α] [Zero α] (ys : List (NDArr α)) : ∀ acc : PyAcc α,
    sumSeq acc ys = foldE (fun acc y => bindE (npAdd acc y) fun r => .ok (some r)) acc ys := by
  induction ys with
  | nil => intro acc; rfl
  | cons y t ih =>
    intro acc
    simp only [sumSeq, foldE]
    cases npAdd acc y with
    | error e => rfl
    | ok s => exact ih (some s)

/-- **the generated `Add._apply` is the left-to-right numpy sum of the operand results** `((0 + A₁(x)) + A₂(x)) + …`
    (every operand applied to the same input through `Linop.__call__`), for every operand list on which all operands succeed. -/
theorem gen_addApply_sum {α} [Add α] [Zero α] (l : List (Op α)) (x : NDArr α) (ys : List (NDArr α))
    (h : callAll l (List.replicate l.length x) = .ok ys) :
    Gen.addApply l x = (match sumSeq none ys with | .ok acc => accResult acc | .error e => .error e) := by
  obtain ⟨_, _, hcall⟩ := (callAll_ok_iff _ _ _).mp h
  have hfold : foldE (Gen.addApplyStep l x) none l = sumSeq none ys := by
    rw [sumSeq_eq_foldE]
    refine foldE_congr_get _ _ l ys none (callAll_length _ _ _ h).symm fun j A y hA hy acc => ?_
    rw [addStep_eq, hcall j A x y hA (getElem?_replicate_length x hA) hy, bindE_ok]
  simp only [Gen.addApply, hfold]
  cases sumSeq none ys <;> rfl

/-- adding results of one shape with `prod shape` entries is the entrywise sum `sumResults` of the model -/
theorem sumSeq_some {α} [Add α] [Zero α] (osh : List Nat) : ∀ (ys : List (NDArr α)) (o : NDArr α), o.shape = osh →
    (∀ y ∈ ys, y.shape = osh) →
    sumSeq (some o) ys = .ok (some ⟨osh, ys.foldl (fun acc y => List.zipWith (· + ·) acc y.data) o.data⟩) := by
  intro ys
  induction ys with
  | nil => intro o ho _; simp only [sumSeq, List.foldl]; rw [← ho]
  | cons y t ih =>
    intro o ho hy
    have h1 : y.shape = osh := hy y (by simp)
    simp only [sumSeq, npAdd, ho, h1, if_true, List.foldl_cons]
    exact ih _ rfl (fun z hz => hy z (by simp [hz]))

theorem sumSeq_eq_sumResults {α} [Add α] [Zero α] (osh : List Nat) (ys : List (NDArr α)) (hne : ys ≠ [])
    (hsh : ∀ y ∈ ys, y.shape = osh) (hwf : ∀ y ∈ ys, y.WF) :
    sumSeq none ys = .ok (some (sumResults osh ys)) := by
  cases ys with
  | nil => exact absurd rfl hne
  | cons y t =>
    have h1 : y.shape = osh := hsh y (by simp)
    have h2 : y.data.length = sprod osh := by rw [← h1]; exact hwf y (by simp)
    simp only [sumSeq, npAdd]
    rw [sumSeq_some osh t ⟨y.shape, y.data.map (0 + ·)⟩ h1 (fun z hz => hsh z (by simp [hz]))]
    simp only [sumResults, List.foldl_cons]
    rw [← h2, zipWith_replicate_zero]

theorem G_add_pair {α} [Add α] [Zero α] (A B : Op α) :
    G.add [A, B] =
      if B.ishape = A.ishape ∧ B.oshape = A.oshape then .ok ⟨A.oshape, A.ishape, Gen.addApply [A, B]⟩
      else .error .build := by
  simp only [G.add, gen_same_ishape_agree, gen_same_oshape_agree, sameShapes, List.all_cons, List.all_nil, Bool.and_true,
    decide_true, Bool.true_and, Bool.and_eq_true, decide_eq_true_eq]

/-- **rejection, generated guards**: `A + B` is accepted exactly when both shapes agree; the built operator advertises the
    shapes of `A` -/
theorem G_add_build_iff {α} [Add α] [Zero α] (A B : Op α) :
    (∃ C, G.add [A, B] = .ok C) ↔ (B.ishape = A.ishape ∧ B.oshape = A.oshape) := by
  rw [G_add_pair]
  split
  · exact ⟨fun _ => ‹_›, fun _ => ⟨_, rfl⟩⟩
  · exact ⟨(fun ⟨_, h⟩ => nomatch h), fun h => absurd h ‹_›⟩

/-- **`A + B` (generated `_apply`) adds the two results entry by entry** — `(0 + A(x)) + B(x)` — when they have the same shape -/
theorem G_add_apply {α} [Add α] [Zero α] (A B C : Op α) (x ya yb : NDArr α)
    (h : G.add [A, B] = .ok C) (ha : A.call x = .ok ya) (hb : B.call x = .ok yb) (hs : ya.shape = yb.shape) :
    C.oshape = A.oshape ∧ C.ishape = A.ishape ∧
      C.app x = .ok ⟨ya.shape, List.zipWith (· + ·) (ya.data.map (0 + ·)) yb.data⟩ := by
  rw [G_add_pair] at h
  split at h
  · cases h
    refine ⟨rfl, rfl, ?_⟩
    have hc : callAll [A, B] (List.replicate [A, B].length x) = .ok [ya, yb] := by
      simp only [callAll, List.length_cons, List.length_nil, List.replicate, ha, hb]
    simp only []
    rw [gen_addApply_sum [A, B] x [ya, yb] hc]
    simp only [sumSeq, npAdd, hs, if_true, accResult]
  · cases h

/-- `start = 0 if n == 0 else indices[n - 1]` -/
def startG (ind : List Nat) (n : Nat) : Except Err Nat :=
  if n = 0 then .ok 0 else match ind[n - 1]? with | some v => .ok v | none => .error .apply

/-- `end = None if n == nops - 1 else indices[n]` -/
def stopG (ind : List Nat) (nops n : Nat) : Except Err (Option Nat) :=
  if n + 1 = nops then .ok none else match ind[n]? with | some v => .ok (some v) | none => .error .apply

theorem startG_ok_iff (ind : List Nat) (n s : Nat) :
    startG ind n = .ok s ↔ (n = 0 ∧ s = 0) ∨ (n ≠ 0 ∧ ind[n - 1]? = some s) := by
  unfold startG
  by_cases h : n = 0
  · simp [h, eq_comm]
  · simp only [h, if_false, false_and, false_or, ne_eq, not_false_eq_true, true_and]
    cases ind[n - 1]? <;> simp

theorem stopG_ok_iff (ind : List Nat) (nops n : Nat) (e : Option Nat) :
    stopG ind nops n = .ok e ↔ (n + 1 = nops ∧ e = none) ∨ (n + 1 ≠ nops ∧ ∃ v, ind[n]? = some v ∧ e = some v) := by
  unfold stopG
  by_cases h : n + 1 = nops
  · simp [h, eq_comm]
  · simp only [h, if_false, false_and, false_or, ne_eq, not_false_eq_true, true_and]
    cases ind[n]? <;> simp [eq_comm]

theorem pyIndex_natCast {β} (l : List β) (n : Nat) : pyIndex l ((n : Nat) : Int) = l[n]? := by
  simp [pyIndex]

theorem pyIndex_sub_one {β} (l : List β) (n : Nat) (h : n ≠ 0) : pyIndex l (((n : Nat) : Int) - 1) = l[n - 1]? := by
  have : ((n : Nat) : Int) - 1 = ((n - 1 : Nat) : Int) := by omega
  rw [this, pyIndex_natCast]

/-- **the `start/end` selection of the generated loops is the slab bounds**: with `len(indices) + 1 = nops`, operand `n`
    gets `start = (0 :: indices)[n]`, `end = (indices ++ [None])[n]` — the pair `bounds` lists -/
theorem bounds_get (ind : List Nat) (nops : Nat) (bs : List (Nat × Option Nat)) (h : bounds ind nops = .ok bs)
    (n : Nat) (b : Nat × Option Nat) (hb : bs[n]? = some b) :
    startG ind n = .ok b.1 ∧ stopG ind nops n = .ok b.2 := by
  unfold bounds at h
  split at h
  · rename_i hl
    cases h
    obtain ⟨b1, b2⟩ := b
    obtain ⟨h1, h2⟩ := List.getElem?_zip_eq_some.mp hb
    constructor
    · -- `(0 :: indices)[n]`
      cases n with
      | zero => cases h1; rfl
      | succ n =>
        have h1' : ind[n]? = some b1 := h1
        simp only [startG, Nat.succ_ne_zero, if_false, Nat.add_sub_cancel, h1']
    · -- `(indices ++ [None])[n]`
      unfold stopG
      by_cases hn : n < ind.length
      · rw [List.getElem?_append_left (by rwa [List.length_map]), List.getElem?_map,
          List.getElem?_eq_getElem hn] at h2
        rw [if_neg (by omega), List.getElem?_eq_getElem hn]
        exact congrArg Except.ok (Option.some.inj h2)
      · have hlt := (List.getElem?_eq_some_iff.mp h2).1
        rw [List.length_append, List.length_map] at hlt
        have hn' : n = ind.length := by have : n < ind.length + 1 := hlt; omega
        subst hn'
        rw [List.getElem?_append_right (by rw [List.length_map]), List.length_map,
          Nat.sub_self] at h2
        rw [if_pos hl]
        exact congrArg Except.ok (Option.some.inj h2)
  · cases h

theorem bounds_length {ind : List Nat} {nops : Nat} {bs : List (Nat × Option Nat)} (h : bounds ind nops = .ok bs) :
    bs.length = nops := by
  unfold bounds at h
  split at h
  · rename_i hl
    cases h
    rw [List.length_zip, List.length_cons, List.length_append, List.length_map, List.length_singleton, Nat.min_self, hl]
  · cases h

theorem npRepeat_single {β} (x : β) (k : Int) : npRepeat [x] k = List.replicate k.toNat x := by
  unfold npRepeat
  induction k.toNat with
  | zero => rfl
  | succ n ih => simp [List.replicate_succ, ih]

/-- the index tuple `[slice(None)] * axis + [slice(start, end)] + [slice(None)] * (ndim - axis - 1)` -/
def slcG (ax : Int) (ndim : Nat) (s : Nat) (e : Option Nat) : List PySlice :=
  npRepeat [PySlice.all] (pyMod ax ndim) ++ [PySlice.range s e] ++ npRepeat [PySlice.all] ((ndim : Int) - pyMod ax ndim - 1)

/-- the tuple has one entry per axis of the operand and its only ranged entry sits at `axis mod ndim` -/
theorem slcG_form (ax : Int) (ndim : Nat) (s : Nat) (e : Option Nat) (h : ndim ≠ 0) :
    ∃ k, slcG ax ndim s e = List.replicate (pyMod ax ndim).toNat PySlice.all ++ PySlice.range s e :: List.replicate k PySlice.all ∧
      (pyMod ax ndim).toNat + 1 + k = ndim := by
  obtain ⟨h0, h1⟩ := pyMod_range ax ndim (by omega)
  refine ⟨((ndim : Int) - pyMod ax ndim - 1).toNat, ?_, by omega⟩
  simp only [slcG, npRepeat_single, List.append_assoc, List.singleton_append]

theorem slcG_length (ax : Int) (ndim : Nat) (s : Nat) (e : Option Nat) (h : ndim ≠ 0) :
    (slcG ax ndim s e).length = ndim := by
  obtain ⟨k, hk, hlen⟩ := slcG_form ax ndim s e h
  rw [hk, List.length_append, List.length_replicate, List.length_cons, List.length_replicate]
  omega

theorem npGetGo_all {α} (k : Nat) : ∀ (x : NDArr α) (i : Nat), npGetGo x i (List.replicate k PySlice.all) = x := by
  induction k with
  | zero => intro x i; rfl
  | succ k ih => intro x i; simp [List.replicate_succ, npGetGo, ih]

theorem npGetGo_prefix {α} (a : Nat) : ∀ (x : NDArr α) (i : Nat) (r : List PySlice),
    npGetGo x i (List.replicate a PySlice.all ++ r) = npGetGo x (i + a) r := by
  induction a with
  | zero => intro x i r; rfl
  | succ a ih =>
    intro x i r
    simp only [List.replicate_succ, List.cons_append, npGetGo, ih]
    congr 1; omega

/-- **`input[slc]` with the generated tuple is the slice along `axis mod ndim`** (IndexError when the input has fewer
    axes than the operand) -/
theorem npGetItem_slcG {α} (x : NDArr α) (ax : Int) (ndim : Nat) (s : Nat) (e : Option Nat) (h : ndim ≠ 0) :
    npGetItem x (slcG ax ndim s e) =
      if ndim ≤ x.shape.length then .ok (sliceAx x (pyMod ax ndim).toNat s e) else .error .apply := by
  obtain ⟨k, hk, _⟩ := slcG_form ax ndim s e h
  unfold npGetItem
  rw [slcG_length ax ndim s e h, hk, npGetGo_prefix]
  simp only [npGetGo, Nat.zero_add, npGetGo_all]

theorem npGetItem_one {α} (x : NDArr α) (s : Nat) (e : Option Nat) :
    npGetItem x [PySlice.range s e] = if 1 ≤ x.shape.length then .ok (sliceAx x 0 s e) else .error .apply := by
  simp [npGetItem, npGetGo]

/-- the slab the generated code hands to one operand: `input[start:end].reshape(ishape)` / `input[slc]` -/
def slabG {α} (axis : Option Int) (opShape : List Nat) (x : NDArr α) (s : Nat) (e : Option Nat) : Except Err (NDArr α) :=
  match axis with
  | none => bindE (npGetItem x [PySlice.range s e]) fun t => npReshape t opShape
  | some ax => if opShape.length = 0 then .error .apply else npGetItem x (slcG ax opShape.length s e)

/-- the rank conditions under which numpy does not raise IndexError / ZeroDivisionError -/
def SlabOk {α} (axis : Option Int) (opShape : List Nat) (x : NDArr α) : Prop :=
  match axis with
  | none => 1 ≤ x.shape.length
  | some _ => opShape.length ≠ 0 ∧ opShape.length ≤ x.shape.length

/-- under these rank conditions the generated slab is the model's `slab` -/
theorem slabG_eq_slab {α} (axis : Option Int) (opShape : List Nat) (x : NDArr α) (b : Nat × Option Nat)
    (h : SlabOk axis opShape x) : slabG axis opShape x b.1 b.2 = slab axis opShape x b := by
  cases axis with
  | none =>
    simp only [SlabOk] at h
    simp only [slabG, slab, npGetItem_one, h, if_true, npReshape, bindE_ok]
  | some ax =>
    simp only [SlabOk] at h
    simp only [slabG, slab, h.1, if_false, npGetItem_slcG _ _ _ _ _ h.1, h.2, if_true]

/-- the `start` selection of the generated loops (`if n == 0: start = 0 else: start = self.indices[n - 1]`) -/
theorem gen_start_eq (ind : List Nat) (n : Nat) :
    (if n = (0 : Nat) then (.ok (0 : Nat) : Except Err Nat)
      else bindO (pyIndex ind (((n : Nat) : Int) - (1 : Int))) fun t1 => .ok t1) = startG ind n := by
  unfold startG
  by_cases h : n = 0
  · simp [h]
  · simp only [h, if_false, pyIndex_sub_one _ _ h]
    cases ind[n - 1]? <;> rfl

/-- the `end` selection (`if n == self.nops - 1: end = None else: end = self.indices[n]`) -/
theorem gen_stop_eq (ind : List Nat) (nops n : Nat) :
    (if ((n : Nat) : Int) = (((nops : Nat) : Int) - (1 : Int)) then (.ok none : Except Err (Option Nat))
      else bindO (pyIndex ind ((n : Nat) : Int)) fun t2 => .ok (some t2)) = stopG ind nops n := by
  unfold stopG
  rw [pyIndex_natCast]
  by_cases h : n + 1 = nops
  · have hc : ((n : Nat) : Int) = ((nops : Nat) : Int) - 1 := by omega
    simp [h, hc]
  · have hc : ¬ ((n : Nat) : Int) = ((nops : Nat) : Int) - 1 := by omega
    simp only [h, hc, if_false]
    cases ind[n]? <;> rfl

/-- the same selections in equivalent spellings (`if n != 0: … else: start = 0`, `if n + 1 == self.nops`) -/
theorem gen_start_eq' (ind : List Nat) (n : Nat) :
    (if n ≠ (0 : Nat) then bindO (pyIndex ind (((n : Nat) : Int) - (1 : Int))) fun t1 => .ok t1
      else (.ok (0 : Nat) : Except Err Nat)) = startG ind n := by
  rw [← gen_start_eq]
  by_cases h : n = 0 <;> simp [h]

theorem gen_stop_eq' (ind : List Nat) (nops n : Nat) :
    (if (n + (1 : Nat)) = nops then (.ok none : Except Err (Option Nat))
      else bindO (pyIndex ind ((n : Nat) : Int)) fun t2 => .ok (some t2)) = stopG ind nops n := by
  rw [← gen_stop_eq]
  by_cases h : n + 1 = nops
  · have hc : ((n : Nat) : Int) = ((nops : Nat) : Int) - 1 := by omega
    simp [h, hc]
  · have hc : ¬ ((n : Nat) : Int) = ((nops : Nat) : Int) - 1 := by omega
    simp [h, hc]

/-- `ndim - 1 - axis` is `ndim - axis - 1` -/
theorem sub_one_sub (a b : Int) : a - 1 - b = a - b - 1 := by omega

-- `gen_start_eq'`, `gen_stop_eq'`, `sub_one_sub` rewrite only the alternative spellings of the source
set_option linter.unusedSimpArgs false in
theorem hstackStep_ok {α} [Add α] [Zero α] (l : List (Op α)) (nops : Nat) (axis : Option Int) (ind : List Nat) (x : NDArr α)
    (acc : PyAcc α) (n : Nat) (A : Op α) (s : Nat) (e : Option Nat) (p y : NDArr α)
    (hs : startG ind n = .ok s) (he : stopG ind nops n = .ok e) (hp : slabG axis A.ishape x s e = .ok p)
    (hy : A.call p = .ok y) :
    Gen.hstackApplyStep l nops axis ind x acc (n, A) = bindE (npAdd acc y) fun r => .ok (some r) := by
  simp only [Gen.hstackApplyStep, gen_linopCall_eq_call, gen_start_eq, gen_stop_eq, gen_start_eq', gen_stop_eq', sub_one_sub,
    hs, he, bindE_ok]
  cases axis with
  | none =>
    simp only [slabG] at hp
    cases hg : npGetItem x [PySlice.range s e] with
    | error e => rw [hg] at hp; cases hp
    | ok t =>
      rw [hg, bindE_ok] at hp
      simp only [bindE_ok, hp, hy]
      cases npAdd acc y <;> rfl
  | some ax =>
    simp only [slabG] at hp
    by_cases hz : A.ishape.length = 0
    · rw [if_pos hz] at hp; cases hp
    · rw [if_neg hz] at hp
      have hz' : ¬ ((A.ishape.length : Nat) : Int) = 0 := by omega
      simp only [slcG] at hp
      simp only [hz', if_false, hp, bindE_ok, hy]
      cases npAdd acc y <;> rfl

theorem hstackFold_ok {α} [Add α] [Zero α] (l : List (Op α)) (axis : Option Int) (ind : List Nat) (x : NDArr α)
    (bs : List (Nat × Option Nat)) (ps ys : List (NDArr α)) (acc : PyAcc α) (hb : bounds ind l.length = .ok bs)
    (hok : ∀ A ∈ l, SlabOk axis A.ishape x) (hsl : slabs axis x (l.map Op.ishape) bs = .ok ps)
    (hc : callAll l ps = .ok ys) :
    foldE (Gen.hstackApplyStep l l.length axis ind x) acc (pyEnumerate l) = sumSeq acc ys := by
  obtain ⟨_, hs2, hslab⟩ := (slabs_ok_iff _ _ _ _ _).mp hsl
  obtain ⟨hc1, hc2, hcall⟩ := (callAll_ok_iff _ _ _).mp hc
  rw [sumSeq_eq_foldE]
  refine foldE_enum_congr _ _ l ys acc (hc1.trans hc2) fun j A y hA hy acc => ?_
  obtain ⟨p, hp⟩ := getElem?_of_length_eq hc1 hA
  obtain ⟨b, hb'⟩ := getElem?_of_length_eq hs2.symm hp
  obtain ⟨hs, he⟩ := bounds_get ind _ bs hb j b hb'
  have hsA : (l.map Op.ishape)[j]? = some A.ishape := by rw [List.getElem?_map, hA]; rfl
  exact hstackStep_ok l l.length axis ind x acc j A b.1 b.2 p y hs he
    ((slabG_eq_slab axis A.ishape x b (hok A (List.mem_of_getElem? hA))).trans (hslab j _ b p hsA hb' hp))
    (hcall j A p y hA hp hy)

/-- the generated parameter functions are the model's -/
theorem gen_hparams (shapes : List (List Nat)) (axis : Option Int) : Gen.hstackParams shapes axis = stackParams shapes axis :=
  (gen_loop_eq_combined shapes axis).1
theorem gen_vparams (shapes : List (List Nat)) (axis : Option Int) : Gen.vstackParams shapes axis = stackParams shapes axis :=
  (gen_loop_eq_combined shapes axis).2

theorem G_hstack_ok_iff {α} [Add α] [Zero α] (A : Op α) (l : List (Op α)) (axis : Option Int) (H : Op α) :
    G.hstack (A :: l) axis = .ok H ↔
      (∀ B ∈ l, B.oshape = A.oshape) ∧ ∃ ish ind, stackParams (A.ishape :: l.map Op.ishape) axis = .ok (ish, ind) ∧
        H = ⟨A.oshape, ish, Gen.hstackApply (A :: l) (A :: l).length axis ind⟩ := by
  rw [← sameShapes_cons]
  simp only [G.hstack, gen_same_oshape_agree, gen_hparams, List.map_cons]
  by_cases hs : sameShapes Op.oshape (A :: l) = true
  · rw [if_pos hs]
    cases stackParams (A.ishape :: l.map Op.ishape) axis with
    | error e => exact ⟨nofun, fun ⟨_, _, _, h, _⟩ => nomatch h⟩
    | ok r =>
      exact ⟨fun h => ⟨hs, r.1, r.2, rfl, (Except.ok.inj h).symm⟩, fun ⟨_, _, _, h1, h2⟩ => by cases h1; rw [h2]⟩
  · rw [if_neg hs]
    exact ⟨nofun, fun h => absurd h.1 hs⟩

/-- **rejection at construction, generated guards**: `Hstack(A :: l, axis)` (generated `_check_linops_same_oshape` and
    `_hstack_params`) is accepted exactly when the model's `hstack` is: equal oshapes and ishapes that pass the stacking
    parameters -/
theorem G_hstack_build_iff {α} [Add α] [Zero α] (A : Op α) (l : List (Op α)) (axis : Option Int) :
    (∃ H, G.hstack (A :: l) axis = .ok H) ↔
      ((∀ B ∈ l, B.oshape = A.oshape) ∧ ∃ r, stackParams (A.ishape :: l.map Op.ishape) axis = .ok r) :=
  build_iff_of_ok_iff (G_hstack_ok_iff A l axis)

theorem concatOpt_slabOk {α} (axis : Option Int) (S : List Nat) (xs : List (NDArr α)) (shapes : List (List Nat)) (ind : List Nat)
    (h : stackParams shapes axis = .ok (S, ind)) : ∀ s ∈ shapes, SlabOk axis s (concatOpt axis S xs) := by
  intro s hs
  cases shapes with
  | nil => simp at hs
  | cons s0 rest =>
    cases axis with
    | none =>
      rw [stack_none_accepts_all] at h
      cases h
      simp [SlabOk, concatOpt]
    | some ax =>
      obtain ⟨hst, _, hlen⟩ := stackParams_some_stacked s0 rest ax S ind h
      have := hst.lt
      simp only [SlabOk, concatOpt, hlen s hs]
      omega

/-- **Hstack is the block row — generated `_apply`.**  For every operand list that passes the generated constructor guards
    and well-formed inputs `x_1 … x_n` of the operands' ishapes: the GENERATED body of `Hstack._apply`, applied to the
    concatenation `x_1 ‖ … ‖ x_n` along the normalised axis (`axis = None`: of the flattened inputs), returns the
    left-to-right numpy sum `((0 + ops_1(x_1)) + ops_2(x_2)) + …` whenever every `ops_k(x_k)` succeeds (by
    `sumSeq_eq_sumResults` the entrywise sum `sumResults` of the model's theorem when the outputs have the advertised shape). -/
theorem G_hstack_block_row {α} [Add α] [Zero α] (A : Op α) (l : List (Op α)) (axis : Option Int) (H : Op α)
    (h : G.hstack (A :: l) axis = .ok H) (xs ys : List (NDArr α))
    (hxs : xs.map (·.shape) = (A :: l).map Op.ishape) (hwf : ∀ x ∈ xs, x.WF)
    (hys : callAll (A :: l) xs = .ok ys) :
    H.oshape = A.oshape ∧
    H.app (concatOpt axis H.ishape xs) = (match sumSeq none ys with | .ok acc => accResult acc | .error e => .error e) := by
  obtain ⟨_, ish, ind, hs, rfl⟩ := (G_hstack_ok_iff A l axis H).mp h
  refine ⟨rfl, ?_⟩
  obtain ⟨bs, hb, hsl⟩ := slabs_concat _ axis ish ind hs xs hxs hwf
  rw [← List.length_map (f := (·.shape)), hxs, List.length_map] at hb
  simp only [Gen.hstackApply]
  rw [hstackFold_ok (A :: l) axis ind _ bs xs ys none hb
    (fun B hB => concatOpt_slabOk axis ish xs _ ind hs B.ishape (List.mem_map_of_mem hB)) hsl hys]
  cases sumSeq none ys <;> rfl

theorem rowWrite_ok {β} (row : List β) (s : Nat) (e : Option Nat) (seg r : List β)
    (h : rowWrite row s e seg = .ok r) :
    r = row.take s ++ seg ++ row.drop (s + seg.length) ∧ r.length = row.length := by
  -- `E` = the end of the slab, clipped to the row
  obtain ⟨E, hE, hrw⟩ : ∃ E, E ≤ row.length ∧ rowWrite row s e seg =
      if E - s = seg.length then .ok (row.take s ++ seg ++ row.drop (s + seg.length)) else .error .apply := by
    cases e with
    | none => exact ⟨_, Nat.le_refl _, rfl⟩
    | some e => exact ⟨_, Nat.min_le_right _ _, rfl⟩
  rw [hrw] at h
  by_cases hc : E - s = seg.length
  · rw [if_pos hc] at h
    cases h
    refine ⟨rfl, ?_⟩
    simp only [List.length_append, List.length_take, List.length_drop]
    omega
  · rw [if_neg hc] at h
    cases h

/-- one operand written into every row of the flat output -/
def rowStep {β} (L m : Nat) (d : List β) (w : (Nat × Option Nat) × (Nat → List β)) : Except Err (List β) :=
  match allRows (fun o => rowWrite (rowOf L o d) w.1.1 w.1.2 (w.2 o)) m with
  | .ok rows => .ok rows.flatten
  | .error e => .error e

/-- **exchange of the two loops**: writing operand after operand into the whole (flat) output — as the source does — gives,
    row by row, what writing all operands into each row gives -/
theorem seq_rows {β} (L m : Nat) : ∀ (ws : List ((Nat × Option Nat) × (Nat → List β))) (row0 final : Nat → List β),
    (∀ o, o < m → (row0 o).length = L) →
    (∀ o, o < m → rowWrites (row0 o) (ws.map (·.1)) (ws.map (·.2 o)) = .ok (final o)) →
    foldE (rowStep L m) ((List.range m).map row0).flatten ws = .ok ((List.range m).map final).flatten := by
  intro ws
  induction ws with
  | nil =>
    intro row0 final _ h
    exact congrArg (fun rows => Except.ok (List.flatten rows))
      (List.map_congr_left fun o ho => Except.ok.inj (h o (List.mem_range.mp ho)))
  | cons w ws ih =>
    intro row0 final hl h
    let row1 : Nat → List β := fun o => (row0 o).take w.1.1 ++ w.2 o ++ (row0 o).drop (w.1.1 + (w.2 o).length)
    have hw : ∀ o, o < m → rowWrite (row0 o) w.1.1 w.1.2 (w.2 o) = .ok (row1 o) ∧
        rowWrites (row1 o) (ws.map (·.1)) (ws.map (·.2 o)) = .ok (final o) := by
      intro o ho
      have := h o ho
      simp only [List.map_cons, rowWrites] at this
      cases hr : rowWrite (row0 o) w.1.1 w.1.2 (w.2 o) with
      | error e => rw [hr] at this; cases this
      | ok r =>
        rw [hr] at this
        have hr' := (rowWrite_ok _ _ _ _ _ hr).1
        subst hr'
        exact ⟨rfl, this⟩
    have hstep : rowStep L m ((List.range m).map row0).flatten w = .ok ((List.range m).map row1).flatten := by
      unfold rowStep
      rw [allRows_ok _ row1 m (fun o ho => by rw [rowOf_flatten_range L m row0 hl o ho]; exact (hw o ho).1)]
    simp only [foldE, hstep]
    exact ih row1 final (fun o ho => by rw [(rowWrite_ok _ _ _ _ _ (hw o ho).1).2]; exact hl o ho) (fun o ho => (hw o ho).2)

theorem setSliceAx_eq {α} (S : List Nat) (d : List α) (a s : Nat) (e : Option Nat) (y : NDArr α)
    (hsh : y.shape = S.set a (selLen (geom S a).n s e)) :
    setSliceAx ⟨S, d⟩ a s e y =
      (match rowStep ((geom S a).n * (geom S a).inner) (geom S a).outer d
          ((s * (geom S a).inner, e.map (· * (geom S a).inner)),
            fun o => rowOf (selLen (geom S a).n s e * (geom S a).inner) o y.data) with
        | .ok d' => .ok ⟨S, d'⟩
        | .error e => .error e) := by
  simp only [setSliceAx, broadcastTo, hsh, if_true, rowStep]
  cases allRows _ _ <;> rfl

/-- the sequential `output[slc_n] = y_n` fold acts on the flat data row by row (`rowStep`) -/
theorem foldE_setSliceAx_eq {α} (a : Nat) (S : List Nat) : ∀ (W : List ((Nat × Option Nat) × NDArr α)) (d : List α),
    (∀ w ∈ W, selLen (geom S a).n w.1.1 w.1.2 = (geom w.2.shape a).n ∧ w.2.shape = S.set a (geom w.2.shape a).n) →
    foldE (fun out (w : (Nat × Option Nat) × NDArr α) => setSliceAx out a w.1.1 w.1.2 w.2) ⟨S, d⟩ W =
      (match foldE (rowStep ((geom S a).n * (geom S a).inner) (geom S a).outer) d
          (W.map fun w => ((w.1.1 * (geom S a).inner, w.1.2.map (· * (geom S a).inner)),
            fun o => rowOf ((geom w.2.shape a).n * (geom S a).inner) o w.2.data)) with
        | .ok d' => .ok ⟨S, d'⟩
        | .error e => .error e) := by
  intro W
  induction W with
  | nil => intro d _; rfl
  | cons w W ih =>
    intro d h
    obtain ⟨h1, h2⟩ := h w (by simp)
    simp only [foldE, List.map_cons]
    rw [setSliceAx_eq S d a _ _ _ (by rw [h1]; exact h2), h1]
    cases rowStep _ _ d _ with
    | error e => rfl
    | ok d' => exact ih d' (fun w' hw' => h w' (by simp [hw']))

theorem flatten_replicate_rows {β} (z : β) (L : Nat) : ∀ m : Nat,
    ((List.range m).map fun _ => List.replicate L z).flatten = List.replicate (m * L) z := by
  intro m
  induction m with
  | zero => simp
  | succ m ih =>
    rw [List.range_succ, List.map_append, List.flatten_append, ih]
    simp [Nat.succ_mul, List.replicate_append_replicate]

theorem map_zip_fst {β γ δ : Type} (f : β → δ) (l₁ : List β) (l₂ : List γ) (h : l₁.length ≤ l₂.length) :
    (List.zip l₁ l₂).map (fun w => f w.1) = l₁.map f := by
  conv_rhs => rw [← List.map_fst_zip h, List.map_map]
  rfl

theorem map_zip_snd {β γ δ : Type} (f : γ → δ) (l₁ : List β) (l₂ : List γ) (h : l₂.length ≤ l₁.length) :
    (List.zip l₁ l₂).map (fun w => f w.2) = l₂.map f := by
  conv_rhs => rw [← List.map_snd_zip h, List.map_map]
  rfl

/-- **sequential write side with the stacking facts**: starting from `empty(S)`, assigning the well-formed parts one after
    the other to their slabs `[S_k, S_{k+1})` (last one open-ended) along axis `a` — exactly what the generated loops of
    `Vstack._apply` / `Diag._apply` do — yields their concatenation along the axis: every entry is written exactly once. -/
theorem seqAssemble {α} [Zero α] (a : Nat) (S : List Nat) (ys : List (NDArr α)) (hne : ys ≠ [])
    (hst : Stacked a S (ys.map (·.shape))) (hwf : ∀ y ∈ ys, y.WF) :
    foldE (fun out (w : (Nat × Option Nat) × NDArr α) => setSliceAx out a w.1.1 w.1.2 w.2) (npEmpty S)
      (List.zip (specBounds 0 (ys.map fun y => (geom y.shape a).n)) ys) =
      .ok ⟨S, concatAx (geom S a).outer (geom S a).inner a ys⟩ := by
  have hN := hst.n_eq
  have hlenb : (specBounds 0 (ys.map fun y => (geom y.shape a).n)).length = ys.length := by
    rw [length_specBounds, List.length_map]
  -- every (bound, part) pair: the slab has the part's extent
  have hW : ∀ w ∈ List.zip (specBounds 0 (ys.map fun y => (geom y.shape a).n)) ys,
      selLen (geom S a).n w.1.1 w.1.2 = (geom w.2.shape a).n ∧ w.2.shape = S.set a (geom w.2.shape a).n := by
    rintro ⟨b, y⟩ hw
    obtain ⟨k, hk⟩ := List.getElem?_of_mem hw
    obtain ⟨hb, hy⟩ := List.getElem?_zip_eq_some.mp hk
    exact ⟨hst.selLen_eq hb hy, hst.shape_eq (List.mem_of_getElem? hy)⟩
  unfold npEmpty
  rw [foldE_setSliceAx_eq a S _ _ hW, sprod_split S a hst.lt,
    ← flatten_replicate_rows (0 : α) ((geom S a).n * (geom S a).inner) (geom S a).outer,
    seq_rows _ _ _ (fun _ => List.replicate ((geom S a).n * (geom S a).inner) 0)
      (fun o => (ys.map fun y => rowOf ((geom y.shape a).n * (geom S a).inner) o y.data).flatten)
      (fun o _ => List.length_replicate)]
  · rfl
  · intro o ho
    simp only [List.map_map, Function.comp_def]
    rw [map_zip_fst (fun b : Nat × Option Nat => (b.1 * (geom S a).inner, b.2.map (· * (geom S a).inner))) _ _
        (Nat.le_of_eq hlenb),
      map_zip_snd (fun y : NDArr α => rowOf ((geom y.shape a).n * (geom S a).inner) o y.data) _ _
        (Nat.le_of_eq hlenb.symm), hN]
    exact slabs_write_concat 0 _ _ (mt List.map_eq_nil_iff.mp hne) _
      (map_length_rowOf a _ _ o ys (fun y hy => hst.data_length hy (hwf y hy)) ho)

theorem slcOne_form (s : Nat) (e : Option Nat) (k : Nat) : ∀ a : Nat,
    slcOne (List.replicate a PySlice.all ++ PySlice.range s e :: List.replicate k PySlice.all) = some (a, s, e) := by
  intro a
  induction a with
  | zero => simp [slcOne]
  | succ a ih => simp [List.replicate_succ, slcOne, ih]

/-- **`output[slc] = y` with the generated tuple writes the slab along `axis mod ndim`** -/
theorem npSetItem_slcG {α} (out y : NDArr α) (ax : Int) (ndim : Nat) (s : Nat) (e : Option Nat) (h : ndim ≠ 0) :
    npSetItem out (slcG ax ndim s e) y =
      if ndim ≤ out.shape.length then setSliceAx out (pyMod ax ndim).toNat s e y else .error .apply := by
  obtain ⟨k, hk, _⟩ := slcG_form ax ndim s e h
  unfold npSetItem
  rw [slcG_length ax ndim s e h, hk, slcOne_form]

theorem npSetItem_one {α} (out y : NDArr α) (s : Nat) (e : Option Nat) :
    npSetItem out [PySlice.range s e] y = if 1 ≤ out.shape.length then setSliceAx out 0 s e y else .error .apply := by
  simp [npSetItem, slcOne]

theorem setSliceAx_shape {α} (out y out' : NDArr α) (a s : Nat) (e : Option Nat)
    (h : setSliceAx out a s e y = .ok out') : out'.shape = out.shape := by
  unfold setSliceAx at h
  simp only [] at h
  split at h
  · cases h
  · split at h
    · cases h; rfl
    · cases h

/-- what the generated `Vstack._apply` does with the result of one operand: `output[start:end] = y.ravel()` /
    `output[slc] = y` -/
def writeG {α} (axis : Option Int) (opShape : List Nat) (out : NDArr α) (s : Nat) (e : Option Nat) (y : NDArr α) :
    Except Err (NDArr α) :=
  match axis with
  | none => npSetItem out [PySlice.range s e] (npRavel y)
  | some ax => if opShape.length = 0 then .error .apply else npSetItem out (slcG ax opShape.length s e) y

set_option linter.unusedSimpArgs false in
theorem vstackStep_ok {α} [Add α] [Zero α] (l : List (Op α)) (nops : Nat) (axis : Option Int) (ind osh : List Nat) (x : NDArr α)
    (out : NDArr α) (n : Nat) (A : Op α) (s : Nat) (e : Option Nat) (y : NDArr α)
    (hs : startG ind n = .ok s) (he : stopG ind nops n = .ok e) (hy : A.call x = .ok y) :
    Gen.vstackApplyStep l nops axis ind osh x out (n, A) = writeG axis A.oshape out s e y := by
  simp only [Gen.vstackApplyStep, gen_linopCall_eq_call, gen_start_eq, gen_stop_eq, gen_start_eq', gen_stop_eq', sub_one_sub,
    hs, he, hy, bindE_ok, bindE_pure]
  cases axis with
  | none => rfl
  | some ax =>
    simp only [writeG, slcG]
    by_cases hz : A.oshape.length = 0
    · have hz' : ((A.oshape.length : Nat) : Int) = 0 := by omega
      rw [if_pos hz, if_pos hz']
    · have hz' : ¬ ((A.oshape.length : Nat) : Int) = 0 := by omega
      rw [if_neg hz, if_neg hz']

/-- Diag: `output_n` is first brought to `linop.oshape` (`reshape`; the `ravel` in front for `iaxis=None` does not change the
    data), then written -/
def writeD {α} (oaxis : Option Int) (opShape : List Nat) (out : NDArr α) (s : Nat) (e : Option Nat) (y : NDArr α) :
    Except Err (NDArr α) :=
  match oaxis with
  | none => npSetItem out [PySlice.range s e] (npRavel y)
  | some ax => if opShape.length = 0 then .error .apply else
      bindE (npReshape y opShape) fun t => npSetItem out (slcG ax opShape.length s e) t

theorem npRavel_npRavel {α} (y : NDArr α) : npRavel (npRavel y) = npRavel y := rfl

theorem npReshape_npRavel {α} (y : NDArr α) (sh : List Nat) : npReshape (npRavel y) sh = npReshape y sh := rfl

theorem npReshape_self {α} (y : NDArr α) (h : y.WF) : npReshape y y.shape = .ok y := by
  unfold npReshape reshape
  rw [if_pos (show y.data.length = sprod y.shape from h)]

theorem diagStep_ok {α} [Add α] [Zero α] (l : List (Op α)) (nops : Nat) (iaxis oaxis : Option Int) (iind oind osh : List Nat)
    (x : NDArr α) (out : NDArr α) (n : Nat) (A : Op α) (si so : Nat) (ei eo : Option Nat) (p y : NDArr α)
    (hsi : startG iind n = .ok si) (hei : stopG iind nops n = .ok ei)
    (hso : startG oind n = .ok so) (heo : stopG oind nops n = .ok eo)
    (hp : slabG iaxis A.ishape x si ei = .ok p) (hy : A.call p = .ok y) :
    Gen.diagApplyStep l nops iaxis oaxis iind oind osh x out (n, A) = writeD oaxis A.oshape out so eo y := by
  have hstart : (if n = (0 : Nat) then (.ok ((0 : Nat), (0 : Nat)) : Except Err (Nat × Nat))
      else bindO (pyIndex iind (((n : Nat) : Int) - (1 : Int))) fun t1 =>
        bindO (pyIndex oind (((n : Nat) : Int) - (1 : Int))) fun t2 => .ok (t1, t2)) = .ok (si, so) := by
    rcases (startG_ok_iff iind n si).mp hsi with ⟨h0, rfl⟩ | ⟨h0, h1⟩ <;>
    rcases (startG_ok_iff oind n so).mp hso with ⟨h0', rfl⟩ | ⟨h0', h1'⟩
    · simp [h0]
    · exact absurd h0 h0'
    · exact absurd h0' h0
    · simp [h0, pyIndex_sub_one _ _ h0, h1, h1']
  have hstop : (if ((n : Nat) : Int) = (((nops : Nat) : Int) - (1 : Int)) then (.ok (none, none) : Except Err (Option Nat × Option Nat))
      else bindO (pyIndex iind ((n : Nat) : Int)) fun t3 =>
        bindO (pyIndex oind ((n : Nat) : Int)) fun t4 => .ok (some t3, some t4)) = .ok (ei, eo) := by
    rcases (stopG_ok_iff iind nops n ei).mp hei with ⟨h0, rfl⟩ | ⟨h0, v, h1, rfl⟩ <;>
    rcases (stopG_ok_iff oind nops n eo).mp heo with ⟨h0', rfl⟩ | ⟨h0', v', h1', rfl⟩
    · have hc : ((n : Nat) : Int) = ((nops : Nat) : Int) - 1 := by omega
      simp [hc]
    · exact absurd h0 h0'
    · exact absurd h0' h0
    · have hc : ¬ ((n : Nat) : Int) = ((nops : Nat) : Int) - 1 := by omega
      simp [hc, pyIndex_natCast, h1, h1']
  simp only [Gen.diagApplyStep, gen_linopCall_eq_call, hstart, hstop, bindE_ok, bindE_pure]
  have hout : ∀ (Y : NDArr α), npRavel Y = npRavel y → npReshape Y A.oshape = npReshape y A.oshape →
      (match oaxis with
        | none => npSetItem out [PySlice.range so eo] (npRavel Y)
        | some v => if ((A.oshape.length : Nat) : Int) = 0 then .error .apply else
            bindE (npReshape Y A.oshape) fun t12 =>
              npSetItem out (npRepeat [PySlice.all] (pyMod v ((A.oshape.length : Nat) : Int)) ++ [PySlice.range so eo] ++
                npRepeat [PySlice.all] (((A.oshape.length : Nat) : Int) - pyMod v ((A.oshape.length : Nat) : Int) - 1)) t12) =
        writeD oaxis A.oshape out so eo y := by
    intro Y h1 h2
    cases oaxis with
    | none => simp only [writeD, h1]
    | some ox =>
      simp only [writeD, slcG, h2]
      by_cases hz : A.oshape.length = 0
      · have hz' : ((A.oshape.length : Nat) : Int) = 0 := by omega
        rw [if_pos hz, if_pos hz']
      · have hz' : ¬ ((A.oshape.length : Nat) : Int) = 0 := by omega
        rw [if_neg hz, if_neg hz']
  cases iaxis with
  | none =>
    simp only [slabG] at hp
    cases hg : npGetItem x [PySlice.range si ei] with
    | error e => rw [hg] at hp; cases hp
    | ok t =>
      rw [hg, bindE_ok] at hp
      simp only [bindE_ok, hp, hy]
      cases oaxis with
      | none => exact hout (npRavel y) rfl rfl
      | some ox => exact hout (npRavel y) rfl rfl
  | some ax =>
    simp only [slabG] at hp
    by_cases hz : A.ishape.length = 0
    · rw [if_pos hz] at hp; cases hp
    · rw [if_neg hz] at hp
      have hz' : ¬ ((A.ishape.length : Nat) : Int) = 0 := by omega
      simp only [slcG] at hp
      simp only [hz', if_false, hp, bindE_ok, hy]
      cases oaxis with
      | none => exact hout y rfl rfl
      | some ox => exact hout y rfl rfl

theorem vstackFold_ok {α} [Add α] [Zero α] (l : List (Op α)) (axis : Option Int) (ind osh : List Nat)
    (x out : NDArr α) (bs : List (Nat × Option Nat)) (ys : List (NDArr α)) (hb : bounds ind l.length = .ok bs)
    (hc : callAll l (List.replicate l.length x) = .ok ys) :
    foldE (Gen.vstackApplyStep l l.length axis ind osh x) out (pyEnumerate l) =
      foldE (fun out (w : (Nat × Option Nat) × (Op α × NDArr α)) => writeG axis w.2.1.oshape out w.1.1 w.1.2 w.2.2) out
        (List.zip bs (List.zip l ys)) := by
  obtain ⟨_, _, hcall⟩ := (callAll_ok_iff _ _ _).mp hc
  refine foldE_enum_congr _ _ l _ out
    (by simp only [List.length_zip, bounds_length hb, callAll_length _ _ _ hc, Nat.min_self])
    fun j A w hA hw out => ?_
  obtain ⟨b, A', y⟩ := w
  obtain ⟨hb', hw2⟩ := List.getElem?_zip_eq_some.mp hw
  obtain ⟨hA', hy⟩ := List.getElem?_zip_eq_some.mp hw2
  obtain rfl : A = A' := Option.some.inj (hA.symm.trans hA')
  obtain ⟨hs, he⟩ := bounds_get ind _ bs hb j b hb'
  exact vstackStep_ok l l.length axis ind osh x out j A b.1 b.2 y hs he
    (hcall j A x y hA (getElem?_replicate_length x hA) hy)

theorem writeD_eq_writeG {α} (axis : Option Int) (out : NDArr α) (s : Nat) (e : Option Nat) (y : NDArr α) (h : y.WF) :
    writeD axis y.shape out s e y = writeG axis y.shape out s e y := by
  cases axis with
  | none => rfl
  | some ax => simp only [writeD, writeG, npReshape_self y h, bindE_ok]

theorem diagFold_ok {α} [Add α] [Zero α] (l : List (Op α)) (iaxis oaxis : Option Int) (iind oind osh : List Nat)
    (x out : NDArr α) (ibs obs : List (Nat × Option Nat)) (ps ys : List (NDArr α))
    (hib : bounds iind l.length = .ok ibs) (hob : bounds oind l.length = .ok obs)
    (hok : ∀ A ∈ l, SlabOk iaxis A.ishape x) (hsl : slabs iaxis x (l.map Op.ishape) ibs = .ok ps)
    (hc : callAll l ps = .ok ys) (hsh : ys.map (·.shape) = l.map Op.oshape) (hwf : ∀ y ∈ ys, y.WF) :
    foldE (Gen.diagApplyStep l l.length iaxis oaxis iind oind osh x) out (pyEnumerate l) =
      foldE (fun out (w : (Nat × Option Nat) × (Op α × NDArr α)) => writeG oaxis w.2.1.oshape out w.1.1 w.1.2 w.2.2) out
        (List.zip obs (List.zip l ys)) := by
  obtain ⟨_, hs2, hslab⟩ := (slabs_ok_iff _ _ _ _ _).mp hsl
  obtain ⟨hc1, _, hcall⟩ := (callAll_ok_iff _ _ _).mp hc
  refine foldE_enum_congr _ _ l _ out
    (by simp only [List.length_zip, bounds_length hob, callAll_length _ _ _ hc, Nat.min_self])
    fun j A w hA hw out => ?_
  obtain ⟨ob, A', y⟩ := w
  obtain ⟨hob', hw2⟩ := List.getElem?_zip_eq_some.mp hw
  obtain ⟨hA', hy⟩ := List.getElem?_zip_eq_some.mp hw2
  obtain rfl : A = A' := Option.some.inj (hA.symm.trans hA')
  obtain ⟨p, hp⟩ := getElem?_of_length_eq hc1 hA
  obtain ⟨ib, hib'⟩ := getElem?_of_length_eq hs2.symm hp
  obtain ⟨hsi, hei⟩ := bounds_get iind _ ibs hib j ib hib'
  obtain ⟨hso, heo⟩ := bounds_get oind _ obs hob j ob hob'
  have hsA : (l.map Op.ishape)[j]? = some A.ishape := by rw [List.getElem?_map, hA]; rfl
  rw [diagStep_ok l l.length iaxis oaxis iind oind osh x out j A ib.1 ob.1 ib.2 ob.2 p y hsi hei hso heo
    ((slabG_eq_slab iaxis A.ishape x ib (hok A (List.mem_of_getElem? hA))).trans (hslab j _ ib p hsA hib' hp))
    (hcall j A p y hA hp hy),
    ← map_eq_at hsh j y A.oshape hy (by rw [List.getElem?_map, hA]; rfl)]
  exact writeD_eq_writeG oaxis out ob.1 ob.2 y (hwf y (List.mem_of_getElem? hy))

theorem writeG_none {α} (opShape : List Nat) (out : NDArr α) (s : Nat) (e : Option Nat) (y : NDArr α)
    (h : 1 ≤ out.shape.length) : writeG none opShape out s e y = setSliceAx out 0 s e (npRavel y) := by
  simp only [writeG, npSetItem_one, h, if_true]

theorem writeG_some {α} (ax : Int) (opShape : List Nat) (out : NDArr α) (s : Nat) (e : Option Nat) (y : NDArr α)
    (h0 : opShape.length ≠ 0) (h : opShape.length ≤ out.shape.length) :
    writeG (some ax) opShape out s e y = setSliceAx out (pyMod ax opShape.length).toNat s e y := by
  simp only [writeG, h0, if_false, npSetItem_slcG _ _ _ _ _ _ h0, h, if_true]

theorem npRavel_eq_flat {α} : (npRavel : NDArr α → NDArr α) = flat := rfl

/-- **the write loops of the generated `Vstack._apply` / `Diag._apply` produce the concatenation**: with the indices returned
    by the stacking parameters and the slab bounds the loops select, writing the well-formed operand outputs (of the operand
    oshapes) one after the other into `empty(oshape)` yields their concatenation along the normalised axis (`None`: of the
    ravelled outputs) — nothing unwritten, nothing overwritten. -/
theorem writeFold_concat {α} [Zero α] (axis : Option Int) (S ind : List Nat) (l : List (Op α)) (ys : List (NDArr α))
    (h : stackParams (l.map Op.oshape) axis = .ok (S, ind)) (hsh : ys.map (·.shape) = l.map Op.oshape)
    (hwf : ∀ y ∈ ys, y.WF) (bs : List (Nat × Option Nat)) (hb : bounds ind ys.length = .ok bs) :
    foldE (fun out (w : (Nat × Option Nat) × (Op α × NDArr α)) => writeG axis w.2.1.oshape out w.1.1 w.1.2 w.2.2) (npEmpty S)
      (List.zip bs (List.zip l ys)) = .ok (concatOpt axis S ys) := by
  have hsb := stack_bounds (l.map Op.oshape) axis S ind h ys hsh hwf
  have hlen : l.length = ys.length := by rw [← List.length_map (f := Op.oshape), ← hsh, List.length_map]
  have hne : ys ≠ [] := by
    rintro rfl
    cases l with
    | nil => cases axis <;> cases h
    | cons A t => cases hlen
  -- entry by entry, with the shape of the output as invariant: `output[..] = y` is `setSliceAx` of `tr y` along `a`
  have key : ∀ (a : Nat) (tr : NDArr α → NDArr α) (bs : List (Nat × Option Nat)),
      (∀ A ∈ l, ∀ y ∈ ys, ∀ (out : NDArr α) s e, out.shape = S →
        writeG axis A.oshape out s e y = setSliceAx out a s e (tr y)) →
      foldE (fun out (w : (Nat × Option Nat) × (Op α × NDArr α)) => writeG axis w.2.1.oshape out w.1.1 w.1.2 w.2.2)
          (npEmpty S) (List.zip bs (List.zip l ys)) =
        foldE (fun out (w : (Nat × Option Nat) × NDArr α) => setSliceAx out a w.1.1 w.1.2 w.2) (npEmpty S)
          (List.zip bs (ys.map tr)) := by
    intro a tr bs hstep
    refine foldE_congr_inv _ _ (fun out => out.shape = S)
      (fun s w s' hs h' => (setSliceAx_shape _ _ _ _ _ _ h').trans hs) _ _ _
      (by simp only [List.length_zip, List.length_map, hlen, Nat.min_self]) rfl fun j w w' hw hw' out ho => ?_
    obtain ⟨b', ty⟩ := w'
    obtain ⟨hb1, hw2⟩ := List.getElem?_zip_eq_some.mp hw
    obtain ⟨hA, hy⟩ := List.getElem?_zip_eq_some.mp hw2
    obtain ⟨hb2, hy'⟩ := List.getElem?_zip_eq_some.mp hw'
    rw [List.getElem?_map, hy] at hy'
    cases hb1.symm.trans hb2
    cases hy'
    exact hstep _ (List.mem_of_getElem? hA) _ (List.mem_of_getElem? hy) out _ _ ho
  cases axis with
  | none =>
    obtain ⟨hb', rfl⟩ := hsb
    rw [hb'] at hb; cases hb
    rw [concatOpt_none, key 0 flat _ fun A _ y _ out s e ho => writeG_none _ _ _ _ _ (by rw [ho]; exact Nat.le_refl 1)]
    exact seqAssemble 0 _ (ys.map flat) (mt List.map_eq_nil_iff.mp hne) (stacked_flat ys _ rfl) (wf_flat ys)
  | some ax =>
    obtain ⟨hb', hst, hrank⟩ := hsb
    rw [hb'] at hb; cases hb
    rw [concatOpt, key (pyMod ax S.length).toNat id _ fun A hA y _ out s e ho => by
      have hr : A.oshape.length = S.length := hrank _ (List.mem_map_of_mem hA)
      rw [writeG_some ax _ out _ _ _ (by rw [hr]; exact Nat.ne_of_gt (Nat.zero_lt_of_lt hst.lt)) (by rw [hr, ho]), hr]
      rfl, List.map_id]
    exact seqAssemble _ S ys hne hst hwf

theorem G_vstack_ok_iff {α} [Add α] [Zero α] (A : Op α) (l : List (Op α)) (axis : Option Int) (V : Op α) :
    G.vstack (A :: l) axis = .ok V ↔
      (∀ B ∈ l, B.ishape = A.ishape) ∧ ∃ osh ind, stackParams (A.oshape :: l.map Op.oshape) axis = .ok (osh, ind) ∧
        V = ⟨osh, A.ishape, Gen.vstackApply (A :: l) (A :: l).length axis ind osh⟩ := by
  rw [← sameShapes_cons]
  simp only [G.vstack, gen_same_ishape_agree, gen_vparams, List.map_cons]
  by_cases hs : sameShapes Op.ishape (A :: l) = true
  · rw [if_pos hs]
    cases stackParams (A.oshape :: l.map Op.oshape) axis with
    | error e => exact ⟨nofun, fun ⟨_, _, _, h, _⟩ => nomatch h⟩
    | ok r =>
      exact ⟨fun h => ⟨hs, r.1, r.2, rfl, (Except.ok.inj h).symm⟩, fun ⟨_, _, _, h1, h2⟩ => by cases h1; rw [h2]⟩
  · rw [if_neg hs]
    exact ⟨nofun, fun h => absurd h.1 hs⟩

theorem stack_bounds_ok {α} (shapes : List (List Nat)) (axis : Option Int) (S ind : List Nat)
    (h : stackParams shapes axis = .ok (S, ind)) (ps : List (NDArr α)) (hsh : ps.map (·.shape) = shapes)
    (hwf : ∀ p ∈ ps, p.WF) : ∃ bs, bounds ind ps.length = .ok bs := by
  have := stack_bounds shapes axis S ind h ps hsh hwf
  cases axis <;> exact ⟨_, this.1⟩

/-- **rejection at construction, generated guards**: `Vstack(A :: l, axis)` is accepted exactly when the model's is -/
theorem G_vstack_build_iff {α} [Add α] [Zero α] (A : Op α) (l : List (Op α)) (axis : Option Int) :
    (∃ V, G.vstack (A :: l) axis = .ok V) ↔
      ((∀ B ∈ l, B.ishape = A.ishape) ∧ ∃ r, stackParams (A.oshape :: l.map Op.oshape) axis = .ok r) :=
  build_iff_of_ok_iff (G_vstack_ok_iff A l axis)

/-- **Vstack is the block column — generated `_apply`.**  For every operand list that passes the generated constructor
    guards and every input on which all operands succeed with well-formed outputs of their advertised shapes: the GENERATED
    body of `Vstack._apply` returns the concatenation, in order, of the operands' outputs along the normalised axis
    (`axis = None`: of their ravelled outputs), with the advertised `oshape`. -/
theorem G_vstack_block_col {α} [Add α] [Zero α] (A : Op α) (l : List (Op α)) (axis : Option Int) (V : Op α)
    (h : G.vstack (A :: l) axis = .ok V) (x : NDArr α) (ys : List (NDArr α))
    (hys : callAll (A :: l) (List.replicate (l.length + 1) x) = .ok ys)
    (hsh : ys.map (·.shape) = (A :: l).map Op.oshape) (hwf : ∀ y ∈ ys, y.WF) :
    V.ishape = A.ishape ∧ V.app x = .ok (concatOpt axis V.oshape ys) := by
  obtain ⟨_, osh, ind, hs, rfl⟩ := (G_vstack_ok_iff A l axis V).mp h
  refine ⟨rfl, ?_⟩
  obtain ⟨bs, hbs⟩ := stack_bounds_ok _ axis osh ind hs ys hsh hwf
  have hl : ys.length = (A :: l).length := by rw [← List.length_map (f := (·.shape)), hsh, List.length_map]
  simp only [Gen.vstackApply, bindE_pure]
  rw [vstackFold_ok (A :: l) axis ind osh x _ bs ys (hl ▸ hbs) hys]
  exact writeFold_concat axis osh ind (A :: l) ys hs hsh hwf bs hbs

theorem G_diag_ok_iff {α} [Add α] [Zero α] (l : List (Op α)) (oaxis iaxis : Option Int) (D : Op α) :
    G.diag l oaxis iaxis = .ok D ↔
      ∃ ish iind osh oind, stackParams (l.map Op.ishape) iaxis = .ok (ish, iind) ∧
        stackParams (l.map Op.oshape) oaxis = .ok (osh, oind) ∧
        D = ⟨osh, ish, Gen.diagApply l l.length iaxis oaxis iind oind osh⟩ := by
  simp only [G.diag, gen_hparams, gen_vparams]
  cases stackParams (l.map Op.ishape) iaxis with
  | error e => exact ⟨nofun, fun ⟨_, _, _, _, h, _⟩ => nomatch h⟩
  | ok r =>
    cases stackParams (l.map Op.oshape) oaxis with
    | error e => exact ⟨nofun, fun ⟨_, _, _, _, _, h, _⟩ => nomatch h⟩
    | ok r' =>
      exact ⟨fun h => ⟨r.1, r.2, r'.1, r'.2, rfl, rfl, (Except.ok.inj h).symm⟩,
        fun ⟨_, _, _, _, h1, h2, h3⟩ => by cases h1; cases h2; rw [h3]⟩

/-- **rejection at construction, generated parameter functions**: `Diag(l, oaxis, iaxis)` is accepted exactly when both
    stacking-parameter functions accept -/
theorem G_diag_build_iff {α} [Add α] [Zero α] (l : List (Op α)) (oaxis iaxis : Option Int) :
    (∃ D, G.diag l oaxis iaxis = .ok D) ↔
      ((∃ r, stackParams (l.map Op.ishape) iaxis = .ok r) ∧ ∃ r, stackParams (l.map Op.oshape) oaxis = .ok r) :=
  build_iff_of_ok_iff₂ (G_diag_ok_iff l oaxis iaxis)

/-- **Diag is the block diagonal — generated `_apply`**, all four combinations of `oaxis` / `iaxis` being an axis or `None`
    (including the mixed cases with their `ravel` / `reshape`): the GENERATED body of `Diag._apply`, applied to the
    concatenation of well-formed inputs `x_k` (of the operands' ishapes) along `iaxis`, returns the concatenation of the
    outputs `ops_k(x_k)` along `oaxis`. -/
theorem G_diag_block_diag {α} [Add α] [Zero α] (A : Op α) (l : List (Op α)) (oaxis iaxis : Option Int) (D : Op α)
    (h : G.diag (A :: l) oaxis iaxis = .ok D) (xs ys : List (NDArr α))
    (hxs : xs.map (·.shape) = (A :: l).map Op.ishape) (hwfx : ∀ x ∈ xs, x.WF)
    (hys : callAll (A :: l) xs = .ok ys)
    (hsh : ys.map (·.shape) = (A :: l).map Op.oshape) (hwfy : ∀ y ∈ ys, y.WF) :
    D.app (concatOpt iaxis D.ishape xs) = .ok (concatOpt oaxis D.oshape ys) := by
  obtain ⟨ish, iind, osh, oind, hi, ho, rfl⟩ := (G_diag_ok_iff (A :: l) oaxis iaxis D).mp h
  obtain ⟨ibs, hib, hsl⟩ := slabs_concat _ iaxis ish iind hi xs hxs hwfx
  rw [← List.length_map (f := (·.shape)), hxs, List.length_map] at hib
  obtain ⟨obs, hob⟩ := stack_bounds_ok _ oaxis osh oind ho ys hsh hwfy
  have hl : ys.length = (A :: l).length := by rw [← List.length_map (f := (·.shape)), hsh, List.length_map]
  simp only [Gen.diagApply, bindE_pure]
  rw [diagFold_ok (A :: l) iaxis oaxis iind oind osh _ _ ibs obs xs ys hib (hl ▸ hob)
    (fun B hB => concatOpt_slabOk iaxis ish xs _ iind hi B.ishape (List.mem_map_of_mem hB)) hsl hys hsh hwfy]
  exact writeFold_concat oaxis osh oind (A :: l) ys ho hsh hwfy obs hob

/-- apply `B`, then `A` (every failure is the RuntimeError of `Linop.apply`) -/
def seqCall {α} (B A : Op α) (x : NDArr α) : Except Err (NDArr α) :=
  match B.call x with
  | .ok y => A.call y
  | .error _ => .error .apply

/-- the denotation of `A * B`: `(A * B)(x) = A(B(x))` THROUGH the guards of the composite — they add nothing to the guards
    of the factors -/
theorem compose_call {α} (A B X : Op α) (h : compose [A, B] = .ok X) (x : NDArr α) : X.call x = seqCall B A x := by
  obtain ⟨ho, hi, happ⟩ := compose_order A B X h
  have key : ∀ z, X.call x = .ok z ↔ seqCall B A x = .ok z := by
    intro z
    rw [call_iff, happ, hi, ho]
    unfold seqCall
    cases hB : B.call x with
    | error e => simp
    | ok y =>
      simp only []
      constructor
      · rintro ⟨_, h2, _⟩; exact h2
      · intro h2; exact ⟨((call_iff B x y).mp hB).1, h2, ((call_iff A y z).mp h2).2.2⟩
  cases hX : X.call x with
  | ok z => exact ((key z).mp hX).symm
  | error e =>
    rw [call_error X x e hX]
    cases hS : seqCall B A x with
    | ok z => rw [(key z).mpr hS] at hX; cases hX
    | error e' =>
      unfold seqCall at hS
      cases hB : B.call x with
      | error _ => rw [hB] at hS; cases hS; rfl
      | ok y => rw [hB] at hS; simp only [] at hS; rw [call_error A y e' hS]

/-- **associativity**: `(A * B) * C` and `A * (B * C)` are accepted for the same operands, advertise the same shapes and
    return the same result (or both raise) on EVERY input.  (sigpy flattens nested `Compose`s — `_combine_compose_linops` —
    which by this theorem does not change the function.) -/
theorem compose_assoc {α} (A B C X L Y R : Op α) (hX : compose [A, B] = .ok X) (hL : compose [X, C] = .ok L)
    (hY : compose [B, C] = .ok Y) (hR : compose [A, Y] = .ok R) :
    L.oshape = R.oshape ∧ L.ishape = R.ishape ∧ ∀ x, L.call x = R.call x := by
  obtain ⟨hXo, hXi, _⟩ := compose_order A B X hX
  obtain ⟨hLo, hLi, _⟩ := compose_order X C L hL
  obtain ⟨hYo, hYi, _⟩ := compose_order B C Y hY
  obtain ⟨hRo, hRi, _⟩ := compose_order A Y R hR
  refine ⟨by rw [hLo, hXo, hRo], by rw [hLi, hRi, hYi], fun x => ?_⟩
  rw [compose_call X C L hL, compose_call A Y R hR]
  unfold seqCall
  rw [compose_call B C Y hY]
  unfold seqCall
  cases hC : C.call x with
  | error e => rfl
  | ok y =>
    simp only []
    rw [compose_call A B X hX]
    unfold seqCall
    cases hB : B.call y with
    | error e => rfl
    | ok z => rfl

/-- `(A * B) * C` is accepted iff `A * (B * C)` is -/
theorem compose_assoc_build {α} (A B C : Op α) :
    (∃ X L, compose [A, B] = .ok X ∧ compose [X, C] = .ok L) ↔ (∃ Y R, compose [B, C] = .ok Y ∧ compose [A, Y] = .ok R) := by
  constructor
  · rintro ⟨X, L, hX, hL⟩
    have h1 := (compose_build_iff A B).mp ⟨X, hX⟩
    have h2 := (compose_build_iff X C).mp ⟨L, hL⟩
    rw [(compose_order A B X hX).2.1] at h2
    obtain ⟨Y, hY⟩ := (compose_build_iff B C).mpr h2
    obtain ⟨R, hR⟩ := (compose_build_iff A Y).mpr (by rw [(compose_order B C Y hY).1]; exact h1)
    exact ⟨Y, R, hY, hR⟩
  · rintro ⟨Y, R, hY, hR⟩
    have h1 := (compose_build_iff B C).mp ⟨Y, hY⟩
    have h2 := (compose_build_iff A Y).mp ⟨R, hR⟩
    rw [(compose_order B C Y hY).1] at h2
    obtain ⟨X, hX⟩ := (compose_build_iff A B).mpr h2
    obtain ⟨L, hL⟩ := (compose_build_iff X C).mpr (by rw [(compose_order A B X hX).2.1]; exact h1)
    exact ⟨X, L, hX, hL⟩

/-- the generated `Add._apply` on two operands -/
theorem G_add_app2 {α} [Add α] [Zero α] (A B S : Op α) (h : G.add [A, B] = .ok S) (x : NDArr α) :
    S.oshape = A.oshape ∧ S.ishape = A.ishape ∧
    S.app x = bindE (A.call x) fun ya => bindE (npAdd none ya) fun s1 => bindE (B.call x) fun yb => npAdd (some s1) yb := by
  rw [G_add_pair] at h
  split at h
  · cases h
    refine ⟨rfl, rfl, ?_⟩
    simp only [Gen.addApply, foldE, addStep_eq]
    cases A.call x with
    | error e => rfl
    | ok ya =>
      cases B.call x with
      | error e => rfl
      | ok yb =>
        have h0 : npAdd none ya = .ok ⟨ya.shape, ya.data.map (0 + ·)⟩ := rfl
        simp only [bindE_ok, h0]
        cases npAdd (some _) yb <;> rfl
  · cases h

/-- **right distributivity**: `(A + B) * C` and `A * C + B * C` (generated `Add._apply`, generated guards) advertise the same
    shapes and return the same result — or both raise — on EVERY input. -/
theorem add_compose_distrib {α} [Add α] [Zero α] (A B C S L AC BC R : Op α)
    (hS : G.add [A, B] = .ok S) (hL : compose [S, C] = .ok L)
    (hAC : compose [A, C] = .ok AC) (hBC : compose [B, C] = .ok BC) (hR : G.add [AC, BC] = .ok R) :
    L.oshape = R.oshape ∧ L.ishape = R.ishape ∧ ∀ x, L.call x = R.call x := by
  obtain ⟨hSo, hSi, _⟩ := G_add_app2 A B S hS (⟨[], []⟩)
  obtain ⟨hRo, hRi, _⟩ := G_add_app2 AC BC R hR (⟨[], []⟩)
  obtain ⟨hLo, hLi, _⟩ := compose_order S C L hL
  obtain ⟨hACo, hACi, _⟩ := compose_order A C AC hAC
  refine ⟨by rw [hLo, hSo, hRo, hACo], by rw [hLi, hRi, hACi], fun x => ?_⟩
  rw [compose_call S C L hL]
  unfold seqCall
  have hRapp := (G_add_app2 AC BC R hR x).2.2
  rw [compose_call A C AC hAC, compose_call B C BC hBC] at hRapp
  unfold seqCall at hRapp
  have hgC : ∀ y, C.call x = .ok y → natGuard x.shape R.ishape = true := by
    intro y hy
    rw [hRi, hACi]; exact ((call_iff C x y).mp hy).1
  cases hC : C.call x with
  | error e =>
    rw [hC] at hRapp
    unfold Op.call
    rw [hRapp]
    simp only [bindE_error]
    split <;> rfl
  | ok y =>
    rw [hC] at hRapp
    simp only [] at hRapp
    have hSapp := (G_add_app2 A B S hS y).2.2
    show S.call y = R.call x
    unfold Op.call
    rw [hRapp, hSapp, hgC y hC, hSi, hSo, hRo, hACo]
    cases hA : A.call y with
    | error e =>
      have := call_error A y e hA
      subst this
      simp only [bindE_error]
      split <;> rfl
    | ok ya =>
      have hg : natGuard y.shape A.ishape = true := ((call_iff A y ya).mp hA).1
      simp only [hg, if_true]

/-- `call_shape` for the generated `__call__`: a returned `A(x)` has exactly the advertised `oshape` whenever it has the
    advertised rank, and likewise `x` and `ishape`. -/
theorem gen_call_shape {α} [Add α] [Zero α] (A : Op α) (x y : NDArr α) (h : Gen.linopCall A x = .ok y) :
    (y.shape.length = A.oshape.length → y.shape = A.oshape) ∧ (x.shape.length = A.ishape.length → x.shape = A.ishape) := by
  rw [gen_linopCall_eq_call] at h
  exact ⟨(call_shape A x y h).2.2.1, (call_shape A x y h).2.2.2⟩

/-- **construction succeeds or fails for the generated guards exactly as for the model**, for every operand list -/
theorem G_build_agree {α} [Add α] [Zero α] (l : List (Op α)) (axis oaxis iaxis : Option Int) :
    ((∃ C, G.compose l = .ok C) ↔ ∃ C, compose l = .ok C) ∧
    ((∃ C, G.add l = .ok C) ↔ ∃ C, add l = .ok C) ∧
    ((∃ C, G.hstack l axis = .ok C) ↔ ∃ C, hstack l axis = .ok C) ∧
    ((∃ C, G.vstack l axis = .ok C) ↔ ∃ C, vstack l axis = .ok C) ∧
    ((∃ C, G.diag l oaxis iaxis = .ok C) ↔ ∃ C, diag l oaxis iaxis = .ok C) := by
  have hno : ∀ {X Y : Except Err (Op α)}, X = .error .build → Y = .error .build →
      ((∃ C, X = .ok C) ↔ ∃ C, Y = .ok C) := by
    rintro _ _ rfl rfl; exact Iff.rfl
  refine ⟨by rw [G_compose_eq], ?_, ?_, ?_, by rw [G_diag_build_iff, diag_build_iff]⟩
  · cases l with
    | nil => exact hno rfl rfl
    | cons A t =>
      simp only [G.add, add, gen_same_ishape_agree, gen_same_oshape_agree]
      split
      · exact ⟨fun _ => ⟨_, rfl⟩, fun _ => ⟨_, rfl⟩⟩
      · exact Iff.rfl
  · cases l with
    | nil =>
      refine hno ?_ rfl
      simp only [G.hstack, gen_hparams, List.map_nil, stackParams_nil, ite_self]
    | cons A t => rw [G_hstack_build_iff, hstack_build_iff]
  · cases l with
    | nil =>
      refine hno ?_ rfl
      simp only [G.vstack, gen_vparams, List.map_nil, stackParams_nil, ite_self]
    | cons A t => rw [G_vstack_build_iff, vstack_build_iff]

/- non-vacuity: the generated code on concrete operators (scalars `Nat`) -/

/-- generated `Hstack._apply`: `Hstack([1·, 2·], axis=0)` on `[1,2] ‖ [3,4]` is `1·[1,2] + 2·[3,4]` -/
example : (match G.hstack [mulOp [2] (1 : Nat), mulOp [2] 2] (some 0) with
    | .ok H => (match Gen.linopCall H ⟨[4], [1, 2, 3, 4]⟩ with | .ok y => some (H.ishape, y.shape, y.data) | .error _ => none)
    | .error _ => none) = some ([4], [2], [7, 10]) := by decide +kernel
/-- generated `Diag._apply`, the mixed case `oaxis=None, iaxis=-2` -/
example : (match G.diag [mulOp [1, 2] (1 : Nat), mulOp [2, 2] 3] none (some (-2)) with
    | .ok D => (match Gen.linopCall D ⟨[3, 2], [1, 2, 3, 4, 5, 6]⟩ with | .ok y => some (D.oshape, D.ishape, y.shape, y.data) | .error _ => none)
    | .error _ => none) = some ([6], [3, 2], [6], [1, 2, 9, 12, 15, 18]) := by decide +kernel
/-- generated `Vstack._apply` along the last axis of 2-d outputs -/
example : (match G.vstack [mulOp [2, 1] (1 : Nat), mulOp [2, 1] 5] (some (-1)) with
    | .ok V => (match Gen.linopCall V ⟨[2, 1], [1, 2]⟩ with | .ok y => some (V.oshape, y.shape, y.data) | .error _ => none)
    | .error _ => none) = some ([2, 2], [2, 2], [1, 5, 2, 10]) := by decide +kernel
/-- generated guards reject misfits at construction -/
example : (match G.hstack [mulOp [2] (1 : Nat), mulOp [3] 2] (some 0) with | .ok _ => true | .error _ => false) = false := by decide +kernel
example : (match G.compose [mulOp [2] (1 : Nat), mulOp [3] 2] with | .ok _ => true | .error _ => false) = false := by decide +kernel
example : (match G.add [mulOp [2] (1 : Nat), mulOp [2, 1] 2] with | .ok _ => true | .error _ => false) = false := by decide +kernel
/-- the zip guard of the generated `Linop.apply`: a proper prefix of `ishape` is accepted, a changed entry is not;
    a 0-d array passes every guard (`zip` with `()` is empty) -/
example : (match Gen.linopCall (mulOp [2, 3] (1 : Nat)) ⟨[2], [7, 8]⟩ with | .ok y => some y.shape | .error _ => none) = some [2] := by decide +kernel
example : (match Gen.linopCall (mulOp [2, 3] (1 : Nat)) ⟨[3], [7, 8, 9]⟩ with | .ok y => some y.shape | .error _ => none) = none := by decide +kernel
example : (match Gen.linopCall (mulOp [2, 3] (1 : Nat)) ⟨[], [7]⟩ with | .ok y => some y.shape | .error _ => none) = some [] := by decide +kernel
/-- off-rank operand in the generated `Diag._apply`: the operator is built, and an input with fewer axes than the
    operands raises (IndexError: too many indices), as numpy does (`false` = built and the call is an error) -/
example : (match G.diag [mulOp [2, 1] (1 : Nat), mulOp [2, 2] 2] (some 1) (some 1) with
    | .ok H => (match Gen.linopCall H ⟨[2], [1, 2]⟩ with | .ok _ => true | .error _ => false)
    | .error _ => true) = false := by decide +kernel
/-- the hypotheses of `add_compose_distrib` and `compose_assoc` are satisfiable -/
example : ∃ S L AC BC R : Op Nat, G.add [mulOp [2] 1, mulOp [2] 2] = .ok S ∧ compose [S, mulOp [2] 3] = .ok L ∧
    compose [mulOp [2] 1, mulOp [2] 3] = .ok AC ∧ compose [mulOp [2] 2, mulOp [2] 3] = .ok BC ∧ G.add [AC, BC] = .ok R :=
  ⟨_, _, _, _, _, rfl, rfl, rfl, rfl, rfl⟩

end SigpyVerif.C03
