/-
  C02 — operators are linear over ℂ, deterministic, and never mutate inputs.

  Soundness of the effect checkers of Model/C02 (`noMutation`, `writesOnly`, the origins of the result) against the
  concrete store semantics; linearity of the array-level entry-list map `applyE` and of the `Conj` sandwich;
  determinism over histories of `apply` / `.H` / `.N` for an `_apply` that reads only the constructor parameters
  and writes nothing.  Operator trees of the C01 expression language are in Props/C02Tree.lean and
  Props/C02Leaves.lean.

  The per-function obligations `noMutation prog_<f> = true` / `writesOnly prog_<f> … = true` are in the generated
  `Gen/EffectsOk.lean` (regenerated from the Python source on every run), closed by kernel evaluation of the same
  analysis on bit sets (Lemmas/C02Check.lean).

  Only VALIDATED (runtime correspondence stream in harness/props/c02.py): that the generated IR over-approximates
  what numpy actually does (table of view/copy semantics), and linearity / determinism of the operators that have
  no entry list in the model (NUFFT; convolutions and wavelets beyond the 1-D cases of Props/C02Leaves.lean).
-/
import SigpyVerif.Lemmas.C02
import SigpyVerif.Model.Py
import Mathlib.Tactic.Ring
import Mathlib.Tactic.Linarith
import Mathlib.Data.Complex.Basic
import Mathlib.Algebra.Star.Pi

namespace SigpyVerif.C02

theorem consistent_entry {n : Nat} (f : Func n) (I : Interp) (σ : Store n) (hn : I.n0 = σ.next)
    (henv : ∀ v b, b ∈ σ.env v → b < σ.next ∧ ∃ o ∈ f.init v, I.own o b) (hret : σ.ret = []) :
    Consistent I σ.heap f.abs0 σ :=
  ⟨hn.le, henv, fun _ _ h => absurd rfl h, by rw [hret]; exact fun _ h => nomatch h⟩

/-- **Soundness of `writesOnly`.**  If the checker accepts a program with the allowed origins `allowed`, then
    after every execution every entry buffer that is NOT owned by one of the allowed origins has its entry
    contents.  For the apps of sigpy (`LinearLeastSquares` set-ups and closures, the MRI recon apps): with
    `allowed` = the object itself and its solution / work arrays, the data `y`, the bias `z`, the maps, the
    weights, the coordinates and the arrays captured by `A`, `G`, `proxg` are never written. -/
theorem writesOnly_sound {n : Nat} (f : Func n) (allowed : List Origin) (hf : writesOnly f allowed = true)
    (I : Interp) (σ σ' : Store n) (hn : I.n0 = σ.next)
    (henv : ∀ v b, b ∈ σ.env v → b < σ.next ∧ ∃ o ∈ f.init v, I.own o b)
    (hret : σ.ret = []) (hex : Exec f.body σ σ') :
    ∀ b, b < σ.next → (∀ o ∈ allowed, ¬ I.own o b) → σ'.heap b = σ.heap b := by
  intro b hb hnot
  simp only [writesOnly, Bool.and_eq_true, List.all_eq_true] at hf
  have hc := analyze_sound I σ.heap f.body f.abs0 σ σ' hex hf.1 (consistent_entry f I σ hn henv hret)
  apply Decidable.byContradiction
  intro hne
  obtain ⟨o, ho, hown⟩ := hc.heap b (hn ▸ hb) hne
  have h1 := hf.2 o ho
  simp only [Bool.or_eq_true, beq_iff_eq, List.contains_eq_mem, decide_eq_true_eq] at h1
  rcases h1 with h1 | h1
  · subst h1
    have := (I.fresh_iff b).1 hown
    omega
  · exact hnot o h1 hown

theorem writesOnly_nil {n : Nat} (f : Func n) : writesOnly f [] = noMutation f := by
  simp [writesOnly, noMutation]

/-- **Soundness of `noMutation`.**  Let the entry store be described by the function's initial
    abstract state under any interpretation `I` of `param i` / `captured k` as sets of entry buffers
    (`fresh` = allocated later).  If the checker accepts, then after *every* execution every buffer
    that existed at entry has its entry contents.  For sigpy: a function whose generated program
    passes never writes into the caller's arrays nor into arrays captured by the operator. -/
theorem noMutation_sound {n : Nat} (f : Func n) (hf : noMutation f = true) (I : Interp)
    (σ σ' : Store n) (hn : I.n0 = σ.next)
    (henv : ∀ v b, b ∈ σ.env v → b < σ.next ∧ ∃ o ∈ f.init v, I.own o b)
    (hret : σ.ret = []) (hex : Exec f.body σ σ') :
    ∀ b, b < σ.next → σ'.heap b = σ.heap b :=
  fun b hb => writesOnly_sound f [] ((writesOnly_nil f).trans hf) I σ σ' hn henv hret hex b hb
    (fun _ h => nomatch h)

/-- non-vacuity: `x` (parameter 0) is the documented in/out argument, `y` (parameter 1) is protected:
    `x += y` passes with `allowed = [param 0]`, `y += x` does not -/
example : writesOnly ({ np := 2, nc := 0, body := .instr (.mutate 0) } : Func 2) [.param 0] = true := by decide
example : writesOnly ({ np := 2, nc := 0, body := .instr (.mutate 1) } : Func 2) [.param 0] = false := by decide

/-- the canonical interpretation: `param i` / `captured k` own exactly the buffers their variable
    references at entry -/
def entryInterp {n : Nat} (f : Func n) (σ : Store n) : Interp where
  n0 := σ.next
  own := fun o b => if o = .fresh then σ.next ≤ b else ∃ v, o ∈ f.init v ∧ b ∈ σ.env v
  fresh_iff := by intro b; simp

theorem entryInterp_env {n : Nat} (f : Func n) (σ : Store n)
    (hwf : ∀ v b, b ∈ σ.env v → b < σ.next) (hloc : ∀ v, f.init v = [] → σ.env v = []) :
    ∀ v b, b ∈ σ.env v → b < σ.next ∧ ∃ o ∈ f.init v, (entryInterp f σ).own o b := by
  intro v b hb
  refine ⟨hwf v b hb, ?_⟩
  cases hi : f.init v with
  | nil => rw [hloc v hi] at hb; cases hb
  | cons o rest =>
    have ho : o ∈ f.init v := by rw [hi]; exact List.mem_cons_self
    refine ⟨o, List.mem_cons_self, ?_⟩
    simp only [entryInterp, init_ne_fresh f v o ho, if_false]
    exact ⟨v, ho, hb⟩

/-- **Soundness, stated without an interpretation.**  Entry store: every referenced buffer is
    allocated, local variables are unbound, nothing returned yet.  Then an accepted function leaves
    every allocated buffer unchanged in every execution (any branch choices, any iteration counts, any
    values written, any behaviour of callees within their summaries). -/
theorem noMutation_sound_entry {n : Nat} (f : Func n) (hf : noMutation f = true) (σ σ' : Store n)
    (hwf : ∀ v b, b ∈ σ.env v → b < σ.next) (hloc : ∀ v, f.init v = [] → σ.env v = [])
    (hret : σ.ret = []) (hex : Exec f.body σ σ') :
    ∀ b, b < σ.next → σ'.heap b = σ.heap b :=
  noMutation_sound f hf (entryInterp f σ) σ σ' rfl (entryInterp_env f σ hwf hloc) hret hex

/-- every returned buffer belongs to one of the origins the analysis reports -/
theorem ret_sound {n : Nat} (f : Func n) (hok : f.result.ok = true) (I : Interp) (σ σ' : Store n)
    (hn : I.n0 = σ.next)
    (henv : ∀ v b, b ∈ σ.env v → b < σ.next ∧ ∃ o ∈ f.init v, I.own o b)
    (hret : σ.ret = []) (hex : Exec f.body σ σ') :
    ∀ b ∈ σ'.ret, ∃ o ∈ retOrigins f, I.own o b :=
  (analyze_sound I σ.heap f.body f.abs0 σ σ' hex hok (consistent_entry f I σ hn henv hret)).ret

/-- "IR says fresh ⇒ must not share": if the analysis reports only `fresh` for the result, the
    returned value references no buffer that existed at entry. -/
theorem ret_fresh_disjoint {n : Nat} (f : Func n) (hok : f.result.ok = true)
    (hfresh : (retOrigins f).all (fun o => o == .fresh) = true) (σ σ' : Store n)
    (hwf : ∀ v b, b ∈ σ.env v → b < σ.next) (hloc : ∀ v, f.init v = [] → σ.env v = [])
    (hret : σ.ret = []) (hex : Exec f.body σ σ') :
    ∀ b ∈ σ'.ret, σ.next ≤ b := by
  intro b hb
  obtain ⟨o, ho, hown⟩ := ret_sound f hok (entryInterp f σ) σ σ' rfl (entryInterp_env f σ hwf hloc) hret hex b hb
  have h1 : o = .fresh := by simpa using (List.all_eq_true.1 hfresh) o ho
  subst h1
  exact ((entryInterp f σ).fresh_iff b).1 hown

/-! non-vacuity: the semantics can really change a parameter, the checker rejects that program, and
    accepts the copy-then-write version (the two shapes of `get_cov`: `X -= mean` vs `X = X - mean`). -/

/-- `X = noise.reshape(..); X -= mean; return X`  (variables: 0 = noise, 1 = X) -/
def exBad : Func 2 :=
  { np := 1, nc := 0,
    body := .seq (.instr (.alias 1 [0])) (.seq (.instr (.mutate 1)) (.instr (.ret 1))) }

/-- `X = noise.reshape(..); X = X - mean; return X` -/
def exGood : Func 2 :=
  { np := 1, nc := 0,
    body := .seq (.instr (.alias 1 [0])) (.seq (.instr (.fresh 1)) (.seq (.instr (.mutate 1)) (.instr (.ret 1)))) }

example : noMutation exBad = false := by decide
example : noMutation exGood = true := by decide
example : retOrigins exGood = [.fresh] := by decide

def exStore : Store 2 :=
  { env := fun v => if v = 0 then [0] else [], heap := fun _ => 7, next := 1, ret := [] }

/-- the bad program has an execution that changes the caller's buffer 0 -/
example : ∃ σ' : Store 2, Exec exBad.body exStore σ' ∧ σ'.heap 0 ≠ exStore.heap 0 := by
  refine ⟨{ env := upd exStore.env 1 [0], heap := fun b => if b = 0 then 8 else 7, next := 1,
            ret := [] ++ [0] }, ?_, by decide⟩
  refine .seq (.instr (Step.alias exStore 1 [0] [0] ?_))
    (.seq (.instr (Step.mutate _ 1 (fun b => if b = 0 then 8 else 7) ?_)) (.instr ?_))
  · intro b hb; exact ⟨0, by simp, by simpa [exStore] using hb⟩
  · intro b hb
    have hb0 : b ≠ 0 := by
      intro e; apply hb; subst e; simp [upd]
    simp [hb0, exStore]
  · exact Step.ret _ 1

section linear
open SigpyVerif

variable {α : Type} [CommRing α]

private theorem getD_set' (out : Array α) (i k : Nat) (h : i < out.size) (v : α) :
    (out.set i v h).getD k 0 = if k = i then v else out.getD k 0 := by
  simp only [Array.getD_eq_getD_getElem?, Array.getElem?_set]
  by_cases hk : k = i
  · subst hk; simp
  · have : i ≠ k := fun e => hk e.symm
    simp [hk, this]

/-- one update of `applyE` (projection form of the lambda in Model/Py.lean) -/
def stepE (oshape ishape : List Int) (x : Array α) (out : Array α) (u : Upd α) : Array α :=
  if h : (ravel oshape u.1).toNat < out.size then
    out.set (ravel oshape u.1).toNat (out[(ravel oshape u.1).toNat] + u.2.2 * (x.getD (ravel ishape u.2.1).toNat 0))
  else out

theorem applyE_eq_foldl (oshape ishape : List Int) (E : Entries α) (x : Array α) :
    applyE oshape ishape E x
      = E.foldl (stepE oshape ishape x) (Array.replicate (shapeProd oshape).toNat 0) := by
  unfold applyE
  congr 1

theorem stepE_size (oshape ishape : List Int) (x out : Array α) (u : Upd α) :
    (stepE oshape ishape x out u).size = out.size := by
  unfold stepE
  by_cases hlt : (ravel oshape u.1).toNat < out.size
  · rw [dif_pos hlt, Array.size_set]
  · rw [dif_neg hlt]

theorem stepE_getD (oshape ishape : List Int) (x out : Array α) (u : Upd α) (k : Nat) :
    (stepE oshape ishape x out u).getD k 0 =
      if k = (ravel oshape u.1).toNat ∧ k < out.size then out.getD k 0 + u.2.2 * x.getD (ravel ishape u.2.1).toNat 0
      else out.getD k 0 := by
  unfold stepE
  by_cases hlt : (ravel oshape u.1).toNat < out.size
  · rw [dif_pos hlt, getD_set']
    by_cases hk : k = (ravel oshape u.1).toNat
    · subst hk
      rw [if_pos rfl, if_pos ⟨rfl, hlt⟩, Array.getElem_eq_getD 0]
    · rw [if_neg hk, if_neg (fun h => hk h.1)]
  · rw [dif_neg hlt, if_neg]
    rintro ⟨rfl, h⟩
    exact hlt h

private theorem fold_linear (oshape ishape : List Int) (a : α) (x y xy : Array α)
    (hxy : ∀ k, xy.getD k 0 = a * x.getD k 0 + y.getD k 0) :
    ∀ (E : Entries α) (o1 o2 o3 : Array α), o1.size = o3.size → o2.size = o3.size →
      (∀ k, o3.getD k 0 = a * o1.getD k 0 + o2.getD k 0) →
      ∀ k, (E.foldl (stepE oshape ishape xy) o3).getD k 0
          = a * (E.foldl (stepE oshape ishape x) o1).getD k 0
            + (E.foldl (stepE oshape ishape y) o2).getD k 0 := by
  intro E
  induction E with
  | nil => intro o1 o2 o3 _ _ h; exact h
  | cons u E ih =>
    intro o1 o2 o3 h1 h2 h
    simp only [List.foldl_cons]
    apply ih
    · rw [stepE_size, stepE_size, h1]
    · rw [stepE_size, stepE_size, h2]
    · intro k
      rw [stepE_getD, stepE_getD, stepE_getD, h1, h2, h k, hxy]
      by_cases hc : k = (ravel oshape u.1).toNat ∧ k < o3.size
      · rw [if_pos hc, if_pos hc, if_pos hc]; ring
      · rw [if_neg hc, if_neg hc, if_neg hc]

/-- **`applyE` is linear.**  `applyE` (Model/Py.lean) applies a list of multi-index updates `(o, i, w)` to a
    row-major array.  For a scalar `a` and inputs with `xy = a·x + y` elementwise, the output satisfies the same
    relation elementwise — additive and homogeneous over any commutative ring, in particular over ℂ.  The operator
    trees of C01 are denoted with the flat `applyF`, whose linearity is `applyF_linear` (Props/C02Tree.lean). -/
theorem denote_linear (oshape ishape : List Int) (E : Entries α) (a : α) (x y xy : Array α)
    (hxy : ∀ k, xy.getD k 0 = a * x.getD k 0 + y.getD k 0) :
    ∀ k, (applyE oshape ishape E xy).getD k 0
        = a * (applyE oshape ishape E x).getD k 0 + (applyE oshape ishape E y).getD k 0 := by
  simp only [applyE_eq_foldl]
  apply fold_linear oshape ishape a x y xy hxy E _ _ _ rfl rfl
  intro k
  simp only [Array.getD_eq_getD_getElem?, Array.getElem?_replicate]
  split <;> simp

/-- non-vacuity / instance: over ℤ with a concrete entry list (a 2-tap difference) -/
example : (applyE [2] [2] [([0], [0], (1 : Int)), ([0], [1], -1), ([1], [1], 2)] #[10, 3]).toList = [7, 6] := by
  decide

end linear

section conj
variable {ι κ : Type}

/-- **The `Conj` linop is ℂ-linear.**  `Conj(A)` computes `conj(A(conj x))`; if `A` is additive and
    ℂ-homogeneous then so is `Conj(A)`. -/
theorem conj_sandwich_linear (A : (ι → ℂ) → (κ → ℂ))
    (hadd : ∀ x y, A (x + y) = A x + A y) (hsmul : ∀ (c : ℂ) x, A (c • x) = c • A x)
    (a : ℂ) (x y : ι → ℂ) :
    star (A (star (a • x + y))) = a • star (A (star x)) + star (A (star y)) := by
  rw [star_add, star_smul, hadd, hsmul, star_add, star_smul, star_star]

/-- dropping the output conjugate (the regression `return output`) gives an ANTI-linear map -/
theorem conj_half_antilinear (A : (ι → ℂ) → (κ → ℂ))
    (hadd : ∀ x y, A (x + y) = A x + A y) (hsmul : ∀ (c : ℂ) x, A (c • x) = c • A x)
    (a : ℂ) (x y : ι → ℂ) :
    A (star (a • x + y)) = star a • A (star x) + A (star y) := by
  rw [star_add, star_smul, hadd, hsmul]

/-- `x ↦ A (conj x)` need not be ℂ-homogeneous for a ℂ-linear `A`: with `A = id`, `a = i`, `x = 1` the two sides
    differ (`-i ≠ i`).  A real scalar `a` cannot see this — the reason the runtime stream uses complex scalars. -/
theorem conj_half_not_linear :
    ∃ (A : (Unit → ℂ) → (Unit → ℂ)) (a : ℂ) (x : Unit → ℂ),
      (∀ x y, A (x + y) = A x + A y) ∧ (∀ (c : ℂ) x, A (c • x) = c • A x) ∧
      A (star (a • x)) ≠ a • A (star x) := by
  refine ⟨id, Complex.I, fun _ => 1, fun _ _ => rfl, fun _ _ => rfl, ?_⟩
  intro h
  have h1 := congrArg Complex.im (congrFun h ())
  simp only [id, Pi.star_apply, Pi.smul_apply, smul_eq_mul, mul_one, star_one, Complex.star_def, Complex.conj_I,
    Complex.neg_im, Complex.I_im] at h1
  norm_num at h1

end conj

section history
variable {P C X Y : Type}

/-- `_apply` writes nothing into the object and its output depends on the constructor parameters
    only (not on the `.H`/`.N` caches).  For sigpy this is what `noMutation` of the `_apply` program
    (captured arrays unchanged) plus "no attribute write in `_apply`" (translator check) provide. -/
structure WellBehaved (app : OpState P C → X → Y × OpState P C) : Prop where
  frame : ∀ s x, (app s x).2 = s
  reads : ∀ s s' x, s.params = s'.params → (app s x).1 = (app s' x).1

theorem stepOp_params (app : OpState P C → X → Y × OpState P C) (hw : WellBehaved app)
    (mkH mkN : P → C) (s : OpState P C) (e : Event X) :
    (stepOp app mkH mkN s e).1.params = s.params := by
  cases e with
  | apply x => simp [stepOp, hw.frame]
  | takeH => rfl
  | takeN => rfl

/-- **Determinism over histories.**  For every history of `apply` / `.H` / `.N` events on one operator
    object and every position `i` holding `apply x`, the recorded output is `(app s₀ x).1`, the output
    of the freshly constructed object — so equal inputs give equal outputs whatever was interleaved. -/
theorem history_determinism (app : OpState P C → X → Y × OpState P C) (hw : WellBehaved app)
    (mkH mkN : P → C) :
    ∀ (evs : List (Event X)) (s : OpState P C) (i : Nat) (x : X), evs[i]? = some (.apply x) →
      (runOp app mkH mkN s evs).1[i]? = some (some (app s x).1) := by
  intro evs
  induction evs with
  | nil => intro s i x h; simp at h
  | cons e es ih =>
    intro s i x h
    cases i with
    | zero =>
      simp only [List.getElem?_cons_zero, Option.some.injEq] at h
      subst h
      rfl
    | succ i =>
      simp only [List.getElem?_cons_succ] at h
      have := ih (stepOp app mkH mkN s e).1 i x h
      simp only [runOp, List.getElem?_cons_succ, this]
      rw [hw.reads _ s x (stepOp_params app hw mkH mkN s e)]

/-- corollary in the form of the property statement: two applications to equal inputs anywhere in a
    history give equal outputs -/
theorem history_equal_inputs_equal_outputs (app : OpState P C → X → Y × OpState P C)
    (hw : WellBehaved app) (mkH mkN : P → C) (evs : List (Event X)) (s : OpState P C) (i j : Nat)
    (x : X) (hi : evs[i]? = some (.apply x)) (hj : evs[j]? = some (.apply x)) :
    (runOp app mkH mkN s evs).1[i]? = (runOp app mkH mkN s evs).1[j]? := by
  rw [history_determinism app hw mkH mkN evs s i x hi, history_determinism app hw mkH mkN evs s j x hj]

/-- an operator that remembers its last input (writes `self`), so `WellBehaved.frame` fails for it -/
def cachingApp : OpState Int Int → Int → Int × OpState Int Int :=
  fun s x => (s.params * x + s.adjCache.getD 0, { s with adjCache := some x })

/-- `cachingApp` answers the same input `3` with `6` the first time and `9` the second -/
theorem caching_operator_not_deterministic :
    (runOp cachingApp (fun p => p) (fun p => p) ⟨2, none, none⟩ [.apply 3, .apply 3]).1
      = [some 6, some 9] := by
  decide

end history

end SigpyVerif.C02
