import SigpyVerif.Props.C13
import SigpyVerif.Lemmas.C13Conv
/-
  C13 — the O(1/N²) rates of accelerated PDHG with scalar steps (Chambolle–Pock 2011, Alg. 2 / Thm 2).

  About `pdStep` / `pdRun` of Model/C13.lean, i.e. about the generated formulas `Gen.C13.pdThetaP` (`θ = 1/√(1+2γ·tau_min)`),
  `pdTauP` (`tau *= θ`), `pdSigmaP` (`sigma /= θ`), `pdTauMinP`, `pdXExt` (`x_ext = x + θ (x - x_old)`), `pdDualArg`,
  `pdPrimalArg`, `pdDualProx`, `pdPrimalProx` and their `gamma_dual` counterparts.  Strong convexity is Mathlib's
  `StrongConvexOn`; `τ₀σ₀‖A‖² ≤ 1`; `(x*, u*)` a saddle point.
  `gamma_primal = γ > 0`: the energy `accelEnergy` (on the CURRENT steps) never increases, `1/τ_k` grows linearly, hence the
  rate of `‖x_N - x*‖²`.  `gamma_dual = γ > 0`: the code rescales `sigma *= θ`, `tau /= θ` and STILL extrapolates the primal
  variable, so this is not the mirror image of Alg. 2; the energy `accelEnergyD` never increases and gives the rate of
  `(1-τ₀σ₀‖A‖²) ‖u_N - u*‖²`, void when `τ₀σ₀‖A‖² = 1`.
  NOT proved: array-valued steps with acceleration (the code rescales with `tau_min` / `sigma_min`, for which the rate
  theorem of the paper does not apply verbatim); a dual rate at `τ₀σ₀‖A‖² = 1`.
-/
namespace SigpyVerif.C13
open RealInnerProductSpace

variable {E F : Type} [NormedAddCommGroup E] [InnerProductSpace ℝ E] [NormedAddCommGroup F] [InnerProductSpace ℝ F]

section accelPrimal
variable (g : E → ℝ) (fc : F → ℝ) (proxg : ℝ → E → E) (proxfc : ℝ → F → F)

/-- Lyapunov function of the accelerated method on the state the code keeps -/
noncomputable def accelEnergy (A : E → F) (xs : E) (us : F) (s : PDState ℝ E F ℝ ℝ) : ℝ :=
  (‖s.x - xs‖ ^ 2 / (2 * s.tau) + ‖s.u - us‖ ^ 2 / (2 * s.sigma)) / s.tau + ‖s.x_ext - s.x‖ ^ 2 / (2 * s.tau ^ 2)
    + ⟪A (s.x_ext - s.x), s.u - us⟫ / s.tau

/-- `tau *= θ`, `sigma /= θ`, `x_ext = x + θ (x - x_old)` -/
theorem pdStep_rescale_primal (A : E → F) (AH : F → E) (γ θ0 : ℝ) (hγ : 0 < γ) (s : PDState ℝ E F ℝ ℝ)
    (hmin : s.tau_min = s.tau) :
    (pdStep Real.sqrt A AH proxfc proxg γ 0 θ0 s).tau = 1 / Real.sqrt (1 + 2 * γ * s.tau) * s.tau ∧
    (pdStep Real.sqrt A AH proxfc proxg γ 0 θ0 s).sigma = s.sigma / (1 / Real.sqrt (1 + 2 * γ * s.tau)) ∧
    (pdStep Real.sqrt A AH proxfc proxg γ 0 θ0 s).x_ext = (pdStep Real.sqrt A AH proxfc proxg γ 0 θ0 s).x
      + (1 / Real.sqrt (1 + 2 * γ * s.tau)) • ((pdStep Real.sqrt A AH proxfc proxg γ 0 θ0 s).x - s.x) := by
  obtain ⟨x, u, xe, τ, σ, tm, sm⟩ := s
  dsimp only at hmin
  subst hmin
  have hr := pdRescale_primal γ θ0 tm σ sm hγ
  rw [pdStep_x_ext]
  dsimp only
  rw [hr]
  exact ⟨congrArg Rescale.tau hr, congrArg Rescale.sigma hr, rfl⟩

/-- `pdhg_accel_lyapunov` — `gamma_primal = γ > 0`, `gamma_dual = 0`, scalar steps with `τσ‖A‖² ≤ 1`
    (`tau_min = tau`, as `__init__` sets for a scalar `tau`), `g` γ-strongly convex, `(x*, u*)` a saddle point:
    one `update()` does not increase `Ψ`. Uses the generated `θ`, `tau *= θ`, `sigma /= θ` and extrapolation. -/
theorem pdhg_accel_lyapunov (A : E →ₗ[ℝ] F) (AH : F → E) (hadj : ∀ x u, ⟪A x, u⟫ = ⟪x, AH u⟫)
    (hg : ProxOf g proxg) (hfc : ProxOf fc proxfc) (γ θ0 : ℝ) (hγ : 0 < γ) (hsc : StrongConvexOn Set.univ γ g)
    (Lop : ℝ) (hA : ∀ x, ‖A x‖ ≤ Lop * ‖x‖)
    (s : PDState ℝ E F ℝ ℝ) (hτ : 0 < s.tau) (hσ : 0 < s.sigma) (hstep : s.tau * s.sigma * Lop ^ 2 ≤ 1)
    (hmin : s.tau_min = s.tau) (xs : E) (us : F) (hs : IsSaddle g fc A AH xs us) :
    accelEnergy A xs us (pdStep Real.sqrt A AH proxfc proxg γ 0 θ0 s) ≤ accelEnergy A xs us s := by
  obtain ⟨et, es, ex⟩ := pdStep_rescale_primal proxg proxfc A AH γ θ0 hγ s hmin
  have h := accel_step_prox A AH hadj Lop hA s.tau s.sigma γ 0 hτ hσ hstep (strong_subgrad hγ.le hsc)
    (fun h w => by simpa using h w) (pdStep_u_isProx fc proxg proxfc hfc A AH γ 0 θ0 s hσ)
    (pdStep_x_isProx g proxg proxfc hg A AH γ 0 θ0 s hτ) hs.1 hs.2
  obtain ⟨hθ, hθ2⟩ := inv_sqrt_pos_sq (x := 1 + 2 * γ * s.tau) (by positivity)
  unfold accelEnergy
  rw [ex, add_sub_cancel_left, et, es, LinearMap.map_smul, real_inner_smul_left, norm_smul, Real.norm_eq_abs,
    abs_of_pos hθ, accel_energy_rescale hθ hτ hσ hθ2]
  linear_combination (1 / (2 * s.tau)) * h

/-- `sigma` stays positive too: `tau` does and `tau * sigma` is constant (`pdhg_accel_run_primal`) -/
theorem pdhg_accel_run_pos (A : E → F) (AH : F → E) (γ θ0 : ℝ) (hγ : 0 < γ) (s0 : PDState ℝ E F ℝ ℝ)
    (hτ : 0 < s0.tau) (hσ : 0 < s0.sigma) (hmin : s0.tau_min = s0.tau) (k : ℕ) :
    0 < (pdRun Real.sqrt A AH proxfc proxg γ 0 θ0 s0 k).sigma := by
  obtain ⟨h1, _, h3⟩ := pdhg_accel_run_primal A AH proxg proxfc γ θ0 hγ s0 hτ hmin k
  exact (mul_pos_iff_of_pos_left h3).mp (h1 ▸ mul_pos hτ hσ)

/-- `pdhg_accel_energy_run` — `Ψ(s_k) ≤ Ψ(s_0)` along the whole accelerated run -/
theorem pdhg_accel_energy_run (A : E →ₗ[ℝ] F) (AH : F → E) (hadj : ∀ x u, ⟪A x, u⟫ = ⟪x, AH u⟫)
    (hg : ProxOf g proxg) (hfc : ProxOf fc proxfc) (γ θ0 : ℝ) (hγ : 0 < γ) (hsc : StrongConvexOn Set.univ γ g)
    (Lop : ℝ) (hA : ∀ x, ‖A x‖ ≤ Lop * ‖x‖)
    (s0 : PDState ℝ E F ℝ ℝ) (hτ : 0 < s0.tau) (hσ : 0 < s0.sigma) (hstep : s0.tau * s0.sigma * Lop ^ 2 ≤ 1)
    (hmin : s0.tau_min = s0.tau) (xs : E) (us : F) (hs : IsSaddle g fc A AH xs us) (k : ℕ) :
    accelEnergy A xs us (pdRun Real.sqrt A AH proxfc proxg γ 0 θ0 s0 k) ≤ accelEnergy A xs us s0 := by
  induction k with
  | zero => exact le_rfl
  | succ k ih =>
    obtain ⟨h1, h2, h3⟩ := pdhg_accel_run_primal A AH proxg proxfc γ θ0 hγ s0 hτ hmin k
    exact (pdhg_accel_lyapunov g fc proxg proxfc A AH hadj hg hfc γ θ0 hγ hsc Lop hA _ h3
      (pdhg_accel_run_pos proxg proxfc A AH γ θ0 hγ s0 hτ hσ hmin k) (by rw [h1]; exact hstep) h2 xs us hs).trans ih

/-- `pdhg_accel_tau_decay` — with the code's `θ = 1/√(1+2γτ)`, `tau *= θ`: `1/τ_k ≥ 1/τ_0 + kγ/(1+γτ_0)`, i.e.
    `τ_k = O(1/k)` and (`τσ` being invariant) `σ_k` grows at least linearly. -/
theorem pdhg_accel_tau_decay (A : E → F) (AH : F → E) (γ θ0 : ℝ) (hγ : 0 < γ) (s0 : PDState ℝ E F ℝ ℝ)
    (hτ : 0 < s0.tau) (hmin : s0.tau_min = s0.tau) (k : ℕ) :
    1 / s0.tau + k * (γ / (1 + γ * s0.tau)) ≤ 1 / (pdRun Real.sqrt A AH proxfc proxg γ 0 θ0 s0 k).tau := by
  refine inv_step_growth γ hγ (fun k => (pdRun Real.sqrt A AH proxfc proxg γ 0 θ0 s0 k).tau) (fun k => ?_) (fun k => ?_) k
  · exact (pdhg_accel_run_primal A AH proxg proxfc γ θ0 hγ s0 hτ hmin k).2.2
  · exact (pdStep_rescale_primal proxg proxfc A AH γ θ0 hγ _
      (pdhg_accel_run_primal A AH proxg proxfc γ θ0 hγ s0 hτ hmin k).2.1).1

/-- `pdhg_accel_dist_tau` — the form of Chambolle–Pock Thm 2 in terms of the CURRENT step:
    `‖x_N - x*‖² ≤ τ_N² (‖x_0-x*‖²/τ_0² + ‖u_0-u*‖²/(τ_0σ_0))` (this is what the search oracle evaluates on the real
    code, with the `tau` the object holds after `N` updates). -/
theorem pdhg_accel_dist_tau (A : E →ₗ[ℝ] F) (AH : F → E) (hadj : ∀ x u, ⟪A x, u⟫ = ⟪x, AH u⟫)
    (hg : ProxOf g proxg) (hfc : ProxOf fc proxfc) (γ θ0 : ℝ) (hγ : 0 < γ) (hsc : StrongConvexOn Set.univ γ g)
    (Lop : ℝ) (hA : ∀ x, ‖A x‖ ≤ Lop * ‖x‖)
    (s0 : PDState ℝ E F ℝ ℝ) (hτ : 0 < s0.tau) (hσ : 0 < s0.sigma) (hstep : s0.tau * s0.sigma * Lop ^ 2 ≤ 1)
    (hmin : s0.tau_min = s0.tau) (hext : s0.x_ext = s0.x) (xs : E) (us : F) (hs : IsSaddle g fc A AH xs us) (N : ℕ) :
    ‖(pdRun Real.sqrt A AH proxfc proxg γ 0 θ0 s0 N).x - xs‖ ^ 2
      ≤ (pdRun Real.sqrt A AH proxfc proxg γ 0 θ0 s0 N).tau ^ 2
        * (‖s0.x - xs‖ ^ 2 / s0.tau ^ 2 + ‖s0.u - us‖ ^ 2 / (s0.tau * s0.sigma)) := by
  obtain ⟨h1, _, h3⟩ := pdhg_accel_run_primal A AH proxg proxfc γ θ0 hγ s0 hτ hmin N
  have h4 := pdhg_accel_run_pos proxg proxfc A AH γ θ0 hγ s0 hτ hσ hmin N
  have hE := pdhg_accel_energy_run g fc proxg proxfc A AH hadj hg hfc γ θ0 hγ hsc Lop hA s0 hτ hσ hstep hmin xs us hs N
  have hE0 : accelEnergy A xs us s0 = (‖s0.x - xs‖ ^ 2 / s0.tau ^ 2 + ‖s0.u - us‖ ^ 2 / (s0.tau * s0.sigma)) / 2 := by
    unfold accelEnergy
    rw [hext, sub_self, LinearMap.map_zero, norm_zero, inner_zero_left]
    ring
  have hchain := (accel_energy_lower A Lop hA _ _ h3 h4 (h1.symm ▸ hstep) _ _ _).trans (hE.trans_eq hE0)
  rw [div_le_iff₀ (by positivity)] at hchain
  linear_combination hchain

/-- `pdhg_accel_rate` — Chambolle–Pock Thm 2 for the generated updates: `gamma_primal = γ > 0` (`g` γ-strongly convex),
    `gamma_dual = 0`, scalar steps with `τ₀σ₀‖A‖² ≤ 1`, initial state as built by `__init__` (`x_ext = x`,
    `tau_min = tau`): for every saddle point `(x*, u*)` and every `N`
    `‖x_N - x*‖² ≤ (‖x_0-x*‖²/τ_0² + ‖u_0-u*‖²/(τ_0σ_0)) / (1/τ_0 + Nγ/(1+γτ_0))²` — the `O(1/N²)` rate. -/
theorem pdhg_accel_rate (A : E →ₗ[ℝ] F) (AH : F → E) (hadj : ∀ x u, ⟪A x, u⟫ = ⟪x, AH u⟫)
    (hg : ProxOf g proxg) (hfc : ProxOf fc proxfc) (γ θ0 : ℝ) (hγ : 0 < γ) (hsc : StrongConvexOn Set.univ γ g)
    (Lop : ℝ) (hA : ∀ x, ‖A x‖ ≤ Lop * ‖x‖)
    (s0 : PDState ℝ E F ℝ ℝ) (hτ : 0 < s0.tau) (hσ : 0 < s0.sigma) (hstep : s0.tau * s0.sigma * Lop ^ 2 ≤ 1)
    (hmin : s0.tau_min = s0.tau) (hext : s0.x_ext = s0.x) (xs : E) (us : F) (hs : IsSaddle g fc A AH xs us) (N : ℕ) :
    ‖(pdRun Real.sqrt A AH proxfc proxg γ 0 θ0 s0 N).x - xs‖ ^ 2
      ≤ (‖s0.x - xs‖ ^ 2 / s0.tau ^ 2 + ‖s0.u - us‖ ^ 2 / (s0.tau * s0.sigma))
        / (1 / s0.tau + N * (γ / (1 + γ * s0.tau))) ^ 2 := by
  obtain ⟨_, _, h3⟩ := pdhg_accel_run_primal A AH proxg proxfc γ θ0 hγ s0 hτ hmin N
  exact le_div_sq_of_le_sq_mul h3 (by positivity) (sq_nonneg _)
    (pdhg_accel_dist_tau g fc proxg proxfc A AH hadj hg hfc γ θ0 hγ hsc Lop hA s0 hτ hσ hstep hmin hext xs us hs N)
    (pdhg_accel_tau_decay proxg proxfc A AH γ θ0 hγ s0 hτ hmin N)

end accelPrimal

/-! ### `gamma_dual > 0` (the code rescales `sigma *= θ`, `tau /= θ` with `θ = 1/√(1+2γ·sigma_min)` and STILL extrapolates
    the primal variable — not the mirror image of Chambolle–Pock Alg. 2).  Proved: the `O(1/N²)` rate for the dual
    variable under the STRICT step condition `τ₀σ₀‖A‖² < 1` (constant `1/(1-τ₀σ₀‖A‖²)`). -/
section accelDual
variable (g : E → ℝ) (fc : F → ℝ) (proxg : ℝ → E → E) (proxfc : ℝ → F → F)

/-- Lyapunov function of the dual-accelerated method on the state the code keeps -/
noncomputable def accelEnergyD (A : E → F) (xs : E) (us : F) (s : PDState ℝ E F ℝ ℝ) : ℝ :=
  (‖s.x - xs‖ ^ 2 / (2 * s.tau) + ‖s.u - us‖ ^ 2 / (2 * s.sigma)) / s.sigma
    + ⟪A (s.x_ext - s.x), s.u - us⟫ / s.sigma + ‖s.x_ext - s.x‖ ^ 2 / (2 * (s.tau * s.sigma))

/-- `sigma *= θ`, `tau /= θ`, `x_ext = x + θ (x - x_old)` -/
theorem pdStep_rescale_dual (A : E → F) (AH : F → E) (γ θ0 : ℝ) (hγ : 0 < γ) (s : PDState ℝ E F ℝ ℝ)
    (hmin : s.sigma_min = s.sigma) :
    (pdStep Real.sqrt A AH proxfc proxg 0 γ θ0 s).sigma = 1 / Real.sqrt (1 + 2 * γ * s.sigma) * s.sigma ∧
    (pdStep Real.sqrt A AH proxfc proxg 0 γ θ0 s).tau = s.tau / (1 / Real.sqrt (1 + 2 * γ * s.sigma)) ∧
    (pdStep Real.sqrt A AH proxfc proxg 0 γ θ0 s).x_ext = (pdStep Real.sqrt A AH proxfc proxg 0 γ θ0 s).x
      + (1 / Real.sqrt (1 + 2 * γ * s.sigma)) • ((pdStep Real.sqrt A AH proxfc proxg 0 γ θ0 s).x - s.x) := by
  obtain ⟨x, u, xe, τ, σ, tm, sm⟩ := s
  dsimp only at hmin
  subst hmin
  have hr := pdRescale_dual γ θ0 τ sm tm hγ
  rw [pdStep_x_ext]
  dsimp only
  rw [hr]
  exact ⟨congrArg Rescale.sigma hr, congrArg Rescale.tau hr, rfl⟩

/-- `pdhg_accel_lyapunov_dual` — `gamma_primal = 0`, `gamma_dual = γ > 0`, scalar steps with `τσ‖A‖² ≤ 1`
    (`sigma_min = sigma`), `f*` γ-strongly convex, `(x*, u*)` a saddle point: one `update()` does not increase `Ψ_d`. -/
theorem pdhg_accel_lyapunov_dual (A : E →ₗ[ℝ] F) (AH : F → E) (hadj : ∀ x u, ⟪A x, u⟫ = ⟪x, AH u⟫)
    (hg : ProxOf g proxg) (hfc : ProxOf fc proxfc) (γ θ0 : ℝ) (hγ : 0 < γ) (hsc : StrongConvexOn Set.univ γ fc)
    (Lop : ℝ) (hA : ∀ x, ‖A x‖ ≤ Lop * ‖x‖)
    (s : PDState ℝ E F ℝ ℝ) (hτ : 0 < s.tau) (hσ : 0 < s.sigma) (hstep : s.tau * s.sigma * Lop ^ 2 ≤ 1)
    (hmin : s.sigma_min = s.sigma) (xs : E) (us : F) (hs : IsSaddle g fc A AH xs us) :
    accelEnergyD A xs us (pdStep Real.sqrt A AH proxfc proxg 0 γ θ0 s) ≤ accelEnergyD A xs us s := by
  obtain ⟨es, et, ex⟩ := pdStep_rescale_dual proxg proxfc A AH γ θ0 hγ s hmin
  have h := accel_step_prox A AH hadj Lop hA s.tau s.sigma 0 γ hτ hσ hstep (fun h w => by simpa using h w)
    (strong_subgrad hγ.le hsc) (pdStep_u_isProx fc proxg proxfc hfc A AH 0 γ θ0 s hσ)
    (pdStep_x_isProx g proxg proxfc hg A AH 0 γ θ0 s hτ) hs.1 hs.2
  obtain ⟨hθ, hθ2⟩ := inv_sqrt_pos_sq (x := 1 + 2 * γ * s.sigma) (by positivity)
  unfold accelEnergyD
  rw [ex, add_sub_cancel_left, et, es, LinearMap.map_smul, real_inner_smul_left, norm_smul, Real.norm_eq_abs,
    abs_of_pos hθ]
  refine (accel_energy_rescale_dual hθ hτ hσ hγ.le hθ2 _ _ _ _).trans ?_
  linear_combination (1 / (2 * s.sigma)) * h

/-- invariants of the dual-accelerated run: `tau*sigma` constant, `sigma_min` tracks `sigma`, both steps positive -/
theorem pdhg_accel_run_dual (A : E → F) (AH : F → E) (γ θ0 : ℝ) (hγ : 0 < γ) (s0 : PDState ℝ E F ℝ ℝ)
    (hτ : 0 < s0.tau) (hσ : 0 < s0.sigma) (hmin : s0.sigma_min = s0.sigma) (k : ℕ) :
    (pdRun Real.sqrt A AH proxfc proxg 0 γ θ0 s0 k).tau * (pdRun Real.sqrt A AH proxfc proxg 0 γ θ0 s0 k).sigma
        = s0.tau * s0.sigma ∧
      (pdRun Real.sqrt A AH proxfc proxg 0 γ θ0 s0 k).sigma_min = (pdRun Real.sqrt A AH proxfc proxg 0 γ θ0 s0 k).sigma ∧
      0 < (pdRun Real.sqrt A AH proxfc proxg 0 γ θ0 s0 k).sigma ∧
      0 < (pdRun Real.sqrt A AH proxfc proxg 0 γ θ0 s0 k).tau := by
  induction k with
  | zero => exact ⟨rfl, hmin, hσ, hτ⟩
  | succ k ih =>
    rw [pdRun]
    generalize pdRun Real.sqrt A AH proxfc proxg 0 γ θ0 s0 k = s at ih ⊢
    obtain ⟨x, u, xe, τ, σ, tm, sm⟩ := s
    obtain ⟨h1, h2, h3, h4⟩ := ih
    dsimp only at h1 h2 h3 h4
    subst h2
    obtain ⟨_, a2, _, a4, a5, a6, a7, _⟩ := pdhg_accel_steps_dual γ θ0 τ sm tm hγ h3
    exact ⟨a6.trans h1, a7, lt_of_lt_of_eq (mul_pos a2 h3) a4.symm, lt_of_lt_of_eq (div_pos h4 a2) a5.symm⟩

/-- `Ψ_d(s_k) ≤ Ψ_d(s_0)` along the dual-accelerated run -/
theorem pdhg_accel_energy_run_dual (A : E →ₗ[ℝ] F) (AH : F → E) (hadj : ∀ x u, ⟪A x, u⟫ = ⟪x, AH u⟫)
    (hg : ProxOf g proxg) (hfc : ProxOf fc proxfc) (γ θ0 : ℝ) (hγ : 0 < γ) (hsc : StrongConvexOn Set.univ γ fc)
    (Lop : ℝ) (hA : ∀ x, ‖A x‖ ≤ Lop * ‖x‖)
    (s0 : PDState ℝ E F ℝ ℝ) (hτ : 0 < s0.tau) (hσ : 0 < s0.sigma) (hstep : s0.tau * s0.sigma * Lop ^ 2 ≤ 1)
    (hmin : s0.sigma_min = s0.sigma) (xs : E) (us : F) (hs : IsSaddle g fc A AH xs us) (k : ℕ) :
    accelEnergyD A xs us (pdRun Real.sqrt A AH proxfc proxg 0 γ θ0 s0 k) ≤ accelEnergyD A xs us s0 := by
  induction k with
  | zero => exact le_rfl
  | succ k ih =>
    obtain ⟨h1, h2, h3, h4⟩ := pdhg_accel_run_dual proxg proxfc A AH γ θ0 hγ s0 hτ hσ hmin k
    exact (pdhg_accel_lyapunov_dual g fc proxg proxfc A AH hadj hg hfc γ θ0 hγ hsc Lop hA _ h4 h3
      (by rw [h1]; exact hstep) h2 xs us hs).trans ih

/-- `1/σ_k ≥ 1/σ_0 + kγ/(1+γσ_0)` -/
theorem pdhg_accel_sigma_decay (A : E → F) (AH : F → E) (γ θ0 : ℝ) (hγ : 0 < γ) (s0 : PDState ℝ E F ℝ ℝ)
    (hτ : 0 < s0.tau) (hσ : 0 < s0.sigma) (hmin : s0.sigma_min = s0.sigma) (k : ℕ) :
    1 / s0.sigma + k * (γ / (1 + γ * s0.sigma)) ≤ 1 / (pdRun Real.sqrt A AH proxfc proxg 0 γ θ0 s0 k).sigma := by
  refine inv_step_growth γ hγ (fun k => (pdRun Real.sqrt A AH proxfc proxg 0 γ θ0 s0 k).sigma) (fun k => ?_) (fun k => ?_) k
  · exact (pdhg_accel_run_dual proxg proxfc A AH γ θ0 hγ s0 hτ hσ hmin k).2.2.1
  · exact (pdStep_rescale_dual proxg proxfc A AH γ θ0 hγ _
      (pdhg_accel_run_dual proxg proxfc A AH γ θ0 hγ s0 hτ hσ hmin k).2.1).1

/-- `pdhg_accel_rate_dual` — the generated updates with `gamma_dual = γ > 0` (`f*` γ-strongly convex), `gamma_primal = 0`,
    scalar steps with `τ₀σ₀‖A‖² ≤ 1`, initial state as built by `__init__`: for every saddle point
    `(1 - τ₀σ₀‖A‖²) ‖u_N - u*‖² ≤ (‖u_0-u*‖²/σ_0² + ‖x_0-x*‖²/(τ_0σ_0)) / (1/σ_0 + Nγ/(1+γσ_0))²` — `O(1/N²)` for the
    dual variable when the condition is STRICT (at `τ₀σ₀‖A‖² = 1` the left side is `0` and nothing is said). -/
theorem pdhg_accel_rate_dual (A : E →ₗ[ℝ] F) (AH : F → E) (hadj : ∀ x u, ⟪A x, u⟫ = ⟪x, AH u⟫)
    (hg : ProxOf g proxg) (hfc : ProxOf fc proxfc) (γ θ0 : ℝ) (hγ : 0 < γ) (hsc : StrongConvexOn Set.univ γ fc)
    (Lop : ℝ) (hA : ∀ x, ‖A x‖ ≤ Lop * ‖x‖)
    (s0 : PDState ℝ E F ℝ ℝ) (hτ : 0 < s0.tau) (hσ : 0 < s0.sigma) (hstep : s0.tau * s0.sigma * Lop ^ 2 ≤ 1)
    (hmin : s0.sigma_min = s0.sigma) (hext : s0.x_ext = s0.x) (xs : E) (us : F) (hs : IsSaddle g fc A AH xs us) (N : ℕ) :
    (1 - s0.tau * s0.sigma * Lop ^ 2) * ‖(pdRun Real.sqrt A AH proxfc proxg 0 γ θ0 s0 N).u - us‖ ^ 2
      ≤ (‖s0.u - us‖ ^ 2 / s0.sigma ^ 2 + ‖s0.x - xs‖ ^ 2 / (s0.tau * s0.sigma))
        / (1 / s0.sigma + N * (γ / (1 + γ * s0.sigma))) ^ 2 := by
  obtain ⟨h1, _, h3, h4⟩ := pdhg_accel_run_dual proxg proxfc A AH γ θ0 hγ s0 hτ hσ hmin N
  have hE := pdhg_accel_energy_run_dual g fc proxg proxfc A AH hadj hg hfc γ θ0 hγ hsc Lop hA s0 hτ hσ hstep hmin xs us hs N
  have hE0 : accelEnergyD A xs us s0 = (‖s0.u - us‖ ^ 2 / s0.sigma ^ 2 + ‖s0.x - xs‖ ^ 2 / (s0.tau * s0.sigma)) / 2 := by
    unfold accelEnergyD
    rw [hext, sub_self, LinearMap.map_zero, norm_zero, inner_zero_left]
    ring
  have hchain := (accel_energy_lower_dual A Lop hA _ _ h4 h3 _ _ _).trans (hE.trans_eq hE0)
  rw [h1, div_le_iff₀ (by positivity)] at hchain
  exact le_div_sq_of_le_sq_mul h3 (by positivity) (mul_nonneg (sub_nonneg.mpr hstep) (sq_nonneg _))
    (by linear_combination hchain) (pdhg_accel_sigma_decay proxg proxfc A AH γ θ0 hγ s0 hτ hσ hmin N)
end accelDual

section examples

theorem proxOf_sq_half : ProxOf (fun x : ℝ => x ^ 2 / 2) (fun α v => v / (1 + α)) := by
  intro α v hα w
  simp only [RCLike.inner_apply, conj_trivial, smul_eq_mul]
  have h1 : 0 < 1 + α := by linarith
  have e : 1 / α * (v - v / (1 + α)) = v / (1 + α) := by field_simp; ring
  rw [mul_comm (w - v / (1 + α)), e]
  linear_combination (1 / 2) * sq_nonneg (w - v / (1 + α))

theorem strongConvexOn_sq_half : StrongConvexOn Set.univ 1 (fun x : ℝ => x ^ 2 / 2) := by
  refine ⟨convex_univ, ?_⟩
  intro x _ y _ a b ha hb hab
  simp only [smul_eq_mul, Real.norm_eq_abs, sq_abs]
  have hb' : b = 1 - a := by linarith
  subst hb'
  exact le_of_eq (by ring)

/-- the hypotheses of `pdhg_accel_rate` are satisfiable: on `ℝ`, `g(x) = x²/2` (1-strongly convex, prox `v/(1+α)`),
    `f* = 0`, `A = id`, `τ = σ = 1` (`τσ‖A‖² = 1`), saddle point `(0, 0)` -/
example : ∃ (g fc : ℝ → ℝ) (proxg proxfc : ℝ → ℝ → ℝ) (A : ℝ →ₗ[ℝ] ℝ) (AH : ℝ → ℝ) (γ Lop : ℝ),
    (∀ x u, ⟪A x, u⟫ = ⟪x, AH u⟫) ∧ ProxOf g proxg ∧ ProxOf fc proxfc ∧ 0 < γ ∧ StrongConvexOn Set.univ γ g ∧
    (∀ x, ‖A x‖ ≤ Lop * ‖x‖) ∧ (1 : ℝ) * 1 * Lop ^ 2 ≤ 1 ∧ IsSaddle g fc A AH 0 0 := by
  refine ⟨fun x => x ^ 2 / 2, fun _ => 0, fun α v => v / (1 + α), fun _ v => v, LinearMap.id, id, 1, 1,
    fun x u => rfl, proxOf_sq_half, proxOf_zero, one_pos, strongConvexOn_sq_half, fun x => by simp, by norm_num, ?_⟩
  constructor <;> intro w <;> simp
  positivity

/-- the hypotheses of `pdhg_accel_rate_dual` are satisfiable with a STRICT step condition: on `ℝ`, `g = 0`,
    `f*(u) = u²/2` (1-strongly convex, prox `v/(1+α)`), `A = id`, `τ = σ = 1/2` (`τσ‖A‖² = 1/4 < 1`) -/
example : ∃ (g fc : ℝ → ℝ) (proxg proxfc : ℝ → ℝ → ℝ) (A : ℝ →ₗ[ℝ] ℝ) (AH : ℝ → ℝ) (γ Lop : ℝ),
    (∀ x u, ⟪A x, u⟫ = ⟪x, AH u⟫) ∧ ProxOf g proxg ∧ ProxOf fc proxfc ∧ 0 < γ ∧ StrongConvexOn Set.univ γ fc ∧
    (∀ x, ‖A x‖ ≤ Lop * ‖x‖) ∧ (1 / 2 : ℝ) * (1 / 2) * Lop ^ 2 < 1 ∧ IsSaddle g fc A AH 0 0 := by
  refine ⟨fun _ => 0, fun x => x ^ 2 / 2, fun _ v => v, fun α v => v / (1 + α), LinearMap.id, id, 1, 1,
    fun x u => rfl, proxOf_zero, proxOf_sq_half, one_pos, strongConvexOn_sq_half, fun x => by simp, by norm_num, ?_⟩
  constructor <;> intro w <;> simp
  positivity

/-- a concrete accelerated step really rescales: `γ = 3/2`, `τ = 1` gives `θ = 1/2`, `τ⁺ = 1/2`, `σ⁺ = 2σ` -/
example (θ0 σ sm : ℝ) : (pdRescale Real.sqrt (3 / 2) 0 θ0 1 σ 1 sm : Rescale ℝ ℝ ℝ).tau = 1 / 2 := by
  obtain ⟨a1, _, _, a4, _⟩ := pdhg_accel_steps_primal (3 / 2) θ0 1 σ sm (by norm_num) one_pos
  rw [a4, a1]
  have : Real.sqrt (1 + 2 * (3 / 2) * 1) = 2 := by
    rw [show (1 : ℝ) + 2 * (3 / 2) * 1 = 2 ^ 2 by norm_num]; exact Real.sqrt_sq (by norm_num)
  rw [this]; norm_num
end examples

end SigpyVerif.C13
