import SigpyVerif.Model.C10
import SigpyVerif.Lemmas.C10
import SigpyVerif.Lemmas.C10List
import SigpyVerif.Lemmas.C10Nd
import SigpyVerif.Lemmas.C10Qmf
import SigpyVerif.Lemmas.Py
import SigpyVerif.Props.C09
import Mathlib.Analysis.Real.Sqrt
/-
  C10 — orthogonal wavelet transform: isometry, perfect reconstruction, adjoint, advertised shape.

  Full property (sigpy level): for every orthogonal wavelet, shape, axes subset and level,
      iwt (fwt x) = x,   ‖fwt x‖ = ‖x‖,   ⟨fwt x, c⟩ = ⟨x, iwt c⟩,   (fwt x).shape = Wavelet(...).oshape.
  The transform itself is PyWavelets (C code), so the property is partial by nature.
  What is CONTRACT (validated by the correspondence check on every run, not proved): that PyWavelets'
  `dwt/idwt/wavedec/waverec/wavedecn/coeffs_to_array` compute the modelled formulas, that the filter taps of
  every orthogonal wavelet satisfy `OrthonormalLo`/`Orthonormal`/`Complete` (to 1e-10) and that `dec_hi` is the
  alternating flip of `dec_lo` (observed exact).
  Not proved: the general `Orthonormal → Complete` for a `g` that is not assumed to be the flip of `h`.  It is true
  for finitely supported filters: with the 2×2 polyphase matrix `E(z)` over the commutative ring of Laurent
  polynomials, `Orthonormal` is `E(z)·Ẽ(z) = I` and `Complete` is `Ẽ(z)·E(z) = I`, and a one-sided inverse of a
  square matrix over a commutative ring is two-sided (`Matrix.mul_eq_one_comm`); the missing piece is the
  translation of the `∑ᶠ`-over-ℤ identities into Laurent-polynomial matrix identities.  (Without finite support /
  commutativity the implication fails: an isometry of ℓ² need not be onto.)  The alternating-flip hypothesis used
  instead is an exactly checkable property of PyWavelets' taps (bit-for-bit, every run), whereas the orthonormality
  sums only hold to ~1e-11.
-/
namespace SigpyVerif.C10
open SigpyVerif Finset

variable {R : Type*} [CommRing R]

set_option linter.unusedSimpArgs false in
/-- `zshape = ((i+1)//2)*2` is even, at least `i`, and adds at most one sample. -/
theorem zshape_spec (i : Int) :
    Gen.waveZshapeFwt i % 2 = 0 ∧ i ≤ Gen.waveZshapeFwt i ∧ Gen.waveZshapeFwt i - i = i % 2 := by
  unfold Gen.waveZshapeFwt
  -- by arithmetic after unfolding, so an algebraically equal spelling of the formula in the source keeps the proof
  try simp only [pyDiv_of_pos _ (show (0 : Int) < 2 by decide), pyMod_of_pos _ (show (0 : Int) < 2 by decide)]
  first | omega | (split_ifs <;> omega)

set_option linter.unusedSimpArgs false in
/-- the padding formula of `get_wavelet_shape` and the one of `fwt` give the same length for every axis
    length (proved by arithmetic, so an algebraically equal rewrite of either site does not break it) -/
theorem zshape_sites_agree (i : Int) : Gen.waveZshapeShape i = Gen.waveZshapeFwt i := by
  unfold Gen.waveZshapeShape Gen.waveZshapeFwt
  try simp only [pyDiv_of_pos _ (show (0 : Int) < 2 by decide), pyMod_of_pos _ (show (0 : Int) < 2 by decide)]
  try (first | omega | (split_ifs <;> omega))

/-- `get_wavelet_shape` (hence `Wavelet.oshape`, `InverseWavelet.ishape` and the stored `coeff_slices`)
    and `fwt` pad to the same even shape and make the same `wavedecn(..., mode='zero', axes, level)` and
    `coeffs_to_array(..., axes)` calls on an array of that shape: the advertised coefficient shape is
    computed exactly like the actual one.  (Structure statement about the regenerated DATA FLOW of the two
    functions: every local name is replaced by the expression it holds, private helpers are inlined and call
    arguments are bound to the callee's parameter names, so this is a statement about what is computed, not about
    how the source spells it - see harness/translate/gen_c10.py.  `<zshape>` = the padded shape, whose element
    formula is `Gen.waveZshape*`, taken over the shape of the array being padded; `<dec>` = the value of the
    `wavedecn` call.) -/
theorem shape_consistent :
    Gen.waveZshapeShape = Gen.waveZshapeFwt ∧ Gen.waveDecCallShape = Gen.waveDecCallFwt ∧
    Gen.wavePackCallShape = Gen.wavePackCallFwt ∧
    Gen.waveDecCallFwt = ["wavedecn", "shape:<zshape>", "wavelet=wave_name", "mode='zero'", "level=level", "axes=axes"] ∧
    Gen.wavePackCallFwt = ["coeffs_to_array", "coeffs=<dec>", "padding=0", "axes=axes"] ∧
    Gen.wavePadCallFwt = ["resize", "input=backend.to_device(input=input, device=backend.cpu_device)", "oshape=<zshape>",
      "ishift=None", "oshift=None"] :=
  ⟨funext zshape_sites_agree, rfl, rfl, rfl, rfl, rfl⟩

/-- `iwt` mirrors `fwt`: it unpacks (the input moved to the CPU) with the stored slices, reconstructs from exactly
    those coefficients with the same wavelet, the same `mode='zero'` and the same `axes`, and centre-crops the
    reconstruction to `oshape` with the default shifts.  (About the regenerated call signatures, like `shape_consistent`.) -/
theorem inverse_mirrors_forward :
    Gen.waveUnpackCallIwt = ["array_to_coeffs", "arr=backend.to_device(input=input, device=backend.cpu_device)",
      "coeff_slices=coeff_slices", "output_format='wavedecn'"] ∧
    Gen.waveRecCallIwt = ["waverecn", "coeffs=<unpack>", "wavelet=wave_name", "mode='zero'", "axes=axes"] ∧
    Gen.waveCropCallIwt = ["resize", "input=<rec>", "oshape=oshape", "ishift=None", "oshift=None"] :=
  ⟨rfl, rfl, rfl⟩

/-- What the three functions RETURN (regenerated data flow): `get_wavelet_shape` returns the shape of the packed
    array together with the slices of the very same `coeffs_to_array` call; `fwt` returns the packed array (first
    component of its `coeffs_to_array` call) moved back to the device of the input; `iwt` returns the cropped
    reconstruction moved back to the device of the input.  Nothing else is applied to the values on the way out
    (a cast, a slice, another element of the pair would change these strings). -/
theorem glue_returns :
    Gen.waveRetShape = ["(<pack>[0].shape, <pack>[1])"] ∧
    Gen.waveRetFwt = ["backend.to_device(input=<pack>[0], device=backend.get_device(array=input))"] ∧
    Gen.waveRetIwt = ["backend.to_device(input=<crop>, device=backend.get_device(array=input))"] :=
  ⟨rfl, rfl, rfl⟩

/-- Which end receives the extra zero: padded index `k` holds input index `j` exactly when
    `k = j + (i mod 2)` — for odd `i` the inserted zero is at index 0 (in front), for even `i` nothing moves. -/
theorem pad_extra_zero_in_front (i k j : Int) :
    padSrc i k = some j ↔ (0 ≤ j ∧ j < i ∧ k = j + i % 2) := by
  unfold padSrc
  rw [C09.resize_default_aligns]
  have := zshape_spec i
  omega

/-- The centre crop of `iwt` is the transpose of the centre pad of `fwt` (`crop = padᴴ`), index by index. -/
theorem crop_is_pad_adjoint (i k j : Int) : padSrc i k = some j ↔ cropSrc i j = some k := by
  unfold padSrc cropSrc
  rw [zshape_sites_agree i,
    C09.resize_default_aligns, C09.resize_default_aligns]
  omega

/-- `crop ∘ pad = id`: every input index `0 ≤ j < i` is stored at some padded index `k`, and the crop's
    output `j` reads exactly that `k`. -/
theorem pad_crop (i j : Int) (hj0 : 0 ≤ j) (hji : j < i) :
    ∃ k, padSrc i k = some j ∧ cropSrc i j = some k := by
  refine ⟨j + i % 2, ?_, ?_⟩
  · rw [pad_extra_zero_in_front]; omega
  · rw [← crop_is_pad_adjoint, pad_extra_zero_in_front]; omega

theorem padSrc_eq (i k : Int) : padSrc i k = if i % 2 ≤ k ∧ k < i + i % 2 then some (k - i % 2) else none := by
  apply Option.ext; intro j
  rw [pad_extra_zero_in_front]
  split_ifs with h
  · rw [Option.some.injEq]; omega
  · simp only [iff_false]; omega

theorem cropSrc_eq (i j : Int) : cropSrc i j = if 0 ≤ j ∧ j < i then some (j + i % 2) else none := by
  apply Option.ext; intro k
  rw [← crop_is_pad_adjoint, pad_extra_zero_in_front]
  split_ifs with h
  · rw [Option.some.injEq]; omega
  · simp only [iff_false]; omega

example : padSrc 5 0 = none ∧ padSrc 5 1 = some 0 ∧ cropSrc 5 4 = some 5 ∧ padSrc 4 0 = some 0 := by decide

/-- `iwt = fwtᴴ`, one level: `⟨analysis x, (a,d)⟩ = ⟨x, synthesis (a,d)⟩` for arbitrary coefficient
    sequences `a, d` (not only those in the range of the analysis) and ANY filters — pure index
    manipulation.  `ana`/`syn` are the definitions the driver executes against `pywt.dwt/idwt`. -/
theorem synthesis_is_adjoint (h g : ℤ → R) (N M : ℕ) (x a d : ℕ → R) :
    sumN M (fun k => ana h N x k * a k) + sumN M (fun k => ana g N x k * d k)
      = sumN N (fun n => x n * syn h g M a d n) := by
  simp only [ana, syn, sumN_eq_sum]
  simp only [sum_mul, mul_sum]
  rw [← sum_add_distrib, sum_comm]
  apply sum_congr rfl; intro k _
  rw [← sum_add_distrib]
  apply sum_congr rfl; intro n _
  ring

/-- `iwt(fwt(x)) = x`, one level: for filters of length `L` satisfying completeness, synthesis of the
    `M ≥ ⌊(N+L-1)/2⌋` coefficients kept by the zero-extended transform returns every sample of a length-`N`
    signal (any `N`, odd or even, shorter than the filter or not). -/
theorem qmf_perfect_reconstruction {L N M : ℕ} {h g : ℤ → R} (hh : SupportedOn L h) (hg : SupportedOn L g)
    (hc : Complete h g) (hM : L + N ≤ 2 * M + 2) (x : ℕ → R) {n : ℕ} (hn : n < N) :
    syn h g M (ana h N x) (ana g N x) n = x n := by
  simp only [ana, syn, sumN_eq_sum]
  calc _ = ∑ n' ∈ range N, (∑ k ∈ range M, (h (2 * (k : ℤ) + 1 - n) * h (2 * (k : ℤ) + 1 - n')
              + g (2 * (k : ℤ) + 1 - n) * g (2 * (k : ℤ) + 1 - n'))) * x n' := by
        simp only [mul_sum, sum_mul]
        rw [sum_comm]
        apply sum_congr rfl; intro k _
        rw [← sum_add_distrib]
        apply sum_congr rfl; intro n' _
        ring
    _ = ∑ n' ∈ range N, (if n = n' then 1 else 0) * x n' := by
        apply sum_congr rfl; intro n' _
        rw [complete_window hh hg hc hM hn n']
    _ = x n := by
        simp only [ite_mul, one_mul, zero_mul, sum_ite_eq, mem_range, hn, ↓reduceIte]

/-- `‖fwt x‖ = ‖x‖`, one level: `‖a‖² + ‖d‖² = ‖x‖²` under the same hypotheses (over any commutative
    ring, in particular ℝ; for complex data PyWavelets transforms real and imaginary parts separately). -/
theorem qmf_isometry_1level {L N M : ℕ} {h g : ℤ → R} (hh : SupportedOn L h) (hg : SupportedOn L g)
    (hc : Complete h g) (hM : L + N ≤ 2 * M + 2) (x : ℕ → R) :
    sumN M (fun k => ana h N x k ^ 2) + sumN M (fun k => ana g N x k ^ 2) = sumN N (fun n => x n ^ 2) := by
  have adj := synthesis_is_adjoint h g N M x (ana h N x) (ana g N x)
  simp only [sq]
  rw [adj]
  simp only [sumN_eq_sum]
  apply sum_congr rfl; intro n hn
  rw [qmf_perfect_reconstruction hh hg hc hM x (mem_range.mp hn)]

/-! ### `Complete` is not an independent hypothesis: it follows from the orthonormality of the low-pass
    filter when the high-pass filter is its alternating flip (checked exactly for every pywt wavelet) -/

/-- **Completeness from the orthonormality sums of `h` alone.**  If `h` has even length `L`, its even shifts
    are orthonormal (`Σ_n h[n]h[n+2m] = δ_m`) and `g` is the alternating flip of `h`, then the two-channel bank
    is complete (resolution of the identity) — pure index algebra: parity split and re-indexing. -/
theorem complete_of_qmf_pair {L : ℕ} {h : ℤ → R} (hh : SupportedOn L h) (hev : L % 2 = 0)
    (ho : ∀ m : ℤ, (∑ᶠ n : ℤ, h n * h (n + 2 * m)) = if m = 0 then 1 else 0)
    (s : R) (hs : s * s = 1) : Complete h (altFlip s L h) := by
  intro n n'
  -- both halves of the summand are values of `G j = h[j]·h[j+(n-n')]`: the `h` half at `j = 2k+1-n`, the `g` half
  -- at `j = L-2+n'-2k` with the sign `(-1)^(n+n')`
  set G : ℤ → R := fun j => h j * h (j + (n - n')) with hG
  have hGfin : (Function.support G).Finite :=
    finite_support_of_bound _ 0 L fun k hk => by simp only [hG]; rw [hh _ (hk.imp_right le_of_lt), zero_mul]
  have hterm : ∀ k : ℤ, h (2 * k + 1 - n) * h (2 * k + 1 - n')
        + altFlip s L h (2 * k + 1 - n) * altFlip s L h (2 * k + 1 - n')
      = G (2 * k + (1 - n)) + sgn (n + n') * G ((L : ℤ) - 2 + n' - 2 * k) := by
    intro k
    have a1 : 2 * k + (1 - n) = 2 * k + 1 - n := by ring
    have a2 : 2 * k + 1 - n + (n - n') = 2 * k + 1 - n' := by ring
    have b1 : (L : ℤ) - 2 + n' - 2 * k = (L : ℤ) - 1 - (2 * k + 1 - n') := by ring
    have b2 : (L : ℤ) - 1 - (2 * k + 1 - n') + (n - n') = (L : ℤ) - 1 - (2 * k + 1 - n) := by ring
    have e3 : (sgn (2 * k + 1 - n) * sgn (2 * k + 1 - n') : R) = sgn (n + n') := by
      rw [sgn_mul_sgn, show 2 * k + 1 - n + (2 * k + 1 - n') = 2 * (2 * k + 1 - n - n') + (n + n') by ring,
        sgn_two_mul_add]
    simp only [hG, altFlip]
    rw [a1, a2, b1, b2, ← e3]
    linear_combination (sgn (2 * k + 1 - n) * sgn (2 * k + 1 - n') * h ((L : ℤ) - 1 - (2 * k + 1 - n))
      * h ((L : ℤ) - 1 - (2 * k + 1 - n'))) * hs
  have fA : (Function.support fun k : ℤ => G (2 * k + (1 - n))).Finite :=
    hGfin.preimage fun a _ b _ hab => mul_left_cancel₀ two_ne_zero (add_right_cancel hab)
  have fB : (Function.support fun k : ℤ => G ((L : ℤ) - 2 + n' - 2 * k)).Finite :=
    hGfin.preimage fun a _ b _ hab => mul_left_cancel₀ two_ne_zero (sub_right_injective hab)
  rw [finsum_congr hterm]
  obtain ⟨l, hl⟩ : ∃ l : ℤ, (L : ℤ) = 2 * l := by
    obtain ⟨l, hl⟩ := Nat.dvd_of_mod_eq_zero hev
    exact ⟨l, by exact_mod_cast hl⟩
  have hdiv := Int.emod_add_mul_ediv (n + n') 2
  rcases Int.emod_two_eq_zero_or_one (n + n') with hpar | hpar
  · -- same parity, `n - n' = 2m`: the two halves run over the two residue classes of `j`
    obtain ⟨m, hm⟩ : ∃ m : ℤ, n - n' = 2 * m := ⟨(n + n') / 2 - n', by linear_combination hpar - hdiv⟩
    simp only [sgn, if_pos hpar, one_mul]
    rw [finsum_add_distrib fA fB, finsum_flip2,
      finsum_two_classes G hGfin (q := l - m - 1) (by linear_combination hl - hm)]
    simp only [hG]
    rw [hm, ho m]
    exact if_congr (by omega) rfl rfl
  · -- different parity: both halves run over the same residue class and cancel
    obtain ⟨q, hq⟩ : ∃ q : ℤ, n + n' = 2 * q + 1 := ⟨(n + n') / 2, by linear_combination hpar - hdiv⟩
    simp only [sgn, hpar, one_ne_zero, if_false, neg_one_mul, ← sub_eq_add_neg]
    rw [finsum_sub_distrib fA fB, finsum_flip2,
      show 1 - n = (L : ℤ) - 2 + n' + 2 * (1 - q - l) by linear_combination -hl - hq, finsum_shift2,
      sub_self, if_neg (by omega)]

/-! ### Haar: the hypotheses are satisfiable -/

/-- Haar low-pass `dec_lo = (s, s)` with `s = 1/√2` (any `s` with `2·s² = 1`) -/
def haarLo (s : R) (j : ℤ) : R := if j = 0 ∨ j = 1 then s else 0
/-- Haar high-pass `dec_hi = (-s, s)` -/
def haarHi (s : R) (j : ℤ) : R := if j = 0 then -s else if j = 1 then s else 0

theorem haar_supported (s : R) : SupportedOn 2 (haarLo s) ∧ SupportedOn 2 (haarHi s) := by
  constructor <;> intro j hj <;> simp only [haarLo, haarHi] <;> split_ifs <;> first | rfl | omega

theorem finsum_two_taps {f u : ℤ → R} (hf : SupportedOn 2 f) (hu : SupportedOn 2 u) (m : ℤ) :
    ∑ᶠ n : ℤ, f n * u (n + 2 * m) = if m = 0 then f 0 * u 0 + f 1 * u 1 else 0 := by
  rw [finsum_eq_sum_range (M := 2) fun n hn => by rw [hf n hn, zero_mul], sum_range_succ, sum_range_one]
  simp only [Nat.cast_zero, Nat.cast_one]
  split_ifs with hm
  · rw [hm, mul_zero, add_zero, add_zero]
  · rw [hu _ (by omega), hu _ (by omega), mul_zero, mul_zero, add_zero]

theorem haar_orthonormal (s : R) (hs : 2 * (s * s) = 1) : Orthonormal (haarLo s) (haarHi s) := by
  obtain ⟨hl, hh⟩ := haar_supported s
  have lo0 : haarLo s 0 = s := rfl
  have lo1 : haarLo s 1 = s := rfl
  have hi0 : haarHi s 0 = -s := rfl
  have hi1 : haarHi s 1 = s := rfl
  refine ⟨fun m => ?_, fun m => ?_, fun m => ?_⟩
  · rw [finsum_two_taps hl hl, lo0, lo1, show s * s + s * s = 1 by linear_combination hs]
  · rw [finsum_two_taps hh hh, hi0, hi1, show -s * -s + s * s = 1 by linear_combination hs]
  · rw [finsum_two_taps hl hh, lo0, lo1, hi0, hi1, show s * -s + s * s = 0 by ring, ite_self]

theorem altFlip_haarLo (s : R) : altFlip (-1) 2 (haarLo s) = haarHi s := by
  funext j
  by_cases h0 : j = 0
  · subst h0; simp [altFlip, haarLo, haarHi, sgn]
  · by_cases h1 : j = 1
    · subst h1; simp [altFlip, haarLo, haarHi, sgn]
    · simp only [altFlip, haarLo, haarHi]
      rw [if_neg (by omega), if_neg h0, if_neg h1, mul_zero]

theorem haar_complete (s : R) (hs : 2 * (s * s) = 1) : Complete (haarLo s) (haarHi s) :=
  altFlip_haarLo s ▸
    complete_of_qmf_pair (haar_supported s).1 (by norm_num) (haar_orthonormal s hs).1 (-1) (by ring)

/-- Non-vacuity over ℝ: with `s = √2/2` the Haar pair is supported on `{0,1}`, complete and orthonormal,
    so `qmf_isometry_1level` / `qmf_perfect_reconstruction` apply to it. -/
theorem haar_real :
    SupportedOn 2 (haarLo (Real.sqrt 2 / 2)) ∧ SupportedOn 2 (haarHi (Real.sqrt 2 / 2)) ∧
    Complete (haarLo (Real.sqrt 2 / 2)) (haarHi (Real.sqrt 2 / 2)) ∧
    Orthonormal (haarLo (Real.sqrt 2 / 2)) (haarHi (Real.sqrt 2 / 2)) := by
  have hs : 2 * ((Real.sqrt 2 / 2) * (Real.sqrt 2 / 2)) = (1 : ℝ) := by
    have := Real.mul_self_sqrt (show (0 : ℝ) ≤ 2 by norm_num)
    linear_combination (1 / 2 : ℝ) * this
  exact ⟨(haar_supported _).1, (haar_supported _).2, haar_complete _ hs, haar_orthonormal _ hs⟩

/-- one Haar level of a length-4 real signal preserves the sum of squares (instance of the theorem) -/
example (x : ℕ → ℝ) :
    sumN 2 (fun k => ana (haarLo (Real.sqrt 2 / 2)) 4 x k ^ 2) + sumN 2 (fun k => ana (haarHi (Real.sqrt 2 / 2)) 4 x k ^ 2)
      = sumN 4 (fun n => x n ^ 2) :=
  qmf_isometry_1level haar_real.1 haar_real.2.1 haar_real.2.2.1 (by norm_num) x

omit [CommRing R] in
/-- A composition of norm-preserving maps is norm-preserving (levels: the next level acts on the
    approximation part; axes: one axis after the other). -/
theorem isometry_comp {α β γ : Type*} {nα : α → R} {nβ : β → R} {nγ : γ → R} {S : α → β} {T : β → γ}
    (hS : ∀ x, nβ (S x) = nα x) (hT : ∀ y, nγ (T y) = nβ y) (x : α) : nγ (T (S x)) = nα x := by
  rw [hT, hS]

omit [CommRing R] in
/-- The adjoint of a composition is the composition of the adjoints in reverse order
    (`waverecn` undoes the levels/axes of `wavedecn` last-to-first). -/
theorem adjoint_comp {α β γ : Type*} {ipα : α → α → R} {ipβ : β → β → R} {ipγ : γ → γ → R}
    {S : α → β} {S' : β → α} {T : β → γ} {T' : γ → β}
    (hS : ∀ x y, ipβ (S x) y = ipα x (S' y)) (hT : ∀ y z, ipγ (T y) z = ipβ y (T' z)) (x : α) (z : γ) :
    ipγ (T (S x)) z = ipα x (S' (T' z)) := by
  rw [hT, hS]

/-- Separable transform, last axis: one level along the rows of a `P × N` array keeps the sum of squares. -/
theorem qmf_isometry_rows {L N M : ℕ} {h g : ℤ → R} (hh : SupportedOn L h) (hg : SupportedOn L g)
    (hc : Complete h g) (hM : L + N ≤ 2 * M + 2) (P : ℕ) (X : ℕ → ℕ → R) :
    sumN P (fun r => sumN M (fun k => ana h N (X r) k ^ 2) + sumN M (fun k => ana g N (X r) k ^ 2))
      = sumN P (fun r => sumN N (fun n => X r n ^ 2)) := by
  simp only [qmf_isometry_1level hh hg hc hM]

/-- Separable transform, first axis: one level along the columns of a `P × N` array (signal length `P`). -/
theorem qmf_isometry_cols {L P M : ℕ} {h g : ℤ → R} (hh : SupportedOn L h) (hg : SupportedOn L g)
    (hc : Complete h g) (hM : L + P ≤ 2 * M + 2) (N : ℕ) (X : ℕ → ℕ → R) :
    sumN N (fun n => sumN M (fun k => ana h P (fun r => X r n) k ^ 2)
        + sumN M (fun k => ana g P (fun r => X r n) k ^ 2))
      = sumN P (fun r => sumN N (fun n => X r n ^ 2)) := by
  have e : ∀ n, sumN M (fun k => ana h P (fun r => X r n) k ^ 2)
      + sumN M (fun k => ana g P (fun r => X r n) k ^ 2) = sumN P (fun r => X r n ^ 2) :=
    fun n => qmf_isometry_1level hh hg hc hM (fun r => X r n)
  simp only [e]
  simp only [sumN_eq_sum]
  rw [sum_comm]

/-- One level of the executed model `dwt1` (= `pywt.dwt(mode='zero')`, by correspondence) preserves the
    sum of squares for every input length, for any filter pair satisfying completeness. -/
theorem dwt1_isometry (h g x : List R) (hL : g.length = h.length) (hc : Complete (ofList h) (ofList g)) :
    nsq (dwt1 h g x).1 + nsq (dwt1 h g x).2 = nsq x := by
  have hg : SupportedOn h.length (ofList g) := by rw [← hL]; exact supportedOn_ofList g
  have key := qmf_isometry_1level (supportedOn_ofList h) hg hc (M := dwtLen x.length h.length)
    (N := x.length) (dwtLen_window _ _) (ofListN x)
  simp only [sumN_eq_sum] at key
  unfold dwt1
  simp only [nsq_map_range, nsq_eq_sum x]
  exact key

/-- All `J` levels: the coefficient lists `[a_J, d_J, …, d_1]` of the executed `wavedec` have the same
    total sum of squares as the input (induction over the levels with `dwt1_isometry`). -/
theorem wavedec_isometry (h g : List R) (hL : g.length = h.length) (hc : Complete (ofList h) (ofList g)) :
    ∀ (J : ℕ) (x : List R), nsqs (wavedec h g J x) = nsq x := by
  intro J
  induction J with
  | zero => intro x; simp [wavedec, nsqs]
  | succ J ih =>
    intro x
    show nsqs (wavedec h g J (dwt1 h g x).1 ++ [(dwt1 h g x).2]) = nsq x
    have := ih (dwt1 h g x).1
    unfold nsqs at this ⊢
    rw [List.map_append, List.sum_append, this]
    simp only [List.map_cons, List.map_nil, List.sum_cons, List.sum_nil, add_zero]
    exact dwt1_isometry h g x hL hc

/-- The packed 1-D coefficient array `[a_J | d_J | … | d_1]` (what `coeffs_to_array` builds and `fwt`
    returns, by correspondence) has the norm of the padded input. -/
theorem wavedec_packed_isometry (h g : List R) (hL : g.length = h.length)
    (hc : Complete (ofList h) (ofList g)) (J : ℕ) (x : List R) :
    nsq (wavedec h g J x).flatten = nsq x := by
  rw [nsq_flatten, wavedec_isometry h g hL hc]

/-- One level of the executed model: `idwt(dwt(x))` returns `x`, followed by `2⌊(N+L-1)/2⌋+2-L-N` zeros
    (one zero when `N` is odd and `L` even, none when `N` is even) — this extra sample is what
    `pywt.waverec` trims at the next level. -/
theorem idwt1_dwt1 (h g x : List R) (hL : g.length = h.length) (hpos : 0 < h.length)
    (hc : Complete (ofList h) (ofList g)) :
    idwt1 h g (dwt1 h g x).1 (dwt1 h g x).2
      = x ++ List.replicate (2 * dwtLen x.length h.length + 2 - h.length - x.length) 0 := by
  have hg : SupportedOn h.length (ofList g) := by rw [← hL]; exact supportedOn_ofList g
  have hKN : x.length ≤ 2 * dwtLen x.length h.length + 2 - h.length := by
    have := idwtLen_cases x.length hpos; omega
  rw [← map_range_ofListN_ge x _ hKN]
  unfold idwt1 dwt1
  simp only [List.length_map, List.length_range]
  apply List.map_congr_left
  intro n hn
  rw [List.mem_range] at hn
  rw [syn_congr _ _ _ (fun k hk => ofListN_map_range _ _ hk) (fun k hk => ofListN_map_range _ _ hk)]
  have e1 : ∀ f : ℤ → R, ana f x.length (ofListN x)
      = ana f (2 * dwtLen x.length h.length + 2 - h.length) (ofListN x) := fun f =>
    funext fun k => (ana_extend f hKN _ (fun n hn => ofListN_of_le x hn) k).symm
  rw [e1, e1]
  exact qmf_perfect_reconstruction (supportedOn_ofList h) hg hc (by omega) (ofListN x) hn

theorem wavedec_ne_nil (h g : List R) (J : ℕ) (x : List R) : wavedec h g J x ≠ [] := by
  cases J <;> simp [wavedec]

theorem waverec_append (h g : List R) (c : List (List R)) (d : List R) (hc : c ≠ []) :
    waverec h g (c ++ [d])
      = idwt1 h g (if (waverec h g c).length = d.length + 1 then (waverec h g c).dropLast else waverec h g c) d := by
  cases c with
  | nil => exact absurd rfl hc
  | cons a ds =>
    simp only [waverec, List.cons_append, List.foldl_append, List.foldl_cons, List.foldl_nil]
    rfl

omit [CommRing R] in
/-- `pywt.waverec`'s trimming rule keeps the first `len(d)` samples of an approximation of that length or one more -/
theorem trim_eq_take (w d : List R) (hw : w.length = d.length ∨ w.length = d.length + 1) :
    (if w.length = d.length + 1 then w.dropLast else w) = w.take d.length := by
  split_ifs with h1
  · rw [List.dropLast_eq_take, h1]; rfl
  · rw [List.take_of_length_le (by omega)]

theorem dwt1_length (h g x : List R) :
    (dwt1 h g x).1.length = dwtLen x.length h.length ∧ (dwt1 h g x).2.length = dwtLen x.length h.length := by
  simp [dwt1]

/-- the coefficient lists of `wavedec` have the lengths `coeffLens` (the 1-D `coeff_slices`) -/
theorem wavedec_map_length (h g : List R) : ∀ (J : ℕ) (x : List R),
    (wavedec h g J x).map List.length = coeffLens x.length h.length J := by
  intro J
  induction J with
  | zero => intro x; rfl
  | succ J ih =>
    intro x
    show (wavedec h g J (dwt1 h g x).1 ++ [(dwt1 h g x).2]).map List.length = _
    rw [List.map_append, ih, (dwt1_length h g x).1]
    simp [coeffLens, (dwt1_length h g x).2]

/-- **Perfect reconstruction, all levels, every length** (exact form).  For a filter pair of even length
    satisfying completeness, `pywt.waverec(pywt.wavedec(x, level=J))` — with the rule that an approximation
    one sample longer than the next detail loses its last sample — returns `x` when `len(x)` is even or
    `J = 0`, and `x` followed by one zero when `len(x)` is odd; odd intermediate lengths are handled by the
    trimming rule at every level. -/
theorem waverec_wavedec (h g : List R) (hL : g.length = h.length) (hev : h.length % 2 = 0)
    (hpos : 0 < h.length) (hc : Complete (ofList h) (ofList g)) : ∀ (J : ℕ) (x : List R),
    waverec h g (wavedec h g J x) = if J = 0 ∨ x.length % 2 = 0 then x else x ++ [0] := by
  intro J
  induction J with
  | zero => intro x; simp [wavedec, waverec]
  | succ J ih =>
    intro x
    show waverec h g (wavedec h g J (dwt1 h g x).1 ++ [(dwt1 h g x).2]) = _
    rw [waverec_append _ _ _ _ (wavedec_ne_nil h g J _), ih]
    obtain ⟨h1, h2⟩ := dwt1_length h g x
    have trim : ∀ w : List R, w = (dwt1 h g x).1 ∨ w = (dwt1 h g x).1 ++ [0] →
        (if w.length = (dwt1 h g x).2.length + 1 then w.dropLast else w) = (dwt1 h g x).1 := by
      intro w hw
      have h12 : (dwt1 h g x).2.length = (dwt1 h g x).1.length := h2.trans h1.symm
      rcases hw with rfl | rfl
      · rw [trim_eq_take _ _ (Or.inl h12.symm), h12, List.take_length]
      · rw [trim_eq_take _ _ (Or.inr (by rw [List.length_append, h12]; rfl)), h12, List.take_left' rfl]
    rw [trim _ (by split_ifs; exacts [Or.inl rfl, Or.inr rfl]), idwt1_dwt1 h g x hL hpos hc,
      idwtLen_even _ hpos hev, Nat.add_sub_cancel_left]
    rcases Nat.mod_two_eq_zero_or_one x.length with h0 | h0
    · rw [h0, if_pos (Or.inr rfl), List.replicate_zero, List.append_nil]
    · rw [h0, if_neg (by omega)]; rfl

/-- **C10 perfect reconstruction, multi-level 1-D (every level count, every intermediate length).**
    On an even-length signal — sigpy always pads to even before calling PyWavelets —
    `waverec(wavedec(x, level=J)) = x` exactly. -/
theorem wavedec_perfect_reconstruction (h g : List R) (hL : g.length = h.length) (hev : h.length % 2 = 0)
    (hpos : 0 < h.length) (hc : Complete (ofList h) (ofList g)) (J : ℕ) (x : List R)
    (hx : x.length % 2 = 0) : waverec h g (wavedec h g J x) = x := by
  rw [waverec_wavedec h g hL hev hpos hc, if_pos (Or.inr hx)]

/-- … and for a signal of any length the first `len(x)` samples of the reconstruction are `x`. -/
theorem wavedec_perfect_reconstruction_take (h g : List R) (hL : g.length = h.length) (hev : h.length % 2 = 0)
    (hpos : 0 < h.length) (hc : Complete (ofList h) (ofList g)) (J : ℕ) (x : List R) :
    (waverec h g (wavedec h g J x)).take x.length = x := by
  rw [waverec_wavedec h g hL hev hpos hc]
  split_ifs <;> simp

/-- One level, arbitrary coefficient lists of the right length: `⟨dwt x, (a, d)⟩ = ⟨x, idwt (a, d)⟩`
    for ANY filters (list form of `synthesis_is_adjoint`). -/
theorem dwt1_adjoint (h g x a d : List R) (ha : a.length = dwtLen x.length h.length) (hd : d.length = a.length)
    (hpos : 0 < h.length) :
    dot (dwt1 h g x).1 a + dot (dwt1 h g x).2 d = dot x (idwt1 h g a d) := by
  have hKN : x.length ≤ 2 * a.length + 2 - h.length := by
    have := idwtLen_cases x.length hpos; omega
  have e : ∀ (f : ℤ → R) (b : List R), b.length = a.length →
      dot ((List.range (dwtLen x.length h.length)).map (ana f x.length (ofListN x))) b
        = ∑ k ∈ range a.length, ana f x.length (ofListN x) k * ofListN b k := by
    intro f b hb
    rw [dot_eq_sum _ b a.length (by rw [hb]; exact min_le_right _ _)]
    exact sum_congr rfl fun k hk => by rw [ofListN_map_range _ _ (ha ▸ mem_range.mp hk)]
  have adj := synthesis_is_adjoint (ofList h) (ofList g) x.length a.length (ofListN x) (ofListN a) (ofListN d)
  simp only [sumN_eq_sum] at adj
  change dot (List.map _ _) a + dot (List.map _ _) d = _
  rw [e _ a rfl, e _ d hd, adj, dot_eq_sum x _ x.length (min_le_left _ _)]
  exact sum_congr rfl fun n hn => by
    unfold idwt1; rw [ofListN_map_range _ _ (lt_of_lt_of_le (mem_range.mp hn) hKN)]

omit [CommRing R] in
theorem coeffLens_zero_inv {c : List (List R)} {z L : ℕ} (hs : c.map List.length = coeffLens z L 0) :
    ∃ a, c = [a] ∧ a.length = z :=
  List.map_eq_singleton_iff.mp hs

omit [CommRing R] in
theorem coeffLens_succ_inv {c : List (List R)} {z L J : ℕ} (hs : c.map List.length = coeffLens z L (J + 1)) :
    ∃ c' d, c = c' ++ [d] ∧ c'.map List.length = coeffLens (dwtLen z L) L J ∧ d.length = dwtLen z L ∧ c' ≠ [] := by
  obtain ⟨c', l₂, rfl, hs', h2⟩ := List.map_eq_append_iff.mp hs
  obtain ⟨d, rfl, hd⟩ := List.map_eq_singleton_iff.mp h2
  refine ⟨c', d, rfl, hs', hd, ?_⟩
  rintro rfl
  cases J <;> simp [coeffLens] at hs'

theorem waverecLen_cases (J z : ℕ) {L : ℕ} (hpos : 0 < L) :
    (if J = 0 then z else 2 * dwtLen z L + 2 - L) = z ∨ (if J = 0 then z else 2 * dwtLen z L + 2 - L) = z + 1 := by
  split_ifs
  exacts [Or.inl rfl, idwtLen_cases z hpos]

/-- length of `waverec` on coefficient lists of the advertised lengths: `z` for level 0, otherwise
    `2⌊(z+L-1)/2⌋+2-L` (= `z` for even `z`, `L`) -/
theorem waverec_length (h g : List R) (hpos : 0 < h.length) : ∀ (J z : ℕ) (c : List (List R)),
    c.map List.length = coeffLens z h.length J →
    (waverec h g c).length = if J = 0 then z else 2 * dwtLen z h.length + 2 - h.length := by
  intro J
  induction J with
  | zero =>
    intro z c hs
    obtain ⟨a, rfl, ha⟩ := coeffLens_zero_inv hs
    exact ha
  | succ J ih =>
    intro z c hs
    obtain ⟨c', d, rfl, hs', hd, hc'⟩ := coeffLens_succ_inv hs
    have hw : (waverec h g c').length = d.length ∨ (waverec h g c').length = d.length + 1 := by
      rw [ih _ c' hs', hd]; exact waverecLen_cases J _ hpos
    rw [waverec_append _ _ _ _ hc', trim_eq_take _ _ hw, if_neg (Nat.succ_ne_zero J)]
    simp only [idwt1, List.length_map, List.length_range, List.length_take]
    omega

/-- **C10 adjoint, multi-level 1-D (every level count, every intermediate length).**  For ANY filter pair and
    ARBITRARY coefficient lists `c` of the advertised lengths (not only those in the range of `wavedec`):
    `⟨wavedec x, c⟩ = ⟨x, waverec c⟩`, the trimming rule of `pywt.waverec` included. -/
theorem wavedec_adjoint (h g : List R) (hpos : 0 < h.length) : ∀ (J : ℕ) (x : List R) (c : List (List R)),
    c.map List.length = coeffLens x.length h.length J →
    dots (wavedec h g J x) c = dot x (waverec h g c) := by
  intro J
  induction J with
  | zero =>
    intro x c hs
    obtain ⟨a, rfl, -⟩ := coeffLens_zero_inv hs
    simp [wavedec, waverec, dots]
  | succ J ih =>
    intro x c hs
    obtain ⟨c', d, rfl, hs', hd, hc'⟩ := coeffLens_succ_inv hs
    have hl := dwt1_length h g x
    have hw : (waverec h g c').length = d.length ∨ (waverec h g c').length = d.length + 1 := by
      rw [waverec_length h g hpos J _ c' hs', hd]; exact waverecLen_cases J _ hpos
    have hcl : (wavedec h g J (dwt1 h g x).1).length = c'.length := by
      have := congrArg List.length (wavedec_map_length h g J (dwt1 h g x).1)
      rwa [hl.1, ← hs', List.length_map, List.length_map] at this
    show dots (wavedec h g J (dwt1 h g x).1 ++ [(dwt1 h g x).2]) (c' ++ [d]) = _
    rw [dots_append _ _ _ _ hcl, waverec_append _ _ _ _ hc', ih _ c' (by rw [hl.1]; exact hs'),
      trim_eq_take _ _ hw, hd, ← hl.1, ← dot_take _ (waverec h g c')]
    exact dwt1_adjoint h g x _ d (by rw [List.length_take, hl.1]; omega) (by rw [List.length_take, hl.1]; omega) hpos

theorem zshapeFwt_natCast (n : ℕ) : Gen.waveZshapeFwt (n : Int) = ((n + n % 2 : ℕ) : Int) := by
  have := zshape_spec (n : Int)
  omega

theorem zshapeShape_natCast (n : ℕ) : Gen.waveZshapeShape (n : Int) = ((n + n % 2 : ℕ) : Int) := by
  rw [zshape_sites_agree, zshapeFwt_natCast]

theorem zlen_eq (n : ℕ) : zlen n = n + n % 2 := by
  unfold zlen
  rw [zshapeFwt_natCast, Int.toNat_natCast]

/-- `fwt`'s padding on a list: `util.resize(x, [zshape])` (C09 model with the generated default shifts and the
    generated `zshape`) returns `x` for even length and `0 :: x` — the extra zero in FRONT — for odd length
    (list form of `pad_extra_zero_in_front`). -/
theorem pad_list (x : List R) :
    (C09.resize [(x.length : Int)] [Gen.waveZshapeFwt x.length] none none x.toArray).toList
      = if x.length % 2 = 0 then x else 0 :: x := by
  rw [resize1d]
  have hz := zshapeFwt_natCast x.length
  by_cases hev : x.length % 2 = 0
  · rw [hev, add_zero] at hz
    rw [if_pos hz.symm, if_pos hev]
  · have h1 : x.length % 2 = 1 := by omega
    rw [h1] at hz
    rw [if_neg (by omega), if_neg hev]
    refine map_range_eq_of_getD _ (by rw [hz]; rfl) fun k hk => ?_
    change (match padSrc (x.length : Int) (k : Int) with
      | some j => x.getD j.toNat 0
      | none => 0) = _
    rw [padSrc_eq, show (x.length : Int) % 2 = 1 by exact_mod_cast h1]
    rw [hz, Int.toNat_natCast] at hk
    cases k with
    | zero => rw [if_neg (by omega)]; rfl
    | succ k =>
      rw [if_pos (by omega)]
      exact congrArg (x.getD · 0) (by omega)

/-- `iwt`'s final `util.resize(y, [n])` on a list of the padded length: `y` itself for even `n`, `y` without
    its FIRST sample for odd `n` (list form of `crop_is_pad_adjoint` + `pad_extra_zero_in_front`). -/
theorem crop_list (y : List R) (n : ℕ) (hy : (y.length : Int) = Gen.waveZshapeShape n) :
    (C09.resize [(y.length : Int)] [(n : Int)] none none y.toArray).toList
      = if n % 2 = 0 then y else y.drop 1 := by
  rw [resize1d, hy]
  have hz := zshapeShape_natCast n
  rw [hz, Nat.cast_inj] at hy
  by_cases hev : n % 2 = 0
  · rw [hev, add_zero] at hz
    rw [if_pos hz, if_pos hev]
  · have h1 : n % 2 = 1 := by omega
    rw [h1] at hz hy
    rw [if_neg (by omega), if_neg hev]
    refine map_range_eq_of_getD _ (by rw [List.length_drop, hy]; rfl) fun j hj => ?_
    change (match cropSrc (n : Int) (j : Int) with
      | some k => y.getD k.toNat 0
      | none => 0) = _
    rw [Int.toNat_natCast] at hj
    rw [cropSrc_eq, if_pos (by omega), show (n : Int) % 2 = 1 by exact_mod_cast h1]
    simp only [List.getD_eq_getElem?_getD, List.getElem?_drop]
    exact congrArg (y[·]?.getD 0) (by omega)

theorem length_pad (x : List R) : (if x.length % 2 = 0 then x else 0 :: x).length = zlen x.length := by
  rw [zlen_eq]
  split_ifs with hev
  · rw [hev, add_zero]
  · rw [List.length_cons, show x.length % 2 = 1 by omega]

theorem fwt1_eq (h g : List R) (level : Option ℕ) (x : List R) :
    fwt1 h g level x = (wavedec h g (level.getD (maxLevel (zlen x.length) h.length))
      (if x.length % 2 = 0 then x else 0 :: x)).flatten := by
  unfold fwt1
  simp only []
  rw [pad_list]
  rfl

theorem iwt1_eq (h g : List R) (level : Option ℕ) (n : ℕ) (c y : List R)
    (hy : waverec h g (splitLens (coeffLens (zlen n) h.length (level.getD (maxLevel (zlen n) h.length))) c) = y)
    (hlen : y.length = zlen n) :
    iwt1 h g level n c = if n % 2 = 0 then y else y.drop 1 := by
  unfold iwt1
  simp only []
  rw [zshapeShape_natCast, Int.toNat_natCast, ← zlen_eq, hy]
  exact crop_list y n (by rw [hlen, zshapeShape_natCast, zlen_eq])

/-- **C10 perfect reconstruction, full 1-D pipeline.**  `iwt(fwt(x)) = x` for every length (odd included),
    every level count (`level=None` → PyWavelets' max level) and every even-length filter pair satisfying
    completeness: pad to even with the zero in front, `wavedec`, concatenate, split with the slices computed
    from the padded length, `waverec` (trimming rule), centre crop.  Both `zshape` formulas (`fwt`'s and
    `get_wavelet_shape`'s) enter: the proof breaks if they differ. -/
theorem fwt1_iwt1_id (h g : List R) (hL : g.length = h.length) (hev : h.length % 2 = 0)
    (hpos : 0 < h.length) (hc : Complete (ofList h) (ofList g)) (level : Option ℕ) (x : List R) :
    iwt1 h g level x.length (fwt1 h g level x) = x := by
  have hlen := length_pad x
  rw [fwt1_eq, iwt1_eq h g level x.length _ _ ?_ hlen]
  · split_ifs <;> rfl
  · generalize (if x.length % 2 = 0 then x else 0 :: x) = xz at hlen ⊢
    rw [← hlen, ← wavedec_map_length h g, splitLens_flatten]
    exact wavedec_perfect_reconstruction h g hL hev hpos hc _ _ (by rw [hlen, zlen_eq]; omega)

/-- **C10 isometry, full 1-D pipeline.**  `‖fwt x‖² = ‖x‖²` for every length and level. -/
theorem fwt1_isometry (h g : List R) (hL : g.length = h.length) (hc : Complete (ofList h) (ofList g))
    (level : Option ℕ) (x : List R) : nsq (fwt1 h g level x) = nsq x := by
  rw [fwt1_eq, wavedec_packed_isometry h g hL hc]
  split_ifs
  · rfl
  · simp [nsq]

/-- **C10 advertised shape, 1-D.**  `len(fwt(x))` is the packed length computed from the padded length — the
    formula `waveShape` (= `Wavelet.oshape`, by correspondence) uses on a transformed axis. -/
theorem fwt1_length (h g : List R) (level : Option ℕ) (x : List R) :
    (fwt1 h g level x).length
      = packedLen (zlen x.length) h.length (level.getD (maxLevel (zlen x.length) h.length)) := by
  rw [fwt1_eq, List.length_flatten, wavedec_map_length, length_pad]
  rfl

/-- **C10 adjoint, full 1-D pipeline.**  `⟨fwt x, c⟩ = ⟨x, iwt c⟩` for ARBITRARY coefficient arrays `c` of the
    advertised length, ANY filter pair of even length: `iwt = fwtᴴ` including crop = padᴴ, unpack = packᴴ and
    the trimming rule. -/
theorem iwt1_is_adjoint (h g : List R) (hev : h.length % 2 = 0) (hpos : 0 < h.length)
    (level : Option ℕ) (x c : List R)
    (hcl : c.length = packedLen (zlen x.length) h.length (level.getD (maxLevel (zlen x.length) h.length))) :
    dot (fwt1 h g level x) c = dot x (iwt1 h g level x.length c) := by
  have hz := zlen_eq x.length
  have hsp := splitLens_map_length _ c hcl
  have hy : (waverec h g (splitLens (coeffLens (zlen x.length) h.length
      (level.getD (maxLevel (zlen x.length) h.length))) c)).length = zlen x.length := by
    rw [waverec_length h g hpos _ _ _ hsp]
    split_ifs
    · rfl
    · rw [idwtLen_even _ hpos hev]; omega
  rw [fwt1_eq, iwt1_eq h g level x.length c _ rfl hy]
  generalize level.getD (maxLevel (zlen x.length) h.length) = J at hcl hsp ⊢
  have key : ∀ xz : List R, xz.length = zlen x.length → dot (wavedec h g J xz).flatten c
      = dot xz (waverec h g (splitLens (coeffLens (zlen x.length) h.length J) c)) := by
    intro xz hxz
    rw [← hxz] at hsp hcl ⊢
    rw [← wavedec_adjoint h g hpos J xz _ hsp, ← dot_flatten _ _ (by rw [wavedec_map_length, hsp]),
      flatten_splitLens _ c hcl]
  rw [key _ (length_pad x)]
  split_ifs
  · rfl
  · exact dot_zero_cons x _

theorem level1Map_sum (h g : ℤ → R) (L N : ℕ) (x : ℕ → R) (φ : ℕ → R → R) :
    ∑ k ∈ range ((level1Map h g L).len N), φ k ((level1Map h g L).fwd N x k)
      = ∑ k ∈ range (dwtLen N L), φ k (ana h N x k)
        + ∑ k ∈ range (dwtLen N L), φ (dwtLen N L + k) (ana g N x k) := by
  simp only [level1Map]
  rw [two_mul, sum_range_add]
  congr 1
  · exact sum_congr rfl fun k hk => by rw [if_pos (mem_range.mp hk)]
  · exact sum_congr rfl fun k _ => by rw [if_neg (by omega), Nat.add_sub_cancel_left]

theorem level1Map_isIso {L : ℕ} {h g : ℤ → R} (hh : SupportedOn L h) (hg : SupportedOn L g)
    (hc : Complete h g) : (level1Map h g L).IsIso := by
  intro N x
  rw [level1Map_sum h g L N x fun _ v => v ^ 2]
  simpa only [sumN_eq_sum] using qmf_isometry_1level hh hg hc (dwtLen_window N L) x

theorem level1Map_isAdj (h g : ℤ → R) (L : ℕ) : (level1Map h g L).IsAdj := by
  intro N x c
  rw [level1Map_sum h g L N x fun k v => v * c k]
  simpa only [sumN_eq_sum, level1Map] using
    synthesis_is_adjoint h g N (dwtLen N L) x c (fun k => c (dwtLen N L + k))

theorem level1Map_isInv {L : ℕ} {h g : ℤ → R} (hh : SupportedOn L h) (hg : SupportedOn L g)
    (hc : Complete h g) : (level1Map h g L).IsInv := by
  constructor
  · intro N x n hn
    simp only [level1Map]
    rw [← qmf_perfect_reconstruction hh hg hc (M := dwtLen N L) (N := N) (dwtLen_window N L) x hn]
    apply syn_congr
    · intro k hk; rw [if_pos hk]
    · intro k _; rw [if_neg (by omega), Nat.add_sub_cancel_left]
  · intro N c c' hcc n _
    simp only [level1Map] at hcc ⊢
    apply syn_congr
    · intro k hk; exact hcc k (by omega)
    · intro k hk; exact hcc _ (by omega)

theorem padMap_sum (N : ℕ) (x : ℕ → R) (φ : ℕ → R → R) (hφ : ∀ k, φ k 0 = 0) :
    ∑ k ∈ range ((padMap : AxisMap R).len N), φ k ((padMap : AxisMap R).fwd N x k)
      = ∑ n ∈ range N, φ (n + N % 2) (x n) := by
  simp only [padMap]
  rcases Nat.mod_two_eq_zero_or_one N with h0 | h1
  · simp only [h0, add_zero, ↓reduceIte]
  · rw [h1, sum_range_succ']
    simp only [one_ne_zero, ↓reduceIte, Nat.add_eq_zero_iff, and_false, add_tsub_cancel_right, hφ, add_zero]

theorem padMap_isIso : (padMap : AxisMap R).IsIso := by
  intro N x
  rw [padMap_sum N x (fun _ v => v ^ 2) fun _ => zero_pow two_ne_zero]

theorem padMap_isAdj : (padMap : AxisMap R).IsAdj := by
  intro N x c
  rw [padMap_sum N x (fun k v => v * c k) fun _ => zero_mul _]
  rfl

theorem padMap_isInv : (padMap : AxisMap R).IsInv := by
  constructor
  · intro N x n _
    simp only [padMap]
    rcases Nat.mod_two_eq_zero_or_one N with h0 | h1
    · simp only [h0, ↓reduceIte, add_zero]
    · simp only [h1, one_ne_zero, ↓reduceIte, Nat.add_eq_zero_iff, and_false, add_tsub_cancel_right]
  · intro N c c' hcc n hn
    simp only [padMap] at *
    exact hcc _ (by omega)

/-- the steps of `sigpy.fwt(x, axes, level=1)` on an array of rank `d`: every axis is padded to even, then one
    filter-bank level runs along each axis of `axes` in turn (separable transform) -/
def fwtnSteps (h g : ℤ → R) (L d : ℕ) (axes : List ℕ) : List (ℕ × AxisMap R) :=
  (List.range d).map (fun a => (a, padMap)) ++ axes.map (fun a => (a, level1Map h g L))

/-- `sigpy.fwt(X, axes, level=1)` / `sigpy.iwt(C, …, level=1)` as compositions of per-axis maps, and the
    coefficient shape -/
def fwtnLevel1 (h g : ℤ → R) (L : ℕ) (axes shape : List ℕ) (X : List ℕ → R) : List ℕ → R :=
  applyAxes (fwtnSteps h g L shape.length axes) shape X
def iwtnLevel1 (h g : ℤ → R) (L : ℕ) (axes shape : List ℕ) (C : List ℕ → R) : List ℕ → R :=
  unapplyAxes (fwtnSteps h g L shape.length axes) shape C
def fwtnShape (h g : ℤ → R) (L : ℕ) (axes shape : List ℕ) : List ℕ :=
  shapeAxes (fwtnSteps h g L shape.length axes) shape

theorem fwtnSteps_ok (h g : ℤ → R) (L : ℕ) (axes shape : List ℕ) (hax : ∀ a ∈ axes, a < shape.length)
    (P : AxisMap R → Prop) (hp : P padMap) (hl : P (level1Map h g L)) :
    ∀ s ∈ fwtnSteps h g L shape.length axes, s.1 < shape.length ∧ P s.2 :=
  List.forall_mem_append.mpr
    ⟨map_steps_ok padMap _ _ (fun _ ha => List.mem_range.mp ha) P hp, map_steps_ok _ axes _ hax P hl⟩

/-- **C10 isometry, N-d, level 1, arbitrary list of axes.**  `‖fwt X‖² = ‖X‖²` summed over the boxes. -/
theorem fwtn_level1_isometry {L : ℕ} {h g : ℤ → R} (hh : SupportedOn L h) (hg : SupportedOn L g)
    (hc : Complete h g) (axes shape : List ℕ) (hax : ∀ a ∈ axes, a < shape.length) (X : List ℕ → R) :
    boxSum (fwtnShape h g L axes shape) (fun idx => fwtnLevel1 h g L axes shape X idx ^ 2)
      = boxSum shape (fun idx => X idx ^ 2) :=
  applyAxes_isometry _ shape X
    (fwtnSteps_ok h g L axes shape hax AxisMap.IsIso padMap_isIso (level1Map_isIso hh hg hc))

/-- **C10 adjoint, N-d, level 1, arbitrary list of axes, ANY filters, ARBITRARY coefficient arrays.** -/
theorem fwtn_level1_adjoint (h g : ℤ → R) (L : ℕ) (axes shape : List ℕ) (hax : ∀ a ∈ axes, a < shape.length)
    (X C : List ℕ → R) :
    boxSum (fwtnShape h g L axes shape) (fun idx => fwtnLevel1 h g L axes shape X idx * C idx)
      = boxSum shape (fun idx => X idx * iwtnLevel1 h g L axes shape C idx) :=
  applyAxes_adjoint _ shape X C
    (fwtnSteps_ok h g L axes shape hax AxisMap.IsAdj padMap_isAdj (level1Map_isAdj h g L))

/-- **C10 perfect reconstruction, N-d, level 1, arbitrary list of axes**: at every multi-index of the box. -/
theorem fwtn_level1_pr {L : ℕ} {h g : ℤ → R} (hh : SupportedOn L h) (hg : SupportedOn L g)
    (hc : Complete h g) (axes shape : List ℕ) (hax : ∀ a ∈ axes, a < shape.length) (X : List ℕ → R)
    (idx : List ℕ) (hidx : InBox shape idx) :
    iwtnLevel1 h g L axes shape (fwtnLevel1 h g L axes shape X) idx = X idx :=
  applyAxes_left_inverse _ shape X idx
    (fwtnSteps_ok h g L axes shape hax AxisMap.IsInv padMap_isInv (level1Map_isInv hh hg hc)) hidx

/-- the coefficient shape: transformed axes get `2⌊(z+L-1)/2⌋` with `z` the padded length, the others `z` -/
example (h g : ℤ → R) : fwtnShape h g 4 [1] [5, 7] = [6, 10] ∧ fwtnShape h g 2 [0, 1] [3, 4] = [4, 4] :=
  ⟨by with_unfolding_all rfl, by with_unfolding_all rfl⟩

/-- the list transform at level 1 on an even-length axis IS the per-axis map `level1Map` used in the N-d
    theorems (ties `fwtn_level1_*` to the executed `fwt1`, which the `separable` stream composes per axis) -/
theorem fwt1_level1_eq (h g x : List R) (hx : x.length % 2 = 0) :
    fwt1 h g (some 1) x = (List.range ((level1Map (ofList h) (ofList g) h.length).len x.length)).map
      ((level1Map (ofList h) (ofList g) h.length).fwd x.length (ofListN x)) := by
  unfold fwt1
  simp only [Option.getD_some]
  rw [pad_list, if_pos hx]
  simp only [wavedec, dwt1, level1Map, List.flatten_append, List.flatten_cons, List.flatten_nil, List.append_nil]
  rw [two_mul, List.range_add, List.map_append, List.map_map]
  congr 1
  · apply List.map_congr_left; intro k hk
    rw [if_pos (List.mem_range.mp hk)]
  · apply List.map_congr_left; intro k _
    simp only [Function.comp]
    rw [if_neg (by omega), Nat.add_sub_cancel_left]

/-- orthonormality of the even shifts of the low-pass filter alone: `Σ_n h[n]·h[n+2m] = δ_m` -/
def OrthonormalLo (h : ℤ → R) : Prop := ∀ m : ℤ, (∑ᶠ n : ℤ, h n * h (n + 2 * m)) = if m = 0 then 1 else 0

/-- list form: for a low-pass filter of even length with orthonormal even shifts, the pair
    `(dec_lo, alternating flip of dec_lo)` — which is what every orthogonal PyWavelets wavelet is, exactly
    (correspondence stream `filters`, `s = -1`) — is complete. -/
theorem complete_of_orthonormal_lo (h : List R) (hev : h.length % 2 = 0) (ho : OrthonormalLo (ofList h))
    (s : R) (hs : s * s = 1) : Complete (ofList h) (ofList (altFlipL s h)) := by
  rw [ofList_altFlipL]
  exact complete_of_qmf_pair (supportedOn_ofList h) hev ho s hs

/-- **C10, full 1-D pipeline, from the orthonormality of `dec_lo` alone**: perfect reconstruction, isometry
    (and `iwt1_is_adjoint`, which needs no filter hypothesis) for `dec_hi` = alternating flip of `dec_lo`. -/
theorem fwt1_iwt1_id_qmf (h : List R) (hev : h.length % 2 = 0) (hpos : 0 < h.length)
    (ho : OrthonormalLo (ofList h)) (s : R) (hs : s * s = 1) (level : Option ℕ) (x : List R) :
    iwt1 h (altFlipL s h) level x.length (fwt1 h (altFlipL s h) level x) = x :=
  fwt1_iwt1_id h _ (altFlipL_length s h) hev hpos (complete_of_orthonormal_lo h hev ho s hs) level x

theorem fwt1_isometry_qmf (h : List R) (hev : h.length % 2 = 0)
    (ho : OrthonormalLo (ofList h)) (s : R) (hs : s * s = 1) (level : Option ℕ) (x : List R) :
    nsq (fwt1 h (altFlipL s h) level x) = nsq x :=
  fwt1_isometry h _ (altFlipL_length s h) (complete_of_orthonormal_lo h hev ho s hs) level x

/-- non-vacuity: the Haar high-pass filter is the alternating flip (`s = -1`) of the Haar low-pass filter, and
    `complete_of_qmf_pair` gives its completeness from the orthonormality of the low-pass filter alone -/
example (s : R) (hs : 2 * (s * s) = 1) : Complete (haarLo s) (altFlip (-1) 2 (haarLo s)) :=
  complete_of_qmf_pair (haar_supported s).1 (by norm_num) (haar_orthonormal s hs).1 (-1) (by ring)

example (s : R) : altFlip (-1) 2 (haarLo s) = haarHi s := altFlip_haarLo s

theorem ext_two_taps {f u : ℤ → R} (hf : SupportedOn 2 f) (hu : SupportedOn 2 u) (h0 : f 0 = u 0)
    (h1 : f 1 = u 1) : f = u := by
  funext j
  by_cases hj : j < 0 ∨ ((2 : ℕ) : ℤ) ≤ j
  · rw [hf j hj, hu j hj]
  · obtain rfl | rfl : j = 0 ∨ j = 1 := by omega
    · exact h0
    · exact h1

theorem ofList_haar (s : R) : ofList [s, s] = haarLo s ∧ ofList [-s, s] = haarHi s := by
  obtain ⟨hl, hh⟩ := haar_supported s
  exact ⟨ext_two_taps (supportedOn_ofList [s, s]) hl rfl rfl, ext_two_taps (supportedOn_ofList [-s, s]) hh rfl rfl⟩

/-- `sp.iwt(sp.fwt(x, 'haar')) = x`, `‖fwt x‖ = ‖x‖` in the model, every length, `level=None`
    (instances of `fwt1_iwt1_id`, `fwt1_isometry`) -/
example (x : List ℝ) :
    iwt1 [√2 / 2, √2 / 2] [-(√2 / 2), √2 / 2] none x.length (fwt1 [√2 / 2, √2 / 2] [-(√2 / 2), √2 / 2] none x) = x ∧
    nsq (fwt1 [√2 / 2, √2 / 2] [-(√2 / 2), √2 / 2] none x) = nsq x := by
  have hc : Complete (ofList [√2 / 2, √2 / 2]) (ofList [-(√2 / 2), √2 / 2] : ℤ → ℝ) := by
    rw [(ofList_haar _).1, (ofList_haar _).2]; exact haar_real.2.2.1
  exact ⟨fwt1_iwt1_id [√2 / 2, √2 / 2] [-(√2 / 2), √2 / 2] (by simp) (by simp) (by simp) hc none x,
    fwt1_isometry [√2 / 2, √2 / 2] [-(√2 / 2), √2 / 2] (by simp) hc none x⟩

/-- the odd-length case of the exact multi-level statement is not vacuous: three Haar levels of a length-5 signal
    reconstruct to the signal followed by one zero -/
example (x : List ℝ) (hx : x.length = 5) :
    waverec [√2 / 2, √2 / 2] [-(√2 / 2), √2 / 2] (wavedec [√2 / 2, √2 / 2] [-(√2 / 2), √2 / 2] 3 x) = x ++ [0] := by
  have hc : Complete (ofList [√2 / 2, √2 / 2]) (ofList [-(√2 / 2), √2 / 2] : ℤ → ℝ) := by
    rw [(ofList_haar _).1, (ofList_haar _).2]; exact haar_real.2.2.1
  rw [waverec_wavedec [√2 / 2, √2 / 2] [-(√2 / 2), √2 / 2] (by simp) (by simp) (by simp) hc, if_neg (by omega)]

end SigpyVerif.C10
