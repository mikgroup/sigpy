import SigpyVerif.Model.C08
import SigpyVerif.Lemmas.C08
import SigpyVerif.Gen.ConvLinops
/-
  C08 — convolve matches the convolution definition; the adjoints are exact.
  The length formulas, the admission test of mode 'valid', the buffer lengths
  and the correlate-mode branches of the adjoints are the `Gen.*` definitions regenerated from
  sigpy/conv.py on every run; `scipy.signal.convolve / correlate` enter through their index contracts
  (`convOff`, `corrShift`, `scipyLen` in Model/C08.lean), which the correspondence check ties to scipy.
-/
namespace SigpyVerif.C08
open SigpyVerif

/-- 'full': `p = ⌈(m+n-1)/s⌉`, i.e. `k < p` exactly for the samples `0, s, 2s, … < m+n-1` that the slice
    `[::s]` of the full convolution keeps: the advertised length and the slice agree for all `m, n, s ≥ 1`. -/
theorem conv_out_len_full (m n s k : Int) (hs : 0 < s) :
    (0 ≤ k ∧ k * s < m + n - 1) ↔ (0 ≤ k ∧ k < Gen.convFullLen m n s) := by
  unfold Gen.convFullLen
  -- `convert` up to `ring1` / `omega`: an algebraically equivalent rewrite of the numerator in the source keeps the proof
  convert ceil_count (m + n - 1) s k hs using 4 <;> first | ring1 | omega

/-- the case `n ≤ m` of `conv_out_len_valid_any`, with scipy's length written `m-n+1` -/
theorem conv_out_len_valid (m n s k : Int) (hs : 0 < s) (hmn : n ≤ m) :
    (0 ≤ k ∧ k * s < m - n + 1) ↔ (0 ≤ k ∧ k < Gen.convValidLen m n s) := by
  unfold Gen.convValidLen
  convert ceil_count (m - n + 1) s k hs using 4 <;>
    first | ring1 | (simp only [intAbs]; split_ifs <;> omega) | omega

/-- 'valid' with either operand the longer one (the formula `abs(m_d - n_d) + 1`): the advertised
    length counts exactly the samples `0, s, 2s, … < |m-n|+1` of scipy's 'valid' result, for all m, n. -/
theorem conv_out_len_valid_any (m n s k : Int) (hs : 0 < s) :
    (0 ≤ k ∧ k * s < scipyLen false m n) ↔ (0 ≤ k ∧ k < Gen.convValidLen m n s) := by
  unfold Gen.convValidLen scipyLen
  simp only [Bool.false_eq_true, if_false]
  -- up to `ring` / case split of `abs` + `omega`: `abs(n_d - m_d)`, a re-associated numerator, … keep the proof
  convert ceil_count (intAbs (m - n) + 1) s k hs using 4 <;>
    first | ring1 | (simp only [intAbs]; split_ifs <;> omega) | omega

/-- both modes, either size order: the advertised length counts exactly the samples `0, s, 2s, …` of scipy's
    result kept by the stride slice -/
theorem conv_out_len_any (full : Bool) (m n s k : Int) (hs : 0 < s) :
    (0 ≤ k ∧ k * s < scipyLen full m n) ↔ (0 ≤ k ∧ k < codeLen full m n s) := by
  cases full with
  | true => exact conv_out_len_full m n s k hs
  | false => exact conv_out_len_valid_any m n s k hs

/-- `conv_out_len_any` restricted to 'full' mode and to 'valid' mode with the data at least as long as the filter
    (the proof does not use `h`) -/
theorem conv_out_len (full : Bool) (m n s k : Int) (hs : 0 < s) (h : full = true ∨ n ≤ m) :
    (0 ≤ k ∧ k * s < scipyLen full m n) ↔ (0 ≤ k ∧ k < codeLen full m n s) :=
  conv_out_len_any full m n s k hs

example : codeLen true 5 3 2 = 4 := by decide
example : codeLen false 5 3 2 = 2 := by decide
example : Gen.convValidLen 2 3 2 = 1 := by decide

/-- the size test raises exactly when some axis has `m_d ≥ n_d` and some other axis has `m_d < n_d` -/
theorem admit_iff (m n : List Int) :
    Gen.convValidRejects m n = true ↔
      (∃ x ∈ List.zip m n, x.1 ≥ x.2) ∧ (∃ x ∈ List.zip m n, x.1 < x.2) := by
  unfold Gen.convValidRejects
  simp only [ge_iff_le, Bool.and_eq_true, List.any_eq_true, decide_eq_true_eq, Prod.exists]

/-- … i.e. a combination is admitted exactly when the data is at least as long as the filter on every
    axis, or strictly shorter on every axis. -/
theorem admit_cases (m n : List Int) :
    Gen.convValidRejects m n = false ↔
      (∀ x ∈ List.zip m n, x.1 ≥ x.2) ∨ (∀ x ∈ List.zip m n, x.1 < x.2) := by
  rw [← Bool.not_eq_true, admit_iff, not_and_or, or_comm]
  push Not
  exact Iff.rfl

example : Gen.convValidRejects [2, 3] [3, 3] = true := by decide
example : Gen.convValidRejects [2, 2] [3, 3] = false := by decide

set_option linter.unusedSimpArgs false in
/-- both adjoints allocate the zero-stuffed buffer with scipy's un-strided output length -/
theorem adj_buf_len (full : Bool) (m n : Int) :
    (if full then Gen.dataAdjBufLenFull m n else Gen.dataAdjBufLenValid m n) = scipyLen full m n ∧
    (if full then Gen.filtAdjBufLenFull m n else Gen.filtAdjBufLenValid m n) = scipyLen full m n := by
  -- proved up to linear arithmetic over the case splits of `max` / `min` / `abs`: any spelling of the two
  -- generated formulas that is equal to scipy's length as an integer function keeps the proof
  -- (`max(m, n) - min(m, n) + 1`, `abs(m - n) + 1`, `abs(n - m) + 1`, `n + m - 1`, `m - 1 + n`, …)
  constructor <;> cases full <;>
    simp only [Bool.false_eq_true, ↓reduceIte, Gen.dataAdjBufLenValid, Gen.filtAdjBufLenValid, Gen.dataAdjBufLenFull,
      Gen.filtAdjBufLenFull, scipyLen, intAbs, pyMax, pyMin] <;>
    omega

theorem scipyLen_valid_of_le {a b : Int} (h : b ≤ a) : scipyLen false a b = a - b + 1 := by
  unfold scipyLen intAbs
  simp only [Bool.false_eq_true, if_false]
  omega

theorem scipyLen_pos (full : Bool) {a b : Int} (ha : 1 ≤ a) (hb : 1 ≤ b) : 1 ≤ scipyLen full a b := by
  unfold scipyLen intAbs
  cases full <;> simp only [Bool.false_eq_true, if_false, if_true] <;> omega

theorem codeLen_pos (full : Bool) {a b c : Int} (ha : 1 ≤ a) (hb : 1 ≤ b) (hc : 0 < c) : 0 < codeLen full a b c :=
  ((conv_out_len_any full a b c 0 hc).mp ⟨le_rfl, by rw [zero_mul]; exact scipyLen_pos full ha hb⟩).2

theorem scipyLen_comm (full : Bool) (a b : Int) : scipyLen full a b = scipyLen full b a := by
  unfold scipyLen intAbs
  cases full <;> simp only [Bool.false_eq_true, if_false, if_true] <;> omega

theorem convOff_comm (full : Bool) (a b : Int) : convOff full a b = convOff full b a := by
  unfold convOff pyMin
  cases full
  · simp only [Bool.false_eq_true, if_false]
    omega
  · rfl

/-- scipy's contracts alone: on a buffer of convolve's un-strided output length and a second operand of length `b`,
    correlate reads at convolve's offset and returns `a` samples, if its mode `cf` is 'full' only after a 'valid'
    convolution with `b ≤ a`, and 'valid' only after a 'full' one or with `a ≤ b` -/
theorem corr_mode_ok (full cf : Bool) (a b : Int) (ha : 1 ≤ a)
    (h1 : cf = true → full = false ∧ b ≤ a) (h2 : cf = false → full = true ∨ a ≤ b) :
    corrShift cf (scipyLen full a b) b = convOff full a b ∧ scipyLen cf (scipyLen full a b) b = a := by
  have hfull : ∀ x y : Int, scipyLen true x y = x + y - 1 := fun _ _ => rfl
  cases full
  · cases cf
    · have h : a ≤ b := (h2 rfl).resolve_left Bool.false_ne_true
      rw [scipyLen_comm false a b, scipyLen_valid_of_le h, scipyLen_comm,
        scipyLen_valid_of_le (by omega : b - a + 1 ≤ b)]
      refine ⟨?_, by ring⟩
      unfold corrShift convOff pyMin
      simp only [Bool.false_eq_true, if_false, if_pos h]
      omega
    · have h : b ≤ a := (h1 rfl).2
      rw [scipyLen_valid_of_le h, hfull]
      refine ⟨?_, by ring⟩
      unfold corrShift convOff pyMin
      simp only [Bool.false_eq_true, if_false, if_true]
      omega
  · cases cf
    · rw [hfull, scipyLen_valid_of_le (by omega : b ≤ a + b - 1)]
      refine ⟨?_, by ring⟩
      unfold corrShift convOff
      simp only [Bool.false_eq_true, if_false, if_true]
      omega
    · exact nomatch (h1 rfl).1

theorem all_ge_of_admitted {m n : List Int} (hadm : Gen.convValidRejects m n = false) {a b : Int}
    (hab : (a, b) ∈ List.zip m n) :
    ((List.zip m n).all fun ((m_d, n_d) : Int × Int) => decide (m_d ≥ n_d)) = decide (b ≤ a) := by
  rcases (admit_cases m n).mp hadm with h | h
  · rw [decide_eq_true (h _ hab), List.all_eq_true]
    exact fun x hx => decide_eq_true (h x hx)
  · rw [decide_eq_false (not_le.mpr (h _ hab)), ← Bool.not_eq_true, List.all_eq_true]
    exact fun hc => absurd (of_decide_eq_true (hc _ hab)) (not_le.mpr (h _ hab))

/-- the correlate mode `_convolve_data_adjoint` chooses on an admitted size combination: 'full' only after a 'valid'
    convolution with the filter no longer than the data, 'valid' only after a 'full' one or with the data no longer -/
theorem data_adj_mode (full : Bool) (m n : List Int) (hadm : full = true ∨ Gen.convValidRejects m n = false)
    (a b : Int) (hab : (a, b) ∈ List.zip m n) :
    (Gen.dataAdjCorrFull full m n = true → full = false ∧ b ≤ a) ∧
    (Gen.dataAdjCorrFull full m n = false → full = true ∨ a ≤ b) := by
  constructor <;> unfold Gen.dataAdjCorrFull <;> cases full
  · simp [all_ge_of_admitted (hadm.resolve_left Bool.false_ne_true) hab]
  · simp
  · simp [all_ge_of_admitted (hadm.resolve_left Bool.false_ne_true) hab]; omega
  · simp

/-- the same for `_convolve_filter_adjoint`, whose frozen operand is the data: the two lengths exchange roles -/
theorem filt_adj_mode (full : Bool) (m n : List Int) (hadm : full = true ∨ Gen.convValidRejects m n = false)
    (a b : Int) (hab : (a, b) ∈ List.zip m n) :
    (Gen.filtAdjCorrFull full m n = true → full = false ∧ a ≤ b) ∧
    (Gen.filtAdjCorrFull full m n = false → full = true ∨ b ≤ a) := by
  constructor <;> unfold Gen.filtAdjCorrFull <;> cases full
  · simp [all_ge_of_admitted (hadm.resolve_left Bool.false_ne_true) hab]; omega
  · simp
  · simp [all_ge_of_admitted (hadm.resolve_left Bool.false_ne_true) hab]
  · simp

theorem data_adj_corr (full : Bool) (m n : List Int) (hadm : full = true ∨ Gen.convValidRejects m n = false)
    (a b : Int) (hab : (a, b) ∈ List.zip m n) (ha : 1 ≤ a) :
    corrShift (Gen.dataAdjCorrFull full m n) (scipyLen full a b) b = convOff full a b ∧
    scipyLen (Gen.dataAdjCorrFull full m n) (scipyLen full a b) b = a :=
  corr_mode_ok full _ a b ha (data_adj_mode full m n hadm a b hab).1 (data_adj_mode full m n hadm a b hab).2

theorem filt_adj_corr (full : Bool) (m n : List Int) (hadm : full = true ∨ Gen.convValidRejects m n = false)
    (a b : Int) (hab : (a, b) ∈ List.zip m n) (hb : 1 ≤ b) :
    corrShift (Gen.filtAdjCorrFull full m n) (scipyLen full a b) a = convOff full a b ∧
    scipyLen (Gen.filtAdjCorrFull full m n) (scipyLen full a b) a = b := by
  rw [scipyLen_comm full a b, convOff_comm full a b]
  exact corr_mode_ok full _ b a hb (filt_adj_mode full m n hadm a b hab).1 (filt_adj_mode full m n hadm a b hab).2

/-- N-D: the correlate mode is chosen once for all axes (`all(m_d ≥ n_d …)`); for every admitted shape
    combination it yields, on *each* axis, the offset of the forward convolution and the requested length.
    (This is where `all` vs `any`, `≥` vs `>` in the branch condition matter: equal and longer axes mixed.) -/
theorem data_adj_shift_nd (full : Bool) (m n : List Int) (hadm : full = true ∨ Gen.convValidRejects m n = false)
    (a b : Int) (hab : (a, b) ∈ List.zip m n) (ha : 1 ≤ a) (hb : 1 ≤ b) :
    corrShift (Gen.dataAdjCorrFull full m n) (scipyLen full a b) b = convOff full a b ∧
    scipyLen (Gen.dataAdjCorrFull full m n) (scipyLen full a b) b = a :=
  data_adj_corr full m n hadm a b hab ha

/-- the same for `_convolve_filter_adjoint` (second operand = data, requested length = filter length) -/
theorem filt_adj_shift_nd (full : Bool) (m n : List Int) (hadm : full = true ∨ Gen.convValidRejects m n = false)
    (a b : Int) (hab : (a, b) ∈ List.zip m n) (ha : 1 ≤ a) (hb : 1 ≤ b) :
    corrShift (Gen.filtAdjCorrFull full m n) (scipyLen full a b) a = convOff full a b ∧
    scipyLen (Gen.filtAdjCorrFull full m n) (scipyLen full a b) a = b :=
  filt_adj_corr full m n hadm a b hab hb

theorem admit_single (m n : Int) : Gen.convValidRejects [m] [n] = false := by
  rw [admit_cases]
  simpa using le_or_gt n m

/-- With the correlate mode chosen by `_convolve_data_adjoint`'s branches, scipy's correlate reads the
    buffer at `i + j - off` with the *same* offset `off` the forward convolution uses — for both modes and
    both size orders (`m ≥ n` and `m < n`).  A swapped branch breaks this. -/
theorem data_adj_shift (full : Bool) (m n : Int) (hm : 1 ≤ m) (_hn : 1 ≤ n) :
    corrShift (Gen.dataAdjCorrFull full [m] [n]) (scipyLen full m n) n = convOff full m n :=
  (data_adj_corr full [m] [n] (Or.inr (admit_single m n)) m n (by simp) hm).1

/-- the same for `_convolve_filter_adjoint` (second operand of correlate = the data, length `m`) -/
theorem filt_adj_shift (full : Bool) (m n : Int) (_hm : 1 ≤ m) (hn : 1 ≤ n) :
    corrShift (Gen.filtAdjCorrFull full [m] [n]) (scipyLen full m n) m = convOff full m n :=
  (filt_adj_corr full [m] [n] (Or.inr (admit_single m n)) m n (by simp) hn).1

/-- the array added into `data[k, i]` has the requested length `m` -/
theorem data_adj_len (full : Bool) (m n : Int) (hm : 1 ≤ m) : dataAdj1Len full m n = m := by
  unfold dataAdj1Len
  rw [(adj_buf_len full m n).1]
  exact (data_adj_corr full [m] [n] (Or.inr (admit_single m n)) m n (by simp) hm).2

/-- the array added into `filt[j, i]` has the requested length `n` -/
theorem filt_adj_len (full : Bool) (m n : Int) (hn : 1 ≤ n) : filtAdj1Len full m n = n := by
  unfold filtAdj1Len
  rw [(adj_buf_len full m n).2]
  exact (filt_adj_corr full [m] [n] (Or.inr (admit_single m n)) m n (by simp) hn).2

section ring
variable {α : Type} [CommRing α]

/-- entry `(k, i)` of the forward map `d ↦ convolve(d, f)[::s]` -/
def entD (full : Bool) (m n s : Int) (f : Int → α) (k i : Int) : α :=
  ∑ j ∈ Finset.range n.toNat, if i + (j : Int) = k * s + convOff full m n then f j else 0

/-- entry `(k, j)` of the forward map `f ↦ convolve(d, f)[::s]` -/
def entF (full : Bool) (m n s : Int) (d : Int → α) (k j : Int) : α :=
  ∑ i ∈ Finset.range m.toNat, if (i : Int) + j = k * s + convOff full m n then d i else 0

theorem stuff_eq_sum (L s : Int) (p : Nat) (y : Int → α) (hs : 0 < s)
    (hp : ∀ k : Int, (0 ≤ k ∧ k * s < L) ↔ (0 ≤ k ∧ k < (p : Int))) (t : Int) :
    stuff L s y t = ∑ k ∈ Finset.range p, if t = (k : Int) * s then y (k : Int) else 0 :=
  stuff_eq_sum' L s p y hs hp t

/-- the forward model is linear in the data with entries `entD`, and linear in the filter with entries `entF` -/
theorem conv1_entries (full : Bool) (m n s : Int) (d f : Int → α) (k : Int) :
    conv1At full m n s d f k = ∑ i ∈ Finset.range m.toNat, entD full m n s f k i * d i ∧
    conv1At full m n s d f k = ∑ j ∈ Finset.range n.toNat, entF full m n s d k j * f j := by
  unfold conv1At entD entF
  simp only [sumTo_eq_sum, Finset.sum_mul, ite_mul, zero_mul]
  constructor
  · simp only [mul_comm (f _)]
  · exact Finset.sum_comm

variable [StarRing α]

/-- `_convolve_data_adjoint` as the code computes it (zero-stuffed buffer, correlate in the mode chosen by
    the branches) has exactly the transposed, conjugated entries of the forward map — both modes, both size
    orders, every stride; `p` = number of samples `0, s, 2s, …` below scipy's output length. -/
theorem data_adj_entries (full : Bool) (m n s : Int) (p : Nat) (y f : Int → α) (i : Int)
    (hm : 1 ≤ m) (hn : 1 ≤ n) (hs : 0 < s)
    (hp : ∀ k : Int, (0 ≤ k ∧ k * s < scipyLen full m n) ↔ (0 ≤ k ∧ k < (p : Int))) :
    dataAdj1At star full m n s y f i = ∑ k ∈ Finset.range p, star (entD full m n s f k i) * y k := by
  simp only [dataAdj1At, (adj_buf_len full m n).1]
  exact corrAt_stuff _ _ _ s p y f i _ hs hp (data_adj_shift full m n hm hn) _ fun _ _ => Iff.rfl

/-- the same for `_convolve_filter_adjoint` -/
theorem filt_adj_entries (full : Bool) (m n s : Int) (p : Nat) (y d : Int → α) (j : Int)
    (hm : 1 ≤ m) (hn : 1 ≤ n) (hs : 0 < s)
    (hp : ∀ k : Int, (0 ≤ k ∧ k * s < scipyLen full m n) ↔ (0 ≤ k ∧ k < (p : Int))) :
    filtAdj1At star full m n s y d j = ∑ k ∈ Finset.range p, star (entF full m n s d k j) * y k := by
  simp only [filtAdj1At, (adj_buf_len full m n).2]
  exact corrAt_stuff _ _ _ s p y d j _ hs hp (filt_adj_shift full m n hm hn) _ fun _ _ => by rw [add_comm]

/-- **data adjoint**: `⟨convolve(d, f)[::s], y⟩ = ⟨d, convolve_data_adjoint(y, f)⟩` with `⟨a, b⟩ = Σ a·conj b`,
    for every `d, f, y`, both modes, both size orders, every stride `s ≥ 1`. -/
theorem data_adjoint (full : Bool) (m n s : Int) (p : Nat) (d f y : Int → α)
    (hm : 1 ≤ m) (hn : 1 ≤ n) (hs : 0 < s)
    (hp : ∀ k : Int, (0 ≤ k ∧ k * s < scipyLen full m n) ↔ (0 ≤ k ∧ k < (p : Int))) :
    ∑ k ∈ Finset.range p, conv1At full m n s d f k * star (y k) =
      ∑ i ∈ Finset.range m.toNat, d i * star (dataAdj1At star full m n s y f i) := by
  simp only [(conv1_entries full m n s d f _).1, data_adj_entries full m n s p y f _ hm hn hs hp]
  exact sum_entries_adjoint _ _ _ _ _

/-- **filter adjoint**: `⟨convolve(d, f)[::s], y⟩ = ⟨f, convolve_filter_adjoint(y, d)⟩`. -/
theorem filter_adjoint (full : Bool) (m n s : Int) (p : Nat) (d f y : Int → α)
    (hm : 1 ≤ m) (hn : 1 ≤ n) (hs : 0 < s)
    (hp : ∀ k : Int, (0 ≤ k ∧ k * s < scipyLen full m n) ↔ (0 ≤ k ∧ k < (p : Int))) :
    ∑ k ∈ Finset.range p, conv1At full m n s d f k * star (y k) =
      ∑ j ∈ Finset.range n.toNat, f j * star (filtAdj1At star full m n s y d j) := by
  simp only [(conv1_entries full m n s d f _).2, filt_adj_entries full m n s p y d _ hm hn hs hp]
  exact sum_entries_adjoint _ _ _ _ _

/-- the hypothesis on `p` is met by the length the code advertises (full mode; valid mode with `m ≥ n`) -/
theorem code_len_counts (full : Bool) (m n s : Int) (hs : 0 < s) (h : full = true ∨ n ≤ m) :
    ∀ k : Int, (0 ≤ k ∧ k * s < scipyLen full m n) ↔ (0 ≤ k ∧ k < ((codeLen full m n s).toNat : Int)) := by
  intro k
  rw [conv_out_len full m n s k hs h]
  exact and_congr_right fun h0 => by omega

/-- data adjoint identity with the output length the code itself advertises -/
theorem data_adjoint_code_len (full : Bool) (m n s : Int) (d f y : Int → α)
    (hm : 1 ≤ m) (hn : 1 ≤ n) (hs : 0 < s) (h : full = true ∨ n ≤ m) :
    ∑ k ∈ Finset.range (codeLen full m n s).toNat, conv1At full m n s d f k * star (y k) =
      ∑ i ∈ Finset.range m.toNat, d i * star (dataAdj1At star full m n s y f i) :=
  data_adjoint full m n s _ d f y hm hn hs (code_len_counts full m n s hs h)

/-- filter adjoint identity with the output length the code itself advertises -/
theorem filter_adjoint_code_len (full : Bool) (m n s : Int) (d f y : Int → α)
    (hm : 1 ≤ m) (hn : 1 ≤ n) (hs : 0 < s) (h : full = true ∨ n ≤ m) :
    ∑ k ∈ Finset.range (codeLen full m n s).toNat, conv1At full m n s d f k * star (y k) =
      ∑ j ∈ Finset.range n.toNat, f j * star (filtAdj1At star full m n s y d j) :=
  filter_adjoint full m n s _ d f y hm hn hs (code_len_counts full m n s hs h)

/-- Everything about the three loop nests that is not an index pair, as extracted from the source, is what the
    model assumes: the accumulated array is `output` / `data` / `filt`, zero-initialised (`np.zeros`) and updated
    with `+=`; `_convolve` calls `signal.convolve(data[..], filt[..], mode=mode)` and applies `[slc]` to the
    result; the adjoints call `signal.correlate(output_kj, <frozen operand>[..], mode=adjoint_mode)` without a
    slice, the buffer is zero-initialised in both mode branches and is written only by `output_kj[slc] = output[..]`,
    placed inside the loops that bind its index variables and before the use; the arrays are normalised to
    `(B, c_i) + m`, `(c_o, c_i) + n`, `(B, c_o) + p`. -/
theorem wiring_flags : convWiringOk = true ∧ adjWiringOk true = true ∧ adjWiringOk false = true := by
  decide

/-- the three loops of each nest range over `range(B)`, `range(c_o)`, `range(c_i)` (in any order), and the
    accumulate statement is inside all three -/
theorem wiring_loops :
    (Gen.convLoops.Perm [.B, .co, .ci] ∧ Gen.convAccScope.Perm [.B, .co, .ci]) ∧
    (Gen.dataAdjLoops.Perm [.B, .co, .ci] ∧ Gen.dataAdjAccScope.Perm [.B, .co, .ci]) ∧
    (Gen.filtAdjLoops.Perm [.B, .co, .ci] ∧ Gen.filtAdjAccScope.Perm [.B, .co, .ci]) := by
  decide

/-- **`_convolve`'s loops**: for any per-term operation `K` (the strided convolution), after the nest
    `output[b, o] = Σ_{c < c_i} K(data[b, c], filt[o, c])` — stated about the extracted index pairs
    (`output[k, j] +=`, `data[k, i]`, `filt[j, i]`). -/
theorem conv_wiring {β γ δ : Type} [AddCommMonoid δ] (B co ci b o : Nat) (hb : b < B) (ho : o < co)
    (d : Int → Int → β) (f : Int → Int → γ) (K : β → γ → δ) :
    loopSum B co ci Gen.convAccIdx b o
        (fun b' o' c' => K (at2 d Gen.convLhsIdx b' o' c') (at2 f Gen.convRhsIdx b' o' c')) =
      ∑ c ∈ Finset.range ci, K (d b c) (f o c) := by
  simp only [at2, Gen.convAccIdx, Gen.convLhsIdx, Gen.convRhsIdx, pick]
  exact loopSum_B_co B co ci b o hb ho _

/-- **`_convolve_data_adjoint`'s loops**: `data[b, c] = Σ_{o < c_o} K(stuffed output[b, o], filt[o, c])`
    (`data[k, i] +=`, `output_kj[slc] = output[k, j]`, `filt[j, i]`): the sum is over the output channels. -/
theorem data_adj_wiring {β γ δ : Type} [AddCommMonoid δ] (B co ci b c : Nat) (hb : b < B) (hc : c < ci)
    (y : Int → Int → β) (f : Int → Int → γ) (K : β → γ → δ) :
    loopSum B co ci Gen.dataAdjAccIdx b c
        (fun b' o' c' => K (at2 y Gen.dataAdjBufSrcIdx b' o' c') (at2 f Gen.dataAdjRhsIdx b' o' c')) =
      ∑ o ∈ Finset.range co, K (y b o) (f o c) := by
  simp only [at2, Gen.dataAdjAccIdx, Gen.dataAdjBufSrcIdx, Gen.dataAdjRhsIdx, pick]
  exact loopSum_B_ci B co ci b c hb hc _

/-- **`_convolve_filter_adjoint`'s loops**: `filt[o, c] = Σ_{b < B} K(stuffed output[b, o], data[b, c])`
    (`filt[j, i] +=`, `output_kj[slc] = output[k, j]`, `data[k, i]`): the sum is over the batch. -/
theorem filt_adj_wiring {β γ δ : Type} [AddCommMonoid δ] (B co ci o c : Nat) (ho : o < co) (hc : c < ci)
    (y : Int → Int → β) (d : Int → Int → γ) (K : β → γ → δ) :
    loopSum B co ci Gen.filtAdjAccIdx o c
        (fun b' o' c' => K (at2 y Gen.filtAdjBufSrcIdx b' o' c') (at2 d Gen.filtAdjRhsIdx b' o' c')) =
      ∑ b ∈ Finset.range B, K (y b o) (d b c) := by
  simp only [at2, Gen.filtAdjAccIdx, Gen.filtAdjBufSrcIdx, Gen.filtAdjRhsIdx, pick]
  exact loopSum_co_ci B co ci o c ho hc _

/-- If `adj` is the adjoint of the single-channel map `conv`, then `_convolve_data_adjoint`'s loop nest around `adj`
    is the adjoint of `_convolve`'s loop nest around `conv` (`rx`, `ry` read an array at an index of the sums). -/
theorem data_adjoint_loops {X V Y κ ι : Type} (K : Finset κ) (I : Finset ι)
    (conv : X → V → κ → α) (adj : Y → V → ι → α) (rx : X → ι → α) (ry : Y → κ → α)
    (hsc : ∀ x v y, ∑ k ∈ K, conv x v k * star (ry y k) = ∑ i ∈ I, rx x i * star (adj y v i))
    (B co ci : Nat) (d : Int → Int → X) (f : Int → Int → V) (y : Int → Int → Y) :
    ∑ b ∈ Finset.range B, ∑ o ∈ Finset.range co, ∑ k ∈ K,
        loopSum B co ci Gen.convAccIdx b o (fun b' o' c' =>
          conv (at2 d Gen.convLhsIdx b' o' c') (at2 f Gen.convRhsIdx b' o' c') k) * star (ry (y b o) k) =
      ∑ b ∈ Finset.range B, ∑ c ∈ Finset.range ci, ∑ i ∈ I,
        rx (d b c) i * star (loopSum B co ci Gen.dataAdjAccIdx b c fun b' o' c' =>
          adj (at2 y Gen.dataAdjBufSrcIdx b' o' c') (at2 f Gen.dataAdjRhsIdx b' o' c') i) := by
  refine (Finset.sum_congr rfl fun b hb => Finset.sum_congr rfl fun o ho => Finset.sum_congr rfl fun k _ => by
    rw [conv_wiring B co ci b o (Finset.mem_range.mp hb) (Finset.mem_range.mp ho) d f (fun x v => conv x v k)]).trans ?_
  refine .trans ?_ (Finset.sum_congr rfl fun b hb => Finset.sum_congr rfl fun c hc => Finset.sum_congr rfl fun i _ => by
    rw [data_adj_wiring B co ci b c (Finset.mem_range.mp hb) (Finset.mem_range.mp hc) y f (fun x v => adj x v i)]).symm
  rw [sum_mc _ _ _ K _ _ _ fun b o c => hsc (d b c) (f o c) (y b o)]
  simp only [star_sum, Finset.mul_sum]
  refine Finset.sum_congr rfl fun b _ => ?_
  rw [Finset.sum_comm]
  exact Finset.sum_congr rfl fun c _ => Finset.sum_comm

/-- the same for `_convolve_filter_adjoint`'s loop nest; `conv f d` is the forward map written as linear in the filter -/
theorem filter_adjoint_loops {X V Y κ ι : Type} (K : Finset κ) (I : Finset ι)
    (conv : V → X → κ → α) (adj : Y → X → ι → α) (rf : V → ι → α) (ry : Y → κ → α)
    (hsc : ∀ f d y, ∑ k ∈ K, conv f d k * star (ry y k) = ∑ j ∈ I, rf f j * star (adj y d j))
    (B co ci : Nat) (d : Int → Int → X) (f : Int → Int → V) (y : Int → Int → Y) :
    ∑ b ∈ Finset.range B, ∑ o ∈ Finset.range co, ∑ k ∈ K,
        (∑ c ∈ Finset.range ci, conv (f o c) (d b c) k) * star (ry (y b o) k) =
      ∑ o ∈ Finset.range co, ∑ c ∈ Finset.range ci, ∑ j ∈ I,
        rf (f o c) j * star (loopSum B co ci Gen.filtAdjAccIdx o c fun b' o' c' =>
          adj (at2 y Gen.filtAdjBufSrcIdx b' o' c') (at2 d Gen.filtAdjRhsIdx b' o' c') j) := by
  refine .trans ?_ (Finset.sum_congr rfl fun o ho => Finset.sum_congr rfl fun c hc => Finset.sum_congr rfl fun j _ => by
    rw [filt_adj_wiring B co ci o c (Finset.mem_range.mp ho) (Finset.mem_range.mp hc) y d (fun x v => adj x v j)]).symm
  rw [sum_mc _ _ _ K _ _ _ fun b o c => hsc (f o c) (d b c) (y b o)]
  simp only [star_sum, Finset.mul_sum]
  rw [Finset.sum_comm]
  refine Finset.sum_congr rfl fun o _ => ?_
  rw [Finset.sum_comm]
  exact Finset.sum_congr rfl fun c _ => Finset.sum_comm

/-- **data adjoint with batch and channels** (1-D, generated wiring): summing the forward over input channels
    and the data adjoint over output channels, `Σ_{b,o} ⟨out[b,o], y[b,o]⟩ = Σ_{b,c} ⟨d[b,c], data_adj[b,c]⟩`. -/
theorem data_adjoint_mc (full : Bool) (m n s : Int) (p B ci co : Nat) (d f y : Int → Int → Int → α)
    (hm : 1 ≤ m) (hn : 1 ≤ n) (hs : 0 < s)
    (hp : ∀ k : Int, (0 ≤ k ∧ k * s < scipyLen full m n) ↔ (0 ≤ k ∧ k < (p : Int))) :
    ∑ b ∈ Finset.range B, ∑ o ∈ Finset.range co, ∑ k ∈ Finset.range p,
        convMC1At full m n s B co ci d f b o k * star (y b o k) =
      ∑ b ∈ Finset.range B, ∑ c ∈ Finset.range ci, ∑ i ∈ Finset.range m.toNat,
        d b c i * star (dataAdjMC1At star full m n s B co ci y f b c i) :=
  data_adjoint_loops (Finset.range p) (Finset.range m.toNat) (fun x v k => conv1At full m n s x v k)
    (fun y v i => dataAdj1At star full m n s y v i) (fun x i => x i) (fun y k => y k)
    (fun x v y => data_adjoint full m n s p x v y hm hn hs hp) B co ci d f y

/-- **filter adjoint with batch and channels** (1-D, generated wiring):
    `Σ_{b,o} ⟨out[b,o], y[b,o]⟩ = Σ_{o,c} ⟨f[o,c], filt_adj[o,c]⟩` (the filter adjoint sums over the batch). -/
theorem filter_adjoint_mc (full : Bool) (m n s : Int) (p B ci co : Nat) (d f y : Int → Int → Int → α)
    (hm : 1 ≤ m) (hn : 1 ≤ n) (hs : 0 < s)
    (hp : ∀ k : Int, (0 ≤ k ∧ k * s < scipyLen full m n) ↔ (0 ≤ k ∧ k < (p : Int))) :
    ∑ b ∈ Finset.range B, ∑ o ∈ Finset.range co, ∑ k ∈ Finset.range p,
        convMC1At full m n s B co ci d f b o k * star (y b o k) =
      ∑ o ∈ Finset.range co, ∑ c ∈ Finset.range ci, ∑ j ∈ Finset.range n.toNat,
        f o c j * star (filtAdjMC1At star full m n s B co ci y d o c j) := by
  refine (Finset.sum_congr rfl fun b hb => Finset.sum_congr rfl fun o ho => Finset.sum_congr rfl fun k _ => by
    rw [convMC1At, conv_wiring B co ci b o (Finset.mem_range.mp hb) (Finset.mem_range.mp ho) d f
      (fun x v => conv1At full m n s x v k)]).trans ?_
  exact filter_adjoint_loops (Finset.range p) (Finset.range n.toNat) (fun f d k => conv1At full m n s d f k)
    (fun y d j => filtAdj1At star full m n s y d j) (fun f j => f j) (fun y k => y k)
    (fun f d y => filter_adjoint full m n s p d f y hm hn hs hp) B co ci d f y

/-- entry `((k1,k2),(i1,i2))` of `d ↦ convolve(d, f)[::s1, ::s2]` -/
def ent2D (full : Bool) (m1 m2 n1 n2 s1 s2 : Int) (f : Int → Int → α) (k1 k2 i1 i2 : Int) : α :=
  ∑ j1 ∈ Finset.range n1.toNat, ∑ j2 ∈ Finset.range n2.toNat,
    if i1 + (j1 : Int) = k1 * s1 + convOff full m1 n1 ∧ i2 + (j2 : Int) = k2 * s2 + convOff full m2 n2
    then f j1 j2 else 0

/-- entry `((k1,k2),(j1,j2))` of `f ↦ convolve(d, f)[::s1, ::s2]` -/
def ent2F (full : Bool) (m1 m2 n1 n2 s1 s2 : Int) (d : Int → Int → α) (k1 k2 j1 j2 : Int) : α :=
  ∑ i1 ∈ Finset.range m1.toNat, ∑ i2 ∈ Finset.range m2.toNat,
    if (i1 : Int) + j1 = k1 * s1 + convOff full m1 n1 ∧ (i2 : Int) + j2 = k2 * s2 + convOff full m2 n2
    then d i1 i2 else 0

omit [StarRing α] in
theorem conv2_entries (full : Bool) (m1 m2 n1 n2 s1 s2 : Int) (d f : Int → Int → α) (k1 k2 : Int) :
    conv2At full m1 m2 n1 n2 s1 s2 d f k1 k2 =
      ∑ i1 ∈ Finset.range m1.toNat, ∑ i2 ∈ Finset.range m2.toNat,
        ent2D full m1 m2 n1 n2 s1 s2 f k1 k2 i1 i2 * d i1 i2 ∧
    conv2At full m1 m2 n1 n2 s1 s2 d f k1 k2 =
      ∑ j1 ∈ Finset.range n1.toNat, ∑ j2 ∈ Finset.range n2.toNat,
        ent2F full m1 m2 n1 n2 s1 s2 d k1 k2 j1 j2 * f j1 j2 := by
  have e : conv2At full m1 m2 n1 n2 s1 s2 d f k1 k2 =
      ∑ i1 ∈ Finset.range m1.toNat, ∑ i2 ∈ Finset.range m2.toNat,
        ∑ j1 ∈ Finset.range n1.toNat, ∑ j2 ∈ Finset.range n2.toNat,
          if (i1 : Int) + j1 = k1 * s1 + convOff full m1 n1 ∧ (i2 : Int) + j2 = k2 * s2 + convOff full m2 n2
          then d i1 i2 * f j1 j2 else 0 := by
    simp only [conv2At, sumTo_eq_sum]
  rw [e]
  unfold ent2D ent2F
  constructor
  · refine Finset.sum_congr rfl fun i1 _ => Finset.sum_congr rfl fun i2 _ => ?_
    simp only [Finset.sum_mul, ite_mul, zero_mul, mul_comm (f _ _)]
  · rw [sum4_swap]
    refine Finset.sum_congr rfl fun j1 _ => Finset.sum_congr rfl fun j2 _ => ?_
    simp only [Finset.sum_mul, ite_mul, zero_mul]

/-- hypotheses shared by the 2-D theorems: positive sizes and strides, the combination is admitted by the
    mode, and `p1, p2` count the samples kept by the stride slices -/
structure Dom2 (full : Bool) (m1 m2 n1 n2 s1 s2 : Int) (p1 p2 : Nat) : Prop where
  hm1 : 1 ≤ m1
  hm2 : 1 ≤ m2
  hn1 : 1 ≤ n1
  hn2 : 1 ≤ n2
  hs1 : 0 < s1
  hs2 : 0 < s2
  hadm : full = true ∨ Gen.convValidRejects [m1, m2] [n1, n2] = false
  hp1 : ∀ k : Int, (0 ≤ k ∧ k * s1 < scipyLen full m1 n1) ↔ (0 ≤ k ∧ k < (p1 : Int))
  hp2 : ∀ k : Int, (0 ≤ k ∧ k * s2 < scipyLen full m2 n2) ↔ (0 ≤ k ∧ k < (p2 : Int))

/-- 2-D `_convolve_data_adjoint` as computed (2-D zero-stuffing, one correlate mode for both axes chosen by
    `all(m_d >= n_d …)`) has the transposed conjugated entries of the 2-D forward map. -/
theorem data_adj2_entries (full : Bool) (m1 m2 n1 n2 s1 s2 : Int) (p1 p2 : Nat) (y f : Int → Int → α)
    (i1 i2 : Int) (h : Dom2 full m1 m2 n1 n2 s1 s2 p1 p2) :
    dataAdj2At star full m1 m2 n1 n2 s1 s2 y f i1 i2 =
      ∑ k1 ∈ Finset.range p1, ∑ k2 ∈ Finset.range p2,
        star (ent2D full m1 m2 n1 n2 s1 s2 f k1 k2 i1 i2) * y k1 k2 := by
  simp only [dataAdj2At, (adj_buf_len full m1 n1).1, (adj_buf_len full m2 n2).1]
  exact corr2At_stuff2 _ _ _ _ _ s1 s2 p1 p2 y f i1 i2 _ _ h.hs1 h.hs2 h.hp1 h.hp2
    (data_adj_corr full [m1, m2] [n1, n2] h.hadm m1 n1 (by simp) h.hm1).1
    (data_adj_corr full [m1, m2] [n1, n2] h.hadm m2 n2 (by simp) h.hm2).1 _ fun _ _ _ _ => Iff.rfl

/-- the same for the 2-D `_convolve_filter_adjoint` -/
theorem filt_adj2_entries (full : Bool) (m1 m2 n1 n2 s1 s2 : Int) (p1 p2 : Nat) (y d : Int → Int → α)
    (j1 j2 : Int) (h : Dom2 full m1 m2 n1 n2 s1 s2 p1 p2) :
    filtAdj2At star full m1 m2 n1 n2 s1 s2 y d j1 j2 =
      ∑ k1 ∈ Finset.range p1, ∑ k2 ∈ Finset.range p2,
        star (ent2F full m1 m2 n1 n2 s1 s2 d k1 k2 j1 j2) * y k1 k2 := by
  simp only [filtAdj2At, (adj_buf_len full m1 n1).2, (adj_buf_len full m2 n2).2]
  exact corr2At_stuff2 _ _ _ _ _ s1 s2 p1 p2 y d j1 j2 _ _ h.hs1 h.hs2 h.hp1 h.hp2
    (filt_adj_corr full [m1, m2] [n1, n2] h.hadm m1 n1 (by simp) h.hn1).1
    (filt_adj_corr full [m1, m2] [n1, n2] h.hadm m2 n2 (by simp) h.hn2).1 _
    fun _ _ _ _ => by rw [add_comm j1, add_comm j2]

/-- **2-D data adjoint**: `⟨convolve(d, f)[::s1, ::s2], y⟩ = ⟨d, convolve_data_adjoint(y, f)⟩` for all 2-D
    `d, f, y`, both modes, every admitted size combination (data ≥ filter on both axes, or filter longer on both),
    all strides. -/
theorem data_adjoint_2d (full : Bool) (m1 m2 n1 n2 s1 s2 : Int) (p1 p2 : Nat) (d f y : Int → Int → α)
    (h : Dom2 full m1 m2 n1 n2 s1 s2 p1 p2) :
    ∑ k1 ∈ Finset.range p1, ∑ k2 ∈ Finset.range p2,
        conv2At full m1 m2 n1 n2 s1 s2 d f k1 k2 * star (y k1 k2) =
      ∑ i1 ∈ Finset.range m1.toNat, ∑ i2 ∈ Finset.range m2.toNat,
        d i1 i2 * star (dataAdj2At star full m1 m2 n1 n2 s1 s2 y f i1 i2) := by
  simp only [(conv2_entries full m1 m2 n1 n2 s1 s2 d f _ _).1, data_adj2_entries full m1 m2 n1 n2 s1 s2 p1 p2 y f _ _ h,
    ← Finset.sum_product']
  exact sum_entries_adjoint (Finset.range p1 ×ˢ Finset.range p2) (Finset.range m1.toNat ×ˢ Finset.range m2.toNat)
    (fun k i => ent2D full m1 m2 n1 n2 s1 s2 f k.1 k.2 i.1 i.2) (fun i => d i.1 i.2) (fun k => y k.1 k.2)

/-- **2-D filter adjoint** -/
theorem filter_adjoint_2d (full : Bool) (m1 m2 n1 n2 s1 s2 : Int) (p1 p2 : Nat) (d f y : Int → Int → α)
    (h : Dom2 full m1 m2 n1 n2 s1 s2 p1 p2) :
    ∑ k1 ∈ Finset.range p1, ∑ k2 ∈ Finset.range p2,
        conv2At full m1 m2 n1 n2 s1 s2 d f k1 k2 * star (y k1 k2) =
      ∑ j1 ∈ Finset.range n1.toNat, ∑ j2 ∈ Finset.range n2.toNat,
        f j1 j2 * star (filtAdj2At star full m1 m2 n1 n2 s1 s2 y d j1 j2) := by
  simp only [(conv2_entries full m1 m2 n1 n2 s1 s2 d f _ _).2, filt_adj2_entries full m1 m2 n1 n2 s1 s2 p1 p2 y d _ _ h,
    ← Finset.sum_product']
  exact sum_entries_adjoint (Finset.range p1 ×ˢ Finset.range p2) (Finset.range n1.toNat ×ˢ Finset.range n2.toNat)
    (fun k j => ent2F full m1 m2 n1 n2 s1 s2 d k.1 k.2 j.1 j.2) (fun j => f j.1 j.2) (fun k => y k.1 k.2)

/-- the 2-D hypotheses are satisfiable with the lengths the code advertises (non-vacuity; 'valid', strides (2,1)) -/
example : Dom2 false 5 3 2 3 2 1 (codeLen false 5 2 2).toNat (codeLen false 3 3 1).toNat :=
  { hm1 := by decide, hm2 := by decide, hn1 := by decide, hn2 := by decide, hs1 := by decide, hs2 := by decide,
    hadm := Or.inr (by decide),
    hp1 := code_len_counts false 5 2 2 (by decide) (Or.inr (by decide)),
    hp2 := code_len_counts false 3 3 1 (by decide) (Or.inr (by decide)) }

/-- what the D-dimensional theorem needs of one axis: scipy's correlate shift (for the mode the code chose)
    equals the convolution offset, the stride is positive, and `p` counts the samples `0, s, 2s, … < L` -/
def Axis.ok (a : Axis) : Prop :=
  a.shift = a.off ∧ 0 < a.s ∧ 0 ≤ a.p ∧ ∀ k : Int, (0 ≤ k ∧ k * a.s < a.L) ↔ (0 ≤ k ∧ k < a.p)

/-- **D-dimensional adjoint identity** (any D, both adjoints — the record's `m`/`n` are (data, filter) for the
    data adjoint and (filter, data) for the filter adjoint):
    `Σ_k conv(x, v)[k]·conj(y[k]) = Σ_i x[i]·conj(adj(y, v)[i])`, where `conv` is the strided D-dim convolution
    by definition and `adj` is computed as the code does (D-dim zero-stuffing, then correlate). -/
theorem adjoint_nd (axes : List Axis) (h : ∀ a ∈ axes, a.ok) (x v y : List Int → α) :
    ∑ k ∈ idxSet (axes.map (·.p)), convD axes x v k * star (y k) =
      ∑ i ∈ idxSet (axes.map (·.m)), x i * star (adjD star axes y v i) := by
  induction axes generalizing x v y with
  | nil =>
    simp only [List.map_nil, idxSet, Finset.sum_singleton, convD, adjD, corrD, stuffD, star_mul', star_star]
    ring
  | cons a rest ih =>
    obtain ⟨hsh, hs, hp0, hp⟩ := h a List.mem_cons_self
    have hpN : ∀ k : Int, (0 ≤ k ∧ k * a.s < a.L) ↔ (0 ≤ k ∧ k < ((a.p.toNat : Nat) : Int)) := by
      intro k; rw [hp k, Int.toNat_of_nonneg hp0]
    simp only [List.map_cons, sum_idxSet_cons, convD_cons, adjD_cons star a rest _ hs hpN, hsh]
    exact sum_axis_step _ _ _ _ _ (fun i1 j1 k1 => (i1 : Int) + j1 = k1 * a.s + a.off) _ _ _ _
      fun i1 j1 k1 => ih (fun b hb => h b (List.mem_cons_of_mem _ hb)) _ _ _

end ring

/-- the advertised output lengths of the records, whichever operand they are written for -/
theorem mkAxes_map_p (w full : Bool) (m n s : List Int) :
    (mkAxes w full m n s).map (·.p) = zip3With (codeLen full) m n s := by
  unfold mkAxes
  simp only [zip3_map, zip3With_map]

theorem mem_zip3 {a b c : Int} {m n s : List Int} (h : (a, b, c) ∈ List.zip m (List.zip n s)) :
    (a, b) ∈ List.zip m n := by
  obtain ⟨i, hi, e⟩ := List.mem_iff_getElem.mp h
  simp only [List.length_zip, lt_min_iff] at hi
  simp only [List.getElem_zip, Prod.mk.injEq] at e
  exact List.mem_iff_getElem.mpr
    ⟨i, by rw [List.length_zip]; exact lt_min hi.1 hi.2.1, by rw [List.getElem_zip, e.1, e.2.1]⟩

/-- On the whole admitted domain (positive sizes and strides; 'full' mode, or a 'valid' combination that passes the
    admission test: data at least as long as the filter on every axis, *or* shorter on every axis) the records built
    from the code's own formulas and branch decisions (`mkAxes`, for the data adjoint and for the filter adjoint)
    satisfy `Axis.ok` on every axis. -/
theorem mkAxes_ok_admitted (wrtData full : Bool) (m n s : List Int)
    (h1 : ∀ x ∈ List.zip m n, 1 ≤ x.1 ∧ 1 ≤ x.2) (hadm : full = true ∨ Gen.convValidRejects m n = false)
    (h2 : ∀ c ∈ s, 0 < c) :
    ∀ a ∈ mkAxes wrtData full m n s, a.ok := by
  intro ax hax
  obtain ⟨⟨a, b, c⟩, hmem, rfl⟩ := List.mem_map.mp hax
  have hab := mem_zip3 hmem
  obtain ⟨ha, hb⟩ := h1 _ hab
  have hs := h2 c (List.of_mem_zip (List.of_mem_zip hmem).2).2
  have hp := fun k => conv_out_len_any full a b c k hs
  have hpos := codeLen_pos full ha hb hs
  cases wrtData <;>
    simp only [Axis.ok, Bool.false_eq_true, if_false, if_true, (adj_buf_len full a b).1, (adj_buf_len full a b).2]
  · exact ⟨(filt_adj_corr full m n hadm a b hab hb).1, hs, hpos.le, hp⟩
  · exact ⟨(data_adj_corr full m n hadm a b hab ha).1, hs, hpos.le, hp⟩

/-- In particular in 'full' mode, or in 'valid' mode with the data at least as long as the filter on every axis. -/
theorem mkAxes_ok (wrtData full : Bool) (m n s : List Int)
    (h1 : ∀ x ∈ List.zip m n, 1 ≤ x.1 ∧ 1 ≤ x.2 ∧ (full = true ∨ x.2 ≤ x.1)) (h2 : ∀ c ∈ s, 0 < c) :
    ∀ a ∈ mkAxes wrtData full m n s, a.ok := by
  refine mkAxes_ok_admitted wrtData full m n s (fun x hx => ⟨(h1 x hx).1, (h1 x hx).2.1⟩) ?_ h2
  cases full
  · exact Or.inr ((admit_cases m n).mpr (Or.inl fun x hx => (h1 x hx).2.2.resolve_left Bool.false_ne_true))
  · exact Or.inl rfl

section ring2
variable {α : Type} [CommRing α] [StarRing α]

/-- **D-dimensional data adjoint, with the code's own lengths and branches**: for any number of axes,
    `⟨convolve(d, f)[::s], y⟩ = ⟨d, convolve_data_adjoint(y, f)⟩` (single channel; 'full', or 'valid' with
    `m_d ≥ n_d` on every axis; all strides). -/
theorem data_adjoint_nd_code (full : Bool) (m n s : List Int) (d f y : List Int → α)
    (h1 : ∀ x ∈ List.zip m n, 1 ≤ x.1 ∧ 1 ≤ x.2 ∧ (full = true ∨ x.2 ≤ x.1)) (h2 : ∀ c ∈ s, 0 < c) :
    sumD ((mkAxes true full m n s).map (·.p)) (fun k => convD (mkAxes true full m n s) d f k * star (y k)) =
      sumD ((mkAxes true full m n s).map (·.m))
        (fun i => d i * star (adjD star (mkAxes true full m n s) y f i)) := by
  rw [sumD_eq, sumD_eq]
  exact adjoint_nd _ (mkAxes_ok true full m n s h1 h2) d f y

/-- **D-dimensional filter adjoint** (the forward map written as linear in the filter: `convD` over the
    swapped records, which is the same convolution — see `convD_comm`). -/
theorem filter_adjoint_nd_code (full : Bool) (m n s : List Int) (d f y : List Int → α)
    (h1 : ∀ x ∈ List.zip m n, 1 ≤ x.1 ∧ 1 ≤ x.2 ∧ (full = true ∨ x.2 ≤ x.1)) (h2 : ∀ c ∈ s, 0 < c) :
    sumD ((mkAxes false full m n s).map (·.p)) (fun k => convD (mkAxes false full m n s) f d k * star (y k)) =
      sumD ((mkAxes false full m n s).map (·.m))
        (fun j => f j * star (adjD star (mkAxes false full m n s) y d j)) := by
  rw [sumD_eq, sumD_eq]
  exact adjoint_nd _ (mkAxes_ok false full m n s h1 h2) f d y

omit [StarRing α] in
/-- the D-dim convolution is symmetric in its operands: with the roles (and lengths) of the two operands
    swapped on every axis it is the same map -/
theorem convD_comm (A B : List Axis)
    (h : List.Forall₂ (fun a b => a.m = b.n ∧ a.n = b.m ∧ a.s = b.s ∧ a.off = b.off) A B)
    (x v : List Int → α) (k : List Int) : convD A x v k = convD B v x k := by
  induction h generalizing x v k with
  | nil => exact mul_comm _ _
  | cons hab _ ih =>
    obtain ⟨e1, e2, e3, e4⟩ := hab
    simp only [convD, sumTo_eq_sum, e1, e2, e3, e4, ih]
    rw [Finset.sum_comm]
    exact Finset.sum_congr rfl fun j1 _ => Finset.sum_congr rfl fun i1 _ => by rw [add_comm]

omit [StarRing α] in
/-- the records for the filter adjoint are those for the data adjoint with the operands swapped, so
    (`convD_comm`) `convD (mkAxes false …) f d = convD (mkAxes true …) d f`: both adjoint identities are about
    the same forward map. -/
theorem mkAxes_swap (full : Bool) (m n s : List Int) (d f : List Int → α) (k : List Int) :
    convD (mkAxes false full m n s) f d k = convD (mkAxes true full m n s) d f k := by
  apply convD_comm
  unfold mkAxes
  rw [List.forall₂_map_left_iff, List.forall₂_map_right_iff, List.forall₂_same]
  intro x _
  simp

/-- **D-dimensional data adjoint with batch and channels** (any D; generated loop wiring):
    with `conv(d, f)[b, o] = Σ_c conv_D(d[b, c], f[o, c])[::s]` as `_convolve`'s loops compute it and
    `adj_d(y, f)[b, c] = Σ_o correlate(stuffed y[b, o], f[o, c])` as `_convolve_data_adjoint`'s loops compute it,
    `Σ_{b,o} ⟨conv(d, f)[b, o], y[b, o]⟩ = Σ_{b,c} ⟨d[b, c], adj_d(y, f)[b, c]⟩`. -/
theorem data_adjoint_nd_mc (axes : List Axis) (h : ∀ a ∈ axes, a.ok) (B co ci : Nat)
    (d f y : Int → Int → List Int → α) :
    ∑ b ∈ Finset.range B, ∑ o ∈ Finset.range co, ∑ k ∈ idxSet (axes.map (·.p)),
        convMCD axes B co ci d f b o k * star (y b o k) =
      ∑ b ∈ Finset.range B, ∑ c ∈ Finset.range ci, ∑ i ∈ idxSet (axes.map (·.m)),
        d b c i * star (dataAdjMCD star axes B co ci y f b c i) :=
  data_adjoint_loops _ _ (convD axes) (adjD star axes) id id (adjoint_nd axes h) B co ci d f y

/-- **D-dimensional filter adjoint with batch and channels** (any D; generated loop wiring; `axes` are the
    records with the filter as the linear operand, the forward map written accordingly — `adjoint_nd_mc_code`
    identifies it with `convMCD`): `adj_f(y, d)[o, c] = Σ_b correlate(stuffed y[b, o], d[b, c])` as
    `_convolve_filter_adjoint`'s loops compute it satisfies
    `Σ_{b,o} ⟨Σ_c conv_D(f[o, c], d[b, c])[::s], y[b, o]⟩ = Σ_{o,c} ⟨f[o, c], adj_f(y, d)[o, c]⟩`. -/
theorem filter_adjoint_nd_mc (axes : List Axis) (h : ∀ a ∈ axes, a.ok) (B co ci : Nat)
    (d f y : Int → Int → List Int → α) :
    ∑ b ∈ Finset.range B, ∑ o ∈ Finset.range co, ∑ k ∈ idxSet (axes.map (·.p)),
        (∑ c ∈ Finset.range ci, convD axes (f o c) (d b c) k) * star (y b o k) =
      ∑ o ∈ Finset.range co, ∑ c ∈ Finset.range ci, ∑ j ∈ idxSet (axes.map (·.m)),
        f o c j * star (filtAdjMCD star axes B co ci y d o c j) :=
  filter_adjoint_loops _ _ (convD axes) (adjD star axes) id id (adjoint_nd axes h) B co ci d f y

omit [CommRing α] [StarRing α] in
/-- the advertised output lengths do not depend on which operand the records are written for -/
theorem mkAxes_p (full : Bool) (m n s : List Int) :
    (mkAxes false full m n s).map (·.p) = (mkAxes true full m n s).map (·.p) := by
  rw [mkAxes_map_p, mkAxes_map_p]

/-- **the full statement, with the code's own formulas, branches and loop wiring** — any number of spatial
    axes, batch, channel mixing, all strides, any commutative *-ring, on the whole admitted domain: 'full' mode, or
    'valid' mode with the data at least as long as the filter on every axis or shorter on every axis.
    With `conv(d, f)[b, o] = Σ_c conv_D(d[b, c], f[o, c])[::s]`,
    `⟨conv(d, f), y⟩ = ⟨d, convolve_data_adjoint(y, f)⟩ = ⟨f, convolve_filter_adjoint(y, d)⟩`; the data adjoint
    sums over the output channels and the filter adjoint over the batch. -/
theorem adjoint_nd_mc_code (full : Bool) (m n s : List Int) (B co ci : Nat) (d f y : Int → Int → List Int → α)
    (h1 : ∀ x ∈ List.zip m n, 1 ≤ x.1 ∧ 1 ≤ x.2) (hadm : full = true ∨ Gen.convValidRejects m n = false)
    (h2 : ∀ c ∈ s, 0 < c) :
    (∑ b ∈ Finset.range B, ∑ o ∈ Finset.range co, ∑ k ∈ idxSet ((mkAxes true full m n s).map (·.p)),
        convMCD (mkAxes true full m n s) B co ci d f b o k * star (y b o k) =
      ∑ b ∈ Finset.range B, ∑ c ∈ Finset.range ci, ∑ i ∈ idxSet ((mkAxes true full m n s).map (·.m)),
        d b c i * star (dataAdjMCD star (mkAxes true full m n s) B co ci y f b c i)) ∧
    (∑ b ∈ Finset.range B, ∑ o ∈ Finset.range co, ∑ k ∈ idxSet ((mkAxes true full m n s).map (·.p)),
        convMCD (mkAxes true full m n s) B co ci d f b o k * star (y b o k) =
      ∑ o ∈ Finset.range co, ∑ c ∈ Finset.range ci, ∑ j ∈ idxSet ((mkAxes false full m n s).map (·.m)),
        f o c j * star (filtAdjMCD star (mkAxes false full m n s) B co ci y d o c j)) := by
  refine ⟨data_adjoint_nd_mc _ (mkAxes_ok_admitted true full m n s h1 hadm h2) B co ci d f y, ?_⟩
  rw [← filter_adjoint_nd_mc _ (mkAxes_ok_admitted false full m n s h1 hadm h2) B co ci d f y, mkAxes_p]
  refine Finset.sum_congr rfl fun b hb => Finset.sum_congr rfl fun o ho => Finset.sum_congr rfl fun k _ => ?_
  rw [convMCD, conv_wiring B co ci b o (Finset.mem_range.mp hb) (Finset.mem_range.mp ho) d f
    (fun x v => convD (mkAxes true full m n s) x v k)]
  simp only [mkAxes_swap]

/-- the shapes the sums of `adjoint_nd_mc_code` run over are the caller's: data lengths `m`, filter lengths `n`
    (for lists of equal length) -/
theorem mkAxes_shapes (full : Bool) (m n s : List Int) (h : m.length = n.length ∧ n.length = s.length) :
    (mkAxes true full m n s).map (·.m) = m ∧ (mkAxes false full m n s).map (·.m) = n := by
  unfold mkAxes
  simp only [List.map_map]
  constructor
  · refine (List.map_congr_left fun x _ => rfl).trans (List.map_fst_zip (l₂ := List.zip n s) ?_)
    simp only [List.length_zip]; omega
  · refine (List.map_congr_left (g := Prod.fst ∘ Prod.snd) fun x _ => rfl).trans ?_
    rw [← List.map_map, List.map_snd_zip, List.map_fst_zip]
    · omega
    · simp only [List.length_zip]; omega

end ring2

/-- non-vacuity: the hypotheses of the D-dim theorems hold for a 3-D 'valid' example with strides (1, 2, 1) -/
example : (∀ x ∈ List.zip [3, 4, 2] [2, 2, 1], (1 : Int) ≤ x.1 ∧ 1 ≤ x.2 ∧ (false = true ∨ x.2 ≤ x.1)) ∧
    (∀ c ∈ [(1 : Int), 2, 1], 0 < c) := by decide
example : (mkAxes true false [3, 4, 2] [2, 2, 1] [1, 2, 1]).map (·.p) = [2, 2, 2] := by decide

/-- non-vacuity of the D-dim batch / channel theorems: the loop-wiring lemmas apply to a 2 × 2 × 3 nest, and a
    concrete complex instance of the wired forward map (B = 1, c_o = 1, c_i = 2, D = 1, full mode) -/
example : loopSum (α := Int) 2 2 3 Gen.dataAdjAccIdx 1 2 (fun b o c => 100 * b + 10 * o + c) = 102 + 112 := by decide
example : convMCD (α := GI) (mkAxes true true [2] [1] [1]) 1 1 2 (fun _ c i => ⟨c + 1, i.headD 0⟩)
    (fun _ c _ => ⟨1, c⟩) 0 0 [1] = ⟨2, 4⟩ := by decide

/-- non-vacuity: the admitted-domain hypotheses hold for a 2-D 'valid' case with the filter longer on both axes -/
example : (∀ x ∈ List.zip [2, 1] [3, 3], (1 : Int) ≤ x.1 ∧ 1 ≤ x.2) ∧
    (false = true ∨ Gen.convValidRejects [2, 1] [3, 3] = false) ∧ (∀ c ∈ [(2 : Int), 1], 0 < c) := by decide
example : (mkAxes false false [2, 1] [3, 3] [2, 1]).map (·.p) = [1, 3] := by decide

/-- **`_get_convolve_params` splits multi-channel shapes correctly** (index expressions from `Gen.ConvParams`): for
    `data_shape = b + (c_i,) + m` and `filt_shape = (c_o, c_i', ) + n` with `len(m) = len(n) = D ≥ 1` it returns exactly
    `b, m, n, c_i', c_o` and raises ValueError iff the two channel counts differ. -/
theorem split_mc (b m n : List Int) (ci ci' co : Int) (h : m.length = n.length) (hn : 1 ≤ n.length) :
    splitShapes (b ++ ci :: m) (co :: ci' :: n) true =
      if ci' ≠ ci then .error (guardExc .channel)
      else .ok { D := n.length, b := b, m := m, n := n, ci := ci', co := co } := by
  -- the generated index expressions, as offsets from the end of the shapes
  have idx : ∀ D : Int, Gen.paramMLo D 1 = -D ∧ Gen.paramNLo D 1 = -D ∧ Gen.paramBHi D 1 = -D - 1 ∧
      Gen.paramChkLhsIdx D 1 = -D - 1 ∧ Gen.paramChkRhsIdx D 1 = -D - 1 ∧ Gen.paramCiIdx D 1 = -D - 1 ∧
      Gen.paramCoIdx D 1 = -D - 2 := by
    intro D
    unfold Gen.paramMLo Gen.paramNLo Gen.paramBHi Gen.paramChkLhsIdx Gen.paramChkRhsIdx Gen.paramCiIdx
      Gen.paramCoIdx
    omega
  have hD : Gen.paramD ((b ++ ci :: m).length) ((co :: ci' :: n).length) 1 = (n.length : Int) := by
    unfold Gen.paramD; simp only [List.length_cons]; push_cast; omega
  have hrank : ¬ ((n.length : Int) < 1 ∨ (((b ++ ci :: m).length : Nat) : Int) < (n.length : Int) + 1) := by
    simp only [List.length_append, List.length_cons]; push_cast; omega
  obtain ⟨eM, eN, eB, eL, eR, eCi, eCo⟩ := idx n.length
  have g1 : pyFrom (b ++ ci :: m) (-(n.length : Int)) = m := by
    rw [← h, List.append_cons]; exact pyFrom_suffix _ m (hn.trans h.ge)
  have g2 : pyFrom (co :: ci' :: n) (-(n.length : Int)) = n := pyFrom_suffix [co, ci'] n hn
  have g3 : pyUpto (b ++ ci :: m) (-(n.length : Int) - 1) = b := by
    rw [← h, ← neg_add', ← Nat.cast_succ]; exact pyUpto_prefix b (ci :: m) (Nat.succ_pos _)
  have g4 : pyGet (co :: ci' :: n) (-(n.length : Int) - 1) = some ci' := pyGet_from_end [co] ci' n
  have g5 : pyGet (b ++ ci :: m) (-(n.length : Int) - 1) = some ci := h ▸ pyGet_from_end b ci m
  have g6 : pyGet (co :: ci' :: n) (-(n.length : Int) - 2) = some co := by
    have := pyGet_from_end [] co (ci' :: n)
    rwa [List.length_cons, Nat.cast_succ, neg_add', sub_sub] at this
  unfold splitShapes
  simp only [if_true, hD, hrank, if_false, Gen.paramMSrc, Gen.paramNSrc, Gen.paramBSrc, Gen.paramChkLhsSrc,
    Gen.paramChkRhsSrc, Gen.paramCiSrc, Gen.paramCoSrc, shapeArg, eM, eN, eB, eL, eR, eCi, eCo, g1, g2, g3, g4, g5, g6]

/-- the same without channels: `data_shape = b + m`, `filt_shape = n`, `c_i = c_o = 1` -/
theorem split_sc (b m n : List Int) (h : m.length = n.length) (hn : 1 ≤ n.length) :
    splitShapes (b ++ m) n false = .ok { D := n.length, b := b, m := m, n := n, ci := 1, co := 1 } := by
  have idx : ∀ D : Int, Gen.paramMLo D 0 = -D ∧ Gen.paramNLo D 0 = -D ∧ Gen.paramBHi D 0 = -D := by
    intro D
    unfold Gen.paramMLo Gen.paramNLo Gen.paramBHi
    omega
  have hD : Gen.paramD ((b ++ m).length) (n.length) 0 = (n.length : Int) := by
    unfold Gen.paramD; omega
  have hrank : ¬ ((n.length : Int) < 1 ∨ (((b ++ m).length : Nat) : Int) < (n.length : Int) + 0) := by
    simp only [List.length_append]; push_cast; omega
  obtain ⟨eM, eN, eB⟩ := idx n.length
  have g1 : pyFrom (b ++ m) (-(n.length : Int)) = m := h ▸ pyFrom_suffix b m (hn.trans h.ge)
  have g2 : pyFrom n (-(n.length : Int)) = n := pyFrom_suffix [] n hn
  have g3 : pyUpto (b ++ m) (-(n.length : Int)) = b := h ▸ pyUpto_prefix b m (hn.trans h.ge)
  unfold splitShapes
  simp only [Bool.false_eq_true, if_false, hD, hrank, Gen.paramMSrc, Gen.paramNSrc, Gen.paramBSrc, shapeArg,
    eM, eN, eB, g1, g2, g3, Gen.paramCiDefault, Gen.paramCoDefault]

example : splitShapes [2, 3, 5, 4] [7, 3, 2, 2] true = .ok ⟨2, [2], [5, 4], [2, 2], 3, 7⟩ := by decide
example : (splitShapes [2, 3, 5, 4] [7, 4, 2, 2] true).toOption = none := by decide

/-- **dtype decision table** (about the generated allocation dtypes; numpy's casting rules enter through
    `convDtypeRule` / `adjDtypeRule`).  Every buffer of the two adjoints — the accumulated array and the
    zero-stuffed scratch buffer in both mode branches — is allocated with the dtype of the output-side array
    `output`, and `_convolve`'s result with the dtype of `data`.  Consequently no dtype combination ever drops an
    imaginary part silently, and the rejected combinations (TypeError) are exactly those where numpy's in-place
    add would have to cast a complex term into a real accumulator: complex filter with real data (`convolve`),
    complex filter with real `output` (data adjoint), complex data with real `output` (filter adjoint). -/
theorem dtype_rule :
    (Gen.convAccDtype = .data ∧
      Gen.dataAdjAccDtype = .output ∧ Gen.dataAdjBufDtypeFull = .output ∧ Gen.dataAdjBufDtypeValid = .output ∧
      Gen.filtAdjAccDtype = .output ∧ Gen.filtAdjBufDtypeFull = .output ∧ Gen.filtAdjBufDtypeValid = .output) ∧
    (∀ cd cf : Bool, convOutcome cd cf = if cf && !cd then .typeError else .exact) ∧
    (∀ full cd cf cy : Bool, adjOutcome true full cd cf cy = if cf && !cy then .typeError else .exact) ∧
    (∀ full cd cf cy : Bool, adjOutcome false full cd cf cy = if cd && !cy then .typeError else .exact) := by
  decide

/-- a complex output-side array keeps its imaginary part through both adjoints whatever the dtypes of the data
    and the filter (in particular with a real filter / real data) -/
theorem complex_output_exact (wrtData full cd cf : Bool) : adjOutcome wrtData full cd cf true = .exact := by
  revert wrtData full cd cf
  decide

/-- the casting rules distinguish the outcomes (non-vacuity): a real scratch buffer under a complex `output`
    would drop the imaginary part, a real accumulator under a complex term raises -/
example : adjDtypeRule true false true false = .dropsImag ∧ adjDtypeRule false false false true = .typeError := by
  decide

def partner : Gen.ConvCls → Gen.ConvCls
  | .data => .dataAdjoint
  | .dataAdjoint => .data
  | .filter => .filterAdjoint
  | .filterAdjoint => .filter

/-- what `self.oshape` / `self.ishape` hold, from the class's own `super().__init__(oshape, ishape)` call -/
def attrShape (L : Gen.ConvLinop) : Gen.LinopArg → Option Gen.LinopShape
  | .oshape => some L.superArgs.1
  | .ishape => some L.superArgs.2
  | _ => none

/-- the `conv.*` call each class's `_apply` must make -/
def applySpec : Gen.ConvCls → Gen.ConvFn × List Gen.LinopArg
  | .data => (.convolve, [.input, .array])                       -- convolve(input, filt, …)
  | .dataAdjoint => (.dataAdjoint, [.input, .array, .oshape])    -- convolve_data_adjoint(input, filt, data_shape, …)
  | .filter => (.convolve, [.array, .input])                     -- convolve(data, input, …)
  | .filterAdjoint => (.filterAdjoint, [.input, .array, .oshape]) -- convolve_filter_adjoint(input, data, filt_shape, …)

/-- **the four Linop classes pass consistent arguments**: for each of ConvolveData / ConvolveDataAdjoint /
    ConvolveFilter / ConvolveFilterAdjoint, as extracted from sigpy/linop.py:
    `_adjoint_linop` constructs the partner class with the *same* frozen array, `mode`, `strides` and
    `multi_channel` (which `__init__` stored unchanged) and, as shape argument, the attribute (`ishape` / `oshape`)
    that holds the class's own shape argument; the partner computes its parameters from the same (data shape,
    filter shape) pair and registers the *swapped* (oshape, ishape); `_apply` calls the right `conv` function with
    the stored `mode`, `strides`, `multi_channel`, and the shape it passes to the adjoint functions is the one
    given to the constructor. -/
theorem linop_adjoint_args_agree (c : Gen.ConvCls) :
    let L := Gen.convLinop c
    let P := Gen.convLinop L.adjClass
    L.adjClass = partner c ∧
    L.stores = true ∧ L.outputShapeOk = true ∧ P.array = L.array ∧
    L.adjPasses = (true, true, true) ∧ L.applyPasses = (true, true, true) ∧
    L.adjArgs.length = 2 ∧ L.adjArgs[1]? = some .array ∧
    (L.adjArgs.head?.bind (attrShape L)) = some .shapeArg ∧
    P.paramsArgs = L.paramsArgs ∧ P.superArgs = (L.superArgs.2, L.superArgs.1) ∧
    (L.superArgs = (.outputShape, .shapeArg) ∨ L.superArgs = (.shapeArg, .outputShape)) ∧
    (L.applyFn, L.applyArgs) = applySpec c ∧
    (∀ a ∈ L.applyArgs, a = .input ∨ a = .array ∨ attrShape L a = some .shapeArg) := by
  cases c <;> decide

/-- `A.H.H` is of the class of `A` -/
theorem linop_double_adjoint (c : Gen.ConvCls) :
    (Gen.convLinop (Gen.convLinop c).adjClass).adjClass = c := by
  cases c <;> decide

/-- The Gaussian-integer type `GI` on which the driver runs the model is a commutative *-ring whose
    `+`, `*`, `0`, `star` are literally the executable operations, so the identities above hold for the very
    functions the correspondence check compares with sigpy (here: both 1-D adjoint identities, instantiated). -/
theorem gi_model_is_star_ring (full : Bool) (m n s : Int) (d f y : Int → GI)
    (hm : 1 ≤ m) (hn : 1 ≤ n) (hs : 0 < s) (h : full = true ∨ n ≤ m) :
    (∀ a : GI, star a = GI.conj a) ∧
    ∑ k ∈ Finset.range (codeLen full m n s).toNat, conv1At full m n s d f k * GI.conj (y k) =
      ∑ i ∈ Finset.range m.toNat, d i * GI.conj (dataAdj1At GI.conj full m n s y f i) ∧
    ∑ k ∈ Finset.range (codeLen full m n s).toNat, conv1At full m n s d f k * GI.conj (y k) =
      ∑ j ∈ Finset.range n.toNat, f j * GI.conj (filtAdj1At GI.conj full m n s y d j) :=
  ⟨fun _ => rfl, data_adjoint_code_len full m n s d f y hm hn hs h,
    filter_adjoint_code_len full m n s d f y hm hn hs h⟩

/-- non-vacuity: a concrete complex instance of the identity (m = 3, n = 2, s = 2, valid) -/
example : conv1At (α := GI) false 3 2 2 (fun i => ⟨i, 1⟩) (fun j => ⟨1, j⟩) 0 = ⟨0, 2⟩ := by decide

end SigpyVerif.C08
