import SigpyVerif.Model.C17
import Mathlib.Tactic.FieldSimp
import Mathlib.Tactic.NormNum
import SigpyVerif.Props.C09
import Mathlib.Analysis.InnerProductSpace.Basic
import Mathlib.Analysis.Complex.Basic
import Mathlib.Analysis.InnerProductSpace.Orthonormal
import Mathlib.Analysis.InnerProductSpace.PiL2
/-
  C17 — ESPIRiT maps: unit-norm or exactly zero, phase-referenced to coil 0, eigenvalue estimates of a
  Hermitian PSD Gram operator.

  Up to `espirit_voxel_output` the theorems are about the per-voxel list model of `Model/C17.lean` over ℂ (`cops`): the
  GENERATED definitions of `Gen/EspiritSteps.lean`, `Gen/EspiritFormulas.lean`, `Gen/C14Power.lean`, and what is
  hand-written around them (`csum`, `cpow`, `matVec`, the matrix `gram`, `voxOps.divS`, the recursion `powerRun`).
  From `gramOp` on, the Gram operator `c·Σ_k v_k v_kᴴ` lives in a complex inner-product space; `eig ≤ 1` is Bessel's
  inequality for the orthonormal SVD kernels, first abstractly, then with the generated scale `N/kw^d`
  (`eig_le_one_espirit`).  The last part is the index map of the calibration matrix.
  `Props/C17Power.lean`: the power iteration in an inner-product space for every iteration count (through
  `Props/C14Power.lean`); `Props/C17Dft.lean`: the DFT hypotheses of `eig_le_one_espirit` proved, leaving numpy's SVD
  contract (orthonormal rows of `VH`) as the only numerical hypothesis.
  NOT proved: that `matVec cops (gram cops …)` of the list model is `gramOp`, and that `powerRun` is the run `epw` of
  `Props/C17Power.lean`; the theorems about `gramOp` / `epw` speak of the list model only through that reading.
  NOT theorems (numerical / depends on smoothness and calibration size): orthonormality of the SVD output, the
  float power iteration reaching the eigenvalue, recovery of the true maps; they are checked by
  correspondence / the search oracle only.
-/
namespace SigpyVerif.C17
open SigpyVerif

/-- the scalar operations of the code over ℂ -/
noncomputable def cops : COps ℂ where
  zero := 0
  add := (· + ·)
  mul := (· * ·)
  conj := starRingEnd ℂ
  abs z := ((‖z‖ : ℝ) : ℂ)
  sqrt z := ((Real.sqrt z.re : ℝ) : ℂ)
  div := (· / ·)
  gt a b := decide (a.re > b.re)
  ofBool b := if b then 1 else 0

/-- `Σ_c |x_c|²` -/
noncomputable def sumSq (x : List ℂ) : ℝ := (x.map fun z => ‖z‖ ^ 2).sum

theorem sumSq_nonneg (x : List ℂ) : 0 ≤ sumSq x := by
  unfold sumSq
  induction x with
  | nil => simp
  | cons a l ih => simp only [List.map_cons, List.sum_cons]; exact add_nonneg (sq_nonneg _) ih

theorem csum_eq_sum (l : List ℂ) : csum cops l = l.sum := by
  unfold csum
  induction l with
  | nil => simp [cops]
  | cons a l ih => simp only [List.foldr_cons, List.sum_cons, ih]; rfl

/-- literal powers of the generated code over ℂ -/
theorem cpow_eq (z : ℂ) (p : Nat) : cpow cops z p = z ^ p := by
  unfold cpow
  induction p with
  | zero => simp [cops]
  | succ p ih => rw [List.replicate_succ, List.foldr_cons, ih, pow_succ, mul_comm]; rfl

theorem sum_map_ofReal (x : List ℂ) (f : ℂ → ℝ) : (x.map fun z => ((f z : ℝ) : ℂ)).sum = (((x.map f).sum : ℝ) : ℂ) := by
  induction x with
  | nil => simp
  | cons a l ih => simp only [List.map_cons, List.sum_cons, ih]; push_cast; rfl

/-- **normalize_eq.** The GENERATED `normalize` (`sum(abs(x)**2, axis=coils, keepdims=True) ** 0.5` at one voxel) is
    the ℓ2 norm across coils. -/
theorem normalize_eq (x : List ℂ) : normalize cops x = ((Real.sqrt (sumSq x) : ℝ) : ℂ) := by
  have h : (fun v : ℂ => cpow cops (cops.abs v) 2) = fun v => (((‖v‖ ^ 2 : ℝ)) : ℂ) := by
    funext v; rw [cpow_eq]; simp [cops]
  simp only [normalize, Gen.Espirit.normalize, List.map_map, Function.comp_def, csum_eq_sum, h, sum_map_ofReal]
  simp [cops, sumSq]

theorem sumSq_map_div (y : List ℂ) (N : ℝ) :
    sumSq (y.map fun v => cops.div v ((N : ℝ) : ℂ)) = sumSq y / N ^ 2 := by
  unfold sumSq
  induction y with
  | nil => simp
  | cons a l ih =>
    simp only [List.map_cons, List.sum_cons, ih]
    have : ‖cops.div a ((N : ℝ) : ℂ)‖ ^ 2 = ‖a‖ ^ 2 / N ^ 2 := by
      simp only [cops, Complex.norm_div, Complex.norm_real, Real.norm_eq_abs, div_pow, sq_abs]
    rw [this]; ring

/-- the operator, norm function, start vector and budget `EspiritCalib` hands to `PowerMethod` (as generated) -/
theorem pm_wiring (AHA : List (List ℂ)) (nc : Nat) (mi : Int) :
    Gen.Espirit.pmOperator cops AHA = matVec cops AHA ∧ Gen.Espirit.pmNormFunc cops = some (normalize cops) ∧
    Gen.Espirit.pmStart cops nc = List.replicate nc 1 ∧ Gen.Espirit.pmMaxIter mi = mi ∧ Gen.Espirit.defaultMaxIter = 100 := by
  refine ⟨rfl, rfl, ?_, rfl, rfl⟩
  simp [Gen.Espirit.pmStart, Gen.Espirit.initMps, cops]

/-- the signature defaults, as generated -/
theorem espirit_defaults : Gen.Espirit.defaultCalibWidth = 24 ∧ Gen.Espirit.defaultKernelWidth = 6 ∧
    Gen.Espirit.defaultThresh = 2 / 100 ∧ Gen.Espirit.defaultCrop = 95 / 100 ∧ Gen.Espirit.defaultMaxIter = 100 := by
  refine ⟨rfl, rfl, ?_, ?_, rfl⟩
  · unfold Gen.Espirit.defaultThresh; norm_num
  · unfold Gen.Espirit.defaultCrop; norm_num

/-- **power_step_unit.** One update of the GENERATED `PowerMethod._update` with `EspiritCalib`'s generated operator
    and norm function, `x ↦ Gx/‖Gx‖₂`, returns a vector of unit ℓ2 norm across coils whenever `Gx ≠ 0`, and the
    eigenvalue estimate is `‖Gx‖₂ > 0`. -/
theorem power_step_unit (G : List (List ℂ)) (x : List ℂ) (h : sumSq (matVec cops G x) ≠ 0) :
    sumSq (powerStep cops G x).1 = 1 ∧
    (powerStep cops G x).2 = ((Real.sqrt (sumSq (matVec cops G x)) : ℝ) : ℂ) ∧
    0 < Real.sqrt (sumSq (matVec cops G x)) := by
  have hpos : 0 < sumSq (matVec cops G x) := lt_of_le_of_ne (sumSq_nonneg _) (Ne.symm h)
  have hs : 0 < Real.sqrt (sumSq (matVec cops G x)) := Real.sqrt_pos.mpr hpos
  have hn := normalize_eq (matVec cops G x)
  simp only [normalize] at hn
  refine ⟨?_, ?_, hs⟩
  · simp only [powerStep, Gen.C14.pmUpdate, Gen.C14.pmUpdate_, Gen.C14.pmInit, Gen.Espirit.pmNormFunc, Gen.Espirit.pmOperator,
      Gen.Espirit.forward, voxOps, hn]
    rw [sumSq_map_div, Real.sq_sqrt (le_of_lt hpos)]
    exact div_self h
  · simp only [powerStep, Gen.C14.pmUpdate, Gen.C14.pmUpdate_, Gen.C14.pmInit, Gen.Espirit.pmNormFunc, Gen.Espirit.pmOperator,
      Gen.Espirit.forward, hn]

/-- `powerRun` is `powerStep` iterated: state `k+1` is one `powerStep` from the iterate of state `k` (both unfold to the
    GENERATED `pmUpdate`; `power_step_unit` has the formulas of one step) -/
theorem power_run_succ (G : List (List ℂ)) (nc k : Nat) :
    (powerRun cops G nc (k + 1)).x = (powerStep cops G (powerRun cops G nc k).x).1 ∧
    (powerRun cops G nc (k + 1)).maxEig = some (powerStep cops G (powerRun cops G nc k).x).2 ∧
    (powerRun cops G nc (k + 1)).iter = (powerRun cops G nc k).iter + 1 := ⟨rfl, rfl, rfl⟩

/-- **power_run_unit.** At every voxel, after every update of the run the iterate `self.mps` has unit ℓ2 norm across
    coils, provided that update did not divide by zero (`G x_k ≠ 0`). -/
theorem power_run_unit (G : List (List ℂ)) (nc k : Nat) (h : sumSq (matVec cops G (powerRun cops G nc k).x) ≠ 0) :
    sumSq (powerRun cops G nc (k + 1)).x = 1 := by
  rw [(power_run_succ G nc k).1]
  exact (power_step_unit G _ h).1

/-- the GENERATED Gram term of one kernel (`aH @ conj(aHᵀ)`): entry `(i, j)` is `v_i · conj v_j` -/
theorem gramTerm_eq (v : List ℂ) (i j : Nat) :
    Gen.Espirit.gramTerm cops v i j = v.getD i 0 * (starRingEnd ℂ) (v.getD j 0) := rfl

/-- entry `(i, j)` of the model's `AHA[q]` (`gram`, hand-written around the generated `gramTerm`) for `i, j < nc` -/
theorem gram_entry_eq (scale : ℂ) (vs : List (List ℂ)) (nc i j : Nat) (hi : i < nc) (hj : j < nc) :
    ((gram cops scale vs nc).getD i []).getD j 0 = scale * (vs.map fun v => v.getD i 0 * (starRingEnd ℂ) (v.getD j 0)).sum := by
  simp only [gram, csum_eq_sum, gramTerm_eq]
  simp only [cops, List.getD_eq_getElem?_getD, List.length_map, List.length_range, hi, hj, getElem?_pos,
    List.getElem_map, List.getElem_range, Option.getD_some]


theorem sumSq_map_mul_unit (l : List ℂ) (u : ℂ) (hu : ‖u‖ = 1) : sumSq (l.map (· * u)) = sumSq l := by
  unfold sumSq
  simp [List.map_map, Function.comp_def, hu]

/-- **phase_ref.** For `m₀ ≠ 0` the GENERATED `_output` of a kept voxel multiplies every coil by one unimodular number
    `u`; coil 0 becomes `|m₀|` (real, `≥ 0`) and every coil's modulus — hence the ℓ2 norm — is unchanged. -/
theorem phase_ref (m₀ : ℂ) (rest : List ℂ) (h : m₀ ≠ 0) :
    ∃ u : ℂ, ‖u‖ = 1 ∧ output cops true (m₀ :: rest) = ((‖m₀‖ : ℝ) : ℂ) :: rest.map (· * u) := by
  have hn : (‖m₀‖ : ℝ) ≠ 0 := norm_ne_zero_iff.mpr h
  have hnc : ((‖m₀‖ : ℝ) : ℂ) ≠ 0 := by exact_mod_cast hn
  refine ⟨(starRingEnd ℂ) m₀ / ((‖m₀‖ : ℝ) : ℂ), ?_, ?_⟩
  · rw [norm_div, RCLike.norm_conj, Complex.norm_real, norm_norm, div_self hn]
  · have key : m₀ * ((starRingEnd ℂ) m₀ / ((‖m₀‖ : ℝ) : ℂ)) = ((‖m₀‖ : ℝ) : ℂ) := by
      rw [mul_div_assoc', Complex.mul_conj, Complex.normSq_eq_norm_sq, Complex.ofReal_pow, sq, mul_self_div_self]
    simp only [output, Gen.Espirit.output, cops, List.getD_cons_zero, List.map_cons, List.map_map, Function.comp_def,
      map_div₀, Complex.conj_ofReal, if_true, mul_one, key]

/-- the phase reference preserves the ℓ2 norm across coils -/
theorem phase_ref_norm (m₀ : ℂ) (rest : List ℂ) (h : m₀ ≠ 0) :
    sumSq (output cops true (m₀ :: rest)) = sumSq (m₀ :: rest) := by
  obtain ⟨u, hu, he⟩ := phase_ref m₀ rest h
  rw [he]
  have := sumSq_map_mul_unit rest u hu
  unfold sumSq at *
  simp only [List.map_cons, List.sum_cons, this]
  simp

/-- the crop test of the source is the strict comparison `eig > crop` -/
theorem espirit_keeps_iff (e c : Rat) : Gen.espiritKeeps e c = true ↔ e > c := by
  unfold Gen.espiritKeeps; simp

/-- at a tie `eig = crop` the voxel is NOT kept (the property: zero where the eigenvalue does not exceed the threshold) -/
theorem espirit_tie_dropped (c : Rat) : Gen.espiritKeeps c c = false := by
  unfold Gen.espiritKeeps; simp

/-- a dropped voxel is EXACTLY zero, whatever the power iteration left there (also for `m₀ = 0`, where the phase
    factor is `0/0`: over ℂ `x * 0 = 0`; in floating point `nan * 0 = nan`) -/
theorem output_dropped (m : List ℂ) : output cops false m = m.map fun _ => 0 := by
  simp [output, Gen.Espirit.output, cops, List.map_map, Function.comp_def]

/-- **crop_dichotomy.** The GENERATED `_output` at a voxel is the phase-referenced vector when the voxel is kept
    (`eig > crop`) and EXACTLY zero otherwise; so for a unit-norm power-method vector with `m₀ ≠ 0` the
    result has unit norm with coil 0 equal to `|m₀| ≥ 0`, or is exactly 0. -/
theorem crop_dichotomy (keep : Bool) (m₀ : ℂ) (rest : List ℂ) (h : m₀ ≠ 0) (hunit : sumSq (m₀ :: rest) = 1) :
    (keep = true → sumSq (output cops keep (m₀ :: rest)) = 1 ∧
        (output cops keep (m₀ :: rest)).head? = some ((‖m₀‖ : ℝ) : ℂ)) ∧
    (keep = false → output cops keep (m₀ :: rest) = (m₀ :: rest).map fun _ => 0) := by
  constructor
  · rintro rfl
    rw [phase_ref_norm m₀ rest h, hunit]
    obtain ⟨u, _, he⟩ := phase_ref m₀ rest h
    exact ⟨rfl, by rw [he]; rfl⟩
  · rintro rfl
    exact output_dropped _

/-- **espirit_voxel_output.** `k+1` updates of the generated power step on any matrix `G` from the generated start vector,
    then the generated `_output` with the generated crop test on two ARBITRARY rationals `eig`, `crop` (`eig` is not tied
    to the run's `maxEig`).  If the last update did not divide by zero (`hne`, a hypothesis on the `k`-th iterate) and the
    first coil of the iterate is non-zero, the returned vector is EXACTLY zero when `eig ≤ crop` (ties included) and
    otherwise has unit ℓ2 norm with a real non-negative first coil. -/
theorem espirit_voxel_output (G : List (List ℂ)) (nc k : Nat) (eig crop : Rat) (m₀ : ℂ) (rest : List ℂ)
    (hx : (powerRun cops G nc (k + 1)).x = m₀ :: rest) (h0 : m₀ ≠ 0)
    (hne : sumSq (matVec cops G (powerRun cops G nc k).x) ≠ 0) :
    (eig ≤ crop → output cops (Gen.espiritKeeps eig crop) (powerRun cops G nc (k + 1)).x = (m₀ :: rest).map fun _ => 0) ∧
    (crop < eig → sumSq (output cops (Gen.espiritKeeps eig crop) (powerRun cops G nc (k + 1)).x) = 1 ∧
      ∃ r : ℝ, 0 ≤ r ∧ (output cops (Gen.espiritKeeps eig crop) (powerRun cops G nc (k + 1)).x).head? = some (r : ℂ)) := by
  have hu := power_run_unit G nc k hne
  rw [hx] at hu ⊢
  have hd := crop_dichotomy (Gen.espiritKeeps eig crop) m₀ rest h0 hu
  constructor
  · intro hle
    have : Gen.espiritKeeps eig crop = false := by
      cases hk : Gen.espiritKeeps eig crop
      · rfl
      · exact absurd ((espirit_keeps_iff eig crop).mp hk) (not_lt.mpr hle)
    exact hd.2 this
  · intro hlt
    have hk : Gen.espiritKeeps eig crop = true := (espirit_keeps_iff eig crop).mpr hlt
    obtain ⟨h1, h2⟩ := hd.1 hk
    exact ⟨h1, ‖m₀‖, norm_nonneg _, h2⟩

section gram
variable {E : Type} [NormedAddCommGroup E] [InnerProductSpace ℂ E]
open scoped InnerProductSpace

/-- `G x = c · Σ_k ⟪v_k, x⟫ v_k`: the matrix `c · Σ_k v_k v_kᴴ` that `AHA += aH @ a; AHA *= c` builds -/
noncomputable def gramOp {ι : Type} (S : Finset ι) (v : ι → E) (c : ℝ) (x : E) : E :=
  (c : ℂ) • ∑ k ∈ S, ⟪v k, x⟫_ℂ • v k

/-- **gram_symmetric.** `G` is Hermitian. -/
theorem gram_symmetric {ι : Type} (S : Finset ι) (v : ι → E) (c : ℝ) (x y : E) :
    ⟪gramOp S v c x, y⟫_ℂ = ⟪x, gramOp S v c y⟫_ℂ := by
  unfold gramOp
  simp only [inner_smul_left, inner_smul_right, sum_inner, inner_sum, Complex.conj_ofReal]
  congr 1
  apply Finset.sum_congr rfl
  intro k _
  rw [inner_conj_symm]; ring

/-- **gram_psd.** `⟪G x, x⟫ = c · Σ_k |⟪v_k, x⟫|² ≥ 0` for `c ≥ 0`: the Gram operator is positive semidefinite. -/
theorem gram_psd {ι : Type} (S : Finset ι) (v : ι → E) (c : ℝ) (hc : 0 ≤ c) (x : E) :
    ⟪gramOp S v c x, x⟫_ℂ = ((c * ∑ k ∈ S, ‖⟪v k, x⟫_ℂ‖ ^ 2 : ℝ) : ℂ) ∧ 0 ≤ c * ∑ k ∈ S, ‖⟪v k, x⟫_ℂ‖ ^ 2 := by
  constructor
  · unfold gramOp
    simp only [inner_smul_left, sum_inner, Complex.conj_ofReal]
    push_cast
    congr 1
    apply Finset.sum_congr rfl
    intro k _
    rw [← Complex.mul_conj', mul_comm]
  · exact mul_nonneg hc (Finset.sum_nonneg fun k _ => sq_nonneg _)

/-- **power_monotone.** For a Hermitian `T` and a unit vector `x` with `T x ≠ 0`, the next iterate
    `x' = T x / ‖T x‖` is a unit vector and the estimate does not decrease: `‖T x‖ ≤ ‖T x'‖`
    (Cauchy–Schwarz: `‖Tx‖² = ⟪T²x, x⟫ ≤ ‖T²x‖`).  One step only; for the run see `espirit_pm_estimate_mono`
    (Props/C17Power). -/
theorem power_monotone (T : E →ₗ[ℂ] E) (hT : ∀ x y, ⟪T x, y⟫_ℂ = ⟪x, T y⟫_ℂ) (x : E) (hx : ‖x‖ = 1) (h : T x ≠ 0) :
    ‖((‖T x‖⁻¹ : ℝ) : ℂ) • T x‖ = 1 ∧ ‖T x‖ ≤ ‖T (((‖T x‖⁻¹ : ℝ) : ℂ) • T x)‖ := by
  have hpos : 0 < ‖T x‖ := norm_pos_iff.mpr h
  have hn : ∀ y : E, ‖((‖T x‖⁻¹ : ℝ) : ℂ) • y‖ = ‖T x‖⁻¹ * ‖y‖ := fun y => by
    rw [norm_smul, Complex.norm_real, norm_inv, norm_norm]
  have key : ‖T x‖ * ‖T x‖ ≤ ‖T (T x)‖ := by
    have h2 := re_inner_le_norm (𝕜 := ℂ) (T (T x)) x
    rwa [hT, inner_self_eq_norm_mul_norm, hx, mul_one] at h2
  refine ⟨by rw [hn, inv_mul_cancel₀ hpos.ne'], ?_⟩
  rwa [map_smul, hn, inv_mul_eq_div, le_div_iff₀ hpos]

/-- **power_bounded.** If `‖T z‖ ≤ L‖z‖` for all `z` (an operator bound; `λmax` for a Hermitian PSD operator), the
    estimate `‖T x‖` at a unit vector is `≤ L`. -/
theorem power_bounded (T : E →ₗ[ℂ] E) (L : ℝ) (hL : ∀ z, ‖T z‖ ≤ L * ‖z‖) (x : E) (hx : ‖x‖ = 1) : ‖T x‖ ≤ L := by
  have := hL x; rwa [hx, mul_one] at this

end gram

section bessel
variable {E F : Type} [NormedAddCommGroup E] [InnerProductSpace ℂ E] [NormedAddCommGroup F] [InnerProductSpace ℂ F]
open scoped InnerProductSpace

/-- **bessel_gram_le** (Bessel's inequality). For an orthonormal family `v_k` and any vector `z`,
    `Σ_k |⟪v_k, z⟫|² ≤ ‖z‖²`. -/
theorem bessel_gram_le {ι : Type} (S : Finset ι) (v : ι → E) (hv : Orthonormal ℂ v) (z : E) :
    ∑ k ∈ S, ‖⟪v k, z⟫_ℂ‖ ^ 2 ≤ ‖z‖ ^ 2 := hv.sum_inner_products_le z

/-- The per-voxel quadratic form.  `v_k` orthonormal in `E` (`= ℂ^{coils × kw^d}`: the kept rows of `VH`),
    `T : F → E` (`x ↦ x ⊗ conj e_q`, the voxel's DFT phases) with `‖T x‖² = κ‖x‖²` (`κ = Σ_p |ε_p|² ≤ kw^d / N`), and image-domain
    kernels `a_k` with `⟪a_k, x⟫ = ⟪v_k, T x⟫`.  If the scale `c ≥ 0` satisfies `c·κ ≤ 1` then
    `c · Σ_k |⟪a_k, x⟫|² ≤ ‖x‖²`. -/
theorem gram_quadratic_le {ι : Type} (S : Finset ι) (v : ι → E) (hv : Orthonormal ℂ v) (a : ι → F) (T : F → E)
    (κ c : ℝ) (ha : ∀ k x, ⟪a k, x⟫_ℂ = ⟪v k, T x⟫_ℂ) (hT : ∀ x, ‖T x‖ ^ 2 = κ * ‖x‖ ^ 2) (hc : 0 ≤ c) (hcκ : c * κ ≤ 1)
    (x : F) : c * ∑ k ∈ S, ‖⟪a k, x⟫_ℂ‖ ^ 2 ≤ ‖x‖ ^ 2 := by
  have h1 : ∑ k ∈ S, ‖⟪a k, x⟫_ℂ‖ ^ 2 ≤ κ * ‖x‖ ^ 2 := by
    rw [← hT x]
    simp only [ha]
    exact bessel_gram_le S v hv (T x)
  calc c * ∑ k ∈ S, ‖⟪a k, x⟫_ℂ‖ ^ 2 ≤ c * (κ * ‖x‖ ^ 2) := mul_le_mul_of_nonneg_left h1 hc
    _ = (c * κ) * ‖x‖ ^ 2 := (mul_assoc _ _ _).symm
    _ ≤ ‖x‖ ^ 2 := mul_le_of_le_one_left (sq_nonneg _) hcκ

theorem gram_inner_le {ι : Type} (S : Finset ι) (a : ι → F) (c : ℝ) (hc : 0 ≤ c) (x y : F) :
    ‖⟪gramOp S a c x, y⟫_ℂ‖ ≤ c * ∑ k ∈ S, ‖⟪a k, x⟫_ℂ‖ * ‖⟪a k, y⟫_ℂ‖ := by
  unfold gramOp
  rw [inner_smul_left, norm_mul, Complex.conj_ofReal, Complex.norm_real, Real.norm_eq_abs, abs_of_nonneg hc, sum_inner]
  apply mul_le_mul_of_nonneg_left _ hc
  refine (norm_sum_le _ _).trans (le_of_eq ?_)
  apply Finset.sum_congr rfl
  intro k _
  rw [inner_smul_left, norm_mul, RCLike.norm_conj]

/-- **eig_le_one_of_orthonormal_kernels.**  Under the hypotheses of `gram_quadratic_le` the Gram operator
    `G_q = c·Σ_k a_k a_kᴴ` of a voxel is a contraction: `‖G_q x‖ ≤ ‖x‖` and `re ⟪G_q x, x⟫ ≤ ‖x‖²`.  So every
    eigenvalue of `G_q` (`eigenvalue_le_one`), and every power-method estimate `‖G_q x‖` at a unit vector, is `≤ 1`.
    Facts that enter as hypotheses: the kept rows of numpy's `VH` are orthonormal (`hv`); the voxel's
    kernel values are `a_k = T† v_k` (`ha`) with `‖T x‖² = κ‖x‖²` (`hT`: the entries of the centred orthonormal DFT
    have modulus `1/√N`, zero padding only selects `kw^d` of them, so `κ ≤ kw^d/N`, with equality when the
    kernel fits into the image); `c·κ ≤ 1` holds for the scale `N/kw^d` the translator extracts (`espirit_scale`). -/
theorem eig_le_one_of_orthonormal_kernels {ι : Type} (S : Finset ι) (v : ι → E) (hv : Orthonormal ℂ v) (a : ι → F)
    (T : F → E) (κ c : ℝ) (ha : ∀ k x, ⟪a k, x⟫_ℂ = ⟪v k, T x⟫_ℂ) (hT : ∀ x, ‖T x‖ ^ 2 = κ * ‖x‖ ^ 2) (hc : 0 ≤ c)
    (hcκ : c * κ ≤ 1) (x : F) :
    ‖gramOp S a c x‖ ≤ ‖x‖ ∧ (⟪gramOp S a c x, x⟫_ℂ).re ≤ ‖x‖ ^ 2 := by
  have hq := gram_quadratic_le S v hv a T κ c ha hT hc hcκ
  constructor
  · -- with `n = ‖G x‖`, `m = ‖x‖`: `n² = |⟪G x, G x⟫| ≤ c·s`, Cauchy–Schwarz `s² ≤ p·q`, and the quadratic bounds
    -- `c·p ≤ m²`, `c·q ≤ n²` give `n⁴ ≤ (c·p)(c·q) ≤ m²n²`
    have scalar : ∀ {n m s p q : ℝ}, 0 ≤ n → 0 ≤ m → 0 ≤ q → n ^ 2 ≤ c * s → s ^ 2 ≤ p * q → c * p ≤ m ^ 2 →
        c * q ≤ n ^ 2 → n ≤ m := by
      intro n m s p q hn hm hq h1 h2 hp hqn
      have h3 : n ^ 2 * n ^ 2 ≤ m ^ 2 * n ^ 2 :=
        calc n ^ 2 * n ^ 2 ≤ (c * s) * (c * s) := mul_self_le_mul_self (sq_nonneg n) h1
          _ = c ^ 2 * s ^ 2 := by rw [← mul_pow, sq]
          _ ≤ c ^ 2 * (p * q) := mul_le_mul_of_nonneg_left h2 (sq_nonneg c)
          _ = (c * p) * (c * q) := by rw [sq, mul_mul_mul_comm]
          _ ≤ m ^ 2 * n ^ 2 := mul_le_mul hp hqn (mul_nonneg hc hq) (sq_nonneg m)
      rcases hn.eq_or_lt with h0 | h0
      · rwa [← h0]
      · exact (pow_le_pow_iff_left₀ hn hm two_ne_zero).mp (le_of_mul_le_mul_right h3 (pow_pos h0 2))
    have h1 : ‖gramOp S a c x‖ ^ 2 ≤ c * ∑ k ∈ S, ‖⟪a k, x⟫_ℂ‖ * ‖⟪a k, gramOp S a c x⟫_ℂ‖ := by
      rw [← inner_self_eq_norm_sq (𝕜 := ℂ)]
      exact (RCLike.re_le_norm _).trans (gram_inner_le S a c hc x _)
    exact scalar (norm_nonneg _) (norm_nonneg _) (Finset.sum_nonneg fun _ _ => sq_nonneg _) h1
      (Finset.sum_mul_sq_le_sq_mul_sq S _ _) (hq x) (hq _)
  · rw [(gram_psd S a c hc x).1, Complex.ofReal_re]
    exact hq x

theorem norm_eigenvalue_le_one {g x : F} {lam : ℂ} (h : ‖g‖ ≤ ‖x‖) (hx : x ≠ 0) (hlam : g = lam • x) : ‖lam‖ ≤ 1 := by
  rw [hlam, norm_smul] at h
  exact le_of_mul_le_mul_right (by rwa [one_mul]) (norm_pos_iff.mpr hx)

/-- eigenvalue form: if `G_q x = λ x` with `x ≠ 0` then `|λ| ≤ 1` -/
theorem eigenvalue_le_one {ι : Type} (S : Finset ι) (v : ι → E) (hv : Orthonormal ℂ v) (a : ι → F)
    (T : F → E) (κ c : ℝ) (ha : ∀ k x, ⟪a k, x⟫_ℂ = ⟪v k, T x⟫_ℂ) (hT : ∀ x, ‖T x‖ ^ 2 = κ * ‖x‖ ^ 2) (hc : 0 ≤ c)
    (hcκ : c * κ ≤ 1) (x : F) (hx : x ≠ 0) (lam : ℂ) (hlam : gramOp S a c x = lam • x) : ‖lam‖ ≤ 1 :=
  norm_eigenvalue_le_one (eig_le_one_of_orthonormal_kernels S v hv a T κ c ha hT hc hcκ x).1 hx hlam

end bessel

/-! the instantiation for `EspiritCalib`: `E = ℂ^{coils × kernel offsets}`, `F = ℂ^{coils}` -/

section espirit_instance
open scoped InnerProductSpace
variable {C P : Type} [Fintype C] [Fintype P]

/-- `x ↦ x ⊗ conj ε`: coil vector times the conjugate DFT phases of the voxel over the kernel offsets -/
noncomputable def tensorPhase (ε : P → ℂ) (x : EuclideanSpace ℂ C) : EuclideanSpace ℂ (C × P) :=
  WithLp.toLp 2 fun cp => x cp.1 * (starRingEnd ℂ) (ε cp.2)

/-- value at one voxel of the inverse DFT of a zero-padded kernel `v[c, offset]`: `a[c] = Σ_p v[c,p]·ε_p`, where
    `ε_p` is the entry of the (centred, orthonormal) inverse DFT matrix for this voxel and the grid position the
    centre-padding `sp.resize(kernel, ksp.shape)` puts offset `p` at -/
noncomputable def imgKernel (ε : P → ℂ) (v : EuclideanSpace ℂ (C × P)) : EuclideanSpace ℂ C :=
  WithLp.toLp 2 fun c => ∑ p, v (c, p) * ε p

theorem imgKernel_inner (ε : P → ℂ) (v : EuclideanSpace ℂ (C × P)) (x : EuclideanSpace ℂ C) :
    ⟪imgKernel ε v, x⟫_ℂ = ⟪v, tensorPhase ε x⟫_ℂ := by
  simp only [PiLp.inner_apply, imgKernel, tensorPhase, RCLike.inner_apply, Fintype.sum_prod_type, map_sum, map_mul,
    Finset.mul_sum]
  apply Finset.sum_congr rfl; intro c _
  apply Finset.sum_congr rfl; intro p _
  ring

theorem tensorPhase_norm_sq (ε : P → ℂ) (x : EuclideanSpace ℂ C) :
    ‖tensorPhase ε x‖ ^ 2 = (∑ p, ‖ε p‖ ^ 2) * ‖x‖ ^ 2 := by
  rw [EuclideanSpace.norm_sq_eq, EuclideanSpace.norm_sq_eq, Fintype.sum_prod_type, Finset.mul_sum, ]
  apply Finset.sum_congr rfl; intro c _
  rw [Finset.sum_mul]
  apply Finset.sum_congr rfl; intro p _
  simp only [tensorPhase, norm_mul, RCLike.norm_conj, mul_pow]
  ring

/-- the Gram scaling of the source is `prod(img_shape) / kernel_width ^ img_ndim` -/
theorem espirit_scale (N kw : Int) (d : Nat) : Gen.espiritScale N kw d = (N : Rat) / ((kw ^ d : Int) : Rat) := rfl

theorem espiritScale_nonneg (N kw : Int) (d : Nat) (hN : 0 ≤ N) (hkw : 0 ≤ kw) :
    (0 : ℝ) ≤ ((Gen.espiritScale N kw d : Rat) : ℝ) := by
  rw [espirit_scale]
  exact Rat.cast_nonneg.mpr (div_nonneg (Int.cast_nonneg hN) (Int.cast_nonneg (pow_nonneg hkw d)))

/-- **eig_le_one_espirit.**  `EspiritCalib`'s per-voxel Gram matrix
    `AHA[q] = (N / kw^d) · Σ_k a_k(q) a_k(q)ᴴ`, as the operator `gramOp` (scale = the generated `Gen.espiritScale`), is a
    contraction with quadratic form `≤ ‖x‖²`: all its eigenvalues and all power-method estimates at unit vectors are `≤ 1`.
    HYPOTHESES: `hv` — the kept rows of `VH` from `numpy.linalg.svd(full_matrices=False)`, as vectors over
    `(coil, kernel offset)`, are orthonormal (numpy's contract; the correspondence checks it on the real `VH` of every
    run); `hε` — `a_k(q)[c] = Σ_p v_k[c,p]·ε_p` with `|ε_p|² ≤ 1/N` (centred orthonormal inverse DFT of the
    centre-padded kernel, `= 1/N` where the offset lands on the grid and `0` where `sp.resize` crops it;
    `N = prod(img_shape)`); `hP` — there are `kw^d` kernel offsets.  `hε` and `hP` are proved for the written-out
    phases in Props/C17Dft (`dftPhase_norm_sq_le`, `card_offsets`). -/
theorem eig_le_one_espirit {ι : Type} (S : Finset ι) (v : ι → EuclideanSpace ℂ (C × P)) (hv : Orthonormal ℂ v)
    (ε : P → ℂ) (N kw : Int) (d : Nat) (hN : 0 < N) (hkw : 0 < kw) (hP : (Fintype.card P : Int) = kw ^ d)
    (hε : ∀ p, ‖ε p‖ ^ 2 ≤ 1 / (N : ℝ)) (x : EuclideanSpace ℂ C) :
    ‖gramOp S (fun k => imgKernel ε (v k)) ((Gen.espiritScale N kw d : Rat) : ℝ) x‖ ≤ ‖x‖ ∧
    (⟪gramOp S (fun k => imgKernel ε (v k)) ((Gen.espiritScale N kw d : Rat) : ℝ) x, x⟫_ℂ).re ≤ ‖x‖ ^ 2 := by
  have hNr : (0 : ℝ) < (N : ℝ) := Int.cast_pos.mpr hN
  have hkr : (0 : ℝ) < ((kw ^ d : Int) : ℝ) := Int.cast_pos.mpr (pow_pos hkw d)
  have hc := espiritScale_nonneg N kw d hN.le hkw.le
  have hsc : ((Gen.espiritScale N kw d : Rat) : ℝ) = (N : ℝ) / ((kw ^ d : Int) : ℝ) := by
    rw [espirit_scale, Rat.cast_div, Rat.cast_intCast, Rat.cast_intCast]
  refine eig_le_one_of_orthonormal_kernels S v hv (fun k => imgKernel ε (v k)) (tensorPhase ε)
    (∑ p, ‖ε p‖ ^ 2) _ (fun k x => imgKernel_inner ε (v k) x) (fun x => tensorPhase_norm_sq ε x) hc ?_ x
  calc ((Gen.espiritScale N kw d : Rat) : ℝ) * ∑ p, ‖ε p‖ ^ 2
      ≤ ((Gen.espiritScale N kw d : Rat) : ℝ) * (Fintype.card P • (1 / (N : ℝ))) :=
        mul_le_mul_of_nonneg_left (Finset.sum_le_card_nsmul _ _ _ fun p _ => hε p) hc
    _ = 1 := by
        rw [hsc, nsmul_eq_mul, show ((Fintype.card P : ℕ) : ℝ) = ((kw ^ d : Int) : ℝ) by rw [← hP, Int.cast_natCast],
          mul_one_div, div_mul_div_comm, mul_comm, div_self (mul_pos hkr hNr).ne']

/-- `hv`, `hε`, `hP` of `eig_le_one_espirit` can be met: one coil, `kw^d = 2` offsets, `N = 4`, the single unit kernel
    `(1, 0)`, phases `1/2` -/
example : ∃ (v : Unit → EuclideanSpace ℂ (Unit × Fin 2)) (ε : Fin 2 → ℂ), Orthonormal ℂ v ∧
    (∀ p, ‖ε p‖ ^ 2 ≤ 1 / ((4 : Int) : ℝ)) ∧ ((Fintype.card (Fin 2) : Int) = 2 ^ 1) := by
  refine ⟨fun _ => EuclideanSpace.single ((), 0) 1, fun _ => (1 / 2 : ℂ), ?_, ?_, by simp only [Fintype.card_fin, Nat.cast_ofNat, pow_one]⟩
  · rw [orthonormal_iff_ite]
    intro i j
    simp only [inner_self_eq_norm_sq_to_K, PiLp.norm_single, norm_one, Complex.coe_algebraMap,
      Complex.ofReal_one, one_pow, ↓reduceIte]
  · intro p
    norm_num

end espirit_instance

theorem calibEntries_eq (nc cw kw : Int) (d : Nat) :
    calibEntries nc cw kw d =
      (C09.a2bEntries nc (List.replicate d cw) (List.replicate d kw) (List.replicate d 1)
          (List.replicate d (cw - kw + 1))).map fun E => E.map fun (o, i, _) =>
        ([ravel (List.replicate d (cw - kw + 1)) ((o.drop 1).take d),
          o.headD 0 * shapeProd (List.replicate d kw) + ravel (List.replicate d kw) ((o.drop (1 + d)).take d)], i) := by
  have h1 : Gen.numBlks cw kw 1 = cw - kw + 1 := by
    unfold Gen.numBlks; rw [pyDiv_of_pos _ (by decide)]; simp
  have hnb : C09.numBlksList (List.replicate d cw) (List.replicate d kw) (List.replicate d 1) =
      List.replicate d (cw - kw + 1) := by
    induction d with
    | zero => rfl
    | succ d ih =>
      simp only [C09.numBlksList, List.replicate_succ, C09.zip3With] at ih ⊢
      rw [ih, h1]
  unfold calibEntries
  simp [Gen.espiritCalibLen, Gen.espiritBlk, Gen.espiritStride, Gen.espiritPerm, hnb]
  cases C09.a2bEntries nc (List.replicate d cw) (List.replicate d kw) (List.replicate d 1)
    (List.replicate d (cw - kw + 1)) <;> rfl

theorem mem_calibEntries (nc cw kw : Int) (d : Nat) (L : List (Upd Rat)) (e : List Int × List Int)
    (hL : C09.a2bEntries nc (List.replicate d cw) (List.replicate d kw) (List.replicate d 1)
      (List.replicate d (cw - kw + 1)) = some L) :
    (∃ E, calibEntries nc cw kw d = some E ∧ e ∈ E) ↔ ∃ u ∈ L,
      ([ravel (List.replicate d (cw - kw + 1)) ((u.1.drop 1).take d),
        u.1.headD 0 * shapeProd (List.replicate d kw) + ravel (List.replicate d kw) ((u.1.drop (1 + d)).take d)],
       u.2.1) = e := by
  rw [calibEntries_eq, hL]
  simp only [Option.map_some, Option.some.injEq, exists_eq_left', List.mem_map]

/-- **calib_index_map** (1-D calibration region). Row `n` of the calibration matrix is the sliding block
    starting at `n` (stride 1), columns ordered `(coil, offset)`: entry `(n, c·kw + x)` reads `calib[c, n + x]`,
    for all `0 ≤ c < nc`, `0 ≤ n < cw - kw + 1`, `0 ≤ x < kw`, and there are no other entries. -/
theorem calib_index_map (nc cw kw : Int) (e : List Int × List Int) :
    (∃ E, calibEntries nc cw kw 1 = some E ∧ e ∈ E) ↔
      ∃ c n x, 0 ≤ c ∧ c < nc ∧ 0 ≤ n ∧ n < cw - kw + 1 ∧ 0 ≤ x ∧ x < kw ∧ e = ([n, c * kw + x], [c, n + x]) := by
  rw [mem_calibEntries nc cw kw 1 _ e rfl]
  simp only [C09.a2b1_mem]
  have hf : ∀ c n x : Int, ([ravel [cw - kw + 1] [n], c * shapeProd [kw] + ravel [kw] [x]], [c, n * 1 + x]) =
      ([n, c * kw + x], [c, n + x]) := fun c n x => by simp [ravel, shapeProd]
  constructor
  · rintro ⟨_, ⟨c, n, x, hc0, hc1, hn0, hn1, hx0, hx1, _, rfl⟩, rfl⟩
    exact ⟨c, n, x, hc0, hc1, hn0, hn1, hx0, hx1, hf c n x⟩
  · rintro ⟨c, n, x, hc0, hc1, hn0, hn1, hx0, hx1, rfl⟩
    exact ⟨_, ⟨c, n, x, hc0, hc1, hn0, hn1, hx0, hx1, (by omega : n * 1 + x < cw), rfl⟩, hf c n x⟩

/-- the reshape / transpose / reshape that turn the blocks `[nc] + nb + [kw]*d` into the calibration matrix are
    `reshape([nc, -1, kw^d])`, `transpose([1, 0, 2])`, `reshape([-1, nc·kw^d])` (as generated from the source) -/
theorem calib_shape_steps (nc kw : Int) (d : Nat) :
    Gen.espiritReshape1 nc kw d = [nc, -1, kw ^ d] ∧ Gen.espiritPerm = [1, 0, 2] ∧
    Gen.espiritReshape2 nc kw d = [-1, nc * kw ^ d] ∧ Gen.espiritCalibLen = id ∧ Gen.espiritBlk = id ∧
    Gen.espiritStride = fun _ => 1 := ⟨rfl, rfl, rfl, rfl, rfl, rfl⟩

/-- **calib_index_map_2d** (2-D calibration region `[nc, cw, cw]`, kernel `kw × kw`, for ALL integers `nc, cw, kw`
    — in particular all `calib_width ≥ kernel_width ≥ 1`).  The calibration matrix handed to the SVD has one row
    per sliding block (row-major block index `ny·(cw-kw+1) + nx`, stride 1) and columns ordered
    `(coil, kernel offset row-major)`: entry `(ny·(cw-kw+1)+nx, c·kw² + y·kw + x)` reads `calib[c, ny+y, nx+x]`, and
    there are no other entries.  Through the GENERATED loop nest `Gen.a2b2` (`C09.a2b2_mem`) and the generated
    `reshape / transpose([1,0,2]) / reshape` steps. -/
theorem calib_index_map_2d (nc cw kw : Int) (e : List Int × List Int) :
    (∃ E, calibEntries nc cw kw 2 = some E ∧ e ∈ E) ↔
      ∃ c ny nx y x, 0 ≤ c ∧ c < nc ∧ 0 ≤ ny ∧ ny < cw - kw + 1 ∧ 0 ≤ nx ∧ nx < cw - kw + 1 ∧
        0 ≤ y ∧ y < kw ∧ 0 ≤ x ∧ x < kw ∧
        e = ([ny * (cw - kw + 1) + nx, c * (kw * kw) + (y * kw + x)], [c, ny + y, nx + x]) := by
  rw [mem_calibEntries nc cw kw 2 _ e rfl]
  simp only [C09.a2b2_mem]
  have hf : ∀ c ny nx y x : Int,
      ([ravel [cw - kw + 1, cw - kw + 1] [ny, nx], c * shapeProd [kw, kw] + ravel [kw, kw] [y, x]],
        [c, ny * 1 + y, nx * 1 + x]) =
      ([ny * (cw - kw + 1) + nx, c * (kw * kw) + (y * kw + x)], [c, ny + y, nx + x]) :=
    fun c ny nx y x => by simp [ravel, shapeProd]
  constructor
  · rintro ⟨_, ⟨c, ny, nx, y, x, hc0, hc1, hny0, hny1, hnx0, hnx1, hy0, hy1, hx0, hx1, _, _, rfl⟩, rfl⟩
    exact ⟨c, ny, nx, y, x, hc0, hc1, hny0, hny1, hnx0, hnx1, hy0, hy1, hx0, hx1, hf c ny nx y x⟩
  · rintro ⟨c, ny, nx, y, x, hc0, hc1, hny0, hny1, hnx0, hnx1, hy0, hy1, hx0, hx1, rfl⟩
    exact ⟨_, ⟨c, ny, nx, y, x, hc0, hc1, hny0, hny1, hnx0, hnx1, hy0, hy1, hx0, hx1,
      (by omega : nx * 1 + x < cw), (by omega : ny * 1 + y < cw), rfl⟩, hf c ny nx y x⟩

/-- **calib_index_map_3d** (3-D calibration region `[nc, cw, cw, cw]`, kernel `kw³`): entry
    `((nz·nb+ny)·nb+nx, c·kw³ + (z·kw+y)·kw+x)`, `nb = cw-kw+1`, reads `calib[c, nz+z, ny+y, nx+x]`; no other
    entries; for all integers `nc, cw, kw`.  Through `Gen.a2b3` (`C09.a2b3_mem`). -/
theorem calib_index_map_3d (nc cw kw : Int) (e : List Int × List Int) :
    (∃ E, calibEntries nc cw kw 3 = some E ∧ e ∈ E) ↔
      ∃ c nz ny nx z y x, 0 ≤ c ∧ c < nc ∧ 0 ≤ nz ∧ nz < cw - kw + 1 ∧ 0 ≤ ny ∧ ny < cw - kw + 1 ∧
        0 ≤ nx ∧ nx < cw - kw + 1 ∧ 0 ≤ z ∧ z < kw ∧ 0 ≤ y ∧ y < kw ∧ 0 ≤ x ∧ x < kw ∧
        e = ([(nz * (cw - kw + 1) + ny) * (cw - kw + 1) + nx, c * (kw * kw * kw) + ((z * kw + y) * kw + x)],
             [c, nz + z, ny + y, nx + x]) := by
  rw [mem_calibEntries nc cw kw 3 _ e rfl]
  simp only [C09.a2b3_mem]
  have hf : ∀ c nz ny nx z y x : Int,
      ([ravel [cw - kw + 1, cw - kw + 1, cw - kw + 1] [nz, ny, nx],
          c * shapeProd [kw, kw, kw] + ravel [kw, kw, kw] [z, y, x]],
        [c, nz * 1 + z, ny * 1 + y, nx * 1 + x]) =
      ([(nz * (cw - kw + 1) + ny) * (cw - kw + 1) + nx, c * (kw * kw * kw) + ((z * kw + y) * kw + x)],
        [c, nz + z, ny + y, nx + x]) :=
    fun c nz ny nx z y x => by simp [ravel, shapeProd]
  constructor
  · rintro ⟨_, ⟨c, nz, ny, nx, z, y, x, hc0, hc1, hnz0, hnz1, hny0, hny1, hnx0, hnx1, hz0, hz1, hy0, hy1, hx0, hx1,
      _, _, _, rfl⟩, rfl⟩
    exact ⟨c, nz, ny, nx, z, y, x, hc0, hc1, hnz0, hnz1, hny0, hny1, hnx0, hnx1, hz0, hz1, hy0, hy1, hx0, hx1,
      hf c nz ny nx z y x⟩
  · rintro ⟨c, nz, ny, nx, z, y, x, hc0, hc1, hnz0, hnz1, hny0, hny1, hnx0, hnx1, hz0, hz1, hy0, hy1, hx0, hx1, rfl⟩
    exact ⟨_, ⟨c, nz, ny, nx, z, y, x, hc0, hc1, hnz0, hnz1, hny0, hny1, hnx0, hnx1, hz0, hz1, hy0, hy1, hx0, hx1,
      (by omega : nx * 1 + x < cw), (by omega : ny * 1 + y < cw), (by omega : nz * 1 + z < cw), rfl⟩,
      hf c nz ny nx z y x⟩

/-- non-vacuity: `calib_width = 4`, `kernel_width = 2`, two coils — the 2-D calibration matrix has
    `2·3²·2² = 72` entries -/
example : (calibEntries 2 4 2 2).map List.length = some 72 := by decide

end SigpyVerif.C17
