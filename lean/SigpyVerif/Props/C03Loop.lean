import SigpyVerif.Model.C03
import SigpyVerif.Lemmas.C03
import SigpyVerif.Props.C03
import SigpyVerif.Gen.StackParams
/-
  C03, tie of the hand-written model to the source's LOOPS.

  `Gen/StackParams.lean` contains a statement-by-statement translation of sigpy/linop.py `_hstack_params` and
  `_vstack_params` (`Gen.hstackParams`, `Gen.vstackParams`: the `axis is None` dispatch, the IndexError-raising
  read `shapes[0][axis]` BEFORE the normalisation `axis % ndim`, the outer loop over `shapes[1:]` with the rank
  test, the inner loop `for i in range(ndim)` with its three on-axis updates in source order and the off-axis
  rejection test) and of the shape guards `Linop._check_ishape/_check_oshape` (`Gen.checkIshape/checkOshape`).
  It is regenerated from /repo on every check.

  Here it is proved that these translated loops compute, for EVERY input, what the combined per-shape model
  `stackParams` (`normAxis` + `stackFold` + `compat`, Model/C03.lean) computes, so that every theorem about the
  model (`stack_build_iff`, `stack_indices_prefix_sums`, `stack_none_accepts_all`) is a theorem about the
  translated source; and that the translated guards are the model's `zipGuard`, whose exact meaning
  (a prefix test with `-1` wildcards, NOT shape equality) is characterised.

  Proof architecture (robust to harmless rewrites of the inner loop body): the generated inner step is shown
  equal to a canonical step `innerC` by case analysis + simp/omega; the generated outer step and function body
  are instances of the templates `outerT` / `paramsAxT`; everything else is proved once for the templates.
-/
namespace SigpyVerif.C03

/-- loop state of the parameter functions: `(ishape|oshape, idx, indices)` -/
abbrev St := List Nat × Nat × List Nat

/-- running a translated `for` loop over `l ++ [b]` = running it over `l`, then one more iteration (unless an
    exception was raised before) -/
theorem foldE_append {σ β : Type} (f : σ → β → Except Err σ) (l : List β) (b : β) : ∀ s : σ,
    foldE f s (l ++ [b]) = (match foldE f s l with | .ok s' => f s' b | .error e => .error e) := by
  induction l with
  | nil =>
    intro s
    simp only [List.nil_append, foldE]
    cases f s b <;> rfl
  | cons a l ih =>
    intro s
    simp only [List.cons_append, foldE]
    cases f s a with
    | error e => rfl
    | ok s' => exact ih s'

/-- canonical form of one iteration of `for i in range(ndim)` with the normalised axis `a` -/
def innerC (a : Nat) (shape : List Nat) (st : St) (i : Nat) : Except Err St :=
  if i = a then
    .ok (st.1.set a (st.1.getD a 0 + shape.getD a 0), st.2.1 + shape.getD a 0, st.2.2 ++ [st.2.1])
  else if shape.getD i 0 = st.1.getD i 0 then .ok st else .error .build

/-- the outer loop body in terms of an inner step: rank test, then `for i in range(ndim)` -/
def outerT (inner : Int → Nat → List Nat → St → Nat → Except Err St)
    (axis : Int) (ndim : Nat) (st : St) (shape : List Nat) : Except Err St :=
  if shape.length = ndim then foldE (inner axis ndim shape) st (List.range ndim) else .error .build

/-- the function body in terms of an outer step: `shapes[0]`, `shapes[0][axis]` (IndexError outside
    `[-ndim, ndim)`), then `axis % ndim`, then the loop over `shapes[1:]`, then `return shape, indices` -/
def paramsAxT (outer : Int → Nat → St → List Nat → Except Err St)
    (shapes : List (List Nat)) (axis : Int) : Except Err (List Nat × List Nat) :=
  match shapes with
  | [] => .error .build
  | s0 :: rest =>
    match pyIndex s0 axis with
    | none => .error .build
    | some idx =>
      if s0.length = 0 then .error .build
      else
        match foldE (outer (pyMod axis s0.length) s0.length) (s0, idx, []) rest with
        | .error e => .error e
        | .ok st => .ok (st.1, st.2.2)

/-- after `k` iterations of the inner loop: an exception iff one of the first `k` off-axis entries differs;
    otherwise the state is updated iff the axis has been passed (`a < k`). -/
theorem inner_fold (a : Nat) (shape ish : List Nat) (idx : Nat) (ind : List Nat) (k : Nat) :
    foldE (innerC a shape) (ish, idx, ind) (List.range k) =
      if (List.range k).all (fun i => decide (i = a) || decide (shape.getD i 0 = ish.getD i 0)) then
        .ok (if a < k then (ish.set a (ish.getD a 0 + shape.getD a 0), idx + shape.getD a 0, ind ++ [idx])
             else (ish, idx, ind))
      else .error .build := by
  induction k with
  | zero => rfl
  | succ k ih =>
    rw [List.range_succ, foldE_append, ih, List.all_append, List.all_cons, List.all_nil, Bool.and_true]
    cases (List.range k).all (fun i => decide (i = a) || decide (shape.getD i 0 = ish.getD i 0)) with
    | false => rfl
    | true =>
      simp only [if_true, Bool.true_and, Bool.or_eq_true, decide_eq_true_eq]
      rcases Nat.lt_trichotomy k a with hk | rfl | hk
      · -- the axis is still ahead: compare, nothing written yet
        simp only [if_neg (Nat.lt_asymm hk), if_neg (Nat.not_lt.mpr (Nat.succ_le_of_lt hk)), innerC,
          Nat.ne_of_lt hk, false_or, if_false]
      · simp only [if_neg (Nat.lt_irrefl k), if_pos (Nat.lt_succ_self k), innerC, if_true, true_or]
      · -- the axis has been passed: the entry written at `a` does not disturb the comparison at `k ≠ a`
        simp only [if_pos hk, if_pos (Nat.lt_succ_of_lt hk), innerC, Nat.ne_of_gt hk, false_or, if_false,
          getD_set_ne ish _ 0 (Nat.ne_of_lt hk)]

/-- one iteration of the outer loop = the model's `compat` test and update -/
theorem outer_step (inner : Int → Nat → List Nat → St → Nat → Except Err St) (ax : Int) (a : Nat)
    (hin : ∀ ndim shape st i, inner ax ndim shape st i = innerC a shape st i)
    (ish : List Nat) (idx : Nat) (ind shape : List Nat) (ha : a < ish.length) :
    outerT inner ax ish.length (ish, idx, ind) shape =
      if compat a ish shape then
        .ok (ish.set a (ish.getD a 0 + shape.getD a 0), idx + shape.getD a 0, ind ++ [idx])
      else .error .build := by
  have hf : inner ax ish.length shape = innerC a shape := by
    funext st i; exact hin _ _ _ _
  unfold outerT compat
  rw [hf, inner_fold]
  by_cases hl : shape.length = ish.length
  · simp only [hl, ha, if_true, decide_true, Bool.true_and]
  · simp only [hl, if_false, decide_false, Bool.false_and, Bool.false_eq_true]

/-- the loop over `shapes[1:]` = the model's `stackFold` (the running index is dropped on return) -/
theorem outer_fold (inner : Int → Nat → List Nat → St → Nat → Except Err St) (ax : Int) (a : Nat)
    (hin : ∀ ndim shape st i, inner ax ndim shape st i = innerC a shape st i) (n : Nat) (rest : List (List Nat)) :
    ∀ (ish : List Nat) (idx : Nat) (ind : List Nat), ish.length = n → a < n →
      (match foldE (outerT inner ax n) (ish, idx, ind) rest with
        | .error e => .error e
        | .ok st => .ok (st.1, st.2.2)) = stackFold a rest ish idx ind := by
  induction rest with
  | nil => intro ish idx ind _ _; simp [foldE, stackFold]
  | cons sh rest ih =>
    intro ish idx ind hn ha
    subst hn
    simp only [foldE, stackFold]
    rw [outer_step inner ax a hin ish idx ind sh ha]
    by_cases hc : compat a ish sh = true
    · rw [if_pos hc, if_pos hc]
      simp only []
      have hlen : (ish.set a (ish.getD a 0 + sh.getD a 0)).length = ish.length := by simp
      have := ih (ish.set a (ish.getD a 0 + sh.getD a 0)) (idx + sh.getD a 0) (ind ++ [idx]) hlen ha
      rw [← this]
    · rw [if_neg hc, if_neg hc]

/-- Python list indexing `l[ax]` is defined exactly when `normAxis` accepts the axis, and then reads the
    entry at the normalised axis -/
theorem pyIndex_normAxis (l : List Nat) (ax : Int) :
    (∀ a, normAxis ax l.length = .ok a → pyIndex l ax = some (l.getD a 0)) ∧
    (∀ e, normAxis ax l.length = .error e → pyIndex l ax = none) := by
  constructor
  · intro a h
    obtain ⟨h1, h2, h3, h4⟩ := (normAxis_spec ax l.length a).mp h
    have hget : l[a]? = some (l.getD a 0) := by
      rw [List.getD_eq_getElem?_getD, List.getElem?_eq_getElem h3]; rfl
    unfold pyIndex
    by_cases h0 : 0 ≤ ax
    · rw [if_pos h0, ← hget]; congr 1; omega
    · rw [if_neg h0, if_pos h1, ← hget]; congr 1; omega
  · intro e h
    unfold normAxis at h
    unfold pyIndex
    by_cases hr : -(l.length : Int) ≤ ax ∧ ax < l.length
    · rw [if_pos hr] at h; cases h
    · by_cases h0 : 0 ≤ ax
      · rw [if_pos h0]
        exact List.getElem?_eq_none (by omega)
      · rw [if_neg h0, if_neg (by omega)]

/-- the function body with an int axis = `normAxis` followed by `stackFold` -/
theorem paramsAxT_eq (inner : Int → Nat → List Nat → St → Nat → Except Err St)
    (hin : ∀ (a : Nat) ndim shape st i, inner (a : Int) ndim shape st i = innerC a shape st i)
    (s0 : List Nat) (rest : List (List Nat)) (ax : Int) :
    paramsAxT (outerT inner) (s0 :: rest) ax =
      (match normAxis ax s0.length with
        | .ok a => stackFold a rest s0 (s0.getD a 0) []
        | .error e => .error e) := by
  simp only [paramsAxT]
  cases hn : normAxis ax s0.length with
  | error e =>
    rw [(pyIndex_normAxis s0 ax).2 e hn]
    have he : e = .build := by
      unfold normAxis at hn
      split at hn
      · cases hn
      · cases hn; rfl
    subst he
    rfl
  | ok a =>
    rw [(pyIndex_normAxis s0 ax).1 a hn]
    obtain ⟨_, _, h3, _⟩ := (normAxis_spec ax s0.length a).mp hn
    have hne : ¬ s0.length = 0 := by omega
    have hmod := (normAxis_eq ax s0.length a hn).1
    simp only [if_neg hne, ← hmod]
    exact outer_fold inner (a : Int) a (hin a) s0.length rest s0 (s0.getD a 0) [] rfl h3

/-- the whole function (with the `axis is None` dispatch) = the model's `stackParams` -/
theorem paramsT_eq (inner : Int → Nat → List Nat → St → Nat → Except Err St)
    (hin : ∀ (a : Nat) ndim shape st i, inner (a : Int) ndim shape st i = innerC a shape st i)
    (shapes : List (List Nat)) (axis : Option Int) :
    (match axis with
      | none => paramsAxT (outerT inner) (shapes.map fun shape => [sprod shape]) 0
      | some axis => paramsAxT (outerT inner) shapes axis) = stackParams shapes axis := by
  cases axis with
  | none =>
    cases shapes with
    | nil => rfl
    | cons s0 rest =>
      simp only [List.map_cons, stackParams]
      rw [paramsAxT_eq inner hin]
      rfl
  | some ax =>
    cases shapes with
    | nil => rfl
    | cons s0 rest =>
      simp only [stackParams]
      rw [paramsAxT_eq inner hin]
      rfl

/-- the translated body of `for i in range(ndim)` in `_hstack_params`, with the normalised axis, is the canonical
    step: on the axis add `shape[i]` to the entry, append the OLD index, advance the index; off the axis raise iff
    the entries differ.  (Proved by case analysis + simp, so equivalent spellings of the source pass.) -/
theorem gen_hinner (a : Nat) (ndim : Nat) (shape : List Nat) (st : St) (i : Nat) :
    Gen.hstackInnerStep (a : Int) ndim shape st i = innerC a shape st i := by
  obtain ⟨ish, idx, ind⟩ := st
  simp only [Gen.hstackInnerStep, innerC, Int.natCast_inj]
  by_cases h : i = a
  · subst h; simp [Nat.add_comm]
  · simp only [if_neg h]
    repeat' split
    all_goals first | rfl | simp_all

theorem gen_vinner (a : Nat) (ndim : Nat) (shape : List Nat) (st : St) (i : Nat) :
    Gen.vstackInnerStep (a : Int) ndim shape st i = innerC a shape st i := by
  obtain ⟨ish, idx, ind⟩ := st
  simp only [Gen.vstackInnerStep, innerC, Int.natCast_inj]
  by_cases h : i = a
  · subst h; simp [Nat.add_comm]
  · simp only [if_neg h]
    repeat' split
    all_goals first | rfl | simp_all

set_option linter.unusedSimpArgs false in
/-- the translated body of `for shape in shapes[1:]` in `_hstack_params` is: rank test, then the inner loop -/
theorem gen_houter : Gen.hstackOuterStep = outerT Gen.hstackInnerStep := by
  funext axis ndim st shape
  obtain ⟨ish, idx, ind⟩ := st
  simp only [Gen.hstackOuterStep, outerT]
  by_cases h : shape.length = ndim
  · subst h
    simp only [ne_eq, not_true_eq_false, eq_self, if_false, if_true]
    generalize foldE _ _ _ = r
    rcases r with e | ⟨x, y, z⟩ <;> rfl
  · have h' : ¬ ndim = shape.length := fun e => h e.symm
    simp [h, h']

set_option linter.unusedSimpArgs false in
theorem gen_vouter : Gen.vstackOuterStep = outerT Gen.vstackInnerStep := by
  funext axis ndim st shape
  obtain ⟨ish, idx, ind⟩ := st
  simp only [Gen.vstackOuterStep, outerT]
  by_cases h : shape.length = ndim
  · subst h
    simp only [ne_eq, not_true_eq_false, eq_self, if_false, if_true]
    generalize foldE _ _ _ = r
    rcases r with e | ⟨x, y, z⟩ <;> rfl
  · have h' : ¬ ndim = shape.length := fun e => h e.symm
    simp [h, h']

/-- the translated body of `_hstack_params` (int axis) has the statement order of the template: `shapes[0]`,
    then the read `shapes[0][axis]`, then `axis % ndim`, then the loop, then `return ishape, indices` -/
theorem gen_hparamsAx : Gen.hstackParamsAx = paramsAxT Gen.hstackOuterStep := by
  funext shapes axis
  cases shapes with
  | nil => rfl
  | cons s0 rest =>
    simp only [Gen.hstackParamsAx, paramsAxT]
    cases pyIndex s0 axis with
    | none => rfl
    | some idx =>
      simp only [Int.natCast_eq_zero]
      by_cases h0 : s0.length = 0
      · simp [h0]
      · simp only [if_neg h0]
        generalize foldE _ _ _ = r
        rcases r with e | ⟨x, y, z⟩ <;> rfl

theorem gen_vparamsAx : Gen.vstackParamsAx = paramsAxT Gen.vstackOuterStep := by
  funext shapes axis
  cases shapes with
  | nil => rfl
  | cons s0 rest =>
    simp only [Gen.vstackParamsAx, paramsAxT]
    cases pyIndex s0 axis with
    | none => rfl
    | some idx =>
      simp only [Int.natCast_eq_zero]
      by_cases h0 : s0.length = 0
      · simp [h0]
      · simp only [if_neg h0]
        generalize foldE _ _ _ = r
        rcases r with e | ⟨x, y, z⟩ <;> rfl

/-- **The loops of the source are the model.**  The statement-by-statement translations of `_hstack_params` and
    `_vstack_params` (regenerated from sigpy/linop.py on every check) return, for every list of shapes —
    empty, rank 0, ranks that differ, out-of-range axes — and every axis including `None`, exactly what the model
    `stackParams` returns: the same exception-or-result, the same shape and the same indices.  Hence the
    sequential `for i in range(ndim)` loop with its in-place updates performs the combined per-shape test
    `compat` (same rank, equal off the axis) and the update `(shape[a] += n, indices.append(idx), idx += n)`;
    `shapes[0][axis]` raises exactly outside `[-ndim, ndim)`; and the comparison `i == axis` uses the normalised
    axis.  (Breaks when the normalisation is removed or moved in front of the read, the append is moved behind
    the advance, the rejection test or the rank test is weakened, in either function.) -/
theorem gen_loop_eq_combined (shapes : List (List Nat)) (axis : Option Int) :
    Gen.hstackParams shapes axis = stackParams shapes axis ∧
      Gen.vstackParams shapes axis = stackParams shapes axis := by
  constructor
  · rw [← paramsT_eq Gen.hstackInnerStep gen_hinner shapes axis]
    unfold Gen.hstackParams
    rw [gen_hparamsAx, gen_houter]
    cases axis <;> rfl
  · rw [← paramsT_eq Gen.vstackInnerStep gen_vinner shapes axis]
    unfold Gen.vstackParams
    rw [gen_vparamsAx, gen_vouter]
    cases axis <;> rfl

/-- **build_error_iff for the translated `_hstack_params` / `_vstack_params`**: with an int axis, the source's
    loops accept the shapes exactly when the axis lies in `[-ndim, ndim)` and every further shape has the same
    rank as the first and agrees with it off the normalised axis (`Fits`).  In particular a negative in-range
    axis is accepted by both functions, and nothing else makes them raise. -/
theorem gen_stack_build_iff (s0 : List Nat) (rest : List (List Nat)) (ax : Int) :
    ((∃ r, Gen.hstackParams (s0 :: rest) (some ax) = .ok r) ↔
      ∃ a, normAxis ax s0.length = .ok a ∧ ∀ sh ∈ rest, Fits a s0 sh) ∧
    ((∃ r, Gen.vstackParams (s0 :: rest) (some ax) = .ok r) ↔
      ∃ a, normAxis ax s0.length = .ok a ∧ ∀ sh ∈ rest, Fits a s0 sh) := by
  rw [(gen_loop_eq_combined _ _).1, (gen_loop_eq_combined _ _).2]
  exact ⟨stack_build_iff s0 rest ax, stack_build_iff s0 rest ax⟩

/-- **stack_indices_prefix_sums for the translated source**: whenever the source's `_hstack_params` (or
    `_vstack_params`) returns `(shape, indices)`, the shape is the first shape with the axis entry replaced by the
    sum of all axis entries and `indices` are the running sums `[n₀, n₀+n₁, …]` of the operand sizes along the
    normalised axis — the slab boundaries `Hstack/Vstack._apply` slice at. -/
theorem gen_stack_indices_prefix_sums (s0 : List Nat) (rest : List (List Nat)) (ax : Int) (osh ind : List Nat)
    (h : Gen.hstackParams (s0 :: rest) (some ax) = .ok (osh, ind) ∨
         Gen.vstackParams (s0 :: rest) (some ax) = .ok (osh, ind)) :
    ∃ a, normAxis ax s0.length = .ok a ∧
      osh = s0.set a (s0.getD a 0 + (rest.map (·.getD a 0)).sum) ∧
      ind = prefixFrom (s0.getD a 0) (rest.map (·.getD a 0)) := by
  rw [(gen_loop_eq_combined _ _).1, (gen_loop_eq_combined _ _).2, or_self] at h
  exact stack_indices_prefix_sums s0 rest ax osh ind h

/-- **flattened stacking in the translated source** (`axis=None`): the recursive call on `[[prod(shape)] …]`
    with axis 0 accepts every non-empty list of shapes and returns the total size and the running sums of the
    sizes, for both functions. -/
theorem gen_stack_none_accepts_all (s0 : List Nat) (rest : List (List Nat)) :
    Gen.hstackParams (s0 :: rest) none =
        .ok ([sprod s0 + (rest.map sprod).sum], prefixFrom (sprod s0) (rest.map sprod)) ∧
    Gen.vstackParams (s0 :: rest) none =
        .ok ([sprod s0 + (rest.map sprod).sum], prefixFrom (sprod s0) (rest.map sprod)) := by
  rw [(gen_loop_eq_combined _ _).1, (gen_loop_eq_combined _ _).2]
  exact ⟨stack_none_accepts_all s0 rest, stack_none_accepts_all s0 rest⟩

/-- an empty operand list raises in both functions (`shapes[0]`), with or without an axis -/
theorem gen_stack_empty (axis : Option Int) :
    Gen.hstackParams [] axis = .error .build ∧ Gen.vstackParams [] axis = .error .build := by
  rw [(gen_loop_eq_combined _ _).1, (gen_loop_eq_combined _ _).2]
  cases axis <;> exact ⟨rfl, rfl⟩

/-- **the translated guards are the model's `zipGuard`**: `Linop._check_ishape` and `_check_oshape` (regenerated
    from the source: a loop over `zip(array.shape, self.shape)` raising on `b != -1 and a != b`) accept exactly
    the pairs of shapes `zipGuard` accepts. -/
theorem gen_guard_agree (got adv : List Int) :
    Gen.checkIshape got adv = zipGuard got adv ∧ Gen.checkOshape got adv = zipGuard got adv := by
  induction got generalizing adv with
  | nil => simp [Gen.checkIshape, Gen.checkOshape, zipGuard]
  | cons a got ih =>
    cases adv with
    | nil => simp [Gen.checkIshape, Gen.checkOshape, zipGuard]
    | cons b adv =>
      have h := ih adv
      simp only [Gen.checkIshape, Gen.checkOshape, List.zip_cons_cons, List.all_cons, zipGuard] at h ⊢
      rw [h.1, h.2]
      have e1 : (!Gen.checkIshapeRejects a b) = (decide (b = -1) || decide (a = b)) := by
        by_cases h1 : b = -1 <;> by_cases h2 : a = b <;> simp [Gen.checkIshapeRejects, h1, h2]
      have e2 : (!Gen.checkOshapeRejects a b) = (decide (b = -1) || decide (a = b)) := by
        by_cases h1 : b = -1 <;> by_cases h2 : a = b <;> simp [Gen.checkOshapeRejects, h1, h2]
      rw [e1, e2]
      exact ⟨rfl, rfl⟩

/-- **what the guard really tests**: `zip` stops at the shorter shape, so the guard accepts iff on the COMMON
    prefix every advertised entry is the wildcard `-1` or equals the actual entry.  Nothing is demanded of the
    ranks: an array of a different rank passes as long as the common prefix matches. -/
theorem zipGuard_iff (got adv : List Int) :
    zipGuard got adv = true ↔
      ∀ i, i < got.length → i < adv.length → (adv.getD i 0 = -1 ∨ got.getD i 0 = adv.getD i 0) := by
  induction got generalizing adv with
  | nil => exact ⟨(fun _ i h => nomatch h), fun _ => rfl⟩
  | cons a got ih =>
    cases adv with
    | nil => exact ⟨(fun _ i _ h => nomatch h), fun _ => rfl⟩
    | cons b adv =>
      simp only [zipGuard, Bool.and_eq_true, Bool.or_eq_true, decide_eq_true_eq, ih adv, List.length_cons]
      constructor
      · rintro ⟨h0, h⟩ i hi1 hi2
        cases i with
        | zero => exact h0
        | succ i => exact h i (Nat.lt_of_succ_lt_succ hi1) (Nat.lt_of_succ_lt_succ hi2)
      · intro h
        exact ⟨h 0 (Nat.succ_pos _) (Nat.succ_pos _),
          fun i h1 h2 => h (i + 1) (Nat.succ_lt_succ h1) (Nat.succ_lt_succ h2)⟩

/-- **when the guard is shape equality**: for an array of the advertised rank and an advertised shape without
    wildcards, the guard accepts exactly the advertised shape.  (Both hypotheses are needed: see the examples
    below.) -/
theorem zipGuard_eq_iff (got adv : List Int) (hlen : got.length = adv.length) (hw : ∀ b ∈ adv, b ≠ -1) :
    zipGuard got adv = true ↔ got = adv := by
  induction got generalizing adv with
  | nil =>
    cases adv with
    | nil => simp [zipGuard]
    | cons b adv => simp at hlen
  | cons a got ih =>
    cases adv with
    | nil => simp at hlen
    | cons b adv =>
      have hb : b ≠ -1 := hw b (by simp)
      have := ih adv (by simpa using hlen) (fun x hx => hw x (by simp [hx]))
      simp only [zipGuard, Bool.and_eq_true, Bool.or_eq_true, decide_eq_true_eq, this, List.cons.injEq, hb,
        false_or]

/-- a strictly shorter array shape passes the guard (`zip` truncates) -/
example : zipGuard [2] [2, 3] = true := by decide +kernel
/-- a strictly longer one too -/
example : zipGuard [2, 3, 7] [2, 3] = true := by decide +kernel
/-- `-1` in the advertised shape is a wildcard -/
example : zipGuard [5, 3] [-1, 3] = true := by decide +kernel
example : zipGuard [3] [2, 3] = false := by decide +kernel
example : Gen.checkIshape [2] [2, 3] = true ∧ Gen.checkOshape [5, 3] [-1, 3] = true ∧
    Gen.checkIshape [3] [2, 3] = false := by decide +kernel

/- non-vacuity: the translated loops on concrete inputs -/

example : Gen.hstackParams [[2, 3], [2, 4], [2, 1]] (some (-1)) = .ok ([2, 8], [3, 7]) := by decide +kernel
example : Gen.vstackParams [[2, 3], [5, 3], [1, 3]] (some 0) = .ok ([8, 3], [2, 7]) := by decide +kernel
example : Gen.vstackParams [[2, 3], [5, 3], [1, 3]] (some (-2)) = .ok ([8, 3], [2, 7]) := by decide +kernel
/-- out-of-range axis: `shapes[0][axis]` raises (the read comes before the normalisation) -/
example : Gen.hstackParams [[2, 3], [2, 4]] (some 2) = .error .build := by decide +kernel
example : Gen.hstackParams [[2, 3], [2, 4]] (some (-3)) = .error .build := by decide +kernel
/-- rank mismatch -/
example : Gen.hstackParams [[2, 3], [2, 3, 1]] (some 1) = .error .build := by decide +kernel
/-- off-axis mismatch -/
example : Gen.hstackParams [[2, 3], [2, 4]] (some 0) = .error .build := by decide +kernel
/-- rank-0 shapes have no axis -/
example : Gen.hstackParams [[], []] (some 0) = .error .build := by decide +kernel
/-- `axis=None`: flattened -/
example : Gen.hstackParams [[2, 3], [4], []] none = .ok ([11], [6, 10]) := by decide +kernel
example : Gen.vstackParams [] none = .error .build := by decide +kernel
/-- the hypotheses of `gen_stack_build_iff` are satisfiable -/
example : ∃ a, normAxis (-1) [2, 3].length = .ok a ∧ ∀ sh ∈ [[2, 4], [2, 1]], Fits a [2, 3] sh :=
  (gen_stack_build_iff [2, 3] [[2, 4], [2, 1]] (-1)).1.mp ⟨([2, 8], [3, 7]), by decide⟩


/-- the axis expressions the translator extracts from the `_apply` methods of `Hstack`, `Vstack`, `Diag`
    (`Gen.*ApplyAxis`, Gen/StackParams.lean) are `axis mod ndim`, what `slab` / `assemble` and `concatOpt` use; `rfl` on
    the generated text.  The generated `_apply` bodies (Gen/LinopApply.lean) spell the expression out themselves; they
    are tied to `slab` / `assemble` by `hstackStep_ok`, `vstackStep_ok`, `diagStep_ok` (Props/C03Gen.lean). -/
theorem gen_apply_axis_agree (ax ndim : Int) :
    Gen.hstackApplyAxis ax ndim = pyMod ax ndim ∧ Gen.vstackApplyAxis ax ndim = pyMod ax ndim ∧
      Gen.diagApplyIAxis ax ndim = pyMod ax ndim ∧ Gen.diagApplyOAxis ax ndim = pyMod ax ndim :=
  ⟨rfl, rfl, rfl, rfl⟩

end SigpyVerif.C03
