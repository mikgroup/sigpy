import SigpyVerif.Props.C08
import SigpyVerif.Lemmas.C08Flat
/-
  C08, second part — the flat-array executable model (what the driver runs and the correspondence compares with
  sigpy: `convolveM` / `adjointM` / `linopApply` of Model/C08.lean) versus the index-level definitions the adjoint
  theorems of Props/C08.lean are about; the generated guard table and reshape plumbing of `_get_convolve_params`,
  `_convolve`, `_convolve_data_adjoint`, `_convolve_filter_adjoint` (Gen.ConvParams, Gen.ConvWiring); the generated
  wiring of the four Linop classes (Gen.ConvLinops).
-/
namespace SigpyVerif.C08
open SigpyVerif

/-- **guard table**: `_get_convolve_params` has exactly four explicit `raise` statements, in this order: the
    channel-count check (multi_channel), the length check of `strides`, the size test of mode 'valid', the `else` of
    the mode chain — and the model's error replies carry the exception classes the source names there (so a removed,
    added or reordered guard breaks this theorem, and another exception class changes the reply the correspondence
    compares with the real exception). -/
theorem guard_table :
    Gen.paramGuards.map (·.1) = [.channel, .stridesLen, .validSize, .badMode] ∧
    (∀ g : Gen.ConvGuard, ∃ r ∈ Gen.paramGuards, r.1 = g ∧ guardExc g = r.2) := by
  refine ⟨by decide, ?_⟩
  intro g
  cases g <;> decide

/-- **strides block** (generated): the default is `D` ones, and a given `strides` is rejected exactly when its
    length differs from `D`. -/
theorem strides_spec (D : Nat) (l : Nat) :
    Gen.paramStridesDefault D = List.replicate D 1 ∧ (Gen.paramStridesBad l D = true ↔ l ≠ D) := by
  unfold Gen.paramStridesDefault Gen.paramStridesBad
  constructor
  · simp
  · -- robust to the orientation / an equivalent spelling of the comparison in the source
    simp only [decide_eq_true_eq]
    constructor <;> intro h <;> omega

example : getStrides 2 none = .ok [1, 1] ∧ (getStrides 2 (some [3])).toOption = none ∧
    getStrides 2 (some [3, 2]) = .ok [3, 2] := by decide

/-- `data.shape = b + (c_i,) + m` (multi_channel) / `b + m` -/
def dshOf (mc : Bool) (b : List Int) (ci : Int) (m : List Int) : List Int := b ++ (if mc then [ci] else []) ++ m
/-- `filt.shape = (c_o, c_i) + n` (multi_channel) / `n` -/
def fshOf (mc : Bool) (co ci : Int) (n : List Int) : List Int := (if mc then [co, ci] else []) ++ n
/-- `strides` is None or has one entry per spatial axis -/
def stridesOk (st : Option (List Int)) (D : Nat) : Prop := ∀ s, st = some s → s.length = D
/-- `strides`, or the default `(1,) * D` -/
def stridesOf (st : Option (List Int)) (D : Nat) : List Int := st.getD (List.replicate D 1)

def paramsOf (full : Bool) (b m n s : List Int) (ci co : Int) : Params :=
  { b := b, B := shapeProd b, m := m, n := n, s := s, ci := ci, co := co, p := zip3With (codeLen full) m n s }

theorem stridesOf_length (st : Option (List Int)) (D : Nat) (h : stridesOk st D) : (stridesOf st D).length = D := by
  unfold stridesOf
  cases st with
  | none => simp
  | some s => simpa using h s rfl

theorem getStrides_eq_ok_iff (D : Nat) (st : Option (List Int)) (s : List Int) :
    getStrides (D : Int) st = .ok s ↔ stridesOk st D ∧ stridesOf st D = s := by
  unfold getStrides stridesOk stridesOf
  cases st with
  | none => simp [(strides_spec D 0).1]
  | some s' =>
    have hb := (strides_spec D s'.length).2
    by_cases hl : s'.length = D
    · have hb' : ¬ Gen.paramStridesBad s'.length D = true := fun h => hb.mp h hl
      simp only [if_neg hb']
      simp [hl]
    · simp [hb.mpr hl, hl]

theorem getP_eq_ok_iff (mode : Option Bool) (m n s p : List Int) :
    getP mode m n s = .ok p ↔ ∃ full, mode = some full ∧ (full = true ∨ Gen.convValidRejects m n = false) ∧
      zip3With (codeLen full) m n s = p := by
  unfold getP
  rcases mode with _ | _ | _
  · simp
  · have : codeLen false = Gen.convValidLen := by funext a b c; simp [codeLen]
    cases hr : Gen.convValidRejects m n <;> simp [this]
  · have : codeLen true = Gen.convFullLen := by funext a b c; simp [codeLen]
    simp [this]

/-- **`_get_convolve_params` on every admitted call** (index expressions, strides block and guards generated): for
    `data_shape = b + (c_i,) + m`, `filt_shape = (c_o, c_i) + n` (or `b + m`, `n` and `c_i = c_o = 1` without
    channels), `D = len(n) = len(m) ≥ 1`, strides None or of length `D`, mode 'full' or an admitted 'valid' size
    combination, it returns exactly `b, B = prod(b), m, n, s, c_i, c_o` and `p_d` = the generated length formula. -/
theorem getParams_eq (mc full : Bool) (b m n : List Int) (ci co : Int) (st : Option (List Int))
    (h : m.length = n.length) (hn : 1 ≤ n.length) (hc : mc = false → ci = 1 ∧ co = 1) (hst : stridesOk st n.length)
    (hadm : full = true ∨ Gen.convValidRejects m n = false) :
    getParams (dshOf mc b ci m) (fshOf mc co ci n) (some full) st mc =
      .ok (paramsOf full b m n (stridesOf st n.length) ci co) := by
  have hS : splitShapes (dshOf mc b ci m) (fshOf mc co ci n) mc =
      .ok { D := n.length, b := b, m := m, n := n, ci := ci, co := co } := by
    cases mc with
    | true =>
      have := split_mc b m n ci ci co h hn
      simpa [dshOf, fshOf] using this
    | false =>
      obtain ⟨rfl, rfl⟩ := hc rfl
      have := split_sc b m n h hn
      simpa [dshOf, fshOf] using this
  unfold getParams
  simp only [hS, (getStrides_eq_ok_iff n.length st _).mpr ⟨hst, rfl⟩,
    (getP_eq_ok_iff _ m n _ _).mpr ⟨full, rfl, hadm, rfl⟩, paramsOf]

/-- **`_get_convolve_params` inverted** (all argument combinations): whenever the shape split succeeds, the two shape
    arguments *are* `b + (c_i,) + m` and `(c_o, c_i) + n` (resp. `b + m`, `n` with `c_i = c_o = 1`) for the returned
    `b, m, n, c_i, c_o`, with `len(m) = len(n) = D ≥ 1` — no other pair of shapes gets past the split and the channel
    check. -/
theorem splitShapes_inv (dsh fsh : List Int) (mc : Bool) (S : Split) (h : splitShapes dsh fsh mc = .ok S) :
    dsh = dshOf mc S.b S.ci S.m ∧ fsh = fshOf mc S.co S.ci S.n ∧ S.m.length = S.n.length ∧
    S.D = S.n.length ∧ 1 ≤ S.n.length ∧ (mc = false → S.ci = 1 ∧ S.co = 1) := by
  -- the rank guard passed, so the two shapes split as `split_sc` / `split_mc` expect, and those say what comes back
  have hg := h
  unfold splitShapes at hg
  replace hg := (ite_error_eq_ok hg).1
  unfold Gen.paramD at hg
  cases mc with
  | false =>
    simp only [Bool.false_eq_true, if_false] at hg
    obtain ⟨b, m, rfl, hm⟩ : ∃ b m, dsh = b ++ m ∧ m.length = fsh.length :=
      ⟨dsh.take (dsh.length - fsh.length), dsh.drop (dsh.length - fsh.length), (List.take_append_drop _ _).symm,
        by rw [List.length_drop]; omega⟩
    have hn : 1 ≤ fsh.length := by omega
    rw [split_sc b m fsh hm hn] at h
    cases h
    exact ⟨by simp [dshOf], by simp [fshOf], hm, rfl, hn, fun _ => ⟨rfl, rfl⟩⟩
  | true =>
    simp only [if_true] at hg
    have h3 : 3 ≤ fsh.length := by omega
    rcases fsh with _ | ⟨co, _ | ⟨ci', n⟩⟩
    · exact absurd h3 (by decide)
    · exact absurd h3 (by rw [List.length_singleton]; decide)
    simp only [List.length_cons] at hg
    have hk : dsh.length - (n.length + 1) < dsh.length := by omega
    obtain ⟨b, ci, m, rfl, hm⟩ : ∃ b ci m, dsh = b ++ ci :: m ∧ m.length = n.length :=
      ⟨dsh.take (dsh.length - (n.length + 1)), dsh[dsh.length - (n.length + 1)],
        dsh.drop (dsh.length - (n.length + 1) + 1),
        by rw [← List.drop_eq_getElem_cons hk, List.take_append_drop], by rw [List.length_drop]; omega⟩
    have hn : 1 ≤ n.length := by omega
    rw [split_mc b m n ci ci' co hm hn] at h
    split_ifs at h with hne
    cases h
    obtain rfl := not_not.mp hne
    exact ⟨by simp [dshOf], by simp [fshOf], hm, rfl, hn, fun hc => by cases hc⟩

/-- **every successful `_get_convolve_params` call is an admitted call** (all argument combinations; generated index
    expressions, strides block, guards): if no guard fires, the mode is 'full' or 'valid', the shapes are
    `b + (c_i,) + m` / `(c_o, c_i) + n` (resp. `b + m` / `n`) for the returned tuples, `strides` is None or has length
    `D`, the 'valid' size test admits `(m, n)`, and the returned `s`, `B`, `p` are the defaults / products / generated
    length formulas.  Conversely `getParams_eq`. -/
theorem getParams_inv (dsh fsh : List Int) (mode : Option Bool) (st : Option (List Int)) (mc : Bool) (P : Params)
    (h : getParams dsh fsh mode st mc = .ok P) :
    ∃ full, mode = some full ∧ dsh = dshOf mc P.b P.ci P.m ∧ fsh = fshOf mc P.co P.ci P.n ∧
      P.m.length = P.n.length ∧ 1 ≤ P.n.length ∧ (mc = false → P.ci = 1 ∧ P.co = 1) ∧
      stridesOk st P.n.length ∧ (full = true ∨ Gen.convValidRejects P.m P.n = false) ∧
      P = paramsOf full P.b P.m P.n (stridesOf st P.n.length) P.ci P.co := by
  unfold getParams at h
  split at h
  · cases h
  rename_i S hS
  split at h
  · cases h
  rename_i s hs
  split at h
  · cases h
  rename_i p hp
  cases h
  obtain ⟨e1, e2, e3, e4, e5, e6⟩ := splitShapes_inv _ _ _ _ hS
  rw [e4] at hs
  obtain ⟨hst, rfl⟩ := (getStrides_eq_ok_iff _ _ _).mp hs
  obtain ⟨full, rfl, hadm, rfl⟩ := (getP_eq_ok_iff _ _ _ _ _).mp hp
  exact ⟨full, rfl, e1, e2, e3, e5, e6, hst, hadm, rfl⟩

theorem npReshape_of_nonneg (dims : List Int) (size : Int) (hnn : ∀ d ∈ dims, 0 ≤ d) :
    npReshape size dims = if shapeProd dims = size then some dims else none := by
  unfold npReshape
  have f1 : dims.filter (fun d => decide (d ≥ 0)) = dims :=
    List.filter_eq_self.mpr (by intro d hd; simpa using hnn d hd)
  have f2 : dims.filter (fun d => decide (d < 0)) = [] :=
    List.filter_eq_nil_iff.mpr (by intro d hd; simpa using hnn d hd)
  simp only [f1, f2, List.length_nil]

theorem npReshape_self (dims : List Int) (size : Int) (hnn : ∀ d ∈ dims, 0 ≤ d) (h : shapeProd dims = size) :
    npReshape size dims = some dims := by
  rw [npReshape_of_nonneg dims size hnn, if_pos h]

theorem npReshape_nonneg_some (dims r : List Int) (size : Int) (hnn : ∀ d ∈ dims, 0 ≤ d)
    (h : npReshape size dims = some r) : shapeProd dims = size ∧ r = dims := by
  rw [npReshape_of_nonneg dims size hnn] at h
  split_ifs at h with hc
  exact ⟨hc, (Option.some.inj h).symm⟩

theorem bcast_self (p : List Int) : bcast p p = true := by
  unfold bcast
  induction p with
  | nil => rfl
  | cons a p ih =>
    simp only [beq_self_eq_true, Bool.true_and, List.zip_cons_cons, List.all_cons, Bool.true_or] at ih ⊢
    exact ih

theorem bIdx_self (p k : List Int) (hk : k ∈ allIdx p) : bIdx p k = k := by
  have h := C09.mem_allIdx.mp hk
  clear hk
  unfold bIdx
  induction h with
  | nil => rfl
  | @cons n i p k hi _ ih =>
    rw [List.zipWith_cons_cons, ih]
    by_cases h1 : n = 1
    · have : i = 0 := by omega
      simp [h1, this]
    · simp [h1]

theorem zipWith_fst (m n : List Int) (h : m.length = n.length) : List.zipWith (fun a _ => a) m n = m := by
  induction m generalizing n with
  | nil => simp
  | cons a m ih =>
    cases n with
    | nil => simp at h
    | cons b n => simp [ih n (by simpa using h)]

theorem zipWith_snd (m n : List Int) (h : m.length = n.length) : List.zipWith (fun _ b => b) m n = n := by
  rw [List.zipWith_comm]
  exact zipWith_fst n m h.symm

/-- the per-axis fields of the records `mkAxes w …` as lists (`w`: data adjoint / filter adjoint) -/
theorem mkAxes_fields (w full : Bool) (m n s : List Int) (h1 : m.length = n.length) (h2 : n.length = s.length) :
    (mkAxes w full m n s).map (·.m) = (if w then m else n) ∧
    (mkAxes w full m n s).map (·.n) = (if w then n else m) ∧
    (mkAxes w full m n s).map (·.s) = s ∧
    (mkAxes w full m n s).map (·.L) = List.zipWith (scipyLen full) m n ∧
    (mkAxes w full m n s).map (·.shift) =
      List.zipWith (corrShift (if w then Gen.dataAdjCorrFull full m n else Gen.filtAdjCorrFull full m n))
        (List.zipWith (scipyLen full) m n) (if w then n else m) ∧
    (mkAxes w full m n s).map (·.p) = zip3With (codeLen full) m n s ∧
    (mkAxes w full m n s).length = n.length := by
  obtain ⟨sT, sF⟩ := mkAxes_shapes full m n s ⟨h1, h2⟩
  refine ⟨by cases w; exacts [sF, sT], ?_⟩
  unfold mkAxes
  simp only [zip3_map, zip3With_map]
  refine ⟨?_, zip3With_3 m n s h1 h2, ?_, ?_, trivial, length_zip3With _ m n s h1 h2⟩
  · cases w
    · exact (zip3With_12 (fun a _ => a) m n s h1 h2).trans (zipWith_fst m n h1)
    · exact (zip3With_12 (fun _ b => b) m n s h1 h2).trans (zipWith_snd m n h1)
  · cases w
    -- `congr 1 <;> (…)`: when the generated buffer-length formula is already (definitionally) scipy's length
    -- — e.g. the source spells it `abs(m_d - n_d) + 1` — `congr` closes the goal itself
    · refine (zip3With_12 (fun a b => if full then Gen.filtAdjBufLenFull a b else Gen.filtAdjBufLenValid a b)
        m n s h1 h2).trans ?_
      congr 1 <;> (funext a b; exact (adj_buf_len full a b).2)
    · refine (zip3With_12 (fun a b => if full then Gen.dataAdjBufLenFull a b else Gen.dataAdjBufLenValid a b)
        m n s h1 h2).trans ?_
      congr 1 <;> (funext a b; exact (adj_buf_len full a b).1)
  · cases w
    · refine (zip3With_12 (fun a b => corrShift (Gen.filtAdjCorrFull full m n)
        (if full then Gen.filtAdjBufLenFull a b else Gen.filtAdjBufLenValid a b) a) m n s h1 h2).trans ?_
      simp only [Bool.false_eq_true, if_false]
      rw [zipWith_zipWith_fst]
      congr 1 <;> (funext a b; rw [(adj_buf_len full a b).2])
    · refine (zip3With_12 (fun a b => corrShift (Gen.dataAdjCorrFull full m n)
        (if full then Gen.dataAdjBufLenFull a b else Gen.dataAdjBufLenValid a b) b) m n s h1 h2).trans ?_
      simp only [if_true]
      rw [zipWith_zipWith_snd]
      congr 1 <;> (funext a b; rw [(adj_buf_len full a b).1])

/-- the per-axis fields of the records `mkAxes true …` (data adjoint / forward map), as lists -/
theorem mkAxes_true_fields (full : Bool) (m n s : List Int) (h1 : m.length = n.length) (h2 : n.length = s.length) :
    (mkAxes true full m n s).map (·.m) = m ∧ (mkAxes true full m n s).map (·.n) = n ∧
    (mkAxes true full m n s).map (·.s) = s ∧
    (mkAxes true full m n s).map (·.off) = List.zipWith (convOff full) m n ∧
    (mkAxes true full m n s).map (·.p) = zip3With (codeLen full) m n s ∧
    (mkAxes true full m n s).length = n.length := by
  obtain ⟨fM, fN, fS, -, -, fP, fLen⟩ := mkAxes_fields true full m n s h1 h2
  refine ⟨fM, fN, fS, ?_, fP, fLen⟩
  unfold mkAxes
  simp only [zip3_map, zip3With_map]
  exact zip3With_12 (convOff full) m n s h1 h2

theorem sliceLen_counts (L s : Int) (hs : 0 < s) (k : Int) :
    (0 ≤ k ∧ k * s < L) ↔ (0 ≤ k ∧ k < sliceLen L s) := by
  rw [ceil_count L s k hs, pyDiv_of_pos _ hs]
  unfold sliceLen pyRange
  simp only [show ¬ (s ≤ 0) by omega, if_false, List.length_map, List.length_range, sub_zero]
  constructor <;> rintro ⟨h0, h1⟩ <;> exact ⟨h0, by omega⟩

/-- the stride slice of scipy's result has exactly the advertised length (any mode, either size order) -/
theorem sliceLen_eq_codeLen (full : Bool) (a b c : Int) (ha : 1 ≤ a) (hb : 1 ≤ b) (hc : 1 ≤ c) :
    sliceLen (scipyLen full a b) c = codeLen full a b c := by
  -- both count the `k ≥ 0` with `k * c < scipyLen full a b`
  have hs : 0 < c := by omega
  have h := fun k => (sliceLen_counts (scipyLen full a b) c hs k).symm.trans (conv_out_len_any full a b c k hs)
  have h1 := h (sliceLen (scipyLen full a b) c)
  have h2 := h (codeLen full a b c)
  have hp1 : 0 ≤ sliceLen (scipyLen full a b) c := Int.natCast_nonneg _
  have hp2 := codeLen_pos full ha hb hs
  omega

theorem zipWith_sliceLen_eq (full : Bool) (m n s : List Int) (hm : ∀ x ∈ m, 1 ≤ x) (hn : ∀ x ∈ n, 1 ≤ x)
    (hs : ∀ x ∈ s, 1 ≤ x) :
    List.zipWith sliceLen (List.zipWith (scipyLen full) m n) s = zip3With (codeLen full) m n s := by
  induction m generalizing n s with
  | nil => simp [zip3With]
  | cons a m ih =>
    cases n with
    | nil => simp [zip3With]
    | cons b n =>
      cases s with
      | nil => simp [zip3With]
      | cons c s =>
        simp only [zip3With, List.zipWith_cons_cons]
        rw [sliceLen_eq_codeLen full a b c (hm a (by simp)) (hn b (by simp)) (hs c (by simp)),
          ih n s (fun x hx => hm x (by simp [hx])) (fun x hx => hn x (by simp [hx])) (fun x hx => hs x (by simp [hx]))]

/-- inside the zero-stuffed buffer, at a multiple of the strides on every axis, `t / s` is an index of the
    output-side array (`p` counts the samples `0, s, 2s, … < L`) -/
theorem div_mem_allIdx (A : List Axis) (hok : ∀ a ∈ A, a.ok) (t : List Int) (ht : t.length = A.length)
    (hb : inBounds (A.map (·.L)) t = true)
    (hm : (List.zip t (A.map (·.s))).all (fun x => pyMod x.1 x.2 == 0) = true) :
    List.zipWith pyDiv t (A.map (·.s)) ∈ allIdx (A.map (·.p)) := by
  induction A generalizing t with
  | nil =>
    cases t with
    | nil => simp [allIdx]
    | cons _ _ => simp at ht
  | cons a R ih =>
    cases t with
    | nil => simp at ht
    | cons t1 tr =>
      obtain ⟨_, hs, _, hp⟩ := hok a (by simp)
      simp only [List.map_cons, inBounds_cons, Bool.and_eq_true, decide_eq_true_eq, List.zip_cons_cons,
        List.all_cons, beq_iff_eq] at hb hm
      rw [List.map_cons, List.map_cons, List.zipWith_cons_cons, C09.mem_allIdx, List.forall₂_cons, ← C09.mem_allIdx]
      refine ⟨?_, ih (fun b hb' => hok b (by simp [hb'])) tr (by simpa using ht) hb.2 hm.2⟩
      rw [pyDiv_of_pos _ hs]
      have hmod := hm.1
      rw [pyMod_of_pos _ hs] at hmod
      have hq : t1 / a.s * a.s = t1 := Int.ediv_mul_cancel (Int.dvd_of_emod_eq_zero hmod)
      have h0 : 0 ≤ t1 / a.s := Int.ediv_nonneg hb.1.1 (le_of_lt hs)
      exact (hp (t1 / a.s)).mp ⟨h0, by rw [hq]; exact hb.1.2⟩

theorem adjL_eq (w full : Bool) (P : Params) : adjL w full P = List.zipWith (scipyLen full) P.m P.n := by
  unfold adjL
  cases w <;> cases full <;> simp only [Bool.false_eq_true, if_false, if_true] <;> congr 1 <;> funext a b <;>
    first
    | simpa using (adj_buf_len false a b).2
    | simpa using (adj_buf_len true a b).2
    | simpa using (adj_buf_len false a b).1
    | simpa using (adj_buf_len true a b).1

/-- both adjoints never drop an imaginary part: the outcome is a TypeError or exact -/
theorem adjOutcome_exact (w full cd cf cy : Bool) (h : adjOutcome w full cd cf cy ≠ .typeError) :
    adjOutcome w full cd cf cy = .exact := by
  obtain ⟨-, -, hT, hF⟩ := dtype_rule
  cases w
  · rw [hF] at h ⊢
    split_ifs at h ⊢
    · exact absurd rfl h
    · rfl
  · rw [hT] at h ⊢
    split_ifs at h ⊢
    · exact absurd rfl h
    · rfl

theorem domainBad_eq_false_iff (P : Params) :
    domainBad P = false ↔ ∀ x ∈ P.b ++ [P.ci, P.co] ++ P.m ++ P.n ++ P.s, 1 ≤ x := by
  unfold domainBad
  rw [List.any_eq_false]
  exact forall₂_congr fun x _ => by rw [decide_eq_true_eq, not_lt]

theorem shapeProd_chan (mc : Bool) (b r : List Int) (c : Int) (hc : mc = false → c = 1) :
    shapeProd (b ++ (if mc then [c] else []) ++ r) = shapeProd (shapeProd b :: c :: r) := by
  cases mc with
  | true => simp [C09.shapeProd_append, C09.shapeProd_cons]
  | false =>
    obtain rfl := hc rfl
    simp [C09.shapeProd_append, C09.shapeProd_cons]

theorem shapeProd_dshOf (mc : Bool) (b m : List Int) (ci : Int) (hc : mc = false → ci = 1) :
    shapeProd (dshOf mc b ci m) = shapeProd (shapeProd b :: ci :: m) :=
  shapeProd_chan mc b m ci hc

theorem shapeProd_fshOf (mc : Bool) (n : List Int) (ci co : Int) (hc : mc = false → ci = 1 ∧ co = 1) :
    shapeProd (fshOf mc co ci n) = shapeProd (co :: ci :: n) := by
  cases mc with
  | true => simp [fshOf, C09.shapeProd_cons]
  | false =>
    obtain ⟨rfl, rfl⟩ := hc rfl
    simp [fshOf, C09.shapeProd_cons]

theorem forall_mem_chan {p : Int → Prop} (mc : Bool) (b r : List Int) (c : Int) (hb : ∀ x ∈ b, p x) (hc : p c)
    (hr : ∀ x ∈ r, p x) : ∀ x ∈ b ++ (if mc then [c] else []) ++ r, p x := by
  intro d hd
  simp only [List.mem_append] at hd
  rcases hd with (hd | hd) | hd
  · exact hb d hd
  · cases mc <;> simp at hd
    exact hd ▸ hc
  · exact hr d hd

private theorem nonneg_cons2 {A C : Int} {l : List Int} (hA : 0 < A) (hC : 1 ≤ C) (hl : ∀ x ∈ l, 0 ≤ x) :
    ∀ d ∈ A :: C :: l, 0 ≤ d :=
  List.forall_mem_cons.mpr ⟨le_of_lt hA, List.forall_mem_cons.mpr ⟨by omega, hl⟩⟩

private theorem nonneg_of_pos {l : List Int} (h : ∀ x ∈ l, 1 ≤ x) : ∀ x ∈ l, 0 ≤ x :=
  fun x hx => le_trans zero_le_one (h x hx)

theorem admitted_pos (full : Bool) (b m n s : List Int) (ci co : Int)
    (hadm : full = true ∨ Gen.convValidRejects m n = false)
    (hpos : ∀ x ∈ b ++ [ci, co] ++ m ++ n ++ s, 1 ≤ x) :
    (∀ x ∈ b, 1 ≤ x) ∧ 1 ≤ ci ∧ 1 ≤ co ∧ (∀ x ∈ m, 1 ≤ x) ∧ (∀ x ∈ n, 1 ≤ x) ∧ (∀ x ∈ s, 1 ≤ x) ∧
    0 < shapeProd b ∧ (∀ x ∈ List.zip m n, 1 ≤ x.1 ∧ 1 ≤ x.2) ∧ (∀ w, ∀ a ∈ mkAxes w full m n s, a.ok) ∧
    ∀ x ∈ zip3With (codeLen full) m n s, 0 ≤ x := by
  simp only [List.forall_mem_append, List.forall_mem_cons] at hpos
  obtain ⟨⟨⟨⟨hb1, hci, hco, -⟩, hm1⟩, hn1⟩, hs1⟩ := hpos
  have hmn : ∀ x ∈ List.zip m n, 1 ≤ x.1 ∧ 1 ≤ x.2 :=
    fun x hx => ⟨hm1 _ (List.of_mem_zip hx).1, hn1 _ (List.of_mem_zip hx).2⟩
  have hok := fun w => mkAxes_ok_admitted w full m n s hmn hadm (fun c hc => by have := hs1 c hc; omega)
  refine ⟨hb1, hci, hco, hm1, hn1, hs1, C09.shapeProd_pos b (fun x hx => by have := hb1 x hx; omega), hmn, hok, ?_⟩
  intro x hx
  rw [← mkAxes_map_p true, List.mem_map] at hx
  obtain ⟨a, ha, rfl⟩ := hx
  exact (hok true a ha).2.2.1

theorem npReshape_dshOf (mc : Bool) (b m : List Int) (ci : Int) (hc : mc = false → ci = 1) (hB : 0 < shapeProd b)
    (hci : 1 ≤ ci) (hm : ∀ x ∈ m, 1 ≤ x) :
    npReshape (shapeProd (dshOf mc b ci m)) (shapeProd b :: ci :: m) = some (shapeProd b :: ci :: m) :=
  npReshape_self _ _ (nonneg_cons2 hB hci (nonneg_of_pos hm)) (shapeProd_dshOf mc b m ci hc).symm

theorem npReshape_fshOf (mc : Bool) (n : List Int) (ci co : Int) (hc : mc = false → ci = 1 ∧ co = 1) (hco : 1 ≤ co)
    (hci : 1 ≤ ci) (hn : ∀ x ∈ n, 1 ≤ x) :
    npReshape (shapeProd (fshOf mc co ci n)) (co :: ci :: n) = some (co :: ci :: n) :=
  npReshape_self _ _ (nonneg_cons2 (by omega) hci (nonneg_of_pos hn)) (shapeProd_fshOf mc n ci co hc).symm

theorem evalShape_conv (P : Params) (dsh fsh : List Int) (mc : Bool) :
    evalShape P dsh fsh Gen.convNorm_data = P.B :: P.ci :: P.m ∧
    evalShape P dsh fsh Gen.convNorm_filt = P.co :: P.ci :: P.n ∧
    evalShape P dsh fsh Gen.convNorm_output = P.B :: P.co :: P.p ∧
    evalShape P dsh fsh (if mc then Gen.convFinalMc else Gen.convFinalSc) =
      P.b ++ (if mc then [P.co] else []) ++ P.p := by
  refine ⟨?_, ?_, ?_, ?_⟩
  · simp [evalShape, evalTerm, Gen.convNorm_data]
  · simp [evalShape, evalTerm, Gen.convNorm_filt]
  · simp [evalShape, evalTerm, Gen.convNorm_output]
  · cases mc <;> simp [evalShape, evalTerm, Gen.convFinalMc, Gen.convFinalSc]

theorem evalShape_adj (w : Bool) (P : Params) (dsh fsh : List Int) (mc : Bool) :
    evalShape P dsh fsh (if w then Gen.dataAdjNorm_data else Gen.filtAdjNorm_data) = P.B :: P.ci :: P.m ∧
    evalShape P dsh fsh (if w then Gen.dataAdjNorm_filt else Gen.filtAdjNorm_filt) = P.co :: P.ci :: P.n ∧
    evalShape P dsh fsh (if w then Gen.dataAdjNorm_output else Gen.filtAdjNorm_output) = P.B :: P.co :: P.p ∧
    evalShape P dsh fsh (if w then (if mc then Gen.dataAdjFinalMc else Gen.dataAdjFinalSc)
      else (if mc then Gen.filtAdjFinalMc else Gen.filtAdjFinalSc)) = if w then dsh else fsh := by
  refine ⟨?_, ?_, ?_, ?_⟩
  · cases w <;> simp [evalShape, evalTerm, Gen.dataAdjNorm_data, Gen.filtAdjNorm_data]
  · cases w <;> simp [evalShape, evalTerm, Gen.dataAdjNorm_filt, Gen.filtAdjNorm_filt]
  · cases w <;> simp [evalShape, evalTerm, Gen.dataAdjNorm_output, Gen.filtAdjNorm_output]
  · cases w <;> cases mc <;>
      simp [evalShape, evalTerm, Gen.dataAdjFinalMc, Gen.dataAdjFinalSc, Gen.filtAdjFinalMc, Gen.filtAdjFinalSc]

section flat
variable {α : Type} [CommRing α]

/-- **`convolve` (flat arrays, what the driver runs and the correspondence compares with `sigpy.convolve`) equals the
    index-level definition `convMCD`** the adjoint theorems are about — for every number of spatial axes, every batch
    shape, with or without channels, both modes (either size order in 'valid'), default or explicit strides:
    on every admitted call with positive extents the reply is `ok`, its shape is `b + (c_o,) + p` (resp. `b + p`) with
    `p` the generated length formula, and the entry at the row-major position of `(b, o, k)` is
    `convMCD (mkAxes …) B c_o c_i data filt b o k` (`data`, `filt` read in the normalised `(B, c_i) + m`,
    `(c_o, c_i) + n` layouts).  Consequently `adjoint_nd_mc_code` is a statement about the very function compared with
    the real code. -/
theorem convolve_eq_index (mc full : Bool) (b m n : List Int) (ci co : Int) (st : Option (List Int)) (cd cf : Bool)
    (data filt : Array α)
    (hlen : m.length = n.length) (hn : 1 ≤ n.length) (hc : mc = false → ci = 1 ∧ co = 1)
    (hst : stridesOk st n.length) (hadm : full = true ∨ Gen.convValidRejects m n = false)
    (hpos : ∀ x ∈ b ++ [ci, co] ++ m ++ n ++ stridesOf st n.length, 1 ≤ x)
    (hdt : convOutcome cd cf ≠ .typeError) :
    convolve (dshOf mc b ci m) (fshOf mc co ci n) full st mc cd cf data filt =
      .ok (b ++ (if mc then [co] else []) ++ (mkAxes true full m n (stridesOf st n.length)).map (·.p),
        ((allIdx (shapeProd b :: co :: (mkAxes true full m n (stridesOf st n.length)).map (·.p))).map fun idx =>
          match idx with
          | bi :: o :: k =>
            convMCD (mkAxes true full m n (stridesOf st n.length)) (shapeProd b).toNat co.toNat ci.toNat
              (fun i j r => readZ (shapeProd b :: ci :: m) data (i :: j :: r))
              (fun i j r => readZ (co :: ci :: n) filt (i :: j :: r)) bi o k
          | _ => 0).toArray) := by
  have hsl : (stridesOf st n.length).length = n.length := stridesOf_length st _ hst
  generalize hs : stridesOf st n.length = s at *
  obtain ⟨fM, fN, fS, fOff, fP, fLen⟩ := mkAxes_true_fields full m n s hlen hsl.symm
  obtain ⟨hb1, hci, hco, hm1, hn1, hs1, hB, -, -, hp0⟩ := admitted_pos full b m n s ci co hadm hpos
  rw [fP]
  unfold convolve convolveM
  rw [getParams_eq mc full b m n ci co st hlen hn hc hst hadm, hs]
  simp only [wiring_flags.1, Bool.not_true, Bool.false_eq_true, if_false, Option.getD_some]
  obtain ⟨eD, eF, eO, eFin⟩ := evalShape_conv (paramsOf full b m n s ci co) (dshOf mc b ci m) (fshOf mc co ci n) mc
  have g1 : domainBad (paramsOf full b m n s ci co) = false := (domainBad_eq_false_iff _).mpr hpos
  have g2 := npReshape_dshOf mc b m ci (fun h => (hc h).1) hB hci hm1
  have g3 := npReshape_fshOf mc n ci co hc hco hci hn1
  have g4 : (zip3With (codeLen full) m n s).any (· < 0) = false := by
    rw [List.any_eq_false]
    intro x hx
    rw [decide_eq_true_eq, not_lt]
    exact hp0 x hx
  have g5 : List.zipWith sliceLen (List.zipWith (scipyLen full) m n) s = zip3With (codeLen full) m n s :=
    zipWith_sliceLen_eq full m n s hm1 hn1 hs1
  have g6 : (convOutcome cd cf == DtypeOutcome.typeError) = false := by
    simpa using hdt
  have g7 : npReshape (shapeProd (shapeProd b :: co :: zip3With (codeLen full) m n s))
      (b ++ (if mc then [co] else []) ++ zip3With (codeLen full) m n s) =
      some (b ++ (if mc then [co] else []) ++ zip3With (codeLen full) m n s) :=
    npReshape_self _ _ (forall_mem_chan mc b _ co (nonneg_of_pos hb1) (by omega) hp0)
      (shapeProd_chan mc b _ co (fun h => (hc h).2))
  unfold convolveCore
  simp only [paramsOf] at eD eF eO eFin g1
  simp only [paramsOf, eD, eF, eO, eFin, g1, g2, g3, g4, g5, g6, g7, bcast_self, Bool.not_true, Bool.false_eq_true,
    if_false, ne_eq, not_true_eq_false, or_self]
  refine congrArg (fun l => Except.ok (_, List.toArray l)) (List.map_congr_left fun idx hidx => ?_)
  obtain ⟨bi, o, k, rfl, hk⟩ := mem_allIdx_cons2 hidx
  have hklen : k.length = (mkAxes true full m n s).length := by
    rw [C09.length_of_mem_allIdx hk, ← fP, List.length_map]
  simp only [bIdx_self _ k hk]
  unfold convMCD
  rw [loopSumL_eq]
  refine congrArg (loopSum _ _ _ _ _ _) (funext fun b' => funext fun o' => funext fun c' => ?_)
  have := convNDAt_eq_convD (mkAxes true full m n s)
    (fun ii => readZ (shapeProd b :: ci :: m) data (pick Gen.convLhsIdx.1 b' o' c' :: pick Gen.convLhsIdx.2 b' o' c' :: ii))
    (fun jj => readZ (co :: ci :: n) filt (pick Gen.convRhsIdx.1 b' o' c' :: pick Gen.convRhsIdx.2 b' o' c' :: jj))
    k hklen (by
      intro js hjs
      unfold readZ
      rw [fN] at hjs
      simp [inBounds_cons, hjs])
  rw [fM, fOff, fS] at this
  exact this

/-- scipy's 'valid' correlate needs one operand at least as long as the other on every axis: on every admitted call
    either adjoint chooses mode 'full', or its zero-stuffed buffer and its frozen operand are ordered that way -/
theorem adj_valid_sizes (w full : Bool) (m n : List Int) (hmn : ∀ x ∈ List.zip m n, 1 ≤ x.1 ∧ 1 ≤ x.2)
    (hadm : full = true ∨ Gen.convValidRejects m n = false) :
    (if w then Gen.dataAdjCorrFull full m n else Gen.filtAdjCorrFull full m n) = true ∨
      (∀ x ∈ List.zip (List.zipWith (scipyLen full) m n) (if w then n else m), x.1 ≥ x.2) ∨
      (∀ x ∈ List.zip (List.zipWith (scipyLen full) m n) (if w then n else m), x.2 ≥ x.1) := by
  cases hcf : (if w then Gen.dataAdjCorrFull full m n else Gen.filtAdjCorrFull full m n)
  · right
    have hmem : ∀ x ∈ List.zip (List.zipWith (scipyLen full) m n) (if w then n else m),
        ∃ a b, (a, b) ∈ List.zip m n ∧ x = (scipyLen full a b, if w then b else a) := by
      intro x hx
      cases w
      · exact mem_zip_zipWith_fst _ m n x hx
      · exact mem_zip_zipWith_snd _ m n x hx
    -- the adjoint correlates in mode 'valid': after a 'full' convolution the buffer is the longer operand, after a
    -- 'valid' one the frozen operand is
    have hord : ∀ a b, (a, b) ∈ List.zip m n → full = true ∨ if w then a ≤ b else b ≤ a := by
      intro a b hab
      cases w
      · exact (filt_adj_mode full m n hadm a b hab).2 hcf
      · exact (data_adj_mode full m n hadm a b hab).2 hcf
    cases full
    · refine Or.inr fun x hx => ?_
      obtain ⟨a, b, hab, rfl⟩ := hmem x hx
      have h := (hord a b hab).resolve_left Bool.false_ne_true
      have := hmn _ hab
      cases w <;> simp only [scipyLen, intAbs, Bool.false_eq_true, if_false, if_true] at h ⊢ <;> split_ifs <;> omega
    · refine Or.inl fun x hx => ?_
      obtain ⟨a, b, hab, rfl⟩ := hmem x hx
      have := hmn _ hab
      cases w <;> simp only [scipyLen, Bool.false_eq_true, if_false, if_true] <;> omega
  · exact Or.inl rfl

/-- one entry of either adjoint, flat = recursive: correlating the zero-stuffed buffer as `adjointCore` reads it (zero
    outside the buffer and off the stride grid, `Y[t / s]` on it) with `V` is `adjD` -/
theorem corrNDAt_stuffed (conj : α → α) (A : List Axis) (hok : ∀ a ∈ A, a.ok) (Y V : List Int → α) (is : List Int)
    (his : is.length = A.length) :
    corrNDAt conj (A.map (·.n))
      (fun t => if inBounds (A.map (·.L)) t = true ∧
          (List.zip t (A.map (·.s))).all (fun x => pyMod x.1 x.2 == 0) = true
        then Y (bIdx (A.map (·.p)) (List.zipWith pyDiv t (A.map (·.s)))) else 0)
      V (A.map (·.shift)) is = adjD conj A Y V is := by
  rw [corrNDAt_eq_corrD conj A _ V is his]
  unfold adjD
  apply corrD_congr
  intro ts hts
  rw [stuffD_eq A Y ts hts]
  by_cases hC : inBounds (A.map (·.L)) ts = true ∧
      (List.zip ts (A.map (·.s))).all (fun x => pyMod x.1 x.2 == 0) = true
  · rw [if_pos hC, if_pos hC, bIdx_self _ _ (div_mem_allIdx A hok ts hts hC.1 hC.2)]
  · rw [if_neg hC, if_neg hC]

/-- **both adjoints (flat arrays) equal the index-level definitions**, `w = true`: `convolve_data_adjoint`, `other` the
    filter; `w = false`: `convolve_filter_adjoint`, `other` the data.  On every admitted call the reply is `ok`, has the
    requested shape, and the entry at the row-major position of `(s1, s2, i)` is what the loop nest leaves in slice
    `[s1, s2]`: the sum of `adjD` (zero-stuff, then correlate) over the triples the generated wiring sends there. -/
theorem adjoint_eq_index (conj re : α → α) (w mc full : Bool) (b m n : List Int) (ci co : Int)
    (st : Option (List Int)) (cd cf cy : Bool) (ysh : List Int) (y other : Array α)
    (hlen : m.length = n.length) (hn : 1 ≤ n.length) (hc : mc = false → ci = 1 ∧ co = 1)
    (hst : stridesOk st n.length) (hadm : full = true ∨ Gen.convValidRejects m n = false)
    (hpos : ∀ x ∈ b ++ [ci, co] ++ m ++ n ++ stridesOf st n.length, 1 ≤ x)
    (hy : shapeProd ysh = shapeProd (shapeProd b :: co :: zip3With (codeLen full) m n (stridesOf st n.length)))
    (hdt : adjOutcome w full cd cf cy ≠ .typeError) :
    adjoint conj re w (dshOf mc b ci m) (fshOf mc co ci n) full st mc cd cf cy ysh y other =
      .ok (if w then dshOf mc b ci m else fshOf mc co ci n,
        ((allIdx ((if w then shapeProd b else co) :: ci :: (if w then m else n))).map fun idx =>
          match idx with
          | s1 :: s2 :: i =>
            loopSum (shapeProd b).toNat co.toNat ci.toNat (if w then Gen.dataAdjAccIdx else Gen.filtAdjAccIdx) s1 s2
              fun b' o' c' => adjD conj (mkAxes w full m n (stridesOf st n.length))
                (at2 (fun i j r =>
                    readZ (shapeProd b :: co :: zip3With (codeLen full) m n (stridesOf st n.length)) y (i :: j :: r))
                  (if w then Gen.dataAdjBufSrcIdx else Gen.filtAdjBufSrcIdx) b' o' c')
                (at2 (fun i j r => readZ (if w then co :: ci :: n else shapeProd b :: ci :: m) other (i :: j :: r))
                  (if w then Gen.dataAdjRhsIdx else Gen.filtAdjRhsIdx) b' o' c') i
          | _ => 0).toArray) := by
  have hsl : (stridesOf st n.length).length = n.length := stridesOf_length st _ hst
  generalize hs : stridesOf st n.length = s at *
  obtain ⟨fM, fN, fS, fL, fSh, fP, fLen⟩ := mkAxes_fields w full m n s hlen hsl.symm
  obtain ⟨hb1, hci, hco, hm1, hn1, hs1, hB, hmn, hok, hp0⟩ := admitted_pos full b m n s ci co hadm hpos
  unfold adjoint adjointM
  rw [getParams_eq mc full b m n ci co st hlen hn hc hst hadm, hs]
  have hwire : adjWiringOk w = true := by cases w <;> simp only [wiring_flags]
  simp only [hwire, Bool.not_true, Bool.false_eq_true, if_false, Option.getD_some]
  obtain ⟨eD, eF, eO, eFin⟩ :=
    evalShape_adj w (paramsOf full b m n s ci co) (dshOf mc b ci m) (fshOf mc co ci n) mc
  have g1 : domainBad (paramsOf full b m n s ci co) = false := (domainBad_eq_false_iff _).mpr hpos
  have gy : npReshape (shapeProd ysh) (shapeProd b :: co :: zip3With (codeLen full) m n s) =
      some (shapeProd b :: co :: zip3With (codeLen full) m n s) :=
    npReshape_self _ _ (nonneg_cons2 hB hco hp0) hy.symm
  have go : npReshape (shapeProd (if w then fshOf mc co ci n else dshOf mc b ci m))
      (if w then co :: ci :: n else shapeProd b :: ci :: m) =
        some (if w then co :: ci :: n else shapeProd b :: ci :: m) := by
    cases w
    · exact npReshape_dshOf mc b m ci (fun h => (hc h).1) hB hci hm1
    · exact npReshape_fshOf mc n ci co hc hco hci hn1
  have hL : adjL w full (paramsOf full b m n s ci co) = List.zipWith (scipyLen full) m n := adjL_eq _ _ _
  have g5 : List.zipWith sliceLen (List.zipWith (scipyLen full) m n) s = zip3With (codeLen full) m n s :=
    zipWith_sliceLen_eq full m n s hm1 hn1 hs1
  have hcf : adjCF w full (paramsOf full b m n s ci co) =
      if w then Gen.dataAdjCorrFull full m n else Gen.filtAdjCorrFull full m n := rfl
  have hout := adjOutcome_exact w full cd cf cy hdt
  -- `correlate` returns an array of the requested extents
  have hcl : List.zipWith (scipyLen (if w then Gen.dataAdjCorrFull full m n else Gen.filtAdjCorrFull full m n))
      (List.zipWith (scipyLen full) m n) (if w then n else m) = if w then m else n := by
    cases w <;> simp only [Bool.false_eq_true, if_false, if_true]
    · rw [zipWith_zipWith_fst, zipWith_congr_mem _ (fun _ b => b) m n, zipWith_snd m n hlen]
      exact fun a b hab => (filt_adj_corr full m n hadm a b hab (hmn _ hab).2).2
    · rw [zipWith_zipWith_snd, zipWith_congr_mem _ (fun a _ => a) m n, zipWith_fst m n hlen]
      exact fun a b hab => (data_adj_corr full m n hadm a b hab (hmn _ hab).1).2
  have gfin : npReshape (shapeProd ((if w then shapeProd b else co) :: ci :: (if w then m else n)))
      (if w then dshOf mc b ci m else fshOf mc co ci n) = some (if w then dshOf mc b ci m else fshOf mc co ci n) := by
    cases w
    · refine npReshape_self _ _ (List.forall_mem_append.mpr ⟨?_, nonneg_of_pos hn1⟩) (shapeProd_fshOf mc n ci co hc)
      cases mc
      · exact fun _ h => absurd h List.not_mem_nil
      · exact nonneg_cons2 (by omega) hci fun _ h => absurd h List.not_mem_nil
    · exact npReshape_self _ _ (forall_mem_chan mc b m ci (nonneg_of_pos hb1) (by omega) (nonneg_of_pos hm1))
        (shapeProd_dshOf mc b m ci (fun h => (hc h).1))
  have hvalid : ¬ ((!(if w then Gen.dataAdjCorrFull full m n else Gen.filtAdjCorrFull full m n)) = true ∧
      (!decide (
        ((List.zip (List.zipWith (scipyLen full) m n) (if w then n else m)).all fun x => decide (x.1 ≥ x.2)) = true ∨
        ((List.zip (List.zipWith (scipyLen full) m n) (if w then n else m)).all fun x => decide (x.2 ≥ x.1)) = true)) =
      true) := by
    simp only [List.all_eq_true, decide_eq_true_eq, not_and, Bool.not_eq_eq_eq_not, Bool.not_true,
      decide_eq_false_iff_not, not_not]
    intro hcf0
    rcases adj_valid_sizes w full m n hmn hadm with h | h | h
    · rw [h] at hcf0; cases hcf0
    · exact Or.inl h
    · exact Or.inr h
  have hex1 : (DtypeOutcome.exact == DtypeOutcome.typeError) = false := by decide
  have hex2 : (DtypeOutcome.exact == DtypeOutcome.dropsImag) = false := by decide
  have hres : (if w then shapeProd b :: ci :: m else co :: ci :: n) =
      (if w then shapeProd b else co) :: ci :: (if w then m else n) := by cases w <;> rfl
  unfold adjointCore
  simp only [paramsOf] at eD eF eO eFin g1 hL hcf
  simp only [paramsOf, eD, eF, eO, eFin, g1, hL, hcf, gy, go, Bool.false_eq_true, if_false, ne_eq, not_true_eq_false,
    List.drop_succ_cons, List.drop_zero, g5, bcast_self, Bool.not_true, hout, hex1, hex2, hcl, gfin, hres]
  refine (if_neg hvalid).trans ?_
  refine congrArg (fun l => Except.ok (_, List.toArray l)) (List.map_congr_left fun idx hidx => ?_)
  obtain ⟨s1, s2, i, rfl, hi⟩ := mem_allIdx_cons2 hidx
  have hilen : i.length = (mkAxes w full m n s).length := by
    rw [C09.length_of_mem_allIdx hi, fLen]
    cases w
    · rfl
    · exact hlen
  simp only [bIdx_self _ i hi]
  rw [loopSumL_eq]
  refine congrArg (loopSum _ _ _ _ _ _) (funext fun b' => funext fun o' => funext fun c' => ?_)
  have key := fun Y V => corrNDAt_stuffed conj (mkAxes w full m n s) (hok w) Y V i hilen
  simp only [fN, fL, fS, fSh, fP] at key
  rw [← key]
  rfl

/-- **`convolve_data_adjoint` (flat arrays, what the driver runs and the correspondence compares with sigpy) equals the
    index-level definition `dataAdjMCD`** — every number of spatial axes, batch shape, with or without channels, both
    modes (either size order in 'valid'), default or explicit strides, any `output` array with the element count of
    `(B, c_o) + p`: the reply is `ok`, has exactly the requested `data_shape`, and the entry at the row-major position
    of `(b, c, i)` is `dataAdjMCD (mkAxes true …) B c_o c_i output filt b c i`. -/
theorem data_adjoint_eq_index (conj re : α → α) (mc full : Bool) (b m n : List Int) (ci co : Int)
    (st : Option (List Int)) (cd cf cy : Bool) (ysh : List Int) (y filt : Array α)
    (hlen : m.length = n.length) (hn : 1 ≤ n.length) (hc : mc = false → ci = 1 ∧ co = 1)
    (hst : stridesOk st n.length) (hadm : full = true ∨ Gen.convValidRejects m n = false)
    (hpos : ∀ x ∈ b ++ [ci, co] ++ m ++ n ++ stridesOf st n.length, 1 ≤ x)
    (hy : shapeProd ysh = shapeProd (shapeProd b :: co :: zip3With (codeLen full) m n (stridesOf st n.length)))
    (hdt : adjOutcome true full cd cf cy ≠ .typeError) :
    adjoint conj re true (dshOf mc b ci m) (fshOf mc co ci n) full st mc cd cf cy ysh y filt =
      .ok (dshOf mc b ci m,
        ((allIdx (shapeProd b :: ci :: m)).map fun idx =>
          match idx with
          | bi :: c :: i =>
            dataAdjMCD conj (mkAxes true full m n (stridesOf st n.length)) (shapeProd b).toNat co.toNat ci.toNat
              (fun i j r => readZ (shapeProd b :: co :: zip3With (codeLen full) m n (stridesOf st n.length)) y (i :: j :: r))
              (fun i j r => readZ (co :: ci :: n) filt (i :: j :: r)) bi c i
          | _ => 0).toArray) :=
  adjoint_eq_index conj re true mc full b m n ci co st cd cf cy ysh y filt hlen hn hc hst hadm hpos hy hdt

/-- **`convolve_filter_adjoint` (flat arrays) equals the index-level definition `filtAdjMCD`** — same generality as
    `data_adjoint_eq_index`: the reply is `ok`, has exactly the requested `filt_shape`, and the entry at the row-major
    position of `(o, c, j)` is `filtAdjMCD (mkAxes false …) B c_o c_i output data o c j`. -/
theorem filter_adjoint_eq_index (conj re : α → α) (mc full : Bool) (b m n : List Int) (ci co : Int)
    (st : Option (List Int)) (cd cf cy : Bool) (ysh : List Int) (y data : Array α)
    (hlen : m.length = n.length) (hn : 1 ≤ n.length) (hc : mc = false → ci = 1 ∧ co = 1)
    (hst : stridesOk st n.length) (hadm : full = true ∨ Gen.convValidRejects m n = false)
    (hpos : ∀ x ∈ b ++ [ci, co] ++ m ++ n ++ stridesOf st n.length, 1 ≤ x)
    (hy : shapeProd ysh = shapeProd (shapeProd b :: co :: zip3With (codeLen full) m n (stridesOf st n.length)))
    (hdt : adjOutcome false full cd cf cy ≠ .typeError) :
    adjoint conj re false (dshOf mc b ci m) (fshOf mc co ci n) full st mc cd cf cy ysh y data =
      .ok (fshOf mc co ci n,
        ((allIdx (co :: ci :: n)).map fun idx =>
          match idx with
          | o :: c :: j =>
            filtAdjMCD conj (mkAxes false full m n (stridesOf st n.length)) (shapeProd b).toNat co.toNat ci.toNat
              (fun i j r => readZ (shapeProd b :: co :: zip3With (codeLen full) m n (stridesOf st n.length)) y (i :: j :: r))
              (fun i j r => readZ (shapeProd b :: ci :: m) data (i :: j :: r)) o c j
          | _ => 0).toArray) :=
  adjoint_eq_index conj re false mc full b m n ci co st cd cf cy ysh y data hlen hn hc hst hadm hpos hy hdt

theorem convolveCore_ok_inv (P : Params) (dsh fsh : List Int) (full mc cd cf : Bool) (data filt : Array α)
    (r : List Int × Array α) (h : convolveCore P dsh fsh full mc cd cf data filt = .ok r) :
    domainBad P = false ∧ (convOutcome cd cf == DtypeOutcome.typeError) = false := by
  unfold convolveCore at h
  obtain ⟨d1, h⟩ := ite_error_eq_ok h
  obtain ⟨-, h⟩ := ite_error_eq_ok h
  obtain ⟨-, h⟩ := ite_error_eq_ok h
  obtain ⟨d4, -⟩ := ite_error_eq_ok h
  exact ⟨by simpa using d1, by simpa using d4⟩

/-- **`convolve`: exactly the computed shape, or an error — for ALL argument combinations** (any ranks, any channel
    counts, any strides argument, any mode string, filter longer or shorter than the data, any dtypes).  If the model
    of `convolve` answers with an array at all, then the call is an admitted one — the shapes are `b + (c_i,) + m` and
    `(c_o, c_i) + n` (resp. `b + m`, `n`), `len(m) = len(n) ≥ 1`, strides None or of that length, mode 'full' or
    'valid' with a size combination that passes the size test, extents and strides positive, no complex filter with
    real data — and the array has exactly the shape `b + (c_o,) + p` (resp. `b + p`) with `p_d` the generated length
    formula (which counts the samples `0, s, 2s, …` of scipy's result: `conv_out_len_any`), and as many elements as
    that shape.  Every other argument combination (rank or channel mismatch, strides of another length, unknown mode,
    mixed 'valid' sizes, …) is an error.  With `convolve_eq_index` the entries are determined as well. -/
theorem convolve_shape_or_raise (dsh fsh : List Int) (mode : Option Bool) (st : Option (List Int)) (mc cd cf : Bool)
    (data filt : Array α) (sh : List Int) (a : Array α)
    (h : convolveM dsh fsh mode st mc cd cf data filt = .ok (sh, a)) :
    ∃ (full : Bool) (b m n : List Int) (ci co : Int),
      mode = some full ∧ dsh = dshOf mc b ci m ∧ fsh = fshOf mc co ci n ∧ m.length = n.length ∧ 1 ≤ n.length ∧
      (mc = false → ci = 1 ∧ co = 1) ∧ stridesOk st n.length ∧ (full = true ∨ Gen.convValidRejects m n = false) ∧
      (∀ x ∈ b ++ [ci, co] ++ m ++ n ++ stridesOf st n.length, 1 ≤ x) ∧ convOutcome cd cf ≠ .typeError ∧
      sh = b ++ (if mc then [co] else []) ++ zip3With (codeLen full) m n (stridesOf st n.length) ∧
      (a.size : Int) = shapeProd sh := by
  have h0 := h
  unfold convolveM at h
  split_ifs at h with hw
  split at h
  · cases h
  rename_i P hP
  obtain ⟨full, rfl, e1, e2, e3, e4, e5, e6, e7, e8⟩ := getParams_inv _ _ _ _ _ _ hP
  obtain ⟨d1, d4⟩ := convolveCore_ok_inv _ _ _ _ _ _ _ _ _ _ h
  have hpos := (domainBad_eq_false_iff P).mp d1
  have hdt : convOutcome cd cf ≠ .typeError := by simpa using d4
  have hPs : P.s = stridesOf st P.n.length := by rw [e8]; rfl
  rw [hPs] at hpos
  refine ⟨full, P.b, P.m, P.n, P.ci, P.co, rfl, e1, e2, e3, e4, e5, e6, e7, hpos, hdt, ?_⟩
  have key := convolve_eq_index mc full P.b P.m P.n P.ci P.co st cd cf data filt e3 e4 e5 e6 e7 hpos hdt
  unfold convolve at key
  rw [e1, e2, key] at h0
  simp only [Except.ok.injEq, Prod.mk.injEq] at h0
  obtain ⟨hsh, ha⟩ := h0
  obtain ⟨-, -, hco, -, -, -, hB, -, -, hp0⟩ :=
    admitted_pos full P.b P.m P.n (stridesOf st P.n.length) P.ci P.co e7 hpos
  rw [mkAxes_map_p] at hsh ha
  refine ⟨hsh.symm, ?_⟩
  rw [← ha, size_map_allIdx _ _ (nonneg_cons2 hB hco hp0), ← hsh]
  exact (shapeProd_chan mc P.b _ P.co (fun h => (e5 h).2)).symm

theorem adjointCore_ok_inv (conj re : α → α) (w : Bool) (P : Params) (dsh fsh : List Int) (full mc cd cf cy : Bool)
    (ysh osh : List Int) (y other : Array α) (r : List Int × Array α)
    (h : adjointCore conj re w P dsh fsh full mc cd cf cy ysh osh y other = .ok r) :
    domainBad P = false ∧ (adjOutcome w full cd cf cy == DtypeOutcome.typeError) = false ∧
    ∃ yshN, npReshape (shapeProd ysh)
      (evalShape P dsh fsh (if w then Gen.dataAdjNorm_output else Gen.filtAdjNorm_output)) = some yshN := by
  unfold adjointCore at h
  obtain ⟨d1, h⟩ := ite_error_eq_ok h
  dsimp only at h
  cases hy : npReshape (shapeProd ysh)
      (evalShape P dsh fsh (if w then Gen.dataAdjNorm_output else Gen.filtAdjNorm_output)) with
  | none => rw [hy] at h; cases h
  | some yshN =>
    rw [hy] at h
    dsimp only at h
    obtain ⟨-, h⟩ := ite_error_eq_ok h
    obtain ⟨-, h⟩ := ite_error_eq_ok h
    obtain ⟨-, h⟩ := ite_error_eq_ok h
    obtain ⟨d5, -⟩ := ite_error_eq_ok h
    exact ⟨by simpa using d1, by simpa using d5, yshN, rfl⟩

/-- **the adjoints: exactly the requested shape, or an error — for ALL argument combinations** (`w = true`:
    `convolve_data_adjoint`, `w = false`: `convolve_filter_adjoint`; any ranks, channel counts, strides argument, mode
    string, dtypes, and any shape of the `output` array).  If the model answers with an array at all, then the call is
    an admitted one (as in `convolve_shape_or_raise`), the `output` array has exactly as many elements as
    `(B, c_o) + p`, no complex frozen operand meets a real `output`, and the result has exactly the requested shape
    (`data_shape` resp. `filt_shape`) and as many elements.  Everything else is an error.  With
    `data_adjoint_eq_index` / `filter_adjoint_eq_index` the entries are determined as well. -/
theorem adjoint_shape_or_raise (conj re : α → α) (w : Bool) (dsh fsh : List Int) (mode : Option Bool)
    (st : Option (List Int)) (mc cd cf cy : Bool) (ysh : List Int) (y other : Array α) (sh : List Int) (a : Array α)
    (h : adjointM conj re w dsh fsh mode st mc cd cf cy ysh y other = .ok (sh, a)) :
    ∃ (full : Bool) (b m n : List Int) (ci co : Int),
      mode = some full ∧ dsh = dshOf mc b ci m ∧ fsh = fshOf mc co ci n ∧ m.length = n.length ∧ 1 ≤ n.length ∧
      (mc = false → ci = 1 ∧ co = 1) ∧ stridesOk st n.length ∧ (full = true ∨ Gen.convValidRejects m n = false) ∧
      (∀ x ∈ b ++ [ci, co] ++ m ++ n ++ stridesOf st n.length, 1 ≤ x) ∧
      shapeProd ysh = shapeProd (shapeProd b :: co :: zip3With (codeLen full) m n (stridesOf st n.length)) ∧
      adjOutcome w full cd cf cy ≠ .typeError ∧
      sh = (if w then dsh else fsh) ∧ (a.size : Int) = shapeProd sh := by
  have h0 := h
  unfold adjointM at h
  split at h
  · cases h
  split at h
  · cases h
  rename_i P hP
  obtain ⟨full, rfl, e1, e2, e3, e4, e5, e6, e7, e8⟩ := getParams_inv _ _ _ _ _ _ hP
  obtain ⟨d1, d4, yshN, hyN⟩ := adjointCore_ok_inv _ _ _ _ _ _ _ _ _ _ _ _ _ _ _ _ h
  have hpos := (domainBad_eq_false_iff P).mp d1
  have hdt : adjOutcome w full cd cf cy ≠ .typeError := by simpa using d4
  have hPs : P.s = stridesOf st P.n.length := by rw [e8]; rfl
  rw [hPs] at hpos
  obtain ⟨hb1, hci, hco, hm1, hn1, -, hB, -, -, hp0⟩ :=
    admitted_pos full P.b P.m P.n (stridesOf st P.n.length) P.ci P.co e7 hpos
  rw [(evalShape_adj w P dsh fsh mc).2.2.1, e8] at hyN
  have hy := (npReshape_nonneg_some _ _ _ (nonneg_cons2 hB hco hp0) hyN).1.symm
  refine ⟨full, P.b, P.m, P.n, P.ci, P.co, rfl, e1, e2, e3, e4, e5, e6, e7, hpos, hy, hdt, ?_⟩
  have key := adjoint_eq_index conj re w mc full P.b P.m P.n P.ci P.co st cd cf cy ysh y other e3 e4 e5 e6 e7
    hpos hy hdt
  unfold adjoint at key
  rw [e1, e2, key] at h0
  simp only [Except.ok.injEq, Prod.mk.injEq] at h0
  obtain ⟨hsh, ha⟩ := h0
  rw [← e1, ← e2] at hsh
  refine ⟨hsh.symm, ?_⟩
  rw [← ha, ← hsh, e1, e2]
  cases w
  · exact (size_map_allIdx _ _ (nonneg_cons2 (by omega) hci (nonneg_of_pos hn1))).trans
      (shapeProd_fshOf mc P.n P.ci P.co e5).symm
  · exact (size_map_allIdx _ _ (nonneg_cons2 hB hci (nonneg_of_pos hm1))).trans
      (shapeProd_dshOf mc P.b P.m P.ci (fun hc => (e5 hc).1)).symm

end flat

section capstone
variable {α : Type} [CommRing α] [StarRing α]

/-- `Σ_idx a[idx]·conj(b[idx])` over all multi-indices of `shape`, the arrays read row-major -/
def dotZ (shape : List Int) (a b : Array α) : α :=
  sumD shape fun idx => readZ shape a idx * star (readZ shape b idx)

theorem dotZ_cons2 (A C : Int) (rest : List Int) (a b : Array α) :
    dotZ (A :: C :: rest) a b = ∑ i ∈ Finset.range A.toNat, ∑ j ∈ Finset.range C.toNat, ∑ k ∈ idxSet rest,
      readZ (A :: C :: rest) a ((i : Int) :: (j : Int) :: k) * star (readZ (A :: C :: rest) b ((i : Int) :: (j : Int) :: k)) := by
  unfold dotZ
  simp only [sumD, sumTo_eq_sum, sumD_eq]

/-- reading a model array (built by `(allIdx sh).map F`) with `readZ` -/
theorem readZ_map_allIdx (sh : List Int) (F : List Int → α) (idx : List Int) (h : idx ∈ allIdx sh) :
    readZ sh ((allIdx sh).map F).toArray idx = F idx := by
  unfold readZ
  rw [if_pos ((inBounds_iff_mem_allIdx sh idx).mpr h)]
  exact C09.map_allIdx_getD sh F idx h

theorem dotZ_map_left (A C : Int) (rest : List Int) (F : Int → Int → List Int → α) (y : Array α) :
    dotZ (A :: C :: rest)
      ((allIdx (A :: C :: rest)).map fun idx => match idx with | i :: j :: k => F i j k | _ => 0).toArray y =
      ∑ i ∈ Finset.range A.toNat, ∑ j ∈ Finset.range C.toNat, ∑ k ∈ idxSet rest,
        F i j k * star (readZ (A :: C :: rest) y ((i : Int) :: (j : Int) :: k)) := by
  rw [dotZ_cons2]
  refine Finset.sum_congr rfl fun i hi => Finset.sum_congr rfl fun j hj => Finset.sum_congr rfl fun k hk => ?_
  rw [readZ_map_allIdx _ _ _ (cons_mem_allIdx hi (cons_mem_allIdx hj (mem_allIdx_of_mem_idxSet _ _ hk)))]

theorem dotZ_map_right (A C : Int) (rest : List Int) (F : Int → Int → List Int → α) (x : Array α) :
    dotZ (A :: C :: rest) x
      ((allIdx (A :: C :: rest)).map fun idx => match idx with | i :: j :: k => F i j k | _ => 0).toArray =
      ∑ i ∈ Finset.range A.toNat, ∑ j ∈ Finset.range C.toNat, ∑ k ∈ idxSet rest,
        readZ (A :: C :: rest) x ((i : Int) :: (j : Int) :: k) * star (F i j k) := by
  rw [dotZ_cons2]
  refine Finset.sum_congr rfl fun i hi => Finset.sum_congr rfl fun j hj => Finset.sum_congr rfl fun k hk => ?_
  rw [readZ_map_allIdx _ _ _ (cons_mem_allIdx hi (cons_mem_allIdx hj (mem_allIdx_of_mem_idxSet _ _ hk)))]

/-- both adjoint identities of the flat-array functions at once (`w = true`: data adjoint, the frozen operand is the
    filter; `w = false`: filter adjoint, the frozen operand is the data): the entries of the three replies are those of
    `convolve_eq_index` / `adjoint_eq_index`, and for these `adjoint_nd_mc_code` is the identity -/
theorem flat_adjoint_identity (re : α → α) (w mc full : Bool) (b m n : List Int) (ci co : Int) (st : Option (List Int))
    (cd cf cd' cf' cy : Bool) (ysh : List Int) (data filt y : Array α)
    (hlen : m.length = n.length) (hn : 1 ≤ n.length) (hc : mc = false → ci = 1 ∧ co = 1)
    (hst : stridesOk st n.length) (hadm : full = true ∨ Gen.convValidRejects m n = false)
    (hpos : ∀ x ∈ b ++ [ci, co] ++ m ++ n ++ stridesOf st n.length, 1 ≤ x)
    (hy : shapeProd ysh = shapeProd (shapeProd b :: co :: zip3With (codeLen full) m n (stridesOf st n.length)))
    (hd0 : convOutcome cd cf ≠ .typeError) (hd1 : adjOutcome w full cd' cf' cy ≠ .typeError)
    (s1 s2 : List Int) (out ad : Array α)
    (h1 : convolve (dshOf mc b ci m) (fshOf mc co ci n) full st mc cd cf data filt = .ok (s1, out))
    (h2 : adjoint star re w (dshOf mc b ci m) (fshOf mc co ci n) full st mc cd' cf' cy ysh y
      (if w then filt else data) = .ok (s2, ad)) :
    dotZ (shapeProd b :: co :: zip3With (codeLen full) m n (stridesOf st n.length)) out y =
      dotZ ((if w then shapeProd b else co) :: ci :: (if w then m else n)) (if w then data else filt) ad := by
  have hsl : (stridesOf st n.length).length = n.length := stridesOf_length st _ hst
  rw [convolve_eq_index mc full b m n ci co st cd cf data filt hlen hn hc hst hadm hpos hd0] at h1
  rw [adjoint_eq_index star re w mc full b m n ci co st cd' cf' cy ysh y _ hlen hn hc hst hadm hpos hy hd1] at h2
  generalize stridesOf st n.length = s at *
  have fP := mkAxes_map_p true full m n s
  obtain ⟨fM, fM'⟩ := mkAxes_shapes full m n s ⟨hlen, hsl.symm⟩
  simp only [Except.ok.injEq, Prod.mk.injEq] at h1 h2
  obtain ⟨-, rfl⟩ := h1
  obtain ⟨-, rfl⟩ := h2
  obtain ⟨-, -, -, -, -, hs1, -, hmn, -, -⟩ := admitted_pos full b m n s ci co hadm hpos
  have main := adjoint_nd_mc_code full m n s (shapeProd b).toNat co.toNat ci.toNat
    (fun i j r => readZ (shapeProd b :: ci :: m) data (i :: j :: r))
    (fun i j r => readZ (co :: ci :: n) filt (i :: j :: r))
    (fun i j r => readZ (shapeProd b :: co :: zip3With (codeLen full) m n s) y (i :: j :: r)) hmn hadm
    (fun c hc => by have := hs1 c hc; omega)
  rw [fP, fM, fM'] at main
  rw [fP, dotZ_map_left, dotZ_map_right]
  cases w
  · exact main.2
  · exact main.1

/-- **the data-adjoint identity, for the flat-array functions the driver runs and the correspondence compares with
    sigpy** — any number of spatial axes, batch shape, channels or not, both modes (either size order in 'valid'),
    default or explicit strides, any commutative *-ring, any dtype flags that are not rejected: the arrays returned by
    `convolve(data, filt)` and `convolve_data_adjoint(y, filt, data_shape)` of the executable model satisfy
    `⟨convolve(d, f), y⟩ = ⟨d, adj_d(y, f)⟩`, `⟨a, b⟩ = Σ a·conj(b)` over the normalised `(B, c_o) + p`, `(B, c_i) + m`
    layouts (on an admitted call both succeed: `convolve_eq_index`, `data_adjoint_eq_index`). -/
theorem flat_data_adjoint_identity (re : α → α) (mc full : Bool) (b m n : List Int) (ci co : Int) (st : Option (List Int))
    (cd cf cd' cf' cy : Bool) (ysh : List Int) (data filt y : Array α)
    (hlen : m.length = n.length) (hn : 1 ≤ n.length) (hc : mc = false → ci = 1 ∧ co = 1)
    (hst : stridesOk st n.length) (hadm : full = true ∨ Gen.convValidRejects m n = false)
    (hpos : ∀ x ∈ b ++ [ci, co] ++ m ++ n ++ stridesOf st n.length, 1 ≤ x)
    (hy : shapeProd ysh = shapeProd (shapeProd b :: co :: zip3With (codeLen full) m n (stridesOf st n.length)))
    (hd0 : convOutcome cd cf ≠ .typeError) (hd1 : adjOutcome true full cd' cf' cy ≠ .typeError)
    (s1 s2 : List Int) (out ad : Array α)
    (h1 : convolve (dshOf mc b ci m) (fshOf mc co ci n) full st mc cd cf data filt = .ok (s1, out))
    (h2 : adjoint star re true (dshOf mc b ci m) (fshOf mc co ci n) full st mc cd' cf' cy ysh y filt = .ok (s2, ad)) :
    dotZ (shapeProd b :: co :: zip3With (codeLen full) m n (stridesOf st n.length)) out y =
      dotZ (shapeProd b :: ci :: m) data ad :=
  flat_adjoint_identity re true mc full b m n ci co st cd cf cd' cf' cy ysh data filt y hlen hn hc hst hadm hpos hy hd0 hd1
    s1 s2 out ad h1 h2

/-- **the filter-adjoint identity for the flat-array functions** (same generality as `flat_data_adjoint_identity`):
    `⟨convolve(d, f), y⟩ = ⟨f, adj_f(y, d)⟩` for the arrays returned by `convolve(data, filt)` and
    `convolve_filter_adjoint(y, data, filt_shape)` of the executable model. -/
theorem flat_filter_adjoint_identity (re : α → α) (mc full : Bool) (b m n : List Int) (ci co : Int) (st : Option (List Int))
    (cd cf cd' cf' cy : Bool) (ysh : List Int) (data filt y : Array α)
    (hlen : m.length = n.length) (hn : 1 ≤ n.length) (hc : mc = false → ci = 1 ∧ co = 1)
    (hst : stridesOk st n.length) (hadm : full = true ∨ Gen.convValidRejects m n = false)
    (hpos : ∀ x ∈ b ++ [ci, co] ++ m ++ n ++ stridesOf st n.length, 1 ≤ x)
    (hy : shapeProd ysh = shapeProd (shapeProd b :: co :: zip3With (codeLen full) m n (stridesOf st n.length)))
    (hd0 : convOutcome cd cf ≠ .typeError) (hd2 : adjOutcome false full cd' cf' cy ≠ .typeError)
    (s1 s3 : List Int) (out af : Array α)
    (h1 : convolve (dshOf mc b ci m) (fshOf mc co ci n) full st mc cd cf data filt = .ok (s1, out))
    (h3 : adjoint star re false (dshOf mc b ci m) (fshOf mc co ci n) full st mc cd' cf' cy ysh y data = .ok (s3, af)) :
    dotZ (shapeProd b :: co :: zip3With (codeLen full) m n (stridesOf st n.length)) out y =
      dotZ (co :: ci :: n) filt af :=
  flat_adjoint_identity re false mc full b m n ci co st cd cf cd' cf' cy ysh data filt y hlen hn hc hst hadm hpos hy hd0 hd2
    s1 s3 out af h1 h3

end capstone

/-- `Linop.apply`'s output-shape check around a `conv.*` call -/
def checkO {α : Type} (o : List Int) (r : Except String (List Int × Array α)) : Except String (List Int × Array α) :=
  match r with
  | .error e => .error e
  | .ok (sh, a) => if sh ≠ o then .error "ValueError" else .ok (sh, a)

/-- **`.H` of every Convolve* Linop** (generated wiring, all `mode` / `strides` / `multi_channel` values, any shapes):
    whenever the constructor of class `c` succeeds and registers `(oshape, ishape) = (o, i)`, `_adjoint_linop`
    constructs the partner class with *the same* constructor arguments (shape argument, frozen array, mode, strides,
    multi_channel), that constructor succeeds too and registers the swapped pair `(i, o)`; and the class's own
    shape argument is its `ishape` (ConvolveData / ConvolveFilter) resp. its `oshape` (the two adjoint classes). -/
theorem linop_H_wiring (c : Gen.ConvCls) (g : LinopCfg) (o i : List Int) (h : linopShapes c g = .ok (o, i)) :
    linopAdjoint c g = .ok (partner c, g) ∧ linopShapes (partner c) g = .ok (i, o) ∧
    ((c = .data ∨ c = .filter) → i = g.shapeArg) ∧ ((c = .dataAdjoint ∨ c = .filterAdjoint) → o = g.shapeArg) := by
  cases c <;>
  · have h' := h
    unfold linopShapes at h'
    dsimp only [Gen.convLinop] at h'
    simp only [Bool.and_self, Bool.not_true, Bool.false_eq_true, if_false] at h'
    split at h'
    · cases h'
    · rename_i P hP
      generalize hO : (P.b ++ (if g.mc = true then [P.co] else []) ++ P.p) = O at h'
      split_ifs at h' with h1
      cases h'
      have h2 : ∀ (x y : List Int), (x ++ y).any (· ≤ 0) = (y ++ x).any (· ≤ 0) := by
        intro x y; simp only [List.any_append, Bool.or_comm]
      refine ⟨?_, ?_, ?_, ?_⟩
      · unfold linopAdjoint
        rw [h]
        rfl
      · unfold linopShapes
        dsimp only [Gen.convLinop, partner]
        simp only [Bool.and_self, Bool.not_true, Bool.false_eq_true, if_false, hP, hO]
        rw [h2] at h1
        simp only [h1, Bool.false_eq_true, if_false]
      · simp
      · simp

section linop_apply
variable {α : Type} [Add α] [Mul α] [Zero α]

/-- **`_apply` of every Convolve* Linop** (generated wiring): applied to an input of its `ishape`, the class calls
    exactly `convolve(input, filt)` (ConvolveData), `convolve(data, input)` (ConvolveFilter),
    `convolve_data_adjoint(input, filt, data_shape)` / `convolve_filter_adjoint(input, data, filt_shape)` (the adjoint
    classes, with the shape given to the constructor), each with the stored `mode`, `strides`, `multi_channel` — for
    every value of these three.  With `linop_H_wiring`: `ConvolveData(ds, f).H(y) = convolve_data_adjoint(y, f, ds)`
    and `ConvolveFilter(fs, d).H(y) = convolve_filter_adjoint(y, d, fs)` with the same mode, strides, multi_channel,
    so the adjoint pairing of the Linops is the adjoint identity of the functions (`adjoint_nd_mc_code`). -/
theorem linop_apply_wiring (conj re : α → α) (c : Gen.ConvCls) (g : LinopCfg) (o i : List Int)
    (h : linopShapes c g = .ok (o, i)) (ca ci : Bool) (arr x : Array α) :
    linopApply conj re c g ca ci arr i x = checkO o (match c with
      | .data => convolveM i g.arrShape g.mode g.strides g.mc ci ca x arr
      | .filter => convolveM g.arrShape i g.mode g.strides g.mc ca ci arr x
      | .dataAdjoint => adjointM conj re true o g.arrShape g.mode g.strides g.mc false ca ci i x arr
      | .filterAdjoint => adjointM conj re false g.arrShape o g.mode g.strides g.mc ca false ci i x arr) := by
  cases c <;> simp [linopApply, h, Gen.convLinop, checkO] <;> rfl

end linop_apply

/-- non-vacuity: ConvolveData((2,3,5), filt of shape (4,3,2), 'valid', strides (2,), multi_channel) registers
    oshape (2,4,2), ishape (2,3,5); its `.H` is ConvolveDataAdjoint with the same arguments and the swapped shapes -/
example : linopShapes .data ⟨[2, 3, 5], [4, 3, 2], some false, some [2], true⟩ = .ok ([2, 4, 2], [2, 3, 5]) ∧
    linopShapes .dataAdjoint ⟨[2, 3, 5], [4, 3, 2], some false, some [2], true⟩ = .ok ([2, 3, 5], [2, 4, 2]) := by
  decide +kernel

theorem checkO_ok {α : Type} {o sh : List Int} {r : Except String (List Int × Array α)} {a : Array α}
    (h : checkO o r = .ok (sh, a)) : r = .ok (sh, a) ∧ sh = o := by
  unfold checkO at h
  split at h
  · cases h
  · split_ifs at h with hne
    cases h
    exact ⟨rfl, not_not.mp hne⟩

section linop_pairing
variable {α : Type} [CommRing α] [StarRing α]

omit [StarRing α] in
theorem convolve_count (mc full : Bool) (b m n : List Int) (ci co : Int) (st : Option (List Int)) (cd cf : Bool)
    (data filt : Array α)
    (hlen : m.length = n.length) (hn : 1 ≤ n.length) (hc : mc = false → ci = 1 ∧ co = 1)
    (hst : stridesOk st n.length) (hadm : full = true ∨ Gen.convValidRejects m n = false)
    (hpos : ∀ x ∈ b ++ [ci, co] ++ m ++ n ++ stridesOf st n.length, 1 ≤ x)
    (hdt : convOutcome cd cf ≠ .typeError) (s1 : List Int) (out : Array α)
    (h : convolveM (dshOf mc b ci m) (fshOf mc co ci n) (some full) st mc cd cf data filt = .ok (s1, out)) :
    shapeProd s1 = shapeProd (shapeProd b :: co :: zip3With (codeLen full) m n (stridesOf st n.length)) := by
  have e1 := convolve_eq_index mc full b m n ci co st cd cf data filt hlen hn hc hst hadm hpos hdt
  unfold convolve at e1
  rw [e1, mkAxes_map_p] at h
  simp only [Except.ok.injEq, Prod.mk.injEq] at h
  rw [← h.1]
  exact shapeProd_chan mc b _ co (fun h => (hc h).2)

/-- **`ConvolveData(data_shape, filt, mode, strides, multi_channel)` and its `.H`** (generated class descriptions,
    every mode / strides / multi_channel value, any number of axes, batch, channels): if `A(x)` succeeds, then `A.H` is
    a `ConvolveDataAdjoint` (built with the same arguments: `linop_H_wiring`), and whenever `A.H(y)` succeeds for a `y` of `A`'s output shape,
    `⟨A x, y⟩ = ⟨x, A.H y⟩`. -/
theorem linop_data_pairing (re : α → α) (mc full : Bool) (b m n : List Int) (ci co : Int) (st : Option (List Int))
    (ca cx cy : Bool) (data filt y : Array α)
    (hlen : m.length = n.length) (hn : 1 ≤ n.length) (hc : mc = false → ci = 1 ∧ co = 1)
    (hst : stridesOk st n.length) (hadm : full = true ∨ Gen.convValidRejects m n = false)
    (hpos : ∀ x ∈ b ++ [ci, co] ++ m ++ n ++ stridesOf st n.length, 1 ≤ x)
    (hd0 : convOutcome cx ca ≠ .typeError) (hd1 : adjOutcome true full false ca cy ≠ .typeError)
    (s1 s2 : List Int) (out ad : Array α) (c' : Gen.ConvCls) (g' : LinopCfg)
    (h1 : linopApply star re .data ⟨dshOf mc b ci m, fshOf mc co ci n, some full, st, mc⟩ ca cx filt
      (dshOf mc b ci m) data = .ok (s1, out))
    (hH : linopAdjoint .data ⟨dshOf mc b ci m, fshOf mc co ci n, some full, st, mc⟩ = .ok (c', g'))
    (h2 : linopApply star re c' g' ca cy filt s1 y = .ok (s2, ad)) :
    c' = .dataAdjoint ∧
    dotZ (shapeProd b :: co :: zip3With (codeLen full) m n (stridesOf st n.length)) out y =
      dotZ (shapeProd b :: ci :: m) data ad := by
  cases hS : linopShapes .data ⟨dshOf mc b ci m, fshOf mc co ci n, some full, st, mc⟩ with
  | error e => simp [linopApply, hS] at h1
  | ok oi =>
    obtain ⟨o, i⟩ := oi
    obtain ⟨w1, w2, w3, -⟩ := linop_H_wiring .data _ o i hS
    rw [w1] at hH
    simp only [Except.ok.injEq, Prod.mk.injEq] at hH
    obtain ⟨rfl, rfl⟩ := hH
    obtain rfl : i = dshOf mc b ci m := w3 (Or.inl rfl)
    rw [linop_apply_wiring star re .data _ o _ hS] at h1
    obtain ⟨k1, rfl⟩ := checkO_ok h1
    rw [linop_apply_wiring star re (partner .data) _ _ s1 w2] at h2
    obtain ⟨k2, -⟩ := checkO_ok h2
    exact ⟨rfl, flat_data_adjoint_identity re mc full b m n ci co st cx ca false ca cy s1 data filt y hlen hn hc hst hadm
      hpos (convolve_count mc full b m n ci co st cx ca data filt hlen hn hc hst hadm hpos hd0 s1 out k1)
      hd0 hd1 s1 s2 out ad k1 k2⟩

/-- **`ConvolveFilter(filt_shape, data, mode, strides, multi_channel)` and its `.H`**: the same for the operator that is
    linear in the filter: `A.H` is a `ConvolveFilterAdjoint` and `⟨A f, y⟩ = ⟨f, A.H y⟩`. -/
theorem linop_filter_pairing (re : α → α) (mc full : Bool) (b m n : List Int) (ci co : Int) (st : Option (List Int))
    (ca cx cy : Bool) (data filt y : Array α)
    (hlen : m.length = n.length) (hn : 1 ≤ n.length) (hc : mc = false → ci = 1 ∧ co = 1)
    (hst : stridesOk st n.length) (hadm : full = true ∨ Gen.convValidRejects m n = false)
    (hpos : ∀ x ∈ b ++ [ci, co] ++ m ++ n ++ stridesOf st n.length, 1 ≤ x)
    (hd0 : convOutcome ca cx ≠ .typeError) (hd2 : adjOutcome false full ca false cy ≠ .typeError)
    (s1 s3 : List Int) (out af : Array α) (c' : Gen.ConvCls) (g' : LinopCfg)
    (h1 : linopApply star re .filter ⟨fshOf mc co ci n, dshOf mc b ci m, some full, st, mc⟩ ca cx data
      (fshOf mc co ci n) filt = .ok (s1, out))
    (hH : linopAdjoint .filter ⟨fshOf mc co ci n, dshOf mc b ci m, some full, st, mc⟩ = .ok (c', g'))
    (h3 : linopApply star re c' g' ca cy data s1 y = .ok (s3, af)) :
    c' = .filterAdjoint ∧
    dotZ (shapeProd b :: co :: zip3With (codeLen full) m n (stridesOf st n.length)) out y =
      dotZ (co :: ci :: n) filt af := by
  cases hS : linopShapes .filter ⟨fshOf mc co ci n, dshOf mc b ci m, some full, st, mc⟩ with
  | error e => simp [linopApply, hS] at h1
  | ok oi =>
    obtain ⟨o, i⟩ := oi
    obtain ⟨w1, w2, w3, -⟩ := linop_H_wiring .filter _ o i hS
    rw [w1] at hH
    simp only [Except.ok.injEq, Prod.mk.injEq] at hH
    obtain ⟨rfl, rfl⟩ := hH
    obtain rfl : i = fshOf mc co ci n := w3 (Or.inr rfl)
    rw [linop_apply_wiring star re .filter _ o _ hS] at h1
    obtain ⟨k1, rfl⟩ := checkO_ok h1
    rw [linop_apply_wiring star re (partner .filter) _ _ s1 w2] at h3
    obtain ⟨k2, -⟩ := checkO_ok h3
    exact ⟨rfl, flat_filter_adjoint_identity re mc full b m n ci co st ca cx ca false cy s1 data filt y hlen hn hc hst
      hadm hpos (convolve_count mc full b m n ci co st ca cx data filt hlen hn hc hst hadm hpos hd0 s1 out k1)
      hd0 hd2 s1 s3 out af k1 k2⟩

end linop_pairing

/-- the hypotheses of the flat-array theorems hold for a 2-D multi-channel 'valid' call (batch 2, c_i = 2, c_o = 3,
    data 3 x 2, filter 2 x 2, strides (2, 1)) -/
example : stridesOk (some [2, 1]) 2 ∧ (false = true ∨ Gen.convValidRejects [3, 2] [2, 2] = false) ∧
    (∀ x ∈ [2] ++ [2, 3] ++ [3, 2] ++ [2, 2] ++ stridesOf (some [2, 1]) 2, (1 : Int) ≤ x) ∧
    convOutcome true true ≠ .typeError ∧ adjOutcome true false true true true ≠ .typeError :=
  ⟨fun s h => by cases h; rfl, by decide, by decide, by decide, by decide⟩

/-- the executable model answers such calls, and rejects the others: shapes of a 1-D full convolution with stride 2,
    a channel mismatch, strides of the wrong length, an unknown mode, mixed 'valid' sizes, a rank mismatch -/
example :
    (convolveM (α := GI) [3] [2] (some true) (some [2]) false true true #[⟨1, 0⟩, ⟨2, 0⟩, ⟨3, 1⟩] #[⟨1, 0⟩, ⟨0, 1⟩]) =
      .ok ([2], #[⟨1, 0⟩, ⟨3, 3⟩]) ∧
    (convolveM (α := GI) [2, 3] [1, 3, 2] (some true) none true true true #[] #[]).toOption = none ∧
    (convolveM (α := GI) [3] [2] (some true) (some [1, 1]) false true true #[] #[]).toOption = none ∧
    (convolveM (α := GI) [3] [2] none none false true true #[] #[]).toOption = none ∧
    (convolveM (α := GI) [3, 2] [2, 3] (some false) none false true true #[] #[]).toOption = none ∧
    (convolveM (α := GI) [3] [2, 2] (some true) none false true true #[] #[]) = .error "bad-rank" := by
  decide +kernel

/-- ConvolveData((3,), filt (2,), 'full', strides (2,)) applied, and its `.H` (generated wiring) applied -/
example :
    linopApply (α := GI) GI.conj (fun a => ⟨a.re, 0⟩) .data ⟨[3], [2], some true, some [2], false⟩ true true
      #[⟨1, 0⟩, ⟨0, 1⟩] [3] #[⟨1, 0⟩, ⟨2, 0⟩, ⟨3, 1⟩] = .ok ([2], #[⟨1, 0⟩, ⟨3, 3⟩]) ∧
    linopAdjoint .data ⟨[3], [2], some true, some [2], false⟩ =
      .ok (.dataAdjoint, ⟨[3], [2], some true, some [2], false⟩) := by
  decide +kernel

/-- the admitted calls of `convolve`: shapes `b + (c_i,) + m`, `(c_o, c_i) + n` (resp. `b + m`, `n`), equal spatial rank
    `D ≥ 1`, strides None or of length `D`, mode 'full' or 'valid' with an admitted size combination, positive extents
    and strides, and not a complex filter with real data -/
def ConvAdmitted (dsh fsh : List Int) (mode : Option Bool) (st : Option (List Int)) (mc cd cf : Bool) : Prop :=
  ∃ (full : Bool) (b m n : List Int) (ci co : Int),
    mode = some full ∧ dsh = dshOf mc b ci m ∧ fsh = fshOf mc co ci n ∧ m.length = n.length ∧ 1 ≤ n.length ∧
    (mc = false → ci = 1 ∧ co = 1) ∧ stridesOk st n.length ∧ (full = true ∨ Gen.convValidRejects m n = false) ∧
    (∀ x ∈ b ++ [ci, co] ++ m ++ n ++ stridesOf st n.length, 1 ≤ x) ∧ convOutcome cd cf ≠ .typeError

/-- the admitted calls of the two adjoints: as for `convolve`, plus an `output` array with the element count of
    `(B, c_o) + p`, and no complex frozen operand with a real `output` -/
def AdjAdmitted (w : Bool) (dsh fsh : List Int) (mode : Option Bool) (st : Option (List Int)) (mc cd cf cy : Bool)
    (ysh : List Int) : Prop :=
  ∃ (full : Bool) (b m n : List Int) (ci co : Int),
    mode = some full ∧ dsh = dshOf mc b ci m ∧ fsh = fshOf mc co ci n ∧ m.length = n.length ∧ 1 ≤ n.length ∧
    (mc = false → ci = 1 ∧ co = 1) ∧ stridesOk st n.length ∧ (full = true ∨ Gen.convValidRejects m n = false) ∧
    (∀ x ∈ b ++ [ci, co] ++ m ++ n ++ stridesOf st n.length, 1 ≤ x) ∧
    shapeProd ysh = shapeProd (shapeProd b :: co :: zip3With (codeLen full) m n (stridesOf st n.length)) ∧
    adjOutcome w full cd cf cy ≠ .typeError

section raises
variable {α : Type} [CommRing α]

/-- **which calls of `convolve` raise** (the guard table as one statement): the model answers with an error exactly
    on the calls that are not admitted — and on every admitted call with an array (`convolve_eq_index`). -/
theorem convolve_raises_iff (dsh fsh : List Int) (mode : Option Bool) (st : Option (List Int)) (mc cd cf : Bool)
    (data filt : Array α) :
    (∃ e, convolveM dsh fsh mode st mc cd cf data filt = .error e) ↔ ¬ ConvAdmitted dsh fsh mode st mc cd cf := by
  refine error_iff_not_admitted ?_ ?_
  · rintro ⟨full, b, m, n, ci, co, rfl, rfl, rfl, h3, h4, h5, h6, h7, h8, h9⟩
    exact ⟨_, convolve_eq_index mc full b m n ci co st cd cf data filt h3 h4 h5 h6 h7 h8 h9⟩
  · rintro ⟨sh, a⟩ hr
    obtain ⟨full, b, m, n, ci, co, h1, h2, h2', h3, h4, h5, h6, h7, h8, h9, -, -⟩ :=
      convolve_shape_or_raise dsh fsh mode st mc cd cf data filt sh a hr
    exact ⟨full, b, m, n, ci, co, h1, h2, h2', h3, h4, h5, h6, h7, h8, h9⟩

/-- **which calls of the adjoints raise**: exactly the calls that are not admitted. -/
theorem adjoint_raises_iff (conj re : α → α) (w : Bool) (dsh fsh : List Int) (mode : Option Bool)
    (st : Option (List Int)) (mc cd cf cy : Bool) (ysh : List Int) (y other : Array α) :
    (∃ e, adjointM conj re w dsh fsh mode st mc cd cf cy ysh y other = .error e) ↔
      ¬ AdjAdmitted w dsh fsh mode st mc cd cf cy ysh := by
  refine error_iff_not_admitted ?_ ?_
  · rintro ⟨full, b, m, n, ci, co, rfl, rfl, rfl, h3, h4, h5, h6, h7, h8, hy, h9⟩
    exact ⟨_, adjoint_eq_index conj re w mc full b m n ci co st cd cf cy ysh y other h3 h4 h5 h6 h7 h8 hy h9⟩
  · rintro ⟨sh, a⟩ hr
    obtain ⟨full, b, m, n, ci, co, h1, h2, h2', h3, h4, h5, h6, h7, h8, hy, h9, -, -⟩ :=
      adjoint_shape_or_raise conj re w dsh fsh mode st mc cd cf cy ysh y other sh a hr
    exact ⟨full, b, m, n, ci, co, h1, h2, h2', h3, h4, h5, h6, h7, h8, hy, h9⟩

end raises

/-- non-vacuity: an admitted call -/
example : ConvAdmitted [2, 2, 3, 2] [3, 2, 2, 2] (some false) (some [2, 1]) true true true :=
  ⟨false, [2], [3, 2], [2, 2], 2, 3, rfl, rfl, rfl, rfl, by decide, by decide, fun s h => by cases h; rfl, by decide,
    by decide, by decide⟩

end SigpyVerif.C08
