import SigpyVerif.Props.C06Toeplitz
import SigpyVerif.Props.C07Wrap
import SigpyVerif.Lemmas.C06Nd
set_option linter.unusedVariables false
/-
  C06 — the exact NUDFT reference and the error identity of the pipeline `nufft1`.

  1. Structural facts about the specification `nudft` (what the search oracle computes as `nudft_matrix`):
     linearity, period `N` in the coordinate (`nudft_periodic_coord`), shift ↔ modulation covariance
     (`nudftTerm_shift`, `nudftOn_shift`: translating the signal by `s` multiplies the transform by `exp(-2πi k s/N)`;
     `nudftTerm_modulation`, `nudft_modulation`: modulating the signal by `exp(2πi m (n - N//2)/N)` translates the
     coordinate by `-m`), unit-modulus entries (`nudftTerm_norm`), rows of squared norm 1 (`nudft_row_normSq`).

  2. **The error identity** (1-D, for the pipeline `nufft1` composed in Props/C06.lean — real diagonal apodisation,
     C09's zero-pad, C05's centred DFT matrix of the oversampled length, C07's generated `Gen.interp1` on the
     coordinates `Gen.scaleCoord`, the generated scalings; the kernel `K`, `wt` is a PARAMETER):

        nufft(x)(k_j) = Σ_n  x_n · N^{-1/2} · exp(-2πi k_j (n - N//2)/N) · [ a_n · S(κ_j, n - N//2) ]
        S(κ, ν)       = (1/W) Σ_{i ∈ ℤ, |i - κ| ≤ W/2}  wt(K((i - κ)/(W/2)))  · exp(-2πi (i - κ) ν / L)

     (`nufft1_eq_nudft_times_kernel`), i.e. every NUDFT term is multiplied by the apodisation weight times the
     discrete-time Fourier sum `S` of the kernel samples at normalised frequency `ν/L` (Poisson summation turns `S`
     into the classical sum over aliases `(1/W) Σ_m K̂(ν/L + m) e^{2πi m κ}`; that analytic step is NOT done here).
     Hence `nufft - NUDFT = Σ_n x_n N^{-1/2} e^{…} (a_n S - 1)` (`nufft1_error_identity`), `S` depends on `κ` only
     modulo 1 (`kernelSum_shift`).  For ANY factors `q_n` in place of `a_n S(κ_j, n - N//2)` the squared row error
     `Σ_n |N^{-1/2} e^{…} q_n - N^{-1/2} e^{…}|²` is `mean_n |q_n - 1|²` (`nufft1_row_error`) and at most `ε²` when
     `|q_n - 1| ≤ ε` (`nufft1_row_error_le`); the instance `q_n = a_n S(κ_j, n - N//2)`, which is what the oracle
     measures and what makes the stated accuracy a property of Kaiser–Bessel alone, is not made in Lean.
     The bound itself (3 % / 0.3 %) stays analytic / oracle-only.
-/
namespace SigpyVerif.C06
open SigpyVerif Matrix ComplexConjugate Finset
open scoped InnerProductSpace

theorem nudftTerm_shift (N : ℤ) (k : ℝ) (n s : ℤ) :
    nudftTerm N k (n + s) = Complex.exp (-2 * Real.pi * Complex.I * k * (s : ℂ) / N) * nudftTerm N k n := by
  unfold nudftTerm
  rw [← Complex.exp_add]
  congr 1
  push_cast
  ring

theorem nudftTerm_modulation (N : ℤ) (k m : ℝ) (n : ℤ) :
    nudftTerm N (k + m) n =
      Complex.exp (-2 * Real.pi * Complex.I * m * ((n - N / 2 : ℤ) : ℂ) / N) * nudftTerm N k n := by
  unfold nudftTerm
  rw [← Complex.exp_add]
  congr 1
  push_cast
  ring

theorem nudftTerm_norm (N : ℤ) (k : ℝ) (n : ℤ) : ‖nudftTerm N k n‖ = 1 := by
  unfold nudftTerm
  have : (-2 * Real.pi * Complex.I * k * ((n - N / 2 : ℤ) : ℂ) / N) =
      ((-2 * Real.pi * k * ((n - N / 2 : ℤ) : ℝ) / N : ℝ) : ℂ) * Complex.I := by
    push_cast; ring
  rw [this, Complex.norm_exp_ofReal_mul_I]

/-- the exact NUDFT of a zero-extended signal `x : ℤ → ℂ` summed over a finite support `S` -/
noncomputable def nudftOn (S : Finset ℤ) (N : ℤ) (x : ℤ → ℂ) (k : ℝ) : ℂ := ∑ n ∈ S, x n * nudftTerm N k n

/-- **shift covariance**: the transform of the translated signal `n ↦ x(n - s)` (support translated with it) is
    `exp(-2πi k s/N)` times the transform of `x` — for every real coordinate `k` -/
theorem nudftOn_shift (S : Finset ℤ) (N : ℤ) (x : ℤ → ℂ) (k : ℝ) (s : ℤ) :
    nudftOn (S.image (· + s)) N (fun n => x (n - s)) k =
      Complex.exp (-2 * Real.pi * Complex.I * k * (s : ℂ) / N) * nudftOn S N x k := by
  unfold nudftOn
  rw [Finset.sum_image (fun a _ b _ h => by simpa using h), Finset.mul_sum]
  apply Finset.sum_congr rfl
  intro n _
  rw [nudftTerm_shift]
  simp only [add_sub_cancel_right]
  ring

/-- sigpy's exact NUDFT of an image of length `N` at coordinate `k` (scaling `1/√N`, origin at `N//2`) -/
noncomputable def nudft (N : ℕ) (x : Fin N → ℂ) (k : ℝ) : ℂ :=
  ∑ n : Fin N, x n * ((Real.sqrt N : ℝ) : ℂ)⁻¹ * nudftTerm N k ((n : ℕ) : ℤ)

theorem nudft_add (N : ℕ) (x y : Fin N → ℂ) (k : ℝ) : nudft N (x + y) k = nudft N x k + nudft N y k := by
  unfold nudft
  rw [← Finset.sum_add_distrib]
  apply Finset.sum_congr rfl
  intro n _
  simp only [Pi.add_apply]
  ring

theorem nudft_smul (N : ℕ) (c : ℂ) (x : Fin N → ℂ) (k : ℝ) : nudft N (c • x) k = c * nudft N x k := by
  unfold nudft
  rw [Finset.mul_sum]
  apply Finset.sum_congr rfl
  intro n _
  simp only [Pi.smul_apply, smul_eq_mul]
  ring

theorem nudft_periodic_coord (N : ℕ) (hN : 0 < N) (x : Fin N → ℂ) (k : ℝ) (m : ℤ) :
    nudft N x (k + m * N) = nudft N x k := by
  unfold nudft
  apply Finset.sum_congr rfl
  intro n _
  have := nudft_periodic (N : ℤ) (by exact_mod_cast hN.ne') k ((n : ℕ) : ℤ) m
  push_cast at this
  rw [this]

/-- **modulation covariance**: modulating the image by `exp(2πi m (n - N//2)/N)` translates the coordinate by `-m` -/
theorem nudft_modulation (N : ℕ) (x : Fin N → ℂ) (k m : ℝ) :
    nudft N (fun n => Complex.exp (2 * Real.pi * Complex.I * m * ((((n : ℕ) : ℤ) - (N : ℤ) / 2 : ℤ) : ℂ) / ((N : ℤ) : ℂ)) * x n) k
      = nudft N x (k - m) := by
  unfold nudft
  refine Finset.sum_congr rfl fun n _ => ?_
  have h := nudftTerm_modulation (N : ℤ) (k - m) m ((n : ℕ) : ℤ)
  rw [sub_add_cancel] at h
  -- the modulating exponential meets the one split off by `nudftTerm_modulation`; their exponents cancel
  rw [h, mul_assoc (Complex.exp _), mul_mul_mul_comm, ← Complex.exp_add]
  simp only [← add_div, ← add_mul, add_neg_cancel, zero_mul, zero_div, Complex.exp_zero, one_mul]

theorem norm_inv_sqrt (N : ℕ) : ‖((Real.sqrt N : ℝ) : ℂ)⁻¹‖ = (Real.sqrt N)⁻¹ := by
  rw [norm_inv, Complex.norm_real, Real.norm_eq_abs, abs_of_nonneg (Real.sqrt_nonneg _)]

theorem norm_sq_inv_sqrt (N : ℕ) : ‖((Real.sqrt N : ℝ) : ℂ)⁻¹‖ ^ 2 = (N : ℝ)⁻¹ := by
  rw [norm_inv_sqrt, inv_pow, Real.sq_sqrt (Nat.cast_nonneg N)]

theorem nudft_row_normSq (N : ℕ) (hN : 0 < N) (k : ℝ) :
    ∑ n : Fin N, ‖((Real.sqrt N : ℝ) : ℂ)⁻¹ * nudftTerm N k ((n : ℕ) : ℤ)‖ ^ 2 = 1 := by
  have hp : (N : ℝ) ≠ 0 := by exact_mod_cast hN.ne'
  simp only [norm_mul, nudftTerm_norm, mul_one, norm_sq_inv_sqrt, Finset.sum_const, Finset.card_univ,
    Fintype.card_fin, nsmul_eq_mul]
  exact mul_inv_cancel₀ hp

/-- the grid cell `i mod L` read by `_interpolate1` for the (unwrapped) window index `i` -/
def wrapIdx (L : ℕ) (hL : 0 < L) (i : ℤ) : Fin L :=
  ⟨(pyMod i L).toNat, by have := pyMod_range i (L : ℤ) (by exact_mod_cast hL); omega⟩

theorem wrapIdx_val (L : ℕ) (hL : 0 < L) (i : ℤ) : (((wrapIdx L hL i : Fin L) : ℕ) : ℤ) = pyMod i L := by
  have := pyMod_range i (L : ℤ) (by exact_mod_cast hL)
  simp only [wrapIdx, Int.toNat_of_nonneg this.1]

/-- **the generated interpolation, explicitly**: output sample `j` of `Gen.interp1` (run with `+=`, real weights on
    complex data) is the window sum `Σ_{i=⌈c-W/2⌉}^{⌊c+W/2⌋} wt(K((i - c)/(W/2), p)) · g[i mod L]` -/
theorem interpLin_apply (K : Rat → Rat → Rat) (wt : Rat → ℝ) (L M : ℕ) (hL : 0 < L) (coord : Int → Int → Rat)
    (width param : Int → Rat) (g : EuclideanSpace ℂ (Fin L)) (j : Fin M) :
    WithLp.ofLp (interpLin K wt L M coord width param g) j =
      ((pyRange (Rat.ceil (coord ((j : ℕ) : ℤ) (-1) - width (-1) / 2))
          (Rat.floor (coord ((j : ℕ) : ℤ) (-1) + width (-1) / 2) + 1) 1).map
        fun i : ℤ => ((wt (K (((i : Rat) - coord ((j : ℕ) : ℤ) (-1)) / (width (-1) / 2)) (param (-1))) : ℝ) : ℂ) *
          WithLp.ofLp g (wrapIdx L hL i)).sum := by
  have e1 : shape2 1 (L : ℤ) 1 = L := rfl
  -- `updLin` is `updLinG` with the multi-indices `[0, s]`, by unfolding
  refine (updLinG_cw_apply wt _ (fun s : Fin L => [0, ((s : ℕ) : ℤ)]) (fun j : Fin M => [0, ((j : ℕ) : ℤ)]) g j).trans ?_
  rw [C07.interp1_filter_dst K _ _ _ coord width param 0 ((j : ℕ) : ℤ) ⟨le_rfl, Int.one_pos⟩
    ⟨Int.natCast_nonneg _, Int.ofNat_lt.mpr j.2⟩, List.map_map]
  refine congrArg List.sum (List.map_congr_left fun i _ => ?_)
  rw [← emb_apply L (WithLp.ofLp g) (wrapIdx L hL i)]
  simp only [Function.comp, wrapIdx_val, e1]
  rfl

/-- where zero-padding `N → L` (`N ≤ L`, default shifts) puts image sample `n`: `n - N//2 + L//2` -/
def padIdxG (N L : ℕ) (hNL : N ≤ L) (n : Fin N) : Fin L := ⟨(n : ℕ) + (L / 2 - N / 2), by have := n.2; omega⟩

theorem padIdxG_centre (N L : ℕ) (hNL : N ≤ L) (n : Fin N) :
    (((padIdxG N L hNL n : Fin L) : ℕ) : ℤ) - (L : ℤ) / 2 = ((n : ℕ) : ℤ) - (N : ℤ) / 2 := by
  rw [padIdxG, Nat.cast_add, Nat.cast_sub (Nat.div_le_div_right hNL), Int.natCast_div, Int.natCast_div, Nat.cast_ofNat]
  ring

theorem resizeMat_padG (N L : ℕ) (hNL : N ≤ L) (m : Fin L) (n : Fin N) :
    resizeMat N L m n = if m = padIdxG N L hNL n then 1 else 0 := by
  simp only [resizeMat_apply, ← padIdxG_centre N L hNL n, sub_left_inj, Nat.cast_inj, Fin.val_inj, eq_comm]

theorem dft_mul_resizeMat_apply (N L : ℕ) (hL : 0 < L) (hNL : N ≤ L) (s : Fin L) (n : Fin N) :
    (C05.dftMatrix (fftRoot L) L true 1 * resizeMat N L) s n =
      fftRoot L ^ ((((s : ℕ) : ℤ) - (L : ℤ) / 2) * (((n : ℕ) : ℤ) - (N : ℤ) / 2)) := by
  simp only [Matrix.mul_apply, resizeMat_padG N L hNL, mul_ite, mul_one, mul_zero, Finset.sum_ite_eq', Finset.mem_univ,
    if_true, dft_entry (fftRoot_primitive L hL) hL, Complex.ofReal_one, one_mul, padIdxG_centre]

/-- **zero-pad then centred unnormalised FFT, explicitly**: `Σ_n ω^{(s - L//2)(n - N//2)} u_n`, `ω = exp(-2πi/L)` -/
theorem ufft_resize_apply (N L : ℕ) (hL : 0 < L) (hNL : N ≤ L) (u : EuclideanSpace ℂ (Fin N)) (s : Fin L) :
    WithLp.ofLp (ufftLin L (resizeLin N L u)) s =
      ∑ n : Fin N, fftRoot L ^ ((((s : ℕ) : ℤ) - (L : ℤ) / 2) * (((n : ℕ) : ℤ) - (N : ℤ) / 2)) * WithLp.ofLp u n := by
  unfold ufftLin resizeLin
  simp only [toEuclideanLin_mul_apply, dft_mul_resizeMat_apply N L hL hNL]

/-- the wrap `i mod L` is invisible to the DFT: `ω^L = 1` -/
theorem root_wrap (L : ℕ) (hL : 0 < L) (i ν : ℤ) :
    fftRoot L ^ ((pyMod i L - (L : ℤ) / 2) * ν) = fftRoot L ^ ((i - (L : ℤ) / 2) * ν) := by
  rw [pyMod_of_pos _ (by exact_mod_cast hL : (0 : ℤ) < (L : ℤ))]
  exact zpow_emod_sub_mul (fftRoot_primitive L hL).pow_eq_one ((fftRoot_primitive L hL).ne_zero hL.ne') i _ ν

theorem fftRoot_zpow (L : ℕ) (z : ℤ) :
    fftRoot L ^ z = Complex.exp (-2 * Real.pi * Complex.I * (z : ℂ) / L) := by
  unfold fftRoot
  rw [inv_zpow', ← Complex.exp_int_mul]
  congr 1
  push_cast
  ring

/-- **the kernel-only factor**: `(1/W) Σ_{|i-κ| ≤ W/2} wt(K((i-κ)/(W/2), p)) · exp(-2πi (i-κ) ν / L)` — the
    discrete-time Fourier sum of the kernel samples seen from the (scaled) coordinate `κ`, at frequency `ν/L` -/
noncomputable def kernelSum (K : Rat → Rat → Rat) (wt : Rat → ℝ) (W : Rat) (p : Rat) (L : ℕ) (κ : Rat) (ν : ℤ) : ℂ :=
  (((W : ℝ) : ℂ))⁻¹ * ((pyRange (Rat.ceil (κ - W / 2)) (Rat.floor (κ + W / 2) + 1) 1).map fun i : ℤ =>
    ((wt (K (((i : Rat) - κ) / (W / 2)) p) : ℝ) : ℂ) *
      Complex.exp (-2 * Real.pi * Complex.I * ((((i : Rat) - κ : Rat)) : ℂ) * (ν : ℂ) / L)).sum

/-- **what the driver emits is the data of `kernelSum`**: `C06.kernelArgs` (Model/C06.lean, run by the correspondence
    check on the generated `Gen.interp1`) lists, for the window of `κ = Gen.scaleCoord os n c`, the wrapped grid index
    `i mod L` and the kernel argument `(i - κ)/(W/2)` of every window index `i`, in order -/
theorem kernelArgs_spec (os : Rat) (n : Int) (c W : Rat) :
    kernelArgs os n c W = (Gen.oversampLen os n, Gen.scaleCoord os n c,
      (pyRange (Rat.ceil (Gen.scaleCoord os n c - W / 2)) (Rat.floor (Gen.scaleCoord os n c + W / 2) + 1) 1).map
        fun i : ℤ => (pyMod i (Gen.oversampLen os n), (((i : Rat) - Gen.scaleCoord os n c) / (W / 2)))) := by
  have h1 : pyRange (0 : Int) 1 1 = [0] := by decide
  unfold kernelArgs Gen.interp1
  simp only [h1, List.flatMap_cons, List.flatMap_nil, List.append_nil, C07.cast2, if_true, List.map_flatMap,
    List.map_cons, List.map_nil, List.getD_cons_succ, List.getD_cons_zero]
  norm_num
  exact List.flatMap_pure_eq_map _ _

/-- `S` depends on the scaled coordinate only through its fractional part: a property of the kernel and the
    offset within one grid cell -/
theorem kernelSum_shift (K : Rat → Rat → Rat) (wt : Rat → ℝ) (W p : Rat) (L : ℕ) (κ : Rat) (ν m : ℤ) :
    kernelSum K wt W p L (κ + (m : Rat)) ν = kernelSum K wt W p L κ ν := by
  unfold kernelSum
  have h2 : (((2 : Int) : Int) : Rat) = 2 := by norm_num
  have hw := C07.window_shift κ W m
  rw [h2] at hw
  rw [hw, List.map_map]
  congr 2
  apply List.map_congr_left
  intro i _
  simp only [Function.comp, C07.cast_shift_sub]

/-- the phase bookkeeping: with `κ = k·L/N + L//2` (`Gen.scaleCoord` at `L = ceil(os·N)`),
    `ω^{(i - L//2) ν} = exp(-2πi (i - κ) ν / L) · exp(-2πi k ν / N)` -/
theorem phase_split (os : Rat) (N L : ℕ) (hN : 0 < N) (hL : 0 < L) (hLen : (L : ℤ) = Gen.oversampLen os N)
    (k : Rat) (i : ℤ) (n : ℤ) :
    fftRoot L ^ ((i - (L : ℤ) / 2) * (n - (N : ℤ) / 2)) =
      Complex.exp (-2 * Real.pi * Complex.I * ((((i : Rat) - Gen.scaleCoord os N k : Rat)) : ℂ) *
        ((n - (N : ℤ) / 2 : ℤ) : ℂ) / L) * nudftTerm N ((k : Rat) : ℝ) n := by
  have hk : Gen.scaleCoord os N k = k * (((L : ℤ) : Rat) / ((N : ℤ) : Rat)) + ((((L : ℤ) / 2 : ℤ)) : Rat) := by
    unfold Gen.scaleCoord
    rw [(os_sites_agree os N).2.1, (os_sites_agree os N).2.2, ← hLen, pyDiv_of_pos _ (show (0 : Int) < 2 by decide)]
  have hL' : ((L : ℕ) : ℂ) ≠ 0 := by exact_mod_cast hL.ne'
  have arith : ∀ C i k L N h ν : ℂ, L ≠ 0 →
      C * ((i - h) * ν) / L = C * (i - (k * (L / N) + h)) * ν / L + C * k * ν / N := fun C i k L N h ν hL => by
    linear_combination (C * k * ν) * (div_div_cancel_left' hL : L / N / L = N⁻¹)
  rw [fftRoot_zpow, nudftTerm, ← Complex.exp_add, hk]
  congr 1
  simp only [Int.cast_mul, Int.cast_sub i, Rat.cast_sub, Rat.cast_add, Rat.cast_mul, Rat.cast_div, Rat.cast_intCast,
    Int.cast_natCast, Complex.ofReal_ratCast]
  exact arith _ _ _ _ _ _ _ hL'

theorem phase_wrap (os : Rat) (N L : ℕ) (hN : 0 < N) (hL : 0 < L) (hLen : (L : ℤ) = Gen.oversampLen os N)
    (k : Rat) (i : ℤ) (n : ℤ) :
    fftRoot L ^ (((((wrapIdx L hL i : Fin L) : ℕ) : ℤ) - (L : ℤ) / 2) * (n - (N : ℤ) / 2)) =
      Complex.exp (-2 * Real.pi * Complex.I * ((((i : Rat) - Gen.scaleCoord os N k : Rat)) : ℂ) *
        ((n - (N : ℤ) / 2 : ℤ) : ℂ) / L) * nudftTerm N ((k : Rat) : ℝ) n := by
  rw [wrapIdx_val, root_wrap L hL, phase_split os N L hN hL hLen]

theorem sum_list_comm {α ι : Type} [Fintype ι] (l : List α) (F : α → ι → ℂ) :
    (l.map fun i => ∑ n : ι, F i n).sum = ∑ n : ι, (l.map fun i => F i n).sum := by
  induction l with
  | nil => simp only [List.map_nil, List.sum_nil, Finset.sum_const_zero]
  | cons b l ih => simp only [List.map_cons, List.sum_cons, ih, Finset.sum_add_distrib]

theorem list_sum_factor (l : List ℤ) (f e : ℤ → ℂ) (T C : ℂ) :
    (l.map fun i => f i * (e i * T * C)).sum = T * C * (l.map fun i => f i * e i).sum := by
  rw [← List.sum_map_mul_left]
  refine congrArg List.sum (List.map_congr_left fun i _ => ?_)
  ring

theorem le_of_oversampLen (os : Rat) (N L : ℕ) (hos : 1 ≤ os) (hLen : (L : ℤ) = Gen.oversampLen os N) : N ≤ L := by
  have := oversampLen_ge os N hos (Int.natCast_nonneg N)
  omega

/-- **`nufft` = NUDFT with every term multiplied by `a_n · S(κ_j, n - N//2)`** (1-D pipeline `nufft1`, any kernel).
    `L` is sigpy's oversampled length `ceil(os·N)`, `a` the apodisation weights, `c j (-1)` the coordinate of point `j`. -/
theorem nufft1_eq_nudft_times_kernel (os : Rat) (N L M : ℕ) (hN : 0 < N) (hos : 1 ≤ os)
    (hLen : (L : ℤ) = Gen.oversampLen os N) (a : Fin N → ℝ) (K : Rat → Rat → Rat) (wt : Rat → ℝ)
    (c : Int → Int → Rat) (W : Rat) (param : Int → Rat) (x : EuclideanSpace ℂ (Fin N)) (j : Fin M) :
    WithLp.ofLp (nufft1 os N L M a K wt c W param x) j =
      ∑ n : Fin N, WithLp.ofLp x n * ((Real.sqrt N : ℝ) : ℂ)⁻¹ *
        nudftTerm N (((c ((j : ℕ) : ℤ) (-1) : Rat)) : ℝ) ((n : ℕ) : ℤ) *
        (((a n : ℝ) : ℂ) * kernelSum K wt W (param (-1)) L (Gen.scaleCoord os N (c ((j : ℕ) : ℤ) (-1)))
          (((n : ℕ) : ℤ) - (N : ℤ) / 2)) := by
  have hNL := le_of_oversampLen os N L hos hLen
  have hL : 0 < L := hN.trans_le hNL
  unfold nufft1 fwd
  rw [WithLp.ofLp_smul, Pi.smul_apply, smul_eq_mul, interpLin_apply K wt L M hL]
  simp only [ufft_resize_apply N L hL hNL, phase_wrap os N L hN hL hLen (c ((j : ℕ) : ℤ) (-1)), WithLp.ofLp_smul,
    Pi.smul_apply, smul_eq_mul, apodLin, toEuclideanLin_diagonal_apply, Finset.mul_sum, sum_list_comm]
  refine Finset.sum_congr rfl fun n _ => ?_
  rw [list_sum_factor, kernelSum]
  unfold Gen.nufftFwdDiv Gen.nufftFwdWidthDiv
  rw [Complex.ofReal_pow, Int.cast_natCast]
  ring

/-- **the error identity**: `nufft(x)(k_j) - NUDFT(x)(k_j) = Σ_n x_n N^{-1/2} e^{-2πi k_j (n - N//2)/N} (a_n S(κ_j, n - N//2) - 1)` -/
theorem nufft1_error_identity (os : Rat) (N L M : ℕ) (hN : 0 < N) (hos : 1 ≤ os)
    (hLen : (L : ℤ) = Gen.oversampLen os N) (a : Fin N → ℝ) (K : Rat → Rat → Rat) (wt : Rat → ℝ)
    (c : Int → Int → Rat) (W : Rat) (param : Int → Rat) (x : EuclideanSpace ℂ (Fin N)) (j : Fin M) :
    WithLp.ofLp (nufft1 os N L M a K wt c W param x) j - nudft N (WithLp.ofLp x) (((c ((j : ℕ) : ℤ) (-1) : Rat)) : ℝ) =
      ∑ n : Fin N, WithLp.ofLp x n * ((Real.sqrt N : ℝ) : ℂ)⁻¹ *
        nudftTerm N (((c ((j : ℕ) : ℤ) (-1) : Rat)) : ℝ) ((n : ℕ) : ℤ) *
        (((a n : ℝ) : ℂ) * kernelSum K wt W (param (-1)) L (Gen.scaleCoord os N (c ((j : ℕ) : ℤ) (-1)))
          (((n : ℕ) : ℤ) - (N : ℤ) / 2) - 1) := by
  rw [nufft1_eq_nudft_times_kernel os N L M hN hos hLen]
  unfold nudft
  rw [← Finset.sum_sub_distrib]
  apply Finset.sum_congr rfl
  intro n _
  ring

/-- hence a pointwise bound from a kernel-only bound: if `|a_n S(κ_j, n - N//2) - 1| ≤ ε` on the image range then
    `|nufft(x)(k_j) - NUDFT(x)(k_j)| ≤ ε · N^{-1/2} Σ_n |x_n|` -/
theorem nufft1_error_le (os : Rat) (N L M : ℕ) (hN : 0 < N) (hos : 1 ≤ os)
    (hLen : (L : ℤ) = Gen.oversampLen os N) (a : Fin N → ℝ) (K : Rat → Rat → Rat) (wt : Rat → ℝ)
    (c : Int → Int → Rat) (W : Rat) (param : Int → Rat) (x : EuclideanSpace ℂ (Fin N)) (j : Fin M) (ε : ℝ)
    (hk : ∀ n : Fin N, ‖((a n : ℝ) : ℂ) * kernelSum K wt W (param (-1)) L (Gen.scaleCoord os N (c ((j : ℕ) : ℤ) (-1)))
          (((n : ℕ) : ℤ) - (N : ℤ) / 2) - 1‖ ≤ ε) :
    ‖WithLp.ofLp (nufft1 os N L M a K wt c W param x) j -
        nudft N (WithLp.ofLp x) (((c ((j : ℕ) : ℤ) (-1) : Rat)) : ℝ)‖ ≤
      ε * ((Real.sqrt N)⁻¹ * ∑ n : Fin N, ‖WithLp.ofLp x n‖) := by
  rw [nufft1_error_identity os N L M hN hos hLen, Finset.mul_sum, Finset.mul_sum]
  refine (norm_sum_le _ _).trans (Finset.sum_le_sum fun n _ => ?_)
  rw [norm_mul, norm_mul, norm_mul, nudftTerm_norm, mul_one, norm_inv_sqrt]
  have h0 : 0 ≤ ‖WithLp.ofLp x n‖ * (Real.sqrt N)⁻¹ := mul_nonneg (norm_nonneg _) (inv_nonneg.mpr (Real.sqrt_nonneg _))
  calc ‖WithLp.ofLp x n‖ * (Real.sqrt N)⁻¹ * _ ≤ ‖WithLp.ofLp x n‖ * (Real.sqrt N)⁻¹ * ε :=
        mul_le_mul_of_nonneg_left (hk n) h0
    _ = ε * ((Real.sqrt N)⁻¹ * ‖WithLp.ofLp x n‖) := by ring

theorem norm_sq_phase_err (s T q : ℂ) (hT : ‖T‖ = 1) : ‖s * T * q - s * T‖ ^ 2 = ‖s‖ ^ 2 * ‖q - 1‖ ^ 2 := by
  rw [← mul_sub_one, norm_mul, norm_mul, hT, mul_one, mul_pow]

/-- **the NUDFT phases drop out of the row error**: for ANY `q : Fin N → ℂ`,
    `Σ_n |N^{-1/2} e^{…} q_n - N^{-1/2} e^{…}|² = (1/N) Σ_n |q_n - 1|²`.  With `q_n = a_n S(κ_j, n - N//2)` the left
    side is `‖A[j,:] - E[j,:]‖²` for the row `A[j,n] = N^{-1/2} e^{…} · a_n S(κ_j, n - N//2)` of
    `nufft1_eq_nudft_times_kernel` and the row `E[j,n] = N^{-1/2} e^{…}` of the exact transform — what the oracle
    measures; the statement does not mention `nufft1` and that instance is not made here. -/
theorem nufft1_row_error (N : ℕ) (hN : 0 < N) (k : ℝ) (q : Fin N → ℂ) :
    ∑ n : Fin N, ‖((Real.sqrt N : ℝ) : ℂ)⁻¹ * nudftTerm N k ((n : ℕ) : ℤ) * q n -
        ((Real.sqrt N : ℝ) : ℂ)⁻¹ * nudftTerm N k ((n : ℕ) : ℤ)‖ ^ 2 = (N : ℝ)⁻¹ * ∑ n : Fin N, ‖q n - 1‖ ^ 2 := by
  rw [Finset.mul_sum]
  refine Finset.sum_congr rfl fun n _ => ?_
  rw [norm_sq_phase_err _ _ _ (nudftTerm_norm _ _ _), norm_sq_inv_sqrt]

/-- if `|q_n - 1| ≤ ε` for all `n` (any `q`; meant: `q n = a_n S(κ_j, n - N//2)`), the SQUARED l2 row error against
    the exact NUDFT (whose rows have norm 1) is at most `ε²` — for sigpy `ε = 0.03` (oversamp 1.25, width 4) resp.
    `0.003` (oversamp 2) is the analytic Kaiser–Bessel / Beatty bound, which is NOT proved here. -/
theorem nufft1_row_error_le (N : ℕ) (hN : 0 < N) (k : ℝ) (q : Fin N → ℂ) (ε : ℝ) (hε : 0 ≤ ε)
    (hk : ∀ n : Fin N, ‖q n - 1‖ ≤ ε) :
    ∑ n : Fin N, ‖((Real.sqrt N : ℝ) : ℂ)⁻¹ * nudftTerm N k ((n : ℕ) : ℤ) * q n -
        ((Real.sqrt N : ℝ) : ℂ)⁻¹ * nudftTerm N k ((n : ℕ) : ℤ)‖ ^ 2 ≤ ε ^ 2 := by
  have hp : (0 : ℝ) < (N : ℝ) := by exact_mod_cast hN
  rw [nufft1_row_error N hN]
  have h1 : ∑ n : Fin N, ‖q n - 1‖ ^ 2 ≤ ∑ _n : Fin N, ε ^ 2 :=
    Finset.sum_le_sum fun n _ => pow_le_pow_left₀ (norm_nonneg _) (hk n) 2
  rw [Finset.sum_const, Finset.card_univ, Fintype.card_fin, nsmul_eq_mul] at h1
  calc (N : ℝ)⁻¹ * ∑ n : Fin N, ‖q n - 1‖ ^ 2 ≤ (N : ℝ)⁻¹ * ((N : ℝ) * ε ^ 2) :=
        mul_le_mul_of_nonneg_left h1 (inv_nonneg.mpr hp.le)
    _ = ε ^ 2 := inv_mul_cancel_left₀ hp.ne' _

-- N = 9, oversamp = 5/4: L = 12 = ceil(11.25)
example : ((12 : ℕ) : ℤ) = Gen.oversampLen (5 / 4) ((9 : ℕ) : ℤ) := by
  unfold Gen.oversampLen
  have key : ∀ q : Rat, q = 45 / 4 → ((12 : ℕ) : ℤ) = Rat.ceil q := by
    intro q hq
    subst hq
    symm
    apply le_antisymm
    · rw [Rat.ceil_le_iff]; norm_num
    · have : (11 : Int) < Rat.ceil (45 / 4 : Rat) := by rw [Rat.lt_ceil_iff]; norm_num
      omega
  exact key _ (by norm_num)

-- an exact kernel (`a_n S = 1`) has zero row error
example (N : ℕ) (hN : 0 < N) (k : ℝ) :
    ∑ n : Fin N, ‖((Real.sqrt N : ℝ) : ℂ)⁻¹ * nudftTerm N k ((n : ℕ) : ℤ) * (fun _ => (1 : ℂ)) n -
        ((Real.sqrt N : ℝ) : ℂ)⁻¹ * nudftTerm N k ((n : ℕ) : ℤ)‖ ^ 2 ≤ 0 ^ 2 :=
  nufft1_row_error_le N hN k _ 0 le_rfl (by simp)

end SigpyVerif.C06
