import SigpyVerif.Model.C03
import SigpyVerif.Lemmas.C03
/-
  C03 — Operator algebra agrees with matrix algebra and advertised shapes.

  Property theorems about the model in `Model/C03.lean` (a transcription of `Linop.apply`, `Compose`,
  `Add`, scalar `Multiply`, `_hstack_params/_vstack_params`, `Hstack/Vstack/Diag._apply`).  The
  correspondence check runs the translator-generated bodies (`Model/C03Gen.lean`) and sigpy on the same
  expression trees and compares oshape, ishape, output or error class exactly; `Props/C03Gen.lean` proves
  the generated bodies equal to this model.  The scalar type is arbitrary (`Add/Mul/Zero`), so every
  statement holds for ℂ and for the Gaussian rationals the driver computes with.

  Proved here:            composition order, sum / difference / scaling laws, rejection of misfits
                          (`*_build_iff`), the EXACT shape guards of `Linop.apply` (`call_iff`, `call_shape`; the guard
                          is a common-prefix test, `natGuard_iff_prefix`, and equality for equal ranks), the stacking
                          parameters (`stack_build_iff`, `stack_indices_prefix_sums`, `stack_none_accepts_all`,
                          `stackParams_some_stacked`), the slab bounds used by `_apply` (`slab_bounds`), the slab
                          partition of one row (`slabs_read_concat`, `slabs_write_concat`) and of N-d arrays along an
                          axis, READ side (`sliceAx_concat`, `slabs_concat`) and WRITE side (`assembleAx_concat`,
                          `assemble_concat`), and the operator-level block-matrix statements for every operand list
                          that passes `build`: `vstack_block_col`, `hstack_block_row`, `diag_block_diag` (all four
                          oaxis/iaxis combinations incl. the mixed None / axis cases).
  Tied to the source by the translator (`Gen/StackParams.lean`, regenerated on every run):
                          in `Props/C03Loop.lean` the faithful
                          statement-by-statement translation of `_hstack_params/_vstack_params` (fold over shapes, fold over
                          `range(ndim)`) is proved equal to the combined test used here (`gen_loop_eq_combined`), and the
                          generated `_check_ishape/_check_oshape` equal `zipGuard` (`gen_guard_agree`); in
                          `Props/C03Gen.lean` the generated `__call__`, constructor guards and `_apply` bodies.
  Validated by correspondence only:  that numpy slicing/assignment behave as `sliceAx`/`rowWrite` on operands of the
                          advertised shapes (broadcasting of off-rank operands is not modelled), leaf operators.
-/
namespace SigpyVerif.C03

/-- **`Linop.apply`, exactly**: `A(x)` returns `y` iff `x.shape` passes the zip guard against `A.ishape`,
    `_apply` returns `y`, and `y.shape` passes the zip guard against `A.oshape` (`natGuard` = `zipGuard` on
    positive shapes; by `natGuard_iff_prefix` a common-prefix test: `zip` stops at the shorter shape). -/
theorem call_iff {α} (A : Op α) (x y : NDArr α) :
    A.call x = .ok y ↔
      (natGuard x.shape A.ishape = true ∧ A.app x = .ok y ∧ natGuard y.shape A.oshape = true) := by
  unfold Op.call
  by_cases hx : natGuard x.shape A.ishape = true
  · rw [if_pos hx]
    cases A.app x with
    | error e => exact ⟨nofun, fun h => nomatch h.2.1⟩
    | ok y' =>
      show (if natGuard y'.shape A.oshape = true then Except.ok y' else Except.error Err.apply) = Except.ok y ↔ _
      by_cases hy : natGuard y'.shape A.oshape = true
      · rw [if_pos hy]
        exact ⟨fun h => by cases h; exact ⟨hx, rfl, hy⟩, fun h => h.2.1⟩
      · rw [if_neg hy]
        exact ⟨nofun, fun h => by cases h.2.1; exact absurd h.2.2 hy⟩
  · rw [if_neg hx]
    exact ⟨nofun, fun h => absurd h.1 hx⟩

/-- **advertised shapes**: whatever `_apply` does, `Linop.apply` returns an array only if input and output pass the
    exact guards; for an input / output of the advertised RANK this is `x.shape = A.ishape`, `A(x).shape = A.oshape`
    (the case the property quantifies over). -/
theorem call_shape {α} (A : Op α) (x y : NDArr α) (h : A.call x = .ok y) :
    natGuard y.shape A.oshape = true ∧ natGuard x.shape A.ishape = true ∧
      (y.shape.length = A.oshape.length → y.shape = A.oshape) ∧
      (x.shape.length = A.ishape.length → x.shape = A.ishape) := by
  obtain ⟨hx, _, hy⟩ := (call_iff A x y).mp h
  exact ⟨hy, hx, fun hl => (natGuard_eq_iff _ _ hl).mp hy, fun hl => (natGuard_eq_iff _ _ hl).mp hx⟩

/-- an operator is shape-honest when `_apply` maps well-formed inputs of shape `ishape` to well-formed outputs of
    shape `oshape` -/
def Op.Honest {α} (A : Op α) : Prop :=
  ∀ x y, x.shape = A.ishape → x.WF → A.app x = .ok y → y.shape = A.oshape ∧ y.WF

/-- on an input of the advertised ishape for which `_apply` returns an array of the advertised oshape,
    `Linop.apply` is `_apply` -/
theorem call_of_shape {α} (A : Op α) (x y : NDArr α) (hx : x.shape = A.ishape) (hy : y.shape = A.oshape)
    (h : A.app x = .ok y) : A.call x = .ok y :=
  (call_iff A x y).mpr ⟨by rw [hx]; exact natGuard_refl _, h, by rw [hy]; exact natGuard_refl _⟩

/-- the guard is NOT equality: `Identity([2,3])` applied to an array of shape `[2]` passes both guards and returns
    an array whose shape is not the advertised `oshape` (the zip stops after the first entry). -/
example : ∃ (A : Op Nat) (y : NDArr Nat), idOp [2, 3] = .ok A ∧ A.call ⟨[2], [7, 8]⟩ = .ok y ∧ y.shape ≠ A.oshape :=
  ⟨_, ⟨[2], [7, 8]⟩, rfl, rfl, by decide⟩
/-- … while an input that differs inside the common prefix is rejected -/
example : ∃ (A : Op Nat), idOp [2, 3] = .ok A ∧ A.call ⟨[3], [7, 8, 9]⟩ = .error .apply := ⟨_, rfl, rfl⟩

theorem compose_pair {α} (A B : Op α) :
    compose [A, B] =
      if A.ishape = B.oshape then .ok ⟨A.oshape, B.ishape, composeApp [A, B]⟩ else .error .build := by
  simp only [compose, List.getLast?, List.getLast, composeOk, Bool.and_true, decide_eq_true_eq]

/-- `A * B` is accepted exactly when `A.ishape = B.oshape` (misfits raise). -/
theorem compose_build_iff {α} (A B : Op α) :
    (∃ C, compose [A, B] = .ok C) ↔ A.ishape = B.oshape := by
  rw [compose_pair]
  split
  · exact ⟨fun _ => ‹_›, fun _ => ⟨_, rfl⟩⟩
  · exact ⟨(fun ⟨_, h⟩ => nomatch h), fun h => absurd h ‹_›⟩

/-- `A * B` applies `B` first, then `A`, and advertises `A.oshape`, `B.ishape`. -/
theorem compose_order {α} (A B C : Op α) (h : compose [A, B] = .ok C) :
    C.oshape = A.oshape ∧ C.ishape = B.ishape ∧
      ∀ x, C.app x = (match B.call x with | .ok y => A.call y | .error e => .error e) := by
  rw [compose_pair] at h
  split at h
  · cases h
    refine ⟨rfl, rfl, fun x => ?_⟩
    simp only [composeApp]
    cases B.call x <;> rfl
  · cases h

/-- n-ary `Compose`: the operators are applied from the last to the first. -/
theorem composeApp_append {α} (l₁ l₂ : List (Op α)) (x : NDArr α) :
    composeApp (l₁ ++ l₂) x =
      (match composeApp l₂ x with | .ok y => composeApp l₁ y | .error e => .error e) := by
  induction l₁ with
  | nil => simp only [List.nil_append, composeApp]; cases composeApp l₂ x <;> rfl
  | cons A l ih =>
    simp only [List.cons_append, composeApp, ih]
    cases composeApp l₂ x <;> rfl

theorem zipWith_replicate_zero {α} [Add α] [Zero α] (l : List α) :
    List.zipWith (· + ·) (List.replicate l.length (0 : α)) l = l.map (0 + ·) := by
  induction l with
  | nil => rfl
  | cons a l ih => rw [List.length_cons, List.replicate_succ, List.zipWith_cons_cons, ih, List.map_cons]

theorem zipWith_zero_add {α} [Add α] [Zero α] (hz : ∀ a : α, 0 + a = a) (l : List α) :
    List.zipWith (· + ·) (List.replicate l.length (0 : α)) l = l := by
  rw [zipWith_replicate_zero, List.map_congr_left fun a _ => hz a, List.map_id']

theorem add_pair {α} [Add α] [Zero α] (A B : Op α) :
    add [A, B] =
      if B.ishape = A.ishape ∧ B.oshape = A.oshape then
        .ok ⟨A.oshape, A.ishape, fun x =>
          match callAll [A, B] [x, x] with
          | .ok ys => .ok (sumResults A.oshape ys)
          | .error e => .error e⟩
      else .error .build := by
  simp only [add, sameShapes, List.all_cons, List.all_nil, Bool.and_true, decide_true, Bool.true_and,
    Bool.and_eq_true, decide_eq_true_eq, List.length_cons, List.length_nil, List.replicate]
  rfl

/-- `A + B` is accepted exactly when both shapes agree (misfits raise). -/
theorem add_build_iff {α} [Add α] [Zero α] (A B : Op α) :
    (∃ C, add [A, B] = .ok C) ↔ (B.ishape = A.ishape ∧ B.oshape = A.oshape) := by
  rw [add_pair]
  split
  · exact ⟨fun _ => ‹_›, fun _ => ⟨_, rfl⟩⟩
  · exact ⟨(fun ⟨_, h⟩ => nomatch h), fun h => absurd h ‹_›⟩

/-- `A + B` adds the two results (entry by entry), with the shapes of `A`. -/
theorem add_apply {α} [Add α] [Zero α] (hz : ∀ a : α, 0 + a = a) (A B C : Op α) (x ya yb : NDArr α)
    (h : add [A, B] = .ok C) (ha : A.call x = .ok ya) (hb : B.call x = .ok yb)
    (hlen : ya.data.length = sprod A.oshape) :
    C.oshape = A.oshape ∧ C.ishape = A.ishape ∧
      C.app x = .ok ⟨A.oshape, List.zipWith (· + ·) ya.data yb.data⟩ := by
  rw [add_pair] at h
  split at h
  · cases h
    refine ⟨rfl, rfl, ?_⟩
    simp only [callAll, ha, hb, sumResults, List.foldl]
    rw [← hlen, zipWith_zero_add hz]
  · cases h

/-- `a * A` is always accepted and multiplies every entry of `A(x)` by `a`. -/
theorem scaleL_apply {α} [Mul α] (a : α) (A : Op α) :
    ∃ C, scaleL a A = .ok C ∧ C.oshape = A.oshape ∧ C.ishape = A.ishape ∧
      ∀ x, C.app x = (match A.call x with
        | .ok y => .ok ⟨y.shape, y.data.map (· * a)⟩
        | .error e => .error e) := by
  refine ⟨⟨A.oshape, A.ishape, composeApp [mulOp A.oshape a, A]⟩, ?_, rfl, rfl, fun x => ?_⟩
  · rw [scaleL, compose_pair]; exact if_pos rfl
  · simp only [composeApp]
    cases hA : A.call x with
    | error e => rfl
    | ok y =>
      have := (call_shape A x y hA).1
      simp [Op.call, mulOp, this]

/-- `A * a` is always accepted and multiplies every entry of the input by `a` before applying `A`. -/
theorem scaleR_apply {α} [Mul α] (a : α) (A : Op α) :
    ∃ C, scaleR A a = .ok C ∧ C.oshape = A.oshape ∧ C.ishape = A.ishape ∧
      ∀ x, x.shape = A.ishape → C.app x = A.call ⟨x.shape, x.data.map (· * a)⟩ := by
  refine ⟨⟨A.oshape, A.ishape, composeApp [A, mulOp A.ishape a]⟩, ?_, rfl, rfl, fun x hx => ?_⟩
  · rw [scaleR, compose_pair]; exact if_pos rfl
  · simp [composeApp, Op.call, mulOp, hx, natGuard_refl]

/-- `-A` is `(-1) * A` and `A - B` is `A + (-1) * B` (what `__neg__`/`__sub__` build). -/
theorem neg_sub_def {α} [Add α] [Zero α] [Mul α] [Neg α] [One α] (A B : Op α) :
    neg A = scaleL (-1) A ∧
      sub A B = (match scaleL (-1) B with | .ok nB => add [A, nB] | .error e => .error e) := ⟨rfl, rfl⟩

theorem normAxis_spec (ax : Int) (n a : Nat) :
    normAxis ax n = .ok a ↔ (-(n : Int) ≤ ax ∧ ax < n ∧ a < n ∧ ((a : Int) = ax ∨ (a : Int) = ax + n)) := by
  unfold normAxis
  by_cases h : -(n : Int) ≤ ax ∧ ax < n
  · have hn : (0 : Int) < n := by omega
    rw [if_pos h, pyMod_of_pos _ hn, Except.ok.injEq, ← Int.ofNat_inj,
      Int.toNat_of_nonneg (Int.emod_nonneg ax (Int.ne_of_gt hn))]
    -- in range, `ax % n` is `ax` or `ax + n`, whichever is non-negative
    by_cases h0 : 0 ≤ ax
    · rw [Int.emod_eq_of_lt h0 h.2]; omega
    · rw [← Int.add_emod_right, Int.emod_eq_of_lt (by omega) (by omega)]; omega
  · rw [if_neg h]
    exact ⟨nofun, fun h' => absurd ⟨h'.1, h'.2.1⟩ h⟩

theorem normAxis_eq (ax : Int) (n a : Nat) (h : normAxis ax n = .ok a) :
    (a : Int) = pyMod ax n ∧ a = (pyMod ax n).toNat := by
  have hs := (normAxis_spec ax n a).mp h
  unfold normAxis at h
  rw [if_pos ⟨hs.1, hs.2.1⟩] at h
  cases h
  have hn : (0 : Int) < n := by omega
  exact ⟨Int.toNat_of_nonneg (by rw [pyMod_of_pos _ hn]; exact Int.emod_nonneg ax (by omega)), rfl⟩

theorem stackParams_some_iff (s0 : List Nat) (rest : List (List Nat)) (ax : Int) (osh ind : List Nat) :
    stackParams (s0 :: rest) (some ax) = .ok (osh, ind) ↔
      ∃ a, normAxis ax s0.length = .ok a ∧ (∀ sh ∈ rest, Fits a s0 sh) ∧
        osh = s0.set a (s0.getD a 0 + (rest.map (·.getD a 0)).sum) ∧
        ind = prefixFrom (s0.getD a 0) (rest.map (·.getD a 0)) := by
  simp only [stackParams]
  cases normAxis ax s0.length with
  | error e => simp only [reduceCtorEq, false_and, exists_false]
  | ok a => simp only [stackFold_spec, List.nil_append, Except.ok.injEq, exists_eq_left']

/-- **build_error_iff for the stacking parameters**: with an axis, the operands are accepted exactly when
    the axis lies in `[-ndim, ndim)` and every further shape has the same rank and agrees with the first
    one off the (normalised) axis.  In particular a negative axis in range is accepted. -/
theorem stack_build_iff (s0 : List Nat) (rest : List (List Nat)) (ax : Int) :
    (∃ r, stackParams (s0 :: rest) (some ax) = .ok r) ↔
      ∃ a, normAxis ax s0.length = .ok a ∧ ∀ sh ∈ rest, Fits a s0 sh := by
  constructor
  · rintro ⟨⟨osh, ind⟩, h⟩
    obtain ⟨a, hn, hf, _⟩ := (stackParams_some_iff s0 rest ax osh ind).mp h
    exact ⟨a, hn, hf⟩
  · rintro ⟨a, hn, hf⟩
    exact ⟨_, (stackParams_some_iff s0 rest ax _ _).mpr ⟨a, hn, hf, rfl, rfl⟩⟩

/-- **stack_indices_prefix_sums**: the returned shape is the first shape with the axis entry replaced by the
    sum of all axis entries, and the returned indices are the running sums
    `[n₀, n₀+n₁, …, n₀+…+n_{m-2}]` of the operand sizes along the (normalised) axis — for every list of shapes. -/
theorem stack_indices_prefix_sums (s0 : List Nat) (rest : List (List Nat)) (ax : Int) (osh ind : List Nat)
    (h : stackParams (s0 :: rest) (some ax) = .ok (osh, ind)) :
    ∃ a, normAxis ax s0.length = .ok a ∧
      osh = s0.set a (s0.getD a 0 + (rest.map (·.getD a 0)).sum) ∧
      ind = prefixFrom (s0.getD a 0) (rest.map (·.getD a 0)) := by
  obtain ⟨a, hn, _, ho, hi⟩ := (stackParams_some_iff s0 rest ax osh ind).mp h
  exact ⟨a, hn, ho, hi⟩

/-- entry `k` of the running offsets is the start plus the sum of the first `k` sizes -/
theorem prefixFrom_getElem? (l : List Nat) : ∀ (s k : Nat), k < l.length →
    (prefixFrom s l)[k]? = some (s + (l.take k).sum) := by
  induction l with
  | nil => intro s k h; cases h
  | cons x xs ih =>
    intro s k h
    cases k with
    | zero => rfl
    | succ k =>
      simp only [prefixFrom, List.getElem?_cons_succ, List.take_succ_cons, List.sum_cons,
        ih (s + x) k (Nat.lt_of_succ_lt_succ h), Nat.add_assoc]

/-- flattened stacking (`axis=None`) accepts every list of shapes; sizes are the products. -/
theorem stack_none_accepts_all (s0 : List Nat) (rest : List (List Nat)) :
    stackParams (s0 :: rest) none =
      .ok ([sprod s0 + (rest.map sprod).sum], prefixFrom (sprod s0) (rest.map sprod)) := by
  have hsz : (rest.map fun s => [sprod s]).map (·.getD 0 0) = rest.map sprod := by
    rw [List.map_map]; rfl
  simp only [stackParams]
  rw [stackFold_spec, hsz]
  refine ⟨fun sh hsh => ?_, rfl, rfl⟩
  obtain ⟨s, _, rfl⟩ := List.mem_map.mp hsh
  exact ⟨rfl, fun i hi hne => absurd (Nat.lt_one_iff.mp hi) hne⟩

/-- **slab bounds**: with the indices returned for sizes `n₀ … n_{m-1}`, operand `k` is given
    `start = n₀+…+n_{k-1}` and `end = start + n_k`, the last operand `end = None`. -/
theorem slab_bounds (n0 : Nat) (sizes : List Nat) :
    bounds (prefixFrom n0 sizes) (sizes.length + 1) = .ok (specBounds 0 (n0 :: sizes)) := by
  unfold bounds
  rw [if_pos (by rw [length_prefixFrom]), ← zip_bounds sizes 0 n0, Nat.zero_add]

/-- too few indices for the operands: the application raises instead of returning something. -/
theorem bounds_short (ind : List Nat) (nops : Nat) (h : ind.length + 1 ≠ nops) :
    bounds ind nops = .error .apply := by
  unfold bounds; rw [if_neg h]

/-- writing: assigning the parts to the slab bounds of a fresh row yields their concatenation
    (Vstack/Diag output side, one row). -/
theorem slabs_write_concat {β : Type} (z : β) (c : Nat) (segs : List (List β)) (hne : segs ≠ [])
    (sizes : List Nat) (hs : segs.map List.length = sizes.map (· * c)) :
    rowWrites (List.replicate (sizes.sum * c) z)
      ((specBounds 0 sizes).map (fun b => (b.1 * c, b.2.map (· * c)))) segs = .ok segs.flatten := by
  rw [specBounds_scale, Nat.zero_mul, ← sum_map_mul, ← hs]
  exact rowWrites_concat z segs [] hne

theorem allRows_ok {β} (f : Nat → Except Err (List β)) (g : Nat → List β) (m : Nat)
    (h : ∀ o, o < m → f o = .ok (g o)) : allRows f m = .ok ((List.range m).map g) := by
  induction m with
  | zero => rfl
  | succ m ih =>
    simp only [allRows]
    rw [ih (fun o ho => h o (by omega)), h m (by omega)]
    simp [List.range_succ]

/-- **Vstack / Diag output side, whole array**: when operand `k` is assigned to the slab
    `[S_k, S_{k+1})` of the axis (bounds as computed from the returned indices, `end = None` for the last),
    the assembled output is the concatenation of the operand outputs along that axis — every entry is
    written exactly once — and it carries the advertised shape. -/
theorem assembleAx_concat {α} [Zero α] (oshape : List Nat) (a : Nat) (ys : List (NDArr α)) (hne : ys ≠ [])
    (sizes : List Nat)
    (hsz : ys.map (fun y => (geom y.shape a).n) = sizes)
    (hN : (geom oshape a).n = sizes.sum)
    (hlen : ∀ y ∈ ys, y.data.length =
      (geom oshape a).outer * ((geom y.shape a).n * (geom oshape a).inner)) :
    assembleAx oshape a (specBounds 0 sizes) ys =
      .ok ⟨oshape, concatAx (geom oshape a).outer (geom oshape a).inner a ys⟩ := by
  unfold assembleAx concatAx
  simp only
  rw [allRows_ok _ (fun o => (ys.map fun y =>
      rowOf ((geom y.shape a).n * (geom oshape a).inner) o y.data).flatten)]
  intro o ho
  rw [hN]
  exact slabs_write_concat 0 _ _ (by simpa using hne) sizes (hsz ▸ map_length_rowOf a _ _ o ys hlen ho)

/-- `callAll` and `slabs` are the same recursion (`[f(b, c) for b, c in zip(l, m)]`, lengths checked, first exception
    wins): such a function returns `ds` iff the three lists have one length and correspond entry by entry -/
theorem zipE_ok_iff {β γ δ : Type} (f : β → γ → Except Err δ) (F : List β → List γ → Except Err (List δ))
    (hnil : F [] [] = .ok [])
    (hcons : ∀ b l c m, F (b :: l) (c :: m) = (f b c).bind fun d => (F l m).bind fun ds => .ok (d :: ds))
    (hl : ∀ c m, F [] (c :: m) = .error .apply) (hr : ∀ b l, F (b :: l) [] = .error .apply) :
    ∀ (l : List β) (m : List γ) (ds : List δ), F l m = .ok ds ↔
      l.length = m.length ∧ m.length = ds.length ∧
        ∀ (k : Nat) b c d, l[k]? = some b → m[k]? = some c → ds[k]? = some d → f b c = .ok d
  | [], [], ds => by
    rw [hnil]
    exact ⟨fun h => Except.ok.inj h ▸ ⟨rfl, rfl, nofun⟩, fun h => by rw [List.length_eq_zero_iff.mp h.2.1.symm]⟩
  | [], c :: m, ds => by rw [hl]; exact ⟨nofun, fun h => nomatch h.1⟩
  | b :: l, [], ds => by rw [hr]; exact ⟨nofun, fun h => nomatch h.1⟩
  | b :: l, c :: m, ds => by
    have ih := zipE_ok_iff f F hnil hcons hl hr l m
    rw [hcons]
    constructor
    · intro h
      cases hd : f b c with
      | error e => rw [hd] at h; cases h
      | ok d =>
        cases hF : F l m with
        | error e => rw [hd, hF] at h; cases h
        | ok ds' =>
          rw [hd, hF] at h
          cases h
          obtain ⟨h1, h2, h3⟩ := (ih ds').mp hF
          refine ⟨congrArg (· + 1) h1, congrArg (· + 1) h2, fun k b' c' d' hb hc hd' => ?_⟩
          cases k with
          | zero => cases hb; cases hc; cases hd'; exact hd
          | succ k => exact h3 k b' c' d' hb hc hd'
    · rintro ⟨h1, h2, h3⟩
      cases ds with
      | nil => cases h2
      | cons d ds' =>
        rw [h3 0 b c d rfl rfl rfl,
          (ih ds').mpr ⟨Nat.succ.inj h1, Nat.succ.inj h2, fun k b' c' d' => h3 (k + 1) b' c' d'⟩]
        rfl

theorem callAll_ok_iff {α} (l : List (Op α)) (xs ys : List (NDArr α)) :
    callAll l xs = .ok ys ↔ l.length = xs.length ∧ xs.length = ys.length ∧
      ∀ (k : Nat) A x y, l[k]? = some A → xs[k]? = some x → ys[k]? = some y → A.call x = .ok y :=
  zipE_ok_iff (fun A x => A.call x) callAll rfl
    (fun A l x xs => by simp only [callAll]; cases A.call x <;> [rfl; (cases callAll l xs <;> rfl)])
    (fun _ _ => rfl) (fun _ _ => rfl) l xs ys

theorem slabs_ok_iff {α} (axis : Option Int) (x : NDArr α) (ss : List (List Nat)) (bs : List (Nat × Option Nat))
    (ps : List (NDArr α)) :
    slabs axis x ss bs = .ok ps ↔ ss.length = bs.length ∧ bs.length = ps.length ∧
      ∀ (k : Nat) s b p, ss[k]? = some s → bs[k]? = some b → ps[k]? = some p → slab axis s x b = .ok p :=
  zipE_ok_iff (fun s b => slab axis s x b) (slabs axis x) rfl
    (fun s ss b bs => by simp only [slabs]; cases slab axis s x b <;> [rfl; (cases slabs axis x ss bs <;> rfl)])
    (fun _ _ => rfl) (fun _ _ => rfl) ss bs ps

theorem callAll_length {α} (l : List (Op α)) (xs ys : List (NDArr α)) (h : callAll l xs = .ok ys) :
    ys.length = l.length :=
  have := (callAll_ok_iff l xs ys).mp h
  (this.1.trans this.2.1).symm

theorem sameShapes_cons {α} (f : Op α → List Nat) (A : Op α) (l : List (Op α)) :
    sameShapes f (A :: l) = true ↔ ∀ B ∈ l, f B = f A := by
  simp only [sameShapes, List.all_cons, decide_true, Bool.true_and, List.all_eq_true, decide_eq_true_eq]

theorem vstack_ok_iff {α} [Zero α] (A : Op α) (l : List (Op α)) (axis : Option Int) (V : Op α) :
    vstack (A :: l) axis = .ok V ↔
      (∀ B ∈ l, B.ishape = A.ishape) ∧ ∃ osh ind, stackParams (A.oshape :: l.map Op.oshape) axis = .ok (osh, ind) ∧
        V = ⟨osh, A.ishape, vstackApp (A :: l) axis osh ind⟩ := by
  rw [← sameShapes_cons]
  simp only [vstack, List.map_cons]
  by_cases hs : sameShapes Op.ishape (A :: l) = true
  · rw [if_pos hs]
    cases stackParams (A.oshape :: l.map Op.oshape) axis with
    | error e => exact ⟨nofun, fun ⟨_, _, _, h, _⟩ => nomatch h⟩
    | ok r =>
      exact ⟨fun h => ⟨hs, r.1, r.2, rfl, (Except.ok.inj h).symm⟩, fun ⟨_, _, _, h1, h2⟩ => by cases h1; rw [h2]⟩
  · rw [if_neg hs]
    exact ⟨nofun, fun h => absurd h.1 hs⟩

theorem hstack_ok_iff {α} [Add α] [Zero α] (A : Op α) (l : List (Op α)) (axis : Option Int) (H : Op α) :
    hstack (A :: l) axis = .ok H ↔
      (∀ B ∈ l, B.oshape = A.oshape) ∧ ∃ ish ind, stackParams (A.ishape :: l.map Op.ishape) axis = .ok (ish, ind) ∧
        H = ⟨A.oshape, ish, hstackApp (A :: l) axis A.oshape ind⟩ := by
  rw [← sameShapes_cons]
  simp only [hstack, List.map_cons]
  by_cases hs : sameShapes Op.oshape (A :: l) = true
  · rw [if_pos hs]
    cases stackParams (A.ishape :: l.map Op.ishape) axis with
    | error e => exact ⟨nofun, fun ⟨_, _, _, h, _⟩ => nomatch h⟩
    | ok r =>
      exact ⟨fun h => ⟨hs, r.1, r.2, rfl, (Except.ok.inj h).symm⟩, fun ⟨_, _, _, h1, h2⟩ => by cases h1; rw [h2]⟩
  · rw [if_neg hs]
    exact ⟨nofun, fun h => absurd h.1 hs⟩

theorem diag_ok_iff {α} [Zero α] (l : List (Op α)) (oaxis iaxis : Option Int) (D : Op α) :
    diag l oaxis iaxis = .ok D ↔
      ∃ ish iind osh oind, stackParams (l.map Op.ishape) iaxis = .ok (ish, iind) ∧
        stackParams (l.map Op.oshape) oaxis = .ok (osh, oind) ∧
        D = ⟨osh, ish, diagApp l oaxis iaxis osh oind iind⟩ := by
  simp only [diag]
  cases stackParams (l.map Op.ishape) iaxis with
  | error e => exact ⟨nofun, fun ⟨_, _, _, _, h, _⟩ => nomatch h⟩
  | ok r =>
    cases stackParams (l.map Op.oshape) oaxis with
    | error e => exact ⟨nofun, fun ⟨_, _, _, _, _, h, _⟩ => nomatch h⟩
    | ok r' =>
      exact ⟨fun h => ⟨r.1, r.2, r'.1, r'.2, rfl, rfl, (Except.ok.inj h).symm⟩,
        fun ⟨_, _, _, _, h1, h2, h3⟩ => by cases h1; cases h2; rw [h3]⟩

theorem stackParams_nil (axis : Option Int) : stackParams [] axis = .error .build := by cases axis <;> rfl

theorem build_iff_of_ok_iff {ω β γ : Type} {X : Except Err ω} {P : Prop} {r : Except Err (β × γ)} {mk : β → γ → ω}
    (h : ∀ H, X = .ok H ↔ P ∧ ∃ a b, r = .ok (a, b) ∧ H = mk a b) : (∃ H, X = .ok H) ↔ P ∧ ∃ p, r = .ok p :=
  ⟨fun ⟨H, hH⟩ => let ⟨hp, _, _, hr, _⟩ := (h H).mp hH; ⟨hp, _, hr⟩,
    fun ⟨hp, ⟨a, b⟩, hr⟩ => ⟨_, (h _).mpr ⟨hp, a, b, hr, rfl⟩⟩⟩

theorem build_iff_of_ok_iff₂ {ω β γ β' γ' : Type} {X : Except Err ω} {r : Except Err (β × γ)}
    {r' : Except Err (β' × γ')} {mk : β → γ → β' → γ' → ω}
    (h : ∀ H, X = .ok H ↔ ∃ a b c d, r = .ok (a, b) ∧ r' = .ok (c, d) ∧ H = mk a b c d) :
    (∃ H, X = .ok H) ↔ (∃ p, r = .ok p) ∧ ∃ p, r' = .ok p :=
  ⟨fun ⟨H, hH⟩ => let ⟨_, _, _, _, hr, hr', _⟩ := (h H).mp hH; ⟨⟨_, hr⟩, _, hr'⟩,
    fun ⟨⟨⟨a, b⟩, hr⟩, ⟨c, d⟩, hr'⟩ => ⟨_, (h _).mpr ⟨a, b, c, d, hr, hr', rfl⟩⟩⟩

theorem diag_build_iff {α} [Zero α] (l : List (Op α)) (oaxis iaxis : Option Int) :
    (∃ D, diag l oaxis iaxis = .ok D) ↔
      ((∃ r, stackParams (l.map Op.ishape) iaxis = .ok r) ∧ ∃ r, stackParams (l.map Op.oshape) oaxis = .ok r) :=
  build_iff_of_ok_iff₂ (diag_ok_iff l oaxis iaxis)

/-- **Vstack is accepted exactly when** the operands have equal ishapes and their oshapes pass the stacking
    parameters (same rank, equal off the normalised axis); misfits raise. -/
theorem vstack_build_iff {α} [Zero α] (A : Op α) (l : List (Op α)) (axis : Option Int) :
    (∃ V, vstack (A :: l) axis = .ok V) ↔
      ((∀ B ∈ l, B.ishape = A.ishape) ∧ ∃ r, stackParams (A.oshape :: l.map Op.oshape) axis = .ok r) :=
  build_iff_of_ok_iff (vstack_ok_iff A l axis)

/-- **Hstack is accepted exactly when** the operands have equal oshapes and their ishapes pass the stacking
    parameters; misfits raise. -/
theorem hstack_build_iff {α} [Add α] [Zero α] (A : Op α) (l : List (Op α)) (axis : Option Int) :
    (∃ H, hstack (A :: l) axis = .ok H) ↔
      ((∀ B ∈ l, B.oshape = A.oshape) ∧ ∃ r, stackParams (A.ishape :: l.map Op.ishape) axis = .ok r) :=
  build_iff_of_ok_iff (hstack_ok_iff A l axis)

/-- **Vstack along an axis, operator level**: a built `Vstack` advertises the first oshape with the axis entry
    summed and the common ishape, and its application assigns the operand outputs to the slab bounds
    `[S_k, S_{k+1})` along the *normalised* axis (that this is the block column: `vstack_block_col`). -/
theorem vstack_uses_slab_bounds {α} [Zero α] (A : Op α) (l : List (Op α)) (ax : Int) (V : Op α)
    (h : vstack (A :: l) (some ax) = .ok V) :
    ∃ a, normAxis ax A.oshape.length = .ok a ∧
      V.oshape = A.oshape.set a (A.oshape.getD a 0 + (l.map (·.oshape.getD a 0)).sum) ∧
      V.ishape = A.ishape ∧
      ∀ x ys, callAll (A :: l) (List.replicate (l.length + 1) x) = .ok ys →
        V.app x = assembleAx V.oshape a
          (specBounds 0 (A.oshape.getD a 0 :: l.map (·.oshape.getD a 0))) ys := by
  obtain ⟨_, osh, ind, hs, rfl⟩ := (vstack_ok_iff A l (some ax) V).mp h
  obtain ⟨a, hn, _, ho, hi⟩ := (stackParams_some_iff _ _ ax osh ind).mp hs
  simp only [List.map_map, Function.comp_def] at ho hi
  refine ⟨a, hn, ho, rfl, fun x ys hys => ?_⟩
  have hb := slab_bounds (A.oshape.getD a 0) (l.map (·.oshape.getD a 0))
  rw [List.length_map, ← List.length_cons (a := A), ← callAll_length _ _ _ hys] at hb
  have hax : (pyMod ax osh.length).toNat = a := by
    rw [ho, List.length_set]; exact (normAxis_eq ax _ a hn).2.symm
  simp only [vstackApp, List.length_cons, hys, assemble, hi, hb, hax]

/- Vstack / Hstack / Diag are the block column / row / diagonal.
`Stacked` (Lemmas) is what the stacking parameters establish (`stackParams_some_stacked`); `sliceAx_concat` (Lemmas) is
the N-d read side (outer × axis × inner decomposition of the row-major layout), `assembleAx_concat` the N-d write side;
`slabs_concat` / `assemble_concat` put them together with the indices `_hstack_params/_vstack_params` return, for an
axis and for `None`; the three block theorems follow by unfolding `_apply`. -/

/-- **what the stacking parameters establish** (axis given): the returned shape `S` has the operands' rank, every
    operand shape is `S` with its own entry on the normalised axis `a = axis mod ndim`, the axis entries add up to
    `S[a]`, and the indices are the running sums. -/
theorem stackParams_some_stacked (s0 : List Nat) (rest : List (List Nat)) (ax : Int) (S ind : List Nat)
    (h : stackParams (s0 :: rest) (some ax) = .ok (S, ind)) :
    Stacked (pyMod ax S.length).toNat S (s0 :: rest) ∧
      ind = prefixFrom (s0.getD (pyMod ax S.length).toNat 0) (rest.map (·.getD (pyMod ax S.length).toNat 0)) ∧
      ∀ sh ∈ s0 :: rest, sh.length = S.length := by
  obtain ⟨a, hn, hfit, hS, hind⟩ := (stackParams_some_iff s0 rest ax S ind).mp h
  have hlen : S.length = s0.length := by rw [hS, List.length_set]
  have hlt : a < s0.length := ((normAxis_spec ax s0.length a).mp hn).2.2.1
  rw [hlen, ← (normAxis_eq ax s0.length a hn).2]
  refine ⟨⟨hlen ▸ hlt, ?_, ?_⟩, hind, ?_⟩
  · intro sh hsh
    rw [hS, List.set_set]
    rcases List.mem_cons.mp hsh with rfl | hsh
    · exact (set_getD_self _ a).symm
    · exact fits_eq_set a s0 sh (hfit sh hsh)
  · rw [hS, getD_set_self _ _ _ hlt]; rfl
  · intro sh hsh
    rcases List.mem_cons.mp hsh with rfl | hsh
    · rfl
    · exact (hfit sh hsh).1

/-- the 1-D array of the entries of `p` (`p.ravel()`) -/
def flat {α} (p : NDArr α) : NDArr α := ⟨[p.data.length], p.data⟩

/-- `np.concatenate` of the parts along `axis` (normalised modulo the rank of the stacked shape `S`), for
    `axis = None` of their ravelled entries — in flat row-major form, carrying the stacked shape `S`. -/
def concatOpt {α} (axis : Option Int) (S : List Nat) (parts : List (NDArr α)) : NDArr α :=
  match axis with
  | none => ⟨S, (parts.map (·.data)).flatten⟩
  | some ax => ⟨S, concatAx (geom S (pyMod ax S.length).toNat).outer (geom S (pyMod ax S.length).toNat).inner
      (pyMod ax S.length).toNat parts⟩

/-- `axis = None` is axis 0 of the ravelled parts -/
theorem concatOpt_none {α} (N : Nat) (ps : List (NDArr α)) :
    concatOpt none [N] ps = ⟨[N], concatAx (geom [N] 0).outer (geom [N] 0).inner 0 (ps.map flat)⟩ := by
  have hrow : ∀ y : NDArr α, rowOf ((flat y).shape.getD 0 0 * 1) 0 (flat y).data = y.data := fun y => by
    simp [flat, rowOf]
  simp only [concatOpt, concatAx, geom, List.take_zero, List.drop_succ_cons, List.drop_zero, sprod, List.foldr_nil,
    List.range_one, List.map_cons, List.map_nil, List.flatten_cons, List.flatten_nil, List.append_nil, List.map_map,
    Function.comp_def, hrow]

/-- **N-d write side with the stacking facts**: assigning well-formed parts of the stacked shapes to their slabs
    yields their concatenation along the axis. -/
theorem assembleAx_stacked {α} [Zero α] (a : Nat) (S : List Nat) (ys : List (NDArr α)) (hne : ys ≠ [])
    (hst : Stacked a S (ys.map (·.shape))) (hwf : ∀ y ∈ ys, y.WF) :
    assembleAx S a (specBounds 0 (ys.map fun y => (geom y.shape a).n)) ys =
      .ok ⟨S, concatAx (geom S a).outer (geom S a).inner a ys⟩ :=
  assembleAx_concat S a ys hne _ rfl hst.n_eq fun y hy => hst.data_length hy (hwf y hy)

theorem stacked_flat {α} (ps : List (NDArr α)) (N : Nat) (hN : N = (ps.map (·.data.length)).sum) :
    Stacked 0 [N] ((ps.map flat).map (·.shape)) := by
  refine ⟨Nat.zero_lt_one, fun sh hsh => ?_, ?_⟩
  · obtain ⟨p, _, rfl⟩ := List.mem_map.mp (List.map_map ▸ hsh)
    rfl
  · rw [List.map_map, List.map_map]; exact hN

theorem wf_flat {α} (ps : List (NDArr α)) : ∀ y ∈ ps.map flat, y.WF := by
  intro y hy
  obtain ⟨p, _, rfl⟩ := List.mem_map.mp hy
  exact (Nat.mul_one _).symm

/-- the slab bounds computed by `_apply` from the returned indices, for parts of the operand shapes -/
theorem stack_bounds {α} (shapes : List (List Nat)) (axis : Option Int) (S ind : List Nat)
    (h : stackParams shapes axis = .ok (S, ind)) (ps : List (NDArr α)) (hsh : ps.map (·.shape) = shapes)
    (hwf : ∀ p ∈ ps, p.WF) :
    match axis with
    | none => bounds ind ps.length = .ok (specBounds 0 ((ps.map flat).map fun y => (geom y.shape 0).n)) ∧
        S = [(ps.map (·.data.length)).sum]
    | some ax => bounds ind ps.length =
        .ok (specBounds 0 (ps.map fun y => (geom y.shape (pyMod ax S.length).toNat).n)) ∧
        Stacked (pyMod ax S.length).toNat S (ps.map (·.shape)) ∧
        ∀ sh ∈ shapes, sh.length = S.length := by
  cases shapes with
  | nil => cases axis <;> cases h
  | cons s0 rest =>
    have hl : ps.length = (rest.map sprod).length + 1 := by
      rw [← List.length_map (f := (·.shape)), hsh, List.length_cons, List.length_map]
    cases axis with
    | none =>
      have hsz : ps.map (·.data.length) = sprod s0 :: rest.map sprod := by
        rw [← List.map_cons (f := sprod), ← hsh, List.map_map]; exact List.map_congr_left hwf
      rw [stack_none_accepts_all] at h
      cases h
      refine ⟨?_, by rw [hsz]; rfl⟩
      rw [List.map_map, hl]
      exact hsz ▸ slab_bounds _ _
    | some ax =>
      obtain ⟨hst, hind, hlen⟩ := stackParams_some_stacked s0 rest ax S ind h
      refine ⟨?_, hsh ▸ hst, hlen⟩
      have hsz : (ps.map fun y => (geom y.shape (pyMod ax S.length).toNat).n) =
          (s0 :: rest).map (·.getD (pyMod ax S.length).toNat 0) := by
        rw [← hsh, List.map_map]; rfl
      rw [hsz, hind, hl, List.length_map, ← List.length_map (f := fun sh : List Nat => sh.getD (pyMod ax S.length).toNat 0)]
      exact slab_bounds _ _

/-- **input side (Hstack / Diag)**: with the indices returned by `_hstack_params`, the slabs `_apply` cuts out of the
    concatenation of well-formed parts of the operand shapes are exactly the parts, in order (for `axis = None`:
    `input[start:end].reshape(ishape_k)` of the concatenated ravelled parts). -/
theorem slabs_concat {α} (shapes : List (List Nat)) (axis : Option Int) (S ind : List Nat)
    (h : stackParams shapes axis = .ok (S, ind)) (xs : List (NDArr α)) (hsh : xs.map (·.shape) = shapes)
    (hwf : ∀ x ∈ xs, x.WF) :
    ∃ bs, bounds ind xs.length = .ok bs ∧ slabs axis (concatOpt axis S xs) shapes bs = .ok xs := by
  have hb := stack_bounds shapes axis S ind h xs hsh hwf
  cases axis with
  | none =>
    obtain ⟨hb, rfl⟩ := hb
    refine ⟨_, hb, (slabs_ok_iff _ _ _ _ _).mpr ⟨?_, ?_, fun k s b p hs hb hp => ?_⟩⟩
    · simp only [length_specBounds, List.length_map, ← hsh]
    · simp only [length_specBounds, List.length_map]
    · have hsl := sliceAx_concat 0 _ (xs.map flat) (stacked_flat xs _ rfl) (wf_flat xs)
      rw [← concatOpt_none] at hsl
      rw [← hsh, List.getElem?_map, hp] at hs
      cases hs
      simp only [slab, map_eq_at hsl k b (flat p) hb (by rw [List.getElem?_map, hp]; rfl)]
      exact if_pos (hwf p (List.mem_of_getElem? hp))
  | some ax =>
    obtain ⟨hb, hst, hrank⟩ := hb
    refine ⟨_, hb, (slabs_ok_iff _ _ _ _ _).mpr ⟨?_, ?_, fun k s b p hs hb hp => ?_⟩⟩
    · simp only [length_specBounds, List.length_map, ← hsh]
    · simp only [length_specBounds, List.length_map]
    · simp only [slab, hrank s (List.mem_of_getElem? hs)]
      exact congrArg _ (map_eq_at (sliceAx_concat _ S xs hst hwf) k b p hb hp)

/-- **output side (Vstack / Diag)**: with the indices returned by `_vstack_params`, assigning well-formed operand
    outputs of the operand shapes to their slabs (`output[slc_k] = y_k`, for `axis = None` `output[start:end] = y_k.ravel()`)
    yields their concatenation along the normalised axis, carrying the advertised shape — every entry written once. -/
theorem assemble_concat {α} [Zero α] (shapes : List (List Nat)) (axis : Option Int) (S ind : List Nat)
    (h : stackParams shapes axis = .ok (S, ind)) (ys : List (NDArr α)) (hsh : ys.map (·.shape) = shapes)
    (hwf : ∀ y ∈ ys, y.WF) :
    assemble axis S ind ys = .ok (concatOpt axis S ys) := by
  have hb := stack_bounds shapes axis S ind h ys hsh hwf
  have hne : ys ≠ [] := by
    rintro rfl
    cases axis <;> cases hsh <;> cases h
  unfold assemble
  cases axis with
  | none =>
    obtain ⟨hb, rfl⟩ := hb
    rw [hb, concatOpt_none]
    exact assembleAx_stacked 0 _ (ys.map flat) (mt List.map_eq_nil_iff.mp hne) (stacked_flat ys _ rfl) (wf_flat ys)
  | some ax =>
    obtain ⟨hb, hst, _⟩ := hb
    rw [hb]
    exact assembleAx_stacked _ S ys hne hst hwf

/-- **Vstack is the block column.**  For every operand list that passes `build` and every input on which all
    operands succeed with outputs of their advertised shapes: applying `Vstack(ops, axis)` to `x` yields the
    concatenation, in order, of the operands' outputs `ops_k(x)` along the normalised axis (`axis = None`: of their
    flattened outputs), with the advertised `oshape`. -/
theorem vstack_block_col {α} [Zero α] (A : Op α) (l : List (Op α)) (axis : Option Int) (V : Op α)
    (h : vstack (A :: l) axis = .ok V) (x : NDArr α) (ys : List (NDArr α))
    (hys : callAll (A :: l) (List.replicate (l.length + 1) x) = .ok ys)
    (hsh : ys.map (·.shape) = (A :: l).map Op.oshape) (hwf : ∀ y ∈ ys, y.WF) :
    V.app x = .ok (concatOpt axis V.oshape ys) := by
  obtain ⟨_, osh, ind, hs, rfl⟩ := (vstack_ok_iff A l axis V).mp h
  simp only [vstackApp, List.length_cons, hys]
  exact assemble_concat _ axis osh ind hs ys hsh hwf

/-- **Hstack is the block row.**  For every operand list that passes `build` and well-formed inputs `x_1 … x_n` of the
    operands' ishapes: applying `Hstack(ops, axis)` to the concatenation `x_1 ‖ … ‖ x_n` along the normalised axis
    (`axis = None`: of the flattened inputs) yields `Σ_k ops_k(x_k)` (entrywise sum, `sumResults`), whenever every
    `ops_k(x_k)` succeeds. -/
theorem hstack_block_row {α} [Add α] [Zero α] (A : Op α) (l : List (Op α)) (axis : Option Int) (H : Op α)
    (h : hstack (A :: l) axis = .ok H) (xs ys : List (NDArr α))
    (hxs : xs.map (·.shape) = (A :: l).map Op.ishape) (hwf : ∀ x ∈ xs, x.WF)
    (hys : callAll (A :: l) xs = .ok ys) :
    H.app (concatOpt axis H.ishape xs) = .ok (sumResults H.oshape ys) := by
  obtain ⟨_, ish, ind, hs, rfl⟩ := (hstack_ok_iff A l axis H).mp h
  obtain ⟨bs, hb, hsl⟩ := slabs_concat _ axis ish ind hs xs hxs hwf
  rw [← List.length_map (f := (·.shape)), hxs, List.length_map] at hb
  simp only [hstackApp, List.map_cons, hb, hsl, hys]

/-- **Diag is the block diagonal** — both at once, for all four combinations of `oaxis` / `iaxis` being an axis or
    `None` (including the mixed cases): applying `Diag(ops, oaxis, iaxis)` to the concatenation of well-formed inputs
    `x_k` (of the operands' ishapes) along `iaxis` yields the concatenation of the outputs `ops_k(x_k)` along `oaxis`. -/
theorem diag_block_diag {α} [Zero α] (A : Op α) (l : List (Op α)) (oaxis iaxis : Option Int) (D : Op α)
    (h : diag (A :: l) oaxis iaxis = .ok D) (xs ys : List (NDArr α))
    (hxs : xs.map (·.shape) = (A :: l).map Op.ishape) (hwfx : ∀ x ∈ xs, x.WF)
    (hys : callAll (A :: l) xs = .ok ys)
    (hsh : ys.map (·.shape) = (A :: l).map Op.oshape) (hwfy : ∀ y ∈ ys, y.WF) :
    D.app (concatOpt iaxis D.ishape xs) = .ok (concatOpt oaxis D.oshape ys) := by
  obtain ⟨ish, iind, osh, oind, hi, ho, rfl⟩ := (diag_ok_iff (A :: l) oaxis iaxis D).mp h
  obtain ⟨bs, hb, hsl⟩ := slabs_concat _ iaxis ish iind hi xs hxs hwfx
  rw [← List.length_map (f := (·.shape)), hxs, List.length_map] at hb
  simp only [diagApp, hb, hsl, hys]
  exact assemble_concat _ oaxis osh oind ho ys hsh hwfy

theorem foldl_zipWith_entry {α} [Add α] [Zero α] (n i : Nat) (hi : i < n) : ∀ (ys : List (NDArr α)) (acc : List α),
    acc.length = n → (∀ y ∈ ys, y.data.length = n) →
    (ys.foldl (fun acc y => List.zipWith (· + ·) acc y.data) acc)[i]? =
      some (ys.foldl (fun s y => s + y.data.getD i 0) (acc.getD i 0)) := by
  intro ys
  induction ys with
  | nil =>
    intro acc hacc _
    rw [List.foldl_nil, List.foldl_nil, List.getD_eq_getElem?_getD, List.getElem?_eq_getElem (hacc ▸ hi)]
    rfl
  | cons y ys ih =>
    intro acc hacc hys
    have hy : y.data.length = n := hys y List.mem_cons_self
    rw [List.foldl_cons, List.foldl_cons,
      ih _ (by rw [List.length_zipWith, hacc, hy, Nat.min_self]) (fun z hz => hys z (List.mem_cons_of_mem _ hz))]
    congr 2
    simp only [List.getD_eq_getElem?_getD, List.getElem?_zipWith, List.getElem?_eq_getElem (hacc ▸ hi),
      List.getElem?_eq_getElem (hy ▸ hi), Option.getD_some]

/-- **the Hstack result is the entrywise sum**: entry `i` of `sumResults oshape ys` is `0 + y_1[i] + … + y_n[i]`
    (left to right, as `output = 0; output = output + y_k`) when every `y_k` has `prod oshape` entries. -/
theorem sumResults_entry {α} [Add α] [Zero α] (osh : List Nat) (ys : List (NDArr α))
    (hys : ∀ y ∈ ys, y.data.length = sprod osh) (i : Nat) (hi : i < sprod osh) :
    (sumResults osh ys).shape = osh ∧
      (sumResults osh ys).data[i]? = some (ys.foldl (fun s y => s + y.data.getD i 0) 0) := by
  refine ⟨rfl, ?_⟩
  unfold sumResults
  simp only
  rw [foldl_zipWith_entry (sprod osh) i hi ys _ (by simp) hys]
  simp [List.getD_eq_getElem?_getD, hi]

theorem concatOpt_shape {α} (axis : Option Int) (S : List Nat) (ps : List (NDArr α)) :
    (concatOpt axis S ps).shape = S := by cases axis <;> rfl

/-- the same through `Linop.apply` (guards included): an input of the advertised ishape passes, the block column has
    the advertised oshape and passes -/
theorem vstack_block_col_call {α} [Zero α] (A : Op α) (l : List (Op α)) (axis : Option Int) (V : Op α)
    (h : vstack (A :: l) axis = .ok V) (x : NDArr α) (ys : List (NDArr α)) (hx : x.shape = V.ishape)
    (hys : callAll (A :: l) (List.replicate (l.length + 1) x) = .ok ys)
    (hsh : ys.map (·.shape) = (A :: l).map Op.oshape) (hwf : ∀ y ∈ ys, y.WF) :
    V.call x = .ok (concatOpt axis V.oshape ys) :=
  call_of_shape V x _ hx (concatOpt_shape _ _ _) (vstack_block_col A l axis V h x ys hys hsh hwf)

theorem diag_block_diag_call {α} [Zero α] (A : Op α) (l : List (Op α)) (oaxis iaxis : Option Int) (D : Op α)
    (h : diag (A :: l) oaxis iaxis = .ok D) (xs ys : List (NDArr α))
    (hxs : xs.map (·.shape) = (A :: l).map Op.ishape) (hwfx : ∀ x ∈ xs, x.WF)
    (hys : callAll (A :: l) xs = .ok ys)
    (hsh : ys.map (·.shape) = (A :: l).map Op.oshape) (hwfy : ∀ y ∈ ys, y.WF) :
    D.call (concatOpt iaxis D.ishape xs) = .ok (concatOpt oaxis D.oshape ys) :=
  call_of_shape D _ _ (concatOpt_shape _ _ _) (concatOpt_shape _ _ _)
    (diag_block_diag A l oaxis iaxis D h xs ys hxs hwfx hys hsh hwfy)

/-! non-vacuity: concrete stacks (scalars `Nat`) -/
example : concatOpt (α := Nat) (some (-1)) [2, 3] [⟨[2, 1], [1, 2]⟩, ⟨[2, 2], [3, 4, 5, 6]⟩] =
    ⟨[2, 3], [1, 3, 4, 2, 5, 6]⟩ := rfl
example : concatOpt (α := Nat) none [6] [⟨[2, 1], [1, 2]⟩, ⟨[2, 2], [3, 4, 5, 6]⟩] = ⟨[6], [1, 2, 3, 4, 5, 6]⟩ := rfl
/-- `Hstack([1·, 2·], axis=0)` on `[1,2] ‖ [3,4]` is `1·[1,2] + 2·[3,4]` -/
example : (match hstack [mulOp [2] (1 : Nat), mulOp [2] 2] (some 0) with
    | .ok H => (match H.app ⟨[4], [1, 2, 3, 4]⟩ with | .ok y => some (H.ishape, y.shape, y.data) | .error _ => none)
    | .error _ => none) = some ([4], [2], [7, 10]) := by decide +kernel
/-- `Diag([I[1,2], I[2,2]], oaxis=None, iaxis=0)`: the mixed case -/
example : (match diag [mulOp [1, 2] (1 : Nat), mulOp [2, 2] 3] none (some (-2)) with
    | .ok D => (match D.app ⟨[3, 2], [1, 2, 3, 4, 5, 6]⟩ with | .ok y => some (D.oshape, D.ishape, y.shape, y.data) | .error _ => none)
    | .error _ => none) = some ([6], [3, 2], [6], [1, 2, 9, 12, 15, 18]) := by decide +kernel

/-- the hypotheses of `diag_block_diag` are satisfiable (mixed case `oaxis = None`, `iaxis = -2`) -/
example : ∃ (D : Op Nat) (xs ys : List (NDArr Nat)),
    diag [mulOp [1, 2] (1 : Nat), mulOp [2, 2] 3] none (some (-2)) = .ok D ∧
    xs.map (·.shape) = [mulOp [1, 2] (1 : Nat), mulOp [2, 2] 3].map Op.ishape ∧ (∀ x ∈ xs, x.WF) ∧
    callAll [mulOp [1, 2] (1 : Nat), mulOp [2, 2] 3] xs = .ok ys ∧
    ys.map (·.shape) = [mulOp [1, 2] (1 : Nat), mulOp [2, 2] 3].map Op.oshape ∧ (∀ y ∈ ys, y.WF) ∧
    concatOpt (some (-2)) D.ishape xs = ⟨[3, 2], [1, 2, 3, 4, 5, 6]⟩ ∧
    concatOpt none D.oshape ys = ⟨[6], [1, 2, 9, 12, 15, 18]⟩ :=
  ⟨_, [⟨[1, 2], [1, 2]⟩, ⟨[2, 2], [3, 4, 5, 6]⟩], [⟨[1, 2], [1, 2]⟩, ⟨[2, 2], [9, 12, 15, 18]⟩], rfl, rfl,
    List.forall_mem_cons.2 ⟨rfl, List.forall_mem_cons.2 ⟨rfl, nofun⟩⟩, rfl, rfl, List.forall_mem_cons.2 ⟨rfl, List.forall_mem_cons.2 ⟨rfl, nofun⟩⟩, rfl, rfl⟩

example : stackParams [[2, 3], [2, 4], [2, 1]] (some (-1)) = .ok ([2, 8], [3, 7]) := by decide +kernel
example : stackParams [[2, 3], [2, 4]] (some 0) = .error .build := by decide +kernel
example : bounds [3, 7] 3 = .ok [(0, some 3), (3, some 7), (7, none)] := by decide +kernel

end SigpyVerif.C03
