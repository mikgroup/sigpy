import SigpyVerif.Props.C17Power
import SigpyVerif.Gen.UtilFormulas
import SigpyVerif.Lemmas.Py
import Mathlib.Analysis.SpecialFunctions.Exp
import Mathlib.Analysis.SpecialFunctions.Trigonometric.Basic
import Mathlib.Analysis.Complex.Trigonometric
/-
  C17, part "eigenvalues ≤ 1, hypotheses reduced to numpy's contracts".

  `eig_le_one_espirit` (Props/C17.lean) assumes (hv) orthonormal rows of `VH`, (hε) `|ε_p|² ≤ 1/N` for the numbers `ε_p`
  with `img_kernel[c](q) = Σ_p kernel[c, p]·ε_p`, and (hP) `kw^d` kernel offsets.  Here `ε` is written out:
  `sp.ifft(sp.resize(kernel, ksp.shape), axes=image axes)` is, by definition of the centred orthonormal inverse DFT
  (C05: `ifftshift → ifftn(norm='ortho') → fftshift`, centre `n // 2`) and of the centre padding (`util.resize`, shifts
  GENERATED in `Gen/UtilFormulas.lean`), along each image axis
      `ε^{(ax)}_q(p) = n^{-1/2} · exp(2πi (q - n//2)(j - n//2)/n)`,  `j = p - ishift + oshift`  if offset `p` is copied,
      `0` if `resize` crops it,
  and the product of these over the axes.  `dftPhase_norm_sq_le` PROVES (hε) for it and `card_offsets` proves (hP), so
  `eig_le_one_espirit_dft` / `espirit_run_eig_unit_interval_dft` have ONE numerical hypothesis left: the rows of numpy's
  `VH` (all of them; the threshold keeps an arbitrary subset `S`) are orthonormal — the contract of
  `numpy.linalg.svd(full_matrices=False)`.  That `sp.ifft ∘ sp.resize` computes exactly this sum (numpy's FFT contract +
  C05/C09's index maps) is the DEFINITION used here; the correspondence compares the real `AHA` with it on every run
  (stream `eig-hypotheses`, explicit phases `dft_phases` written from the same formulas).
-/
namespace SigpyVerif.C17
open SigpyVerif
open scoped InnerProductSpace

-- `dftEntry_norm_sq` carries `0 < n`, which its proof does not need (for `n = 0` both sides are `0`)
set_option linter.unusedVariables false

/-- entry of the centred orthonormal inverse DFT of length `n`: voxel `q`, grid position `j` -/
noncomputable def dftEntry (n : ℕ) (q j : ℤ) : ℂ :=
  ((1 / Real.sqrt n : ℝ) : ℂ) *
    Complex.exp (((2 * Real.pi * ((q - (n : ℤ) / 2 : ℤ) : ℝ) * ((j - (n : ℤ) / 2 : ℤ) : ℝ) / n : ℝ) : ℂ) * Complex.I)

theorem dftEntry_norm_sq (n : ℕ) (hn : 0 < n) (q j : ℤ) : ‖dftEntry n q j‖ ^ 2 = 1 / (n : ℝ) := by
  unfold dftEntry
  rw [norm_mul, Complex.norm_exp_ofReal_mul_I, mul_one, Complex.norm_real, Real.norm_eq_abs, sq_abs, div_pow, one_pow,
    Real.sq_sqrt (Nat.cast_nonneg n)]

/-- one image axis: kernel offset `p` of a width-`kw` kernel, centre-padded/cropped to length `n` by `sp.resize`
    (GENERATED shifts and copy length), then transformed: the coefficient of `kernel[.., p, ..]` in voxel `q` -/
noncomputable def axisPhase (n kw : ℕ) (q : ℤ) (p : ℤ) : ℂ :=
  let ishift := Gen.resizeIshiftDefault kw n
  let oshift := Gen.resizeOshiftDefault kw n
  let len := Gen.resizeCopyLen kw ishift n oshift
  if ishift ≤ p ∧ p < ishift + len then dftEntry n q (p - ishift + oshift) else 0

theorem axisPhase_norm_sq_le (n kw : ℕ) (hn : 0 < n) (q p : ℤ) : ‖axisPhase n kw q p‖ ^ 2 ≤ 1 / (n : ℝ) := by
  unfold axisPhase
  simp only
  split_ifs
  · exact le_of_eq (dftEntry_norm_sq n hn q _)
  · rw [norm_zero, zero_pow two_ne_zero]
    exact one_div_nonneg.mpr (Nat.cast_nonneg n)

variable {d : ℕ}

/-- `d` image axes of lengths `nsh`, kernel offsets `p ∈ {0..kw-1}^d`, voxel `q`: the coefficient of `kernel[c, p]` in
    `img_kernel[c](q)` -/
noncomputable def dftPhase (nsh : Fin d → ℕ) (kw : ℕ) (q : Fin d → ℤ) (p : Fin d → Fin kw) : ℂ :=
  ∏ ax, axisPhase (nsh ax) kw (q ax) ((p ax : ℕ) : ℤ)

/-- **dftPhase_norm_sq_le** — hypothesis (hε) of `eig_le_one_espirit`, proved: `|ε_q(p)|² ≤ 1/N`, `N = ∏ n_ax`. -/
theorem dftPhase_norm_sq_le (nsh : Fin d → ℕ) (hn : ∀ ax, 0 < nsh ax) (kw : ℕ) (q : Fin d → ℤ) (p : Fin d → Fin kw) :
    ‖dftPhase nsh kw q p‖ ^ 2 ≤ 1 / (((∏ ax, (nsh ax : ℤ) : ℤ)) : ℝ) := by
  unfold dftPhase
  rw [norm_prod, ← Finset.prod_pow]
  have h1 : ∏ ax, ‖axisPhase (nsh ax) kw (q ax) ((p ax : ℕ) : ℤ)‖ ^ 2 ≤ ∏ ax : Fin d, (1 / (nsh ax : ℝ)) :=
    Finset.prod_le_prod (fun _ _ => sq_nonneg _) (fun ax _ => axisPhase_norm_sq_le _ _ (hn ax) _ _)
  refine h1.trans (le_of_eq ?_)
  push_cast
  rw [Finset.prod_div_distrib, Finset.prod_const_one]

/-- hypothesis (hP), proved: there are `kw^d` kernel offsets -/
theorem card_offsets (kw : ℕ) : (Fintype.card (Fin d → Fin kw) : ℤ) = (kw : ℤ) ^ d := by
  rw [Fintype.card_fun, Fintype.card_fin, Fintype.card_fin, Nat.cast_pow]

variable {C : Type} [Fintype C]

/-- **eig_le_one_espirit_dft.**  `EspiritCalib`'s per-voxel matrix `AHA[q] = (N/kw^d)·Σ_{k∈S} a_k(q) a_k(q)ᴴ` (as the
    operator `gramOp`), with the GENERATED scale, `a_k(q)[c] = Σ_p v_k[c,p]·dftPhase(q, p)` the centred orthonormal inverse DFT of the centre-padded
    kernel (written out, generated `resize` shifts), and `S` ANY subset of the rows (the threshold's choice), is a
    contraction with quadratic form `≤ ‖x‖²` — all eigenvalues `≤ 1` — for EVERY image shape, kernel width `≥ 1`, voxel
    and coil count, under the single hypothesis that the rows `v_k` of numpy's `VH` are orthonormal. -/
theorem eig_le_one_espirit_dft {ι : Type} (S : Finset ι) (nsh : Fin d → ℕ) (hn : ∀ ax, 0 < nsh ax) (kw : ℕ) (hkw : 0 < kw)
    (q : Fin d → ℤ) (v : ι → EuclideanSpace ℂ (C × (Fin d → Fin kw))) (hv : Orthonormal ℂ v) (x : EuclideanSpace ℂ C) :
    ‖gramOp S (fun k => imgKernel (dftPhase nsh kw q) (v k)) ((Gen.espiritScale (∏ ax, (nsh ax : ℤ)) kw d : Rat) : ℝ) x‖ ≤ ‖x‖ ∧
    (⟪gramOp S (fun k => imgKernel (dftPhase nsh kw q) (v k)) ((Gen.espiritScale (∏ ax, (nsh ax : ℤ)) kw d : Rat) : ℝ) x, x⟫_ℂ).re
      ≤ ‖x‖ ^ 2 :=
  eig_le_one_espirit S v hv (dftPhase nsh kw q) (∏ ax, (nsh ax : ℤ)) kw d
    (Finset.prod_pos fun ax _ => Int.natCast_pos.mpr (hn ax)) (Int.natCast_pos.mpr hkw) (card_offsets kw)
    (dftPhase_norm_sq_le nsh hn kw q) x

/-- eigenvalue form: `AHA[q] x = λ x`, `x ≠ 0` ⟹ `|λ| ≤ 1` -/
theorem eigenvalue_le_one_dft {ι : Type} (S : Finset ι) (nsh : Fin d → ℕ) (hn : ∀ ax, 0 < nsh ax) (kw : ℕ) (hkw : 0 < kw)
    (q : Fin d → ℤ) (v : ι → EuclideanSpace ℂ (C × (Fin d → Fin kw))) (hv : Orthonormal ℂ v) (x : EuclideanSpace ℂ C)
    (hx : x ≠ 0) (lam : ℂ)
    (hlam : gramOp S (fun k => imgKernel (dftPhase nsh kw q) (v k)) ((Gen.espiritScale (∏ ax, (nsh ax : ℤ)) kw d : Rat) : ℝ) x
      = lam • x) : ‖lam‖ ≤ 1 :=
  norm_eigenvalue_le_one (eig_le_one_espirit_dft S nsh hn kw hkw q v hv x).1 hx hlam

/-- **espirit_run_eig_unit_interval_dft.**  The run `epw (gramLin …)` — the GENERATED `PowerMethod` step with the ℓ2 norm
    in `ℂ^coils`, on the operator `AHA[q]` of `eig_le_one_espirit_dft`, from an ARBITRARY start `x0` — under numpy's SVD
    contract alone: unit iterate after every update and eigenvalue estimate in `(0, 1]` from the second update on, for
    every number of updates, image shape, kernel width, coil count and threshold selection `S`, provided `AHA[q] x0 ≠ 0`.
    No theorem identifies this run with the list model's `powerRun` (matrix `gram`, start `ones`). -/
theorem espirit_run_eig_unit_interval_dft {ι : Type} (S : Finset ι) (nsh : Fin d → ℕ) (hn : ∀ ax, 0 < nsh ax) (kw : ℕ)
    (hkw : 0 < kw) (q : Fin d → ℤ) (v : ι → EuclideanSpace ℂ (C × (Fin d → Fin kw))) (hv : Orthonormal ℂ v)
    (x0 : EuclideanSpace ℂ C)
    (h0 : gramLin S (fun k => imgKernel (dftPhase nsh kw q) (v k)) ((Gen.espiritScale (∏ ax, (nsh ax : ℤ)) kw d : Rat) : ℝ) x0 ≠ 0)
    (j : ℕ) :
    ‖(epw (gramLin S (fun k => imgKernel (dftPhase nsh kw q) (v k)) ((Gen.espiritScale (∏ ax, (nsh ax : ℤ)) kw d : Rat) : ℝ))
        x0 (j + 1)).x‖ = 1 ∧
    ∃ me, (epw (gramLin S (fun k => imgKernel (dftPhase nsh kw q) (v k)) ((Gen.espiritScale (∏ ax, (nsh ax : ℤ)) kw d : Rat) : ℝ))
        x0 (j + 2)).maxEig = some me ∧ 0 < me ∧ me ≤ 1 :=
  espirit_run_eig_unit_interval S v hv (dftPhase nsh kw q) (∏ ax, (nsh ax : ℤ)) kw d
    (Finset.prod_pos fun ax _ => Int.natCast_pos.mpr (hn ax)) (Int.natCast_pos.mpr hkw) (card_offsets kw)
    (dftPhase_norm_sq_le nsh hn kw q) x0 h0 j

/-- the generated `resize` shifts for a kernel that fits (`kw ≤ n`): nothing is cropped, offset `p` lands at grid
    position `p + n//2 - kw//2` -/
theorem axisPhase_fits (n kw : ℕ) (h : kw ≤ n) (q : ℤ) (p : ℤ) (hp0 : 0 ≤ p) (hp1 : p < kw) :
    axisPhase n kw q p = dftEntry n q (p + ((n : ℤ) / 2 - (kw : ℤ) / 2)) := by
  have h2 : (kw : ℤ) / 2 ≤ (n : ℤ) / 2 := Int.ediv_le_ediv (by decide) (by exact_mod_cast h)
  have hk : (kw : ℤ) ≤ n := by exact_mod_cast h
  have hi : Gen.resizeIshiftDefault kw n = 0 := by
    unfold Gen.resizeIshiftDefault pyMax
    rw [pyDiv_of_pos _ (by decide), pyDiv_of_pos _ (by decide)]
    split_ifs <;> omega
  have ho : Gen.resizeOshiftDefault kw n = (n : ℤ) / 2 - (kw : ℤ) / 2 := by
    unfold Gen.resizeOshiftDefault pyMax
    rw [pyDiv_of_pos _ (by decide), pyDiv_of_pos _ (by decide)]
    split_ifs <;> omega
  have hl : Gen.resizeCopyLen kw 0 n ((n : ℤ) / 2 - (kw : ℤ) / 2) = kw := by
    unfold Gen.resizeCopyLen pyMin
    split_ifs <;> omega
  unfold axisPhase
  simp only [hi, ho, hl]
  rw [if_pos ⟨hp0, by omega⟩]
  congr 1
  ring

/-- `hv` and `hn` of `eig_le_one_espirit_dft` can be met: 2-D image `4 × 6`, kernel width 2, one coil, the single unit
    kernel supported on offset `(0,0)`.  (`h0` of the run theorem is not exhibited; it fails for `S = ∅`.) -/
example : ∃ (v : Unit → EuclideanSpace ℂ (Unit × (Fin 2 → Fin 2))), Orthonormal ℂ v ∧
    (∀ ax : Fin 2, 0 < (![4, 6] : Fin 2 → ℕ) ax) := by
  refine ⟨fun _ => EuclideanSpace.single ((), fun _ => 0) 1, ?_, ?_⟩
  · rw [orthonormal_iff_ite]
    intro i j
    simp
  · intro ax; fin_cases ax <;> simp

end SigpyVerif.C17
