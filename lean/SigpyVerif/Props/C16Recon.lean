import SigpyVerif.Props.C14
import SigpyVerif.Gen.ReconSetup
import Mathlib.Analysis.InnerProductSpace.Basic
import Mathlib.Tactic.Linarith
/-
  C16 (recon part) — the `LinearLeastSquares` problem that `SenseRecon`, `L1WaveletRecon`, `TotalVariationRecon` set up
  has the weighted residual `½‖P_w (F S x - y)‖²` of the SENSE operator as its data term; a solution of the system
  handed to `ConjugateGradient` (SenseRecon) and a KKT point (TotalVariationRecon) minimise the resulting objective.

  The `*_setup` and `*_minimises` theorems are about `Gen.C16.recon…Call` (Gen/ReconSetup.lean), REGENERATED from the
  statements of the three `__init__`s and of `_estimate_weights` in sigpy/mri/app.py on every run: which weights reach
  `linop.Sense`, how `y` is pre-multiplied, what is passed as `lamda` / `proxg` / `G` to `LinearLeastSquares.__init__`
  (defaults of that constructor generated from sigpy/app.py).  They are instantiated at real inner-product spaces (`E`
  images, `F` multi-coil k-space, `H` range of `G`; complex arrays are real inner-product spaces with `Re⟨·,·⟩`) with
  `Sense(mps, weights=w)` read as `P_w ∘ FS` and `y * w**(1/2)` as `P_w y`: `FS` (the unweighted encoding
  `x ↦ (F(S_c·x))_c`) and `P_w` (multiplication by `√w`) are abstract linear maps, the formula is that of `sense_denote`
  in Props/C16.lean, no theorem connects the two.
  From C14, `cg_normal_eq` and `kkt_is_minimiser` are applied to the generated problem; that a fixed point of C14's
  generated PDHG / ADMM set-ups is a KKT point is C14's `pdhg_fixed_point_kkt_*` / `admm_fixed_point_kkt_*`, not used here.
  Not proved: anything about `L1WaveletRecon` beyond its set-up; `P_w y = y` (which would turn the data term into the
  `½‖P F S x - y‖²` of sigpy's docstrings; it fails for given weights that are not a 0/1 mask of `y`); that the
  iterative solvers reach those points in the given number of iterations (search only).
-/
namespace SigpyVerif.C16
open SigpyVerif SigpyVerif.Gen.C16 SigpyVerif.C14 SigpyVerif.Gen.C14
open scoped RealInnerProductSpace
set_option linter.unusedSectionVars false
set_option linter.unusedVariables false

variable {E F H Wt : Type} [NormedAddCommGroup E] [InnerProductSpace ℝ E]
  [NormedAddCommGroup F] [InnerProductSpace ℝ F] [NormedAddCommGroup H] [InnerProductSpace ℝ H]

/-- `linop.Sense(mps, weights=w, …)` as a linear map: `FS` without weights, `P_w ∘ FS` with (the formula of Props/C16
    `sense_denote`).  If `coord` were not forwarded the operator would ignore the trajectory: that request has no
    meaning here (`0`).  `batchFwd`, `transpFwd` do not enter the value. -/
def senseLin (FS : E →ₗ[ℝ] F) (P : Wt → F →ₗ[ℝ] F) (w : Option Wt) (coordFwd batchFwd transpFwd : Bool) : E →ₗ[ℝ] F :=
  if coordFwd then
    match w with
    | none => FS
    | some w => (P w).comp FS
  else 0

/-- its adjoint (`P_w` is a real diagonal multiplication: self-adjoint) -/
def senseLinH (FSH : F →ₗ[ℝ] E) (P : Wt → F →ₗ[ℝ] F) (w : Option Wt) : F →ₗ[ℝ] E :=
  match w with
  | none => FSH
  | some w => FSH.comp (P w)

/-- `y * w**e`: the multiplication by `√w` exactly when `e = 1/2` -/
def wmulLin (P : Wt → F →ₗ[ℝ] F) (w : Wt) (e : Rat) (y : F) : F := if e = (1 : Rat) / 2 then P w y else y

/-- the weights as documented: the caller's; for Cartesian data without weights the sampling mask estimated from `y`
    (the `P` of `‖P F S x - y‖`); none otherwise -/
def docWeights (est : F → Wt) (y : F) (weights : Option Wt) (coordNone : Bool) : Option Wt :=
  match weights, coordNone with
  | some w, _ => some w
  | none, true => some (est y)
  | none, false => none

/-- the weighted residual `½‖P_w (F S x - y)‖²` (`½‖F S x - y‖²` without weights) -/
noncomputable def docData (FS : E →ₗ[ℝ] F) (P : Wt → F →ₗ[ℝ] F) (w : Option Wt) (y : F) (x : E) : ℝ :=
  match w with
  | none => 1 / 2 * ‖FS x - y‖ ^ 2
  | some w => 1 / 2 * ‖P w (FS x - y)‖ ^ 2

/-- generated default `lamda = 0` of `LinearLeastSquares.__init__` -/
theorem lls_lamda_default : ((llsLamdaDefault : Rat) : ℝ) = 0 := by
  unfold llsLamdaDefault; norm_num

/-- the GENERATED `_estimate_weights` rule is the documented one -/
theorem estimate_weights_doc (est : F → Wt) (y : F) (weights : Option Wt) (coordNone : Bool) :
    estimateWeights est y weights coordNone = docWeights est y weights coordNone := by
  unfold estimateWeights docWeights
  cases weights <;> cases coordNone <;> rfl

/-- `y` after the pre-weighting: `P_w y` -/
def preweighted (P : Wt → F →ₗ[ℝ] F) (w : Option Wt) (y : F) : F :=
  match w with
  | some w => P w y
  | none => y

theorem recon_y_weighted (P : Wt → F →ₗ[ℝ] F) (w' : Option Wt) (y : F) (e : Rat) (he : e = 1 / 2) :
    (match w' with
      | some w => wmulLin P w e y
      | none => y) = preweighted P w' y := by
  cases w' <;> simp [wmulLin, preweighted, he]

section setups
variable (FS : E →ₗ[ℝ] F) (FSH : F →ₗ[ℝ] E) (P : Wt → F →ₗ[ℝ] F) (est : F → Wt) (fd : E →ₗ[ℝ] H)

/-- what the three `__init__`s have in common: `Sense` with the estimated weights and `y * w**(1/2)` make the
    weighted residual -/
theorem weighted_problem (y : F) (weights : Option Wt) (coordNone : Bool) (e : Rat) (he : e = 1 / 2) (x : E) :
    1 / 2 * ‖senseLin FS P (estimateWeights est y weights coordNone) true true true x -
        (match estimateWeights est y weights coordNone with
          | some w => wmulLin P w e y
          | none => y)‖ ^ 2 = docData FS P (docWeights est y weights coordNone) y x := by
  rw [recon_y_weighted P _ y e he, estimate_weights_doc]
  cases docWeights est y weights coordNone <;>
    simp only [senseLin, docData, preweighted, if_true, LinearMap.comp_apply, LinearMap.map_sub]

/-- **SenseRecon.**  What `SenseRecon.__init__` (GENERATED `reconSenseReconCall`) hands to
    `LinearLeastSquares`: `A = P_w F S`, `y ↦ P_w y` with `w` = `docWeights`, `lamda = λ`, no `proxg`, no `G` —
    so that `½‖A x - y'‖² = ½‖P_w (F S x - y)‖²` for every `x`, every weights/coord combination. -/
theorem senserecon_setup (y : F) (weights : Option Wt) (coordNone : Bool) (lamda : ℝ) :
    let c := reconSenseReconCall (senseLin FS P) (wmulLin P) est fd ((llsLamdaDefault : Rat) : ℝ) y weights coordNone lamda
    c.A = senseLin FS P (docWeights est y weights coordNone) true true true ∧ c.lam = lamda ∧ c.proxL1 = none ∧ c.G = none ∧
      ∀ x, 1 / 2 * ‖c.A x - c.y‖ ^ 2 = docData FS P (docWeights est y weights coordNone) y x := by
  intro c
  have hA : c.A = senseLin FS P (docWeights est y weights coordNone) true true true :=
    congrArg (senseLin FS P · true true true) (estimate_weights_doc est y weights coordNone)
  exact ⟨hA, rfl, rfl, rfl, weighted_problem FS P est y weights coordNone _ (by norm_num)⟩

/-- **L1WaveletRecon**: same data term; `lamda` is NOT `LinearLeastSquares`' `λ/2‖x‖²` (that stays at its default 0) but
    the threshold of `proxg = UnitaryTransform(L1Reg(W.oshape, λ), W)`; no `G`. -/
theorem l1waveletrecon_setup (y : F) (weights : Option Wt) (coordNone : Bool) (lamda : ℝ) :
    let c := reconL1WaveletReconCall (senseLin FS P) (wmulLin P) est fd ((llsLamdaDefault : Rat) : ℝ) y weights coordNone lamda
    c.A = senseLin FS P (docWeights est y weights coordNone) true true true ∧ c.lam = 0 ∧ c.proxL1 = some lamda ∧
      c.proxUnitary = true ∧ c.proxOn = "W" ∧ c.G = none ∧
      ∀ x, 1 / 2 * ‖c.A x - c.y‖ ^ 2 = docData FS P (docWeights est y weights coordNone) y x := by
  intro c
  have hA : c.A = senseLin FS P (docWeights est y weights coordNone) true true true :=
    congrArg (senseLin FS P · true true true) (estimate_weights_doc est y weights coordNone)
  exact ⟨hA, lls_lamda_default, rfl, rfl, rfl, rfl, weighted_problem FS P est y weights coordNone _ (by norm_num)⟩

/-- **TotalVariationRecon**: same data term; `G = FiniteDifference(A.ishape)`, `proxg = L1Reg(G.oshape, λ)` (the prox of
    `λ‖·‖₁` on the range of `G`), `LinearLeastSquares`' own `lamda` at its default 0. -/
theorem tvrecon_setup (y : F) (weights : Option Wt) (coordNone : Bool) (lamda : ℝ) :
    let c := reconTotalVariationReconCall (senseLin FS P) (wmulLin P) est fd ((llsLamdaDefault : Rat) : ℝ) y weights coordNone lamda
    c.A = senseLin FS P (docWeights est y weights coordNone) true true true ∧ c.lam = 0 ∧ c.proxL1 = some lamda ∧
      c.proxUnitary = false ∧ c.proxOn = "G" ∧ c.G = some fd ∧
      ∀ x, 1 / 2 * ‖c.A x - c.y‖ ^ 2 = docData FS P (docWeights est y weights coordNone) y x := by
  intro c
  have hA : c.A = senseLin FS P (docWeights est y weights coordNone) true true true :=
    congrArg (senseLin FS P · true true true) (estimate_weights_doc est y weights coordNone)
  exact ⟨hA, lls_lamda_default, rfl, rfl, rfl, rfl, weighted_problem FS P est y weights coordNone _ (by norm_num)⟩

/-- the adjoint of `P_w F S` is `(F S)ᴴ P_w` -/
theorem senseLin_isAdj (hFS : IsAdj FS FSH) (hP : ∀ w, IsAdj (P w) (P w)) (w : Option Wt) :
    IsAdj (senseLin FS P w true true true) (senseLinH FSH P w) := by
  intro x u
  cases w with
  | none => simpa [senseLin, senseLinH] using hFS x u
  | some w =>
    simp only [senseLin, senseLinH, if_true, LinearMap.comp_apply]
    rw [hP w, hFS]

/-- **senserecon_cg_minimises.**  For the problem `SenseRecon` sets up (generated), the system `ConjugateGradient` is
    given by `LinearLeastSquares` (C14's GENERATED `cgArgs`) is solved by `x` iff `x` minimises
    `½‖P_w (F S x - y)‖² + λ/2‖x‖²` over all images (`λ ≥ 0`; `y` is the caller's k-space, `w` = `docWeights`). -/
theorem senserecon_cg_minimises (hFS : IsAdj FS FSH) (hP : ∀ w, IsAdj (P w) (P w))
    (y : F) (weights : Option Wt) (coordNone : Bool) (lamda : ℝ) (hl : 0 ≤ lamda) (x : E) :
    let c := reconSenseReconCall (senseLin FS P) (wmulLin P) est fd ((llsLamdaDefault : Rat) : ℝ) y weights coordNone lamda
    let w := docWeights est y weights coordNone
    ((cgArgs c.A (senseLinH FSH P w) c.y c.lam none).sys x = (cgArgs c.A (senseLinH FSH P w) c.y c.lam none).rhs) ↔
      ∀ x', docData FS P w y x + lamda / 2 * ‖x‖ ^ 2 ≤ docData FS P w y x' + lamda / 2 * ‖x'‖ ^ 2 := by
  intro c w
  obtain ⟨hA, hlam, -, -, hdata⟩ := senserecon_setup FS P est fd y weights coordNone lamda
  have hadj : IsAdj c.A (senseLinH FSH P w) := by rw [hA]; exact senseLin_isAdj FS FSH P hFS hP w
  rw [cg_normal_eq c.A _ hadj c.y c.lam (by rw [hlam]; exact hl) none x]
  refine forall_congr' fun x' => ?_
  rw [smooth, smooth, hdata x, hdata x', hlam, zOf, Option.getD_none, sub_zero, sub_zero]

/-- **tvrecon_kkt_minimises.**  For the problem `TotalVariationRecon` sets up (generated): a KKT point `(x, u)` of
    `LinearLeastSquares`' objective (C14's `IsKKT`, with `z = 0`) minimises `½‖P_w (F S x - y)‖² + g(G x)`, for every `g`
    whose subgradient inequality holds on the relation `dg` (`g = λ‖·‖₁` for `L1Reg(G.oshape, λ)`).  The hypothesis
    `c.G = some fd` holds by `rfl` and is not used. -/
theorem tvrecon_kkt_minimises (FDH : H →ₗ[ℝ] E) (hFS : IsAdj FS FSH) (hP : ∀ w, IsAdj (P w) (P w)) (hG : IsAdj fd FDH)
    (g : H → ℝ) (dg : H → Set H) (hsub : ∀ p w, w ∈ dg p → ∀ q, g p + ⟪w, q - p⟫ ≤ g q)
    (y : F) (weights : Option Wt) (coordNone : Bool) (lamda : ℝ) (x : E) (u : H) :
    let c := reconTotalVariationReconCall (senseLin FS P) (wmulLin P) est fd ((llsLamdaDefault : Rat) : ℝ) y weights coordNone lamda
    let w := docWeights est y weights coordNone
    c.G = some fd → IsKKT c.A (senseLinH FSH P w) fd FDH dg c.y c.lam 0 x u →
      ∀ x', docData FS P w y x + g (fd x) ≤ docData FS P w y x' + g (fd x') := by
  intro c w _ hk x'
  obtain ⟨hA, hlam, -, -, -, -, hdata⟩ := tvrecon_setup FS P est fd y weights coordNone lamda
  have hadj : IsAdj c.A (senseLinH FSH P w) := by rw [hA]; exact senseLin_isAdj FS FSH P hFS hP w
  have := kkt_is_minimiser c.A _ hadj fd FDH hG g dg hsub c.y c.lam (by rw [hlam]) 0 x u hk x'
  unfold Obj at this
  rw [hdata x, hdata x', hlam] at this
  linear_combination this

end setups

/-- **unitary_transform_prox.**  For `W` with a two-sided inverse `WH` (`WH W = I`, `W WH = I`; that `WH` is the adjoint
    of `W` is NOT assumed), `v ↦ WH prox_g(α, W v)` — the shape of `UnitaryTransform(prox_g, W)` — satisfies `IsProxOf`
    for the relation `{u | W u ∈ dg (W x)}`.  Only when `WH = Wᴴ` is that relation the subgradient relation of `g ∘ W`
    (Props/C11 `unitary_transform_prox` has that hypothesis). -/
theorem unitary_transform_prox (W : E →ₗ[ℝ] H) (WH : H →ₗ[ℝ] E) (h1 : ∀ x, WH (W x) = x) (h2 : ∀ v, W (WH v) = v)
    (p : ℝ → H → H) (dg : H → Set H) (hp : IsProxOf p dg) :
    IsProxOf (fun α v => WH (p α (W v))) (fun x => {u | W u ∈ dg (W x)}) := by
  intro α hα v w
  have e : WH (p α (W v)) = w ↔ p α (W v) = W w :=
    ⟨fun h => by rw [← h, h2], fun h => by rw [h, h1]⟩
  refine e.trans ((hp α hα (W v) (W w)).trans ?_)
  rw [← LinearMap.map_sub, ← LinearMap.map_smul]
  exact Iff.rfl

/-- non-vacuity: the identity multiplication is self-adjoint -/
example : IsAdj (LinearMap.id : E →ₗ[ℝ] E) LinearMap.id := fun _ _ => rfl

end SigpyVerif.C16
