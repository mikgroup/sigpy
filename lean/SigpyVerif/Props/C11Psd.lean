import SigpyVerif.Gen.Prox
import SigpyVerif.Lemmas.C11
import SigpyVerif.Lemmas.C11Psd
import SigpyVerif.Props.C11
/-
  C11 — `thresh.psd_proj` / `prox.PsdProj`: the nearest positive semi-definite matrix (Frobenius norm).

  The body of `psd_proj` is the *generated* `Gen.Prox.psdProjWith ops eigh input` (translator pass
  `gen_c11.gen_psd`): `w, v = eigh(psdEighArg input); w := psdClamp w; return psdRecon v w`, a term over the
  record `PsdOps` of numpy array operations.  Here `PsdOps` is instantiated with Mathlib matrices over
  `𝕜 = ℝ` or `ℂ` (`matOps`: the meaning of `+`, `conj`, `.T`, `/ k`, `@`, broadcasting `*`, masked update),
  and `xp.linalg.eigh` is a *parameter* `eigh` subject to the spectral contract
      `eigh A = (w, V)`  with  `Vᴴ V = 1`  and  `A = V diag(w) Vᴴ`,  `w` real               (`EighContract`)
  at the one matrix it is called on.  numpy's `eigh` is a trusted primitive; the contract is checked
  numerically on every run (harness/props/c11.py `psd_stream`, incl. repeated eigenvalues).

  Everything is for `𝕜` any `RCLike` field, so for real-symmetric and complex-Hermitian data at once.  `psd_proj_prox`
  is in the strong form `IsProjOn` of every other prox theorem of C11, which gives uniqueness, hence independence of
  which eigenbasis `eigh` picks for repeated eigenvalues.
-/
set_option linter.unusedSectionVars false
namespace SigpyVerif.C11
open Matrix SigpyVerif.Gen.Prox
open scoped ComplexOrder

variable {n : Type} [Fintype n] [DecidableEq n] {𝕜 : Type} [RCLike 𝕜]

/-- meaning of the `PsdOps` fields for an `(n, n)` array over `𝕜` and a real `(n,)` array -/
noncomputable def matOps (n 𝕜 : Type) [Fintype n] [RCLike 𝕜] : PsdOps ℝ (Matrix n n 𝕜) (n → ℝ) where
  add A B := A + B
  conj A := A.map star
  transpose A := Aᵀ
  divNat A k := A.map fun z => z / (k : 𝕜)
  matmul A B := A * B
  mulCols A w := of fun i j => A i j * ((w j : ℝ) : 𝕜)
  mapW f w := fun i => f (w i)

/-- Hermitian part `(y + yᴴ)/2` and skew-Hermitian part `(y - yᴴ)/2` -/
noncomputable def hermPart (y : Matrix n n 𝕜) : Matrix n n 𝕜 := (2 : 𝕜)⁻¹ • (y + yᴴ)
noncomputable def skewPart (y : Matrix n n 𝕜) : Matrix n n 𝕜 := (2 : 𝕜)⁻¹ • (y - yᴴ)

theorem hermPart_add_skewPart (y : Matrix n n 𝕜) : hermPart y + skewPart y = y := by
  unfold hermPart skewPart
  rw [← smul_add, add_add_sub_cancel, ← two_smul 𝕜 y, smul_smul, inv_mul_cancel₀ two_ne_zero, one_smul]

theorem hermPart_conjTranspose (y : Matrix n n 𝕜) : (hermPart y)ᴴ = hermPart y := by
  unfold hermPart
  rw [conjTranspose_smul, conjTranspose_add, conjTranspose_conjTranspose, add_comm, star_inv₀, star_ofNat]

theorem skewPart_conjTranspose (y : Matrix n n 𝕜) : (skewPart y)ᴴ = -skewPart y := by
  unfold skewPart
  rw [conjTranspose_smul, conjTranspose_sub, conjTranspose_conjTranspose, ← smul_neg, neg_sub, star_inv₀, star_ofNat]

/-- the generated eigenvalue update is `w₊ = max(w, 0)` -/
theorem psdClamp_eq (w : ℝ) : psdClamp w = max w 0 := by
  unfold psdClamp
  try unfold gmax
  rcases lt_trichotomy w 0 with h | h | h
  · rw [max_eq_right h.le]; split_ifs <;> linarith
  · rw [h, max_self]; split_ifs <;> rfl
  · rw [max_eq_left h.le]; split_ifs <;> linarith

/-- the generated argument of `eigh` is the Hermitian part of the input -/
theorem psdEighArg_eq (y : Matrix n n 𝕜) : psdEighArg (matOps n 𝕜) y = hermPart y := by
  ext i j
  simp only [psdEighArg, hermPart, matOps, map_apply, Matrix.add_apply, transpose_apply, Matrix.smul_apply,
    conjTranspose_apply, smul_eq_mul, Nat.cast_ofNat]
  ring

/-- the generated result is `V diag(w) Vᴴ` -/
theorem psdRecon_eq (V : Matrix n n 𝕜) (w : n → ℝ) : psdRecon (matOps n 𝕜) V w = V * dg w * Vᴴ := by
  unfold psdRecon matOps dg
  simp only
  congr 1
  ext i j
  simp [mul_diagonal]

theorem sub_max_zero_mul (a : ℝ) : (a - max a 0) * max a 0 = 0 := by
  rcases le_total a 0 with h | h
  · rw [max_eq_right h, mul_zero]
  · rw [max_eq_left h, sub_self, zero_mul]

/-- **`psd_proj_spectral`.**  `H = V diag(w) Vᴴ` with `Vᴴ V = 1`, `w` real, and `P = V diag(w₊) Vᴴ`:
    `P` is PSD, `H - P = -V diag(w₋) Vᴴ` is negative semidefinite, `(H - P) P = 0` (so `⟨H - P, P⟩ = 0`), and
    for every PSD `Q`: `Re⟨H - P, Q - P⟩ ≤ 0` — the projection characterisation of `P` for `H`. -/
theorem psd_proj_spectral (V : Matrix n n 𝕜) (hV : Vᴴ * V = 1) (w : n → ℝ) :
    (V * dg (fun i => max (w i) 0) * Vᴴ).PosSemidef ∧
    (V * dg (fun i => max (w i) 0) * Vᴴ - V * dg w * Vᴴ).PosSemidef ∧
    (V * dg w * Vᴴ - V * dg (fun i => max (w i) 0) * Vᴴ) * (V * dg (fun i => max (w i) 0) * Vᴴ) = 0 ∧
    frobRe (V * dg w * Vᴴ - V * dg (fun i => max (w i) 0) * Vᴴ) (V * dg (fun i => max (w i) 0) * Vᴴ) = 0 ∧
    ∀ Q : Matrix n n 𝕜, Q.PosSemidef →
      frobRe (V * dg w * Vᴴ - V * dg (fun i => max (w i) 0) * Vᴴ) (Q - V * dg (fun i => max (w i) 0) * Vᴴ) ≤ 0 := by
  exact psd_spectral_core V hV w _ (fun i => le_max_right _ _) (fun i => le_max_left _ _)
    (fun i => sub_max_zero_mul (w i)) rfl rfl

/-- **`psd_proj_skew`.**  For an arbitrary square `y = herm(y) + skew(y)`: the skew-Hermitian part is
    Frobenius-orthogonal to every Hermitian `S`, hence `‖y - S‖² = ‖herm(y) - S‖² + ‖skew(y)‖²`: the nearest
    PSD matrix to `y` is the nearest PSD matrix to its Hermitian part (why `psd_proj` symmetrises first). -/
theorem psd_proj_skew (y S : Matrix n n 𝕜) (hS : Sᴴ = S) :
    frobRe (skewPart y) S = 0 ∧
    frobRe (y - S) (y - S) = frobRe (hermPart y - S) (hermPart y - S) + frobRe (skewPart y) (skewPart y) := by
  have h0 : ∀ T : Matrix n n 𝕜, Tᴴ = T → frobRe (skewPart y) T = 0 :=
    fun T hT => frobRe_skew_herm (skewPart_conjTranspose y) hT
  refine ⟨h0 S hS, ?_⟩
  have e : y - S = (hermPart y - S) + skewPart y := by
    conv_lhs => rw [← hermPart_add_skewPart y]
    abel
  rw [e, frobRe_add_self, frobRe_comm (hermPart y - S) (skewPart y),
    h0 (hermPart y - S) (by rw [conjTranspose_sub, hermPart_conjTranspose, hS])]
  ring

/-- the spectral contract of `xp.linalg.eigh` at the matrix `A` it is called on -/
def EighContract (eigh : Matrix n n 𝕜 → (n → ℝ) × Matrix n n 𝕜) (A : Matrix n n 𝕜) : Prop :=
  (eigh A).2ᴴ * (eigh A).2 = 1 ∧ A = (eigh A).2 * dg (eigh A).1 * (eigh A).2ᴴ

/-- value of the generated body under the contract: `V diag(w₊) Vᴴ` -/
theorem psdProjWith_eq (eigh : Matrix n n 𝕜 → (n → ℝ) × Matrix n n 𝕜) (y : Matrix n n 𝕜) :
    psdProjWith (matOps n 𝕜) eigh y
      = (eigh (hermPart y)).2 * dg (fun i => max ((eigh (hermPart y)).1 i) 0) * (eigh (hermPart y)).2ᴴ := by
  unfold psdProjWith
  simp only [psdEighArg_eq, psdRecon_eq]
  congr 3
  funext i
  exact psdClamp_eq _

/-- variational inequality for the generated body: `Re⟨y - P, Q - P⟩ ≤ 0` for every PSD `Q`, and `P` is PSD -/
theorem psd_proj_variational (eigh : Matrix n n 𝕜 → (n → ℝ) × Matrix n n 𝕜) (y : Matrix n n 𝕜)
    (hc : EighContract eigh (psdEighArg (matOps n 𝕜) y)) :
    (psdProjWith (matOps n 𝕜) eigh y).PosSemidef ∧
    ∀ Q : Matrix n n 𝕜, Q.PosSemidef → frobRe (y - psdProjWith (matOps n 𝕜) eigh y) (Q - psdProjWith (matOps n 𝕜) eigh y) ≤ 0 := by
  rw [psdEighArg_eq] at hc
  -- `H = herm(y)` and `P` the value of the body are the `H`, `P` of the spectral lemma; `y - P = (H - P) + skew(y)`
  obtain ⟨hP, _, _, _, h5⟩ := psd_spectral_core _ hc.1 _ _ (fun i => le_max_right _ _) (fun i => le_max_left _ _)
    (fun i => sub_max_zero_mul _) hc.2 (psdProjWith_eq eigh y)
  refine ⟨hP, fun Q hQ => ?_⟩
  have e : y - psdProjWith (matOps n 𝕜) eigh y = hermPart y - psdProjWith (matOps n 𝕜) eigh y + skewPart y := by
    rw [sub_add_eq_add_sub, hermPart_add_skewPart]
  rw [e, frobRe_add_left,
    frobRe_skew_herm (skewPart_conjTranspose y) (by rw [conjTranspose_sub, hQ.1.eq, hP.1.eq]), add_zero]
  exact h5 Q hQ

/-- **`psd_proj_nearest`.**  `‖y - psd_proj(y)‖_F² ≤ ‖y - Q‖_F²` for every PSD `Q` (with the strong-convexity
    gap `‖Q - P‖²`). -/
theorem psd_proj_nearest (eigh : Matrix n n 𝕜 → (n → ℝ) × Matrix n n 𝕜) (y : Matrix n n 𝕜)
    (hc : EighContract eigh (psdEighArg (matOps n 𝕜) y)) (Q : Matrix n n 𝕜) (hQ : Q.PosSemidef) :
    frobRe (y - psdProjWith (matOps n 𝕜) eigh y) (y - psdProjWith (matOps n 𝕜) eigh y)
      + frobRe (Q - psdProjWith (matOps n 𝕜) eigh y) (Q - psdProjWith (matOps n 𝕜) eigh y)
      ≤ frobRe (y - Q) (y - Q) := by
  have h := (psd_proj_variational eigh y hc).2 Q hQ
  set P := psdProjWith (matOps n 𝕜) eigh y
  have e : y - Q = (y - P) + -(Q - P) := by abel
  rw [e, frobRe_add_self, frobRe_neg_right, frobRe_neg_left, frobRe_neg_right]
  linear_combination 2 * h

/-! ### in the form of every other prox theorem: `IsProjOn` on the flattened array -/

/-- the flattened `(n, n)` array as an `ℓ²` vector (`‖vecM A‖ = ‖A‖_F`) -/
noncomputable def vecM (A : Matrix n n 𝕜) : Vec (n × n) 𝕜 := vec fun p => A p.1 p.2
def unvecM (x : Vec (n × n) 𝕜) : Matrix n n 𝕜 := of fun i j => x (i, j)

theorem vecM_unvecM (x : Vec (n × n) 𝕜) : vecM (unvecM x) = x := by
  ext p; simp [vecM, unvecM]

theorem norm_vecM_sq (A : Matrix n n 𝕜) : ‖vecM A‖ ^ 2 = frobRe A A := by
  rw [PiLp.norm_sq_eq_of_L2, frobRe_self, Fintype.sum_prod_type]
  rfl

theorem vecM_sub (A B : Matrix n n 𝕜) : vecM A - vecM B = vecM (A - B) := by
  ext p; simp [vecM]

/-- **`psd_proj_prox`: `PsdProj(shape)(α, y) = psd_proj(y)` is the exact minimiser.**  For every square `y`
    (real or complex, Hermitian or not), if the `eigh` the code calls satisfies its spectral contract at the
    matrix it is called on, then the value of the generated body is the projection of `y` onto the cone of
    positive semi-definite matrices in the Frobenius norm (`IsProjOn`: feasible, and
    `½‖p-y‖² + ½‖x-p‖² ≤ ½‖x-y‖²` for every PSD `x` — minimal and unique). -/
theorem psd_proj_prox (eigh : Matrix n n 𝕜 → (n → ℝ) × Matrix n n 𝕜) (y : Matrix n n 𝕜)
    (hc : EighContract eigh (psdEighArg (matOps n 𝕜) y)) :
    IsProjOn {x : Vec (n × n) 𝕜 | (unvecM x).PosSemidef} (vecM y) (vecM (psdProjWith (matOps n 𝕜) eigh y)) := by
  obtain ⟨hP, _⟩ := psd_proj_variational eigh y hc
  have hu : ∀ A : Matrix n n 𝕜, unvecM (vecM A) = A := fun A => by ext i j; simp [unvecM, vecM]
  refine ⟨by simpa only [Set.mem_ofPred_eq, hu] using hP, fun x hx => ?_⟩
  have := psd_proj_nearest eigh y hc (unvecM x) hx
  rw [norm_sub_rev _ (vecM y), norm_sub_rev x (vecM y), ← vecM_unvecM x, vecM_sub, vecM_sub, vecM_sub, norm_vecM_sq,
    norm_vecM_sq, norm_vecM_sq]
  linear_combination (1 / 2) * this

/-- real-symmetric / general real input (`eigh` of a real array returns a real orthogonal `V`) -/
theorem psd_proj_prox_real (eigh : Matrix n n ℝ → (n → ℝ) × Matrix n n ℝ) (y : Matrix n n ℝ)
    (hc : EighContract eigh (psdEighArg (matOps n ℝ) y)) :
    IsProjOn {x : Vec (n × n) ℝ | (unvecM x).PosSemidef} (vecM y) (vecM (psdProjWith (matOps n ℝ) eigh y)) :=
  psd_proj_prox eigh y hc

theorem psd_proj_prox_complex (eigh : Matrix n n ℂ → (n → ℝ) × Matrix n n ℂ) (y : Matrix n n ℂ)
    (hc : EighContract eigh (psdEighArg (matOps n ℂ) y)) :
    IsProjOn {x : Vec (n × n) ℂ | (unvecM x).PosSemidef} (vecM y) (vecM (psdProjWith (matOps n ℂ) eigh y)) :=
  psd_proj_prox eigh y hc

/-- **`psd_proj_diag`** (and non-vacuity of `EighContract`): a real diagonal input `diag(w)` has the spectral data
    `(w, I)`, the code returns `diag(w₊)`, and that is the projection. -/
theorem psd_proj_diag (w : n → ℝ) :
    EighContract (fun _ => (w, (1 : Matrix n n 𝕜))) (psdEighArg (matOps n 𝕜) (dg w)) ∧
    psdProjWith (matOps n 𝕜) (fun _ => (w, (1 : Matrix n n 𝕜))) (dg w) = dg (fun i => max (w i) 0) ∧
    IsProjOn {x : Vec (n × n) 𝕜 | (unvecM x).PosSemidef} (vecM (dg w : Matrix n n 𝕜))
      (vecM (dg (fun i => max (w i) 0) : Matrix n n 𝕜)) := by
  have hh : hermPart (dg w : Matrix n n 𝕜) = dg w := by
    unfold hermPart
    rw [dg_conjTranspose, ← two_smul 𝕜, smul_smul, inv_mul_cancel₀ two_ne_zero, one_smul]
  have hc : EighContract (fun _ => (w, (1 : Matrix n n 𝕜))) (psdEighArg (matOps n 𝕜) (dg w)) := by
    rw [psdEighArg_eq, hh]
    exact ⟨by simp only [conjTranspose_one, one_mul], by simp only [conjTranspose_one, one_mul, mul_one]⟩
  have hv : psdProjWith (matOps n 𝕜) (fun _ => (w, (1 : Matrix n n 𝕜))) (dg w) = dg (fun i => max (w i) 0) := by
    rw [psdProjWith_eq]; simp only [conjTranspose_one, one_mul, mul_one]
  refine ⟨hc, hv, ?_⟩
  rw [← hv]
  exact psd_proj_prox _ _ hc

example : psdClamp (-3 : ℝ) = 0 ∧ psdClamp (2 : ℝ) = 2 := by
  constructor <;> (rw [psdClamp_eq]; norm_num)

/-- `diag(1, -1)` is projected to `diag(1, 0)` -/
example : IsProjOn {x : Vec (Fin 2 × Fin 2) ℝ | (unvecM x).PosSemidef} (vecM (dg ![1, -1] : Matrix (Fin 2) (Fin 2) ℝ))
    (vecM (dg (fun i => max (![1, -1] i) 0) : Matrix (Fin 2) (Fin 2) ℝ)) := (psd_proj_diag ![1, -1]).2.2

end SigpyVerif.C11
