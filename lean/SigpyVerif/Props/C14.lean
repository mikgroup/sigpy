/-
  C14 — LinearLeastSquares returns the documented minimiser whatever the solver.

  Every theorem is about definitions REGENERATED from sigpy/app.py on every check:
  (a) `Gen.C14.getAlg`, the decision function of `LinearLeastSquares._get_alg` (Gen/C14Select.lean), and
  (b) `Gen.C14.cgArgs / gmArgs / pdhgArgsNoG / pdhgArgsG / admmArgsNoG / admmArgsG` (Gen/C14Setup.lean): the
      arguments `_get_ConjugateGradient`, `_get_GradientMethod`, `_get_PrimalDualHybridGradient`, `_get_ADMM`
      hand to the solver classes (system operators, right-hand sides, the closures `gradf`, `minL_x`, `minL_v` as
      functions of the captured state, prox trees, gammas, step rules, the operator given to `MaxEig`, the ADMM
      constraint), as terms over the vocabulary of Model/C14Base.lean with the source's branch structure —
      the very definitions the driver executes over `Rat` — instantiated here at real inner-product spaces
      `E` (unknown), `F` (data), `H` (range of `G`).
  `A`, `G` are linear maps with adjoints `AH`, `GH` (`IsAdj`); `g` enters through its (sub)gradient relation `dg`
  and the prox characterisation `IsProxOf` (optimality condition of `argmin ½‖w - v‖² + α g(w)`).

  Bridging lemmas (`cgArgs_sys`, `cgArgs_rhs`, `gm_gradient`, `gmArgs_eig`, `gmArgs_alpha`, `pdhgArgs_parts_*`,
  `pdhgArgs_steps`, `pdhgArgs_eig_*`, `admmArgs_*`) state the closed form of each generated component; they are
  proved by unfolding + case split, with `module` for whatever rearrangement is left (`first | done | module`), so a
  commuted sum / a temporary / `x * a` for `a * x` in the source does not break them, while a dropped or wrong term
  does.  Everything else is proved FROM them.

  What is proved: the decision table; CG system ⇔ stationarity ⇔ (λ ≥ 0) global minimiser, unique when
  positive definite; `gradf` is the gradient and the step-size operator is the Hessian; the data-term
  conjugate/biconjugate identity and the prox identities of `L2Reg`/`Conj`; fixed points of the PDHG
  and ADMM set-ups are exactly the KKT points of the documented objective, for every routing of
  `lamda`, `z`, `proxg`, `G`; KKT points are global minimisers (convex `g`, λ ≥ 0); `default_steps`: the default
  `alpha` / `tau` / `sigma` satisfy the step conditions of the solvers' convergence theorems when `max_eig` bounds
  the Rayleigh quotient of the operator handed to `MaxEig`.
  Not in this file: complex data (Props/C14Cplx.lean), the solver classes reaching those fixed points
  (Props/C14Join.lean, from C12/C13), the power method's under-estimate of `max_eig` (Props/C14Power.lean).
  Floating point is validated by correspondence + search only.
-/
import SigpyVerif.Model.C14
import SigpyVerif.Gen.C14Select
import SigpyVerif.Gen.C14Setup
import Mathlib.Analysis.InnerProductSpace.Basic
import Mathlib.Algebra.QuadraticDiscriminant
import Mathlib.Tactic.Module
import Mathlib.Tactic.Linarith

namespace SigpyVerif.C14
open SigpyVerif.Gen.C14

/-- the four solver names `_get_alg` knows -/
def solverNames : List String :=
  ["ConjugateGradient", "GradientMethod", "PrimalDualHybridGradient", "ADMM"]

/-- `solver=None`: ConjugateGradient when no `proxg` is given, else GradientMethod when no `G` is given,
    else PrimalDualHybridGradient — and that set-up is built (never a rejection). -/
theorem select_default (p g : Bool) :
    getAlg none p g = .built (if !p then "ConjugateGradient" else if !g then "GradientMethod"
      else "PrimalDualHybridGradient") := by
  cases p <;> cases g <;> simp [getAlg]

/-- the rows of the decision table for a named solver -/
theorem getAlg_some (p g : Bool) :
    getAlg (some "ConjugateGradient") p g =
      (if p then .raised "ConjugateGradient:proxg" else .built "ConjugateGradient") ∧
    getAlg (some "GradientMethod") p g = (if g then .raised "GradientMethod:G" else .built "GradientMethod") ∧
    getAlg (some "PrimalDualHybridGradient") p g = .built "PrimalDualHybridGradient" ∧
    getAlg (some "ADMM") p g = .built "ADMM" ∧
    ∀ n ∉ solverNames, getAlg (some n) p g = .raised "invalid" := by
  refine ⟨?_, ?_, ?_, ?_, fun n h => ?_⟩
  · cases p <;> cases g <;> simp [getAlg]
  · cases p <;> cases g <;> simp [getAlg]
  · cases p <;> cases g <;> simp [getAlg]
  · cases p <;> cases g <;> simp [getAlg]
  · simp only [solverNames, List.mem_cons, List.not_mem_nil, or_false, not_or] at h
    simp [getAlg, h]

/-- a named solver is built exactly in the combinations it supports -/
theorem select_named (p g : Bool) :
    getAlg (some "ConjugateGradient") false g = .built "ConjugateGradient" ∧
    getAlg (some "GradientMethod") p false = .built "GradientMethod" ∧
    getAlg (some "PrimalDualHybridGradient") p g = .built "PrimalDualHybridGradient" ∧
    getAlg (some "ADMM") p g = .built "ADMM" :=
  ⟨(getAlg_some false g).1, (getAlg_some p false).2.1, (getAlg_some p g).2.2.1, (getAlg_some p g).2.2.2.1⟩

/-- `_get_alg` raises exactly for: ConjugateGradient with `proxg`, GradientMethod with `G`, and a solver
    string that is none of the four names. -/
theorem rejects_iff (s : Option String) (p g : Bool) :
    (∃ t, getAlg s p g = .raised t) ↔
      (s = some "ConjugateGradient" ∧ p = true) ∨ (s = some "GradientMethod" ∧ g = true) ∨
      (∃ n, s = some n ∧ n ∉ solverNames) := by
  cases s with
  | none => simp [select_default]
  | some n =>
    obtain ⟨r1, r2, r3, r4, r5⟩ := getAlg_some p g
    simp only [Option.some.injEq, exists_eq_left']
    by_cases hn : n ∈ solverNames
    · have hn' := hn
      simp only [solverNames, List.mem_cons, List.not_mem_nil, or_false] at hn'
      rcases hn' with rfl | rfl | rfl | rfl
      · rw [r1]; cases p <;> simp [hn]
      · rw [r2]; cases g <;> simp [hn]
      · rw [r3]; simp [hn]
      · rw [r4]; simp [hn]
    · exact iff_of_true ⟨_, r5 n hn⟩ (.inr (.inr hn))

/-- `_get_alg` never falls off the end: it builds one of the four set-ups or raises. -/
theorem select_total (s : Option String) (p g : Bool) :
    (∃ n ∈ solverNames, getAlg s p g = .built n) ∨ (∃ t, getAlg s p g = .raised t) := by
  cases s with
  | none =>
    refine .inl ⟨_, ?_, select_default p g⟩
    split_ifs <;> simp only [solverNames, List.mem_cons, true_or, or_true]
  | some n =>
    obtain ⟨r1, r2, r3, r4, r5⟩ := getAlg_some p g
    by_cases hn : n ∈ solverNames
    · have hn' := hn
      simp only [solverNames, List.mem_cons, List.not_mem_nil, or_false] at hn'
      rcases hn' with rfl | rfl | rfl | rfl
      · cases p
        exacts [.inl ⟨_, hn, r1⟩, .inr ⟨_, r1⟩]
      · cases g
        exacts [.inl ⟨_, hn, r2⟩, .inr ⟨_, r2⟩]
      · exact .inl ⟨_, hn, r3⟩
      · exact .inl ⟨_, hn, r4⟩
    · exact .inr ⟨_, r5 n hn⟩

open scoped RealInnerProductSpace
set_option linter.unusedSectionVars false
set_option linter.unusedTactic false
set_option linter.unreachableTactic false
set_option linter.unusedSimpArgs false

variable {E F H : Type} [NormedAddCommGroup E] [InnerProductSpace ℝ E]
  [NormedAddCommGroup F] [InnerProductSpace ℝ F] [NormedAddCommGroup H] [InnerProductSpace ℝ H]

/-- `z=None` is the documented objective with `z = 0` -/
def zOf {V : Type} [Zero V] (z : Option V) : V := z.getD 0

/-- smooth part of the documented objective: `½‖A x - y‖² + λ/2 ‖x - z‖²` -/
noncomputable def smooth (A : E →ₗ[ℝ] F) (y : F) (lam : ℝ) (z : E) (x : E) : ℝ :=
  1 / 2 * ‖A x - y‖ ^ 2 + lam / 2 * ‖x - z‖ ^ 2

/-- its gradient `Aᴴ(A x - y) + λ (x - z)` -/
def grad (A : E →ₗ[ℝ] F) (AH : F →ₗ[ℝ] E) (y : F) (lam : ℝ) (z : E) (x : E) : E :=
  AH (A x - y) + lam • (x - z)

/-- `AH` is the adjoint of `A` -/
def IsAdj {E F : Type} [NormedAddCommGroup E] [InnerProductSpace ℝ E] [NormedAddCommGroup F]
    [InnerProductSpace ℝ F] (A : E →ₗ[ℝ] F) (AH : F →ₗ[ℝ] E) : Prop := ∀ x u, ⟪A x, u⟫ = ⟪x, AH u⟫

/-- exact second-order expansion of the smooth part: `grad` is its gradient and `AᴴA + λI` its Hessian -/
theorem obj_expand (A : E →ₗ[ℝ] F) (AH : F →ₗ[ℝ] E) (hA : IsAdj A AH) (y : F) (lam : ℝ) (z x h : E) :
    smooth A y lam z (x + h) =
      smooth A y lam z x + ⟪grad A AH y lam z x, h⟫ + (1 / 2 * ‖A h‖ ^ 2 + lam / 2 * ‖h‖ ^ 2) := by
  have e3 : ⟪AH (A x - y), h⟫ = ⟪A x - y, A h⟫ := by
    rw [real_inner_comm, ← hA, real_inner_comm]
  unfold smooth grad
  rw [LinearMap.map_add, add_sub_right_comm, add_sub_right_comm x, norm_add_sq_real, norm_add_sq_real, inner_add_left,
    e3, real_inner_smul_left]
  ring

theorem smooth_eq_expand (A : E →ₗ[ℝ] F) (AH : F →ₗ[ℝ] E) (hA : IsAdj A AH) (y : F) (lam : ℝ) (z x x' : E) :
    smooth A y lam z x' = smooth A y lam z x + ⟪grad A AH y lam z x, x' - x⟫ +
      (1 / 2 * ‖A (x' - x)‖ ^ 2 + lam / 2 * ‖x' - x‖ ^ 2) := by
  have := obj_expand A AH hA y lam z x (x' - x)
  rwa [add_sub_cancel] at this

theorem smooth_tangent_le (A : E →ₗ[ℝ] F) (AH : F →ₗ[ℝ] E) (hA : IsAdj A AH) (y : F) (lam : ℝ) (hl : 0 ≤ lam)
    (z x x' : E) : smooth A y lam z x + ⟪grad A AH y lam z x, x' - x⟫ ≤ smooth A y lam z x' := by
  rw [smooth_eq_expand A AH hA y lam z x x']
  exact le_add_of_nonneg_right
    (add_nonneg (mul_nonneg one_half_pos.le (sq_nonneg _)) (mul_nonneg (div_nonneg hl zero_le_two) (sq_nonneg _)))

/-- the system operator `_get_ConjugateGradient` hands to `ConjugateGradient` is `AᴴA + λI`
    (for `λ = 0` the source skips the `λI` term) -/
theorem cgArgs_sys (A : E →ₗ[ℝ] F) (AH : F →ₗ[ℝ] E) (y : F) (lam : ℝ) (z : Option E) (x : E) :
    (cgArgs A AH y lam z).sys x = AH (A x) + lam • x := by
  by_cases h : lam = 0
  · subst h
    simp only [cgArgs, ne_eq, not_true_eq_false, if_false, opAdd, opN, opSmul, opId, zero_smul, add_zero]
    first | done | module
  · simp only [cgArgs, ne_eq, h, not_false_eq_true, if_true, opAdd, opN, opSmul, opId]; first | done | module

/-- the right-hand side is `Aᴴy + λz` (`z = 0` when not given; the source adds `λz` only for `λ ≠ 0`) -/
theorem cgArgs_rhs (A : E →ₗ[ℝ] F) (AH : F →ₗ[ℝ] E) (y : F) (lam : ℝ) (z : Option E) :
    (cgArgs A AH y lam z).rhs = AH y + lam • zOf z := by
  by_cases h : lam = 0
  · subst h
    cases z <;> simp only [cgArgs, ne_eq, not_true_eq_false, if_false, zOf, Option.getD_none, Option.getD_some,
      zero_smul, add_zero] <;> first | done | module
  · cases z <;> simp only [cgArgs, ne_eq, h, not_false_eq_true, if_true, zOf, Option.getD_none, Option.getD_some,
      smul_zero] <;> first | done | module

theorem eq_iff_of_sub_eq {V : Type} [AddGroup V] {a b c : V} (h : a - b = c) : a = b ↔ c = 0 := by
  rw [← h, sub_eq_zero]

/-- the CG set-up is the normal equation -/
theorem cgSys_cgRhs_eq_normal (A : E →ₗ[ℝ] F) (AH : F →ₗ[ℝ] E) (y : F) (lam : ℝ) (z : Option E) (x : E) :
    (cgArgs A AH y lam z).sys x = (cgArgs A AH y lam z).rhs ↔ grad A AH y lam (zOf z) x = 0 := by
  rw [cgArgs_sys, cgArgs_rhs]
  refine eq_iff_of_sub_eq ?_
  rw [grad, LinearMap.map_sub, smul_sub, add_sub_add_comm]

/-- a first-order term that never makes a quadratic negative vanishes -/
theorem lin_zero_of_quad_nonneg (b c : ℝ) (h : ∀ t : ℝ, 0 ≤ t * b + t ^ 2 * c) : b = 0 := by
  have := discrim_le_zero (a := c) (b := b) (c := 0) (fun t => by linear_combination h t)
  unfold discrim at this
  have hb : b ^ 2 ≤ 0 := by linear_combination this
  exact pow_eq_zero_iff (two_ne_zero) |>.mp (le_antisymm hb (sq_nonneg b))

theorem grad_eq_zero_iff_minimiser (A : E →ₗ[ℝ] F) (AH : F →ₗ[ℝ] E) (hA : IsAdj A AH) (y : F) (lam : ℝ)
    (hl : 0 ≤ lam) (z x : E) :
    grad A AH y lam z x = 0 ↔ ∀ x', smooth A y lam z x ≤ smooth A y lam z x' := by
  constructor
  · intro hg x'
    have := smooth_tangent_le A AH hA y lam hl z x x'
    rwa [hg, inner_zero_left, add_zero] at this
  · -- a minimiser cannot be improved along the gradient `g`: `0 ≤ t ‖g‖² + t² c` for every `t`
    intro hmin
    rw [← inner_self_eq_zero (𝕜 := ℝ)]
    generalize hg : grad A AH y lam z x = g
    refine lin_zero_of_quad_nonneg _ (1 / 2 * ‖A g‖ ^ 2 + lam / 2 * ‖g‖ ^ 2) fun t => ?_
    have h := hmin (x + t • g)
    rw [obj_expand A AH hA, hg, real_inner_smul_right, LinearMap.map_smul, norm_smul, norm_smul, Real.norm_eq_abs,
      mul_pow, mul_pow, sq_abs] at h
    linear_combination h

theorem cg_normal_eq (A : E →ₗ[ℝ] F) (AH : F →ₗ[ℝ] E) (hA : IsAdj A AH) (y : F) (lam : ℝ) (hl : 0 ≤ lam)
    (z : Option E) (x : E) :
    (cgArgs A AH y lam z).sys x = (cgArgs A AH y lam z).rhs ↔ ∀ x', smooth A y lam (zOf z) x ≤ smooth A y lam (zOf z) x' :=
  (cgSys_cgRhs_eq_normal A AH y lam z x).trans (grad_eq_zero_iff_minimiser A AH hA y lam hl (zOf z) x)

/-- with `AᴴA + λI` positive definite the solution of the CG system is the unique minimiser -/
theorem cg_unique_minimiser (A : E →ₗ[ℝ] F) (AH : F →ₗ[ℝ] E) (hA : IsAdj A AH) (y : F) (lam : ℝ)
    (z : Option E) (x : E) (hpd : ∀ h : E, h ≠ 0 → 0 < ‖A h‖ ^ 2 + lam * ‖h‖ ^ 2)
    (hx : (cgArgs A AH y lam z).sys x = (cgArgs A AH y lam z).rhs) (x' : E) (hne : x' ≠ x) :
    smooth A y lam (zOf z) x < smooth A y lam (zOf z) x' := by
  rw [cgSys_cgRhs_eq_normal] at hx
  rw [smooth_eq_expand A AH hA y lam (zOf z) x x', hx, inner_zero_left]
  linear_combination hpd (x' - x) (sub_ne_zero.mpr hne) / 2

/-- the closure `gradf` of the GENERATED GradientMethod set-up is the gradient of the smooth part
    (the first-order term of `obj_expand`), for every routing of `lamda` and `z` (and whatever `alpha`) -/
theorem gm_gradient (A : E →ₗ[ℝ] F) (AH : F →ₗ[ℝ] E) (y : F) (lam : ℝ) (z : Option E) (alpha : Option ℝ)
    (me : ℝ) (x : E) :
    (gmArgs A AH y lam z alpha me).gradf x = grad A AH y lam (zOf z) x := by
  by_cases h : lam = 0
  · subst h
    cases z <;> simp only [gmArgs, opN, grad, zOf, ne_eq, not_true_eq_false, if_false, Option.getD_none,
      Option.getD_some, LinearMap.map_sub, zero_smul, add_zero] <;> first | done | module
  · cases z <;> simp only [gmArgs, opN, grad, zOf, ne_eq, h, not_false_eq_true, if_true, Option.getD_none,
      Option.getD_some, sub_zero, LinearMap.map_sub] <;> first | done | module

/-- `MaxEig` is run exactly when `alpha` is not given, and the operator it gets is the Hessian `AᴴA + λI` of the
    smooth part -/
theorem gmArgs_eig (A : E →ₗ[ℝ] F) (AH : F →ₗ[ℝ] E) (y : F) (lam : ℝ) (z : Option E) (me : ℝ) :
    (∃ f, (gmArgs A AH y lam z none me).eig = .primal f ∧ ∀ h, f h = AH (A h) + lam • h) ∧
    ∀ a, (gmArgs A AH y lam z (some a) me).eig = .none := by
  refine ⟨⟨_, rfl, fun h => ?_⟩, fun a => rfl⟩
  by_cases hl : lam = 0
  · subst hl
    simp only [ne_eq, not_true_eq_false, if_false, opAdd, opN, opSmul, opId, zero_smul, add_zero]
    first | done | module
  · simp only [ne_eq, hl, not_false_eq_true, if_true, opAdd, opN, opSmul, opId]; first | done | module

/-- the step size handed to `GradientMethod`: the caller's `alpha`, else `1/max_eig` (`1` when `max_eig == 0`) -/
theorem gmArgs_alpha (A : E →ₗ[ℝ] F) (AH : F →ₗ[ℝ] E) (y : F) (lam : ℝ) (z : Option E) (me : ℝ) :
    (gmArgs A AH y lam z none me).alpha = (if me = 0 then 1 else 1 / me) ∧
    ∀ a, (gmArgs A AH y lam z (some a) me).alpha = a := ⟨rfl, fun _ => rfl⟩

/-- the operator whose largest eigenvalue sets the default step is the Hessian `AᴴA + λI` of the smooth part:
    `gradf (x + h) - gradf x = eig h` -/
theorem gmEigOp_eq_hessian (A : E →ₗ[ℝ] F) (AH : F →ₗ[ℝ] E) (y : F) (lam : ℝ) (z : Option E) (me : ℝ) :
    ∃ f, (gmArgs A AH y lam z none me).eig = .primal f ∧
      ∀ x h, (gmArgs A AH y lam z none me).gradf (x + h) - (gmArgs A AH y lam z none me).gradf x = f h := by
  obtain ⟨⟨f, hf, hf'⟩, -⟩ := gmArgs_eig A AH y lam z me
  refine ⟨f, hf, fun x h => ?_⟩
  rw [gm_gradient, gm_gradient, hf', grad, grad, LinearMap.map_add, add_sub_right_comm (A x), add_sub_right_comm x,
    LinearMap.map_add, smul_add, add_add_add_comm, add_sub_cancel_left]

/-- without `proxg`, a gradient step with any non-zero step size leaves `x` fixed iff `x` minimises the
    documented objective (`g = 0`) -/
theorem gm_fixed_point_iff_minimiser (A : E →ₗ[ℝ] F) (AH : F →ₗ[ℝ] E) (hA : IsAdj A AH) (y : F) (lam : ℝ)
    (hl : 0 ≤ lam) (z : Option E) (alpha : Option ℝ) (me : ℝ) (x : E)
    (ha : (gmArgs A AH y lam z alpha me).alpha ≠ 0) :
    x - (gmArgs A AH y lam z alpha me).alpha • (gmArgs A AH y lam z alpha me).gradf x = x ↔
      ∀ x', smooth A y lam (zOf z) x ≤ smooth A y lam (zOf z) x' := by
  rw [gm_gradient, sub_eq_self, smul_eq_zero, or_iff_right ha]
  exact grad_eq_zero_iff_minimiser A AH hA y lam hl (zOf z) x

/-- `p` is the proximal operator belonging to the (sub)gradient relation `dg` of a function `g`:
    `p α v = w ↔ (v - w)/α ∈ ∂g(w)` for every `α > 0` (the optimality condition of
    `argmin_w ½‖w - v‖² + α g(w)`). -/
def IsProxOf (p : ℝ → H → H) (dg : H → Set H) : Prop :=
  ∀ α : ℝ, 0 < α → ∀ v w : H, p α v = w ↔ (1 / α) • (v - w) ∈ dg w

theorem isProxOf_fixed_iff {p : ℝ → H → H} {dg : H → Set H} (hp : IsProxOf p dg) (α : ℝ) (hα : 0 < α) (w d : H) :
    p α (w + α • d) = w ↔ d ∈ dg w := by
  rw [hp α hα, add_sub_cancel_left, smul_smul, one_div, inv_mul_cancel₀ hα.ne', one_smul]

/-- `proxg=None` behaves as the prox of `g = 0` (subgradient `{0}`) -/
def effDg (hasProxg : Bool) (dg : H → Set H) : H → Set H := if hasProxg then dg else fun _ => {0}

/-- the tree the set-ups use for the caller's prox -/
def userTree (hasProxg : Bool) : PD ℝ H := if hasProxg then .user else .noop

theorem noop_isProx : IsProxOf (fun (_ : ℝ) (v : H) => v) (fun _ => {0}) := by
  intro α hα v w
  rw [Set.mem_singleton_iff, smul_eq_zero, or_iff_right (one_div_ne_zero hα.ne'), sub_eq_zero]

theorem userTree_isProx (hasProxg : Bool) (user : ℝ → H → H) (dg : H → Set H)
    (hu : hasProxg = true → IsProxOf user dg) :
    IsProxOf ((userTree hasProxg).eval user) (effDg hasProxg dg) := by
  cases hasProxg with
  | true => exact hu rfl
  | false => exact noop_isProx

theorem l2regOut_eq (lam : ℝ) (y : Option H) (a : ℝ) (v : H) :
    l2regOut lam y a v = (1 / (1 + lam * a)) • (v + (lam * a) • zOf y) := by
  cases y <;> simp only [l2regOut, zOf, Option.getD_none, Option.getD_some, smul_zero, add_zero]

theorem scale_help (τ c : ℝ) (hτ : τ ≠ 0) (hc : c ≠ 0) (m x : E) :
    (1 / (τ / c)) • ((1 / c) • m - x) = (1 / τ) • (m - c • x) := by
  have e2 : 1 / (τ / c) = (1 / τ) * c := by field_simp
  rw [e2, mul_smul, smul_sub c, smul_smul c, mul_one_div_cancel hc, one_smul]

/-- `L2Reg(shape, lam, y=z, proxh=p)` is the prox of `g + lam/2 ‖· - z‖²` when `p` is the prox of `g` -/
theorem l2regThen_isProx (p : ℝ → H → H) (dg : H → Set H) (hp : IsProxOf p dg) (lam : ℝ) (hl : 0 ≤ lam)
    (z : Option H) :
    IsProxOf (fun α v => p (α / (1 + lam * α)) (l2regOut lam z α v))
      (fun w => {s | s - lam • (w - zOf z) ∈ dg w}) := by
  intro α hα v w
  have hc : 0 < 1 + lam * α := by positivity
  rw [hp (α / (1 + lam * α)) (div_pos hα hc), l2regOut_eq, scale_help α _ hα.ne' hc.ne']
  -- `v + (lam α) z - (1 + lam α) w = (v - w) - (lam α) (w - z)`, then the factor `1/α` is distributed
  rw [add_smul, one_smul, add_sub_add_comm, ← smul_sub, ← neg_sub w (zOf z), smul_neg, ← sub_eq_add_neg,
    smul_sub (1 / α), smul_smul, one_div, mul_comm lam, inv_mul_cancel_left₀ hα.ne']
  exact Iff.rfl

/-- `L2Reg(shape, lam, y)` is the prox of `lam/2 ‖· - y‖²`: `w = prox_α(v) ⇔ (v - w)/α = lam (w - y)` -/
theorem l2reg_is_prox (lam : ℝ) (hl : 0 ≤ lam) (y : Option H) :
    IsProxOf (l2regOut lam y) (fun w => {lam • (w - zOf y)}) :=
  fun α hα v w => (l2regThen_isProx (fun _ v => v) (fun _ => {0}) noop_isProx lam hl y α hα v w).trans sub_eq_zero

/-- data fidelity `f(v) = ½‖v - y‖²` and the function whose prox the set-up uses, `f*(u) = ½‖u‖² + ⟪u, y⟫` -/
noncomputable def fData (y v : F) : ℝ := 1 / 2 * ‖v - y‖ ^ 2
noncomputable def fDataConj (y u : F) : ℝ := 1 / 2 * ‖u‖ ^ 2 + ⟪u, y⟫

/-- Fenchel–Young with equality: `f*` is the conjugate of `f` (sup attained at `v = u + y`) and `f` is the
    conjugate of `f*` (sup attained at `u = v - y`), i.e. `max_u ⟨A x, u⟩ - f*(u) = ½‖A x - y‖²`: the
    saddle problem the PDHG set-up hands to the solver has the documented data term as its primal. -/
theorem data_conj_biconj (y u v : F) :
    ⟪u, v⟫ - fData y v ≤ fDataConj y u ∧ ⟪u, u + y⟫ - fData y (u + y) = fDataConj y u ∧
    ⟪u, v⟫ - fDataConj y u ≤ fData y v ∧ ⟪v - y, v⟫ - fDataConj y (v - y) = fData y v := by
  -- the Fenchel–Young gap is `½‖u - (v - y)‖²`: non-negative, and zero at `u = v - y`
  have key : ∀ u v : F, fDataConj y u - ⟪u, v⟫ + fData y v = 1 / 2 * ‖u - (v - y)‖ ^ 2 := by
    intro u v
    unfold fDataConj fData
    rw [norm_sub_sq_real u (v - y), inner_sub_right]; ring
  have hnn : 0 ≤ 1 / 2 * ‖u - (v - y)‖ ^ 2 := mul_nonneg one_half_pos.le (sq_nonneg _)
  have h2 := key u (u + y)
  have h3 := key (v - y) v
  rw [add_sub_cancel_right, sub_self, norm_zero] at h2
  rw [sub_self, norm_zero] at h3
  exact ⟨by linear_combination hnn - key u v, by linear_combination -h2, by linear_combination hnn - key u v,
    by linear_combination -h3⟩

/-- the dual prox of the data term, `L2Reg(y.shape, 1, y=-y)`, is the prox of `f*`
    (gradient of `f*` at `w` is `w + y`) -/
theorem proxfc_data_is_prox (y : F) :
    IsProxOf (l2regOut (1 : ℝ) (some (-y))) (fun w => {w + y}) := by
  have := l2reg_is_prox (H := F) 1 zero_le_one (some (-y))
  simpa [zOf, sub_neg_eq_add] using this

/-- fixed point of the dual update on the data block: `u = prox_{σ f*}(u + σ a) ⇔ u = a - y` -/
theorem data_dual_fixed (y u a : F) (σ : ℝ) (hσ : 0 < σ) :
    (PD.l2reg (1 : ℝ) (some (-y))).eval (fun _ v => v) σ (u + σ • a) = u ↔ u = a - y := by
  simp only [PD.eval]
  rw [isProxOf_fixed_iff (proxfc_data_is_prox y) σ hσ, Set.mem_singleton_iff, eq_sub_iff_add_eq, eq_comm]

/-- Moreau: fixed point of the conjugated prox `Conj(p)`:  `u = prox_{σ g*}(u + σ a) ⇔ u ∈ ∂g(a)` -/
theorem conj_fixed_point (P : PD ℝ H) (user : ℝ → H → H) (dg : H → Set H)
    (hP : IsProxOf (P.eval user) dg) (σ : ℝ) (hσ : 0 < σ) (u a : H) :
    (PD.conj P).eval user σ (u + σ • a) = u ↔ u ∈ dg a := by
  simp only [PD.eval]
  -- the inner prox is evaluated at `(u + σ a)/σ = a + u/σ`: a step from `a` along `u`
  rw [add_sub_assoc, add_eq_left, sub_eq_zero, (smul_right_injective H hσ.ne').eq_iff, eq_comm, smul_add, smul_smul,
    one_div, inv_mul_cancel₀ hσ.ne', one_smul, add_comm]
  exact isProxOf_fixed_iff hP σ⁻¹ (inv_pos.mpr hσ) a u

/-- KKT point of `½‖A x - y‖² + g(G x) + λ/2‖x - z‖²` with multiplier `w ∈ ∂g(G x)` -/
def IsKKT (A : E →ₗ[ℝ] F) (AH : F →ₗ[ℝ] E) (G : E →ₗ[ℝ] H) (GH : H →ₗ[ℝ] E) (dg : H → Set H)
    (y : F) (lam : ℝ) (z : E) (x : E) (w : H) : Prop :=
  w ∈ dg (G x) ∧ grad A AH y lam z x + GH w = 0

/-- the documented objective -/
noncomputable def Obj (A : E →ₗ[ℝ] F) (G : E →ₗ[ℝ] H) (g : H → ℝ) (y : F) (lam : ℝ) (z : E) (x : E) : ℝ :=
  1 / 2 * ‖A x - y‖ ^ 2 + g (G x) + lam / 2 * ‖x - z‖ ^ 2

/-- a KKT point whose multiplier is a subgradient of `g` is a global minimiser of the documented objective
    (`λ ≥ 0`) -/
theorem kkt_is_minimiser (A : E →ₗ[ℝ] F) (AH : F →ₗ[ℝ] E) (hA : IsAdj A AH) (G : E →ₗ[ℝ] H) (GH : H →ₗ[ℝ] E)
    (hG : IsAdj G GH) (g : H → ℝ) (dg : H → Set H)
    (hsub : ∀ p w, w ∈ dg p → ∀ q, g p + ⟪w, q - p⟫ ≤ g q)
    (y : F) (lam : ℝ) (hl : 0 ≤ lam) (z x : E) (w : H) (hk : IsKKT A AH G GH dg y lam z x w) (x' : E) :
    Obj A G g y lam z x ≤ Obj A G g y lam z x' := by
  obtain ⟨hw, hst⟩ := hk
  -- both parts lie above their tangent planes at `x`, and the two slopes cancel
  have h1 := smooth_tangent_le A AH hA y lam hl z x x'
  have h2 := hsub (G x) w hw (G x')
  have h3 : ⟪grad A AH y lam z x, x' - x⟫ + ⟪w, G x' - G x⟫ = 0 := by
    rw [← LinearMap.map_sub, real_inner_comm _ w, hG, real_inner_comm _ (x' - x), ← inner_add_left, hst,
      inner_zero_left]
  unfold smooth at h1
  unfold Obj
  linear_combination h1 + h2 - h3

/-- what `_get_PrimalDualHybridGradient` hands over without `G`: the dual prox of the data term, `A`, `A.H`,
    `gamma_primal = λ` (when positive), `gamma_dual = 1` -/
theorem pdhgArgs_parts_noG (A : E →ₗ[ℝ] F) (AH : F →ₗ[ℝ] E) (y : F) (lam : ℝ) (z : Option E) (hasProxg : Bool)
    (tau sigma : Option ℝ) (me : ℝ) :
    let su := pdhgArgsNoG A AH y lam z hasProxg tau sigma me
    su.proxfc = .l2reg 1 (some (-y)) ∧ (∀ x, su.K x = A x) ∧ (∀ u, su.KH u = AH u) ∧
      su.gammaP = (if 0 < lam then lam else 0) ∧ su.gammaD = 1 := by
  refine ⟨?_, fun _ => ?_, fun _ => ?_, ?_, ?_⟩ <;> simp only [pdhgArgsNoG]

/-- with `G`: `Stack([L2Reg(1, -y), Conj(proxg or NoOp)])`, `Vstack([A, G])` and its adjoint, `gamma_dual = 0` -/
theorem pdhgArgs_parts_G (A : E →ₗ[ℝ] F) (AH : F →ₗ[ℝ] E) (G : E →ₗ[ℝ] H) (GH : H →ₗ[ℝ] E) (y : F) (lam : ℝ)
    (z : Option E) (hasProxg : Bool) (tau sigma : Option ℝ) (me : ℝ) :
    let su := pdhgArgsG A AH G GH y lam z hasProxg tau sigma me
    su.proxfc = { p1 := .l2reg 1 (some (-y)), p2 := .conj (userTree hasProxg) } ∧ (∀ x, su.K x = ⟨A x, G x⟩) ∧
      (∀ u, su.KH u = AH u.fst + GH u.snd) ∧ su.gammaP = (if 0 < lam then lam else 0) ∧ su.gammaD = 0 := by
  refine ⟨?_, fun _ => ?_, fun _ => ?_, ?_, ?_⟩
  · cases hasProxg <;> simp [pdhgArgsG, userTree]
  · simp only [pdhgArgsG, opVstack]
  · simp only [pdhgArgsG, opHstack]; first | done | module
  · simp only [pdhgArgsG]
  · simp only [pdhgArgsG]

/-- the step sizes handed to the solver: `tau = 1/max_eig` when not given (then `sigma` defaults to 1);
    `sigma = 1/max_eig` when only `tau` is given; the caller's values otherwise — with or without `G` -/
theorem pdhgArgs_steps (A : E →ₗ[ℝ] F) (AH : F →ₗ[ℝ] E) (G : E →ₗ[ℝ] H) (GH : H →ₗ[ℝ] E) (y : F) (lam : ℝ)
    (z : Option E) (hasProxg : Bool) (tau sigma : Option ℝ) (me : ℝ) :
    let su := pdhgArgsNoG A AH y lam z hasProxg tau sigma me
    let sg := pdhgArgsG A AH G GH y lam z hasProxg tau sigma me
    (su.tau, su.sigma) = (sg.tau, sg.sigma) ∧
    (su.tau, su.sigma) = (match tau, sigma with
      | none, none => (1 / me, 1)
      | none, some s => (1 / me, s)
      | some t, none => (t, 1 / me)
      | some t, some s => (t, s)) := by
  cases tau <;> cases sigma <;> exact ⟨rfl, rfl⟩

/-- the primal prox of the set-up without `G`, for every `(lamda, proxg)` case: `L2Reg` followed by the
    caller's prox with the rescaled step -/
theorem primal_eval_noG (A : E →ₗ[ℝ] F) (AH : F →ₗ[ℝ] E) (y : F) (lam : ℝ) (hl : 0 ≤ lam) (z : Option E)
    (hasProxg : Bool) (tau sigma : Option ℝ) (me : ℝ) (user : ℝ → E → E) (a : ℝ) (v : E) :
    (pdhgArgsNoG A AH y lam z hasProxg tau sigma me).proxg.eval user a v =
      (userTree hasProxg).eval user (a / (1 + lam * a)) (l2regOut lam z a v) := by
  simp only [pdhgArgsNoG]
  by_cases h : 0 < lam
  · cases hasProxg <;> simp [h, PD.eval, userTree]
  · have h0 : lam = 0 := le_antisymm (not_lt.mp h) hl
    subst h0
    cases hasProxg <;> cases z <;> simp [PD.eval, userTree, l2regOut]

theorem primal_eval_G (A : E →ₗ[ℝ] F) (AH : F →ₗ[ℝ] E) (G : E →ₗ[ℝ] H) (GH : H →ₗ[ℝ] E) (y : F) (lam : ℝ)
    (hl : 0 ≤ lam) (z : Option E) (hasProxg : Bool) (tau sigma : Option ℝ) (me : ℝ)
    (user : ℝ → E → E) (a : ℝ) (v : E) :
    (pdhgArgsG A AH G GH y lam z hasProxg tau sigma me).proxg.eval user a v = l2regOut lam z a v := by
  simp only [pdhgArgsG]
  by_cases h : 0 < lam
  · simp [h, PD.eval]
  · have h0 : lam = 0 := le_antisymm (not_lt.mp h) hl
    subst h0
    cases z <;> simp [PD.eval, l2regOut]

/-- fixed point of the primal update without `G`: `x = prox(x - τ q) ⇔ -(q + λ(x - z)) ∈ ∂g(x)` -/
theorem primal_fixed_noG (A : E →ₗ[ℝ] F) (AH : F →ₗ[ℝ] E) (y : F) (lam : ℝ) (hl : 0 ≤ lam) (z : Option E)
    (hasProxg : Bool) (tau sigma : Option ℝ) (me : ℝ)
    (user : ℝ → E → E) (dg : E → Set E) (hu : hasProxg = true → IsProxOf user dg)
    (τ : ℝ) (hτ : 0 < τ) (x q : E) :
    (pdhgArgsNoG A AH y lam z hasProxg tau sigma me).proxg.eval user τ (x - τ • q) = x ↔
      -(q + lam • (x - zOf z)) ∈ effDg hasProxg dg x := by
  rw [primal_eval_noG A AH y lam hl, sub_eq_add_neg, ← smul_neg, neg_add']
  exact isProxOf_fixed_iff (l2regThen_isProx _ _ (userTree_isProx hasProxg user dg hu) lam hl z) τ hτ x (-q)

/-- fixed point of the primal update with `G` (`L2Reg(x.shape, lamda, y=z)` or `NoOp`) -/
theorem primal_fixed_G (A : E →ₗ[ℝ] F) (AH : F →ₗ[ℝ] E) (G : E →ₗ[ℝ] H) (GH : H →ₗ[ℝ] E) (y : F) (lam : ℝ)
    (hl : 0 ≤ lam) (z : Option E) (hasProxg : Bool) (tau sigma : Option ℝ) (me : ℝ)
    (user : ℝ → E → E) (τ : ℝ) (hτ : 0 < τ) (x q : E) :
    (pdhgArgsG A AH G GH y lam z hasProxg tau sigma me).proxg.eval user τ (x - τ • q) = x ↔
      q + lam • (x - zOf z) = 0 := by
  rw [primal_eval_G A AH G GH y lam hl, sub_eq_add_neg, ← smul_neg, isProxOf_fixed_iff (l2reg_is_prox lam hl z) τ hτ,
    Set.mem_singleton_iff, neg_eq_iff_add_eq_zero]

/-- **PDHG without `G`.**  `(x, u)` is a fixed point of the primal–dual update with the prox objects and the
    operators `K`, `KH` built by `_get_PrimalDualHybridGradient` (any `τ, σ > 0`; `λ ≥ 0`; `proxg` given or not;
    `z` given or not; whatever `tau`, `sigma` options) iff `u = A x - y` and `x` is a KKT point of the documented
    objective `½‖Ax-y‖² + g(x) + λ/2‖x-z‖²`. -/
theorem pdhg_fixed_point_kkt_noG (A : E →ₗ[ℝ] F) (AH : F →ₗ[ℝ] E) (y : F) (lam : ℝ) (hl : 0 ≤ lam)
    (z : Option E) (hasProxg : Bool) (tau sigma : Option ℝ) (me : ℝ) (user : ℝ → E → E) (dg : E → Set E)
    (hu : hasProxg = true → IsProxOf user dg) (τ σ : ℝ) (hτ : 0 < τ) (hσ : 0 < σ) (x : E) (u : F) :
    let su := pdhgArgsNoG A AH y lam z hasProxg tau sigma me
    (su.proxfc.eval (fun _ v => v) σ (u + σ • su.K x) = u ∧ su.proxg.eval user τ (x - τ • su.KH u) = x) ↔
    (u = A x - y ∧ ∃ w, IsKKT A AH LinearMap.id LinearMap.id (effDg hasProxg dg) y lam (zOf z) x w) := by
  intro su
  obtain ⟨h1, hK, hKH, -, -⟩ := pdhgArgs_parts_noG A AH y lam z hasProxg tau sigma me
  rw [h1, hK, hKH, data_dual_fixed y u (A x) σ hσ, primal_fixed_noG A AH y lam hl z hasProxg tau sigma me user dg hu τ hτ]
  -- without `G` the multiplier of a KKT point is minus the gradient of the smooth part
  refine and_congr_right fun hu1 => ⟨fun h => ⟨_, h, ?_⟩, ?_⟩
  · rw [grad, ← hu1]; exact add_neg_cancel _
  · rintro ⟨w, hw, hst⟩
    rw [grad, ← hu1] at hst
    rwa [← eq_neg_of_add_eq_zero_right hst]

/-- **PDHG with `G`.**  `(x, u)` with `u = (u₁, u₂)` is a fixed point of the update built with `Vstack([A, G])`,
    `Stack([L2Reg(1, -y), Conj(proxg)])` and the primal `L2Reg(λ, z)`/`NoOp` iff `u₁ = A x - y` and `x` is a
    KKT point of `½‖Ax-y‖² + g(Gx) + λ/2‖x-z‖²` with multiplier `u₂ ∈ ∂g(G x)`.
    (At the pinned sigpy commit `λ/2‖·-z‖²` sat inside the conjugated prox of the `G` block and the statement was
    false: finding C14:PDHG:G-and-lamda.) -/
theorem pdhg_fixed_point_kkt_G (A : E →ₗ[ℝ] F) (AH : F →ₗ[ℝ] E) (G : E →ₗ[ℝ] H) (GH : H →ₗ[ℝ] E)
    (y : F) (lam : ℝ) (hl : 0 ≤ lam) (z : Option E) (hasProxg : Bool) (tau sigma : Option ℝ) (me : ℝ)
    (user : ℝ → H → H) (userE : ℝ → E → E)
    (dg : H → Set H) (hu : hasProxg = true → IsProxOf user dg) (τ σ : ℝ) (hτ : 0 < τ) (hσ : 0 < σ)
    (x : E) (u : Pair F H) :
    let su := pdhgArgsG A AH G GH y lam z hasProxg tau sigma me
    (su.proxfc.eval (fun _ v => v) user σ (u + σ • su.K x) = u ∧ su.proxg.eval userE τ (x - τ • su.KH u) = x) ↔
    (u.fst = A x - y ∧ IsKKT A AH G GH (effDg hasProxg dg) y lam (zOf z) x u.snd) := by
  intro su
  obtain ⟨h1, hK, hKH, -, -⟩ := pdhgArgs_parts_G A AH G GH y lam z hasProxg tau sigma me
  obtain ⟨u1, u2⟩ := u
  rw [h1, hK, hKH, primal_fixed_G A AH G GH y lam hl z hasProxg tau sigma me userE τ hτ]
  simp only [PStack.eval, Pair.add_def, Pair.smul_def, Pair.mk.injEq]
  rw [data_dual_fixed y u1 (A x) σ hσ,
    conj_fixed_point (userTree hasProxg) user (effDg hasProxg dg) (userTree_isProx hasProxg user dg hu) σ hσ]
  rw [and_assoc]
  refine and_congr_right fun hu1 => and_congr_right fun _ => ?_
  rw [grad, ← hu1, add_right_comm]

/-- what `minL_v` computes: `v = G x + u; if proxg is not None: v = proxg(1 / rho, v)` (specification) -/
noncomputable def admmV (proxg : Option (ℝ → H → H)) (ρ : ℝ) (Gx u : H) : H :=
  match proxg with
  | none => Gx + u
  | some p => p (1 / ρ) (Gx + u)

theorem admmV_fixed (proxg : Option (ℝ → H → H)) (dg : H → Set H)
    (hp : ∀ p, proxg = some p → IsProxOf p dg) (ρ : ℝ) (hρ : 0 < ρ) (a u : H) :
    admmV proxg ρ a u = a ↔ ρ • u ∈ effDg proxg.isSome dg a := by
  cases proxg with
  | none => simp [admmV, effDg, hρ.ne']
  | some p =>
    simp only [admmV, effDg, Option.isSome_some, if_true]
    rw [hp p rfl (1 / ρ) (by positivity), add_sub_cancel_left, one_div_one_div]

/-- fixed points of the three ADMM updates for the constraint `G x - v = 0`; without `G` it is read with `G = I` -/
theorem admm_fixed_iff (A : E →ₗ[ℝ] F) (AH : F →ₗ[ℝ] E) (G : E →ₗ[ℝ] H) (GH : H →ₗ[ℝ] E) (y : F) (lam : ℝ) (z : E)
    (proxg : Option (ℝ → H → H)) (dg : H → Set H) (hp : ∀ p, proxg = some p → IsProxOf p dg) (ρ : ℝ) (hρ : 0 < ρ)
    (x : E) (v u : H) :
    (AH (A x) + lam • x + ρ • GH (G x) = AH y + ρ • GH (v - u) + lam • z ∧
      admmV proxg ρ (G x) u = v ∧ u + (G x + -v) = u) ↔
      (v = G x ∧ IsKKT A AH G GH (effDg proxg.isSome dg) y lam z x (ρ • u)) := by
  rw [add_eq_left, add_neg_eq_zero, eq_comm (a := G x), and_comm (b := v = G x), and_left_comm, IsKKT]
  refine and_congr_right fun hv => ?_
  rw [and_comm, hv]
  refine and_congr (admmV_fixed proxg dg hp ρ hρ (G x) u) (eq_iff_of_sub_eq ?_)
  simp only [grad, LinearMap.map_sub, LinearMap.map_smul, smul_sub]
  abel

/-- bridging, no `G`: the closures and constructor arguments `_get_ADMM` builds.  `minL_x` solves
    `(AᴴA + (λ+ρ)I) x = Aᴴy + ρ(v-u) + λz`; `minL_v` is `prox_{g/ρ}(x + u)`; `v` starts as a copy of `x`; the
    constraint handed to `ADMM` is `I x + (-I) v = 0` -/
theorem admmArgs_noG (A : E →ₗ[ℝ] F) (AH : F →ₗ[ℝ] E) (y : F) (lam : ℝ) (z : Option E) (ρ : ℝ)
    (proxg : Option (ℝ → E → E)) (x v u h : E) :
    let a := admmArgsNoG A AH y lam z ρ proxg
    (a.minLx x v u).sys h = AH (A h) + (lam + ρ) • h ∧
    (a.minLx x v u).rhs = AH y + ρ • (v - u) + lam • zOf z ∧
    a.minLv x v u = admmV proxg ρ x u ∧ a.v0 x = x ∧ a.A x = x ∧ a.B v = -v ∧ a.c = 0 := by
  refine ⟨?_, ?_, ?_, ?_, ?_, ?_, ?_⟩
  · simp only [admmArgsNoG, opAdd, opN, opSmul, opId]; first | done | module
  · cases z <;> simp only [admmArgsNoG, zOf, Option.getD_none, Option.getD_some, smul_zero, add_zero] <;>
      first | done | module
  · cases proxg <;> simp only [admmArgsNoG, admmV] <;> first | done | (congr 1; module)
  · simp only [admmArgsNoG]
  · simp only [admmArgsNoG, opId]
  · simp only [admmArgsNoG, opNeg, opId]
  · simp only [admmArgsNoG]

/-- bridging, with `G`: `minL_x` solves `(AᴴA + λI + ρGᴴG) x = Aᴴy + ρGᴴ(v-u) + λz` (the source adds `λI` only
    for `λ > 0`); `minL_v` is `prox_{g/ρ}(G x + u)`; `v` starts as `G x`; the constraint is `G x + (-I) v = 0` -/
theorem admmArgs_G (A : E →ₗ[ℝ] F) (AH : F →ₗ[ℝ] E) (G : E →ₗ[ℝ] H) (GH : H →ₗ[ℝ] E) (y : F) (lam : ℝ)
    (hl : 0 ≤ lam) (z : Option E) (ρ : ℝ) (proxg : Option (ℝ → H → H)) (x h : E) (v u : H) :
    let a := admmArgsG A AH G GH y lam z ρ proxg
    (a.minLx x v u).sys h = AH (A h) + lam • h + ρ • GH (G h) ∧
    (a.minLx x v u).rhs = AH y + ρ • GH (v - u) + lam • zOf z ∧
    a.minLv x v u = admmV proxg ρ (G x) u ∧ a.v0 x = G x ∧ a.A x = G x ∧ a.B v = -v ∧ a.c = 0 := by
  refine ⟨?_, ?_, ?_, ?_, ?_, ?_, ?_⟩
  · by_cases hpos : 0 < lam
    · simp only [admmArgsG, hpos, if_true, opAdd, opN, opSmul, opId, opComp]; first | done | module
    · obtain rfl : lam = 0 := le_antisymm (not_lt.mp hpos) hl
      simp only [admmArgsG, lt_irrefl, if_false, opAdd, opN, opSmul, opId, opComp, zero_smul, add_zero]
      first | done | module
  · cases z <;> simp only [admmArgsG, zOf, Option.getD_none, Option.getD_some, smul_zero, add_zero] <;>
      first | done | module
  · cases proxg <;> simp only [admmArgsG, admmV] <;> first | done | (congr 1; module)
  · simp only [admmArgsG]
  · simp only [admmArgsG]
  · simp only [admmArgsG, opNeg, opId]
  · simp only [admmArgsG]

/-- **ADMM without `G`** (`v`-space = `x`-space, constraint `x - v = 0`).  `(x, v, u)` is left fixed by the three
    updates of the GENERATED `_get_ADMM` set-up — `x` solves the `minL_x` system, `v = minL_v`, `u += A x + B v`
    (`c = 0`, see `admmArgs_noG`) — iff `v = x` and `x` is a KKT point of the documented objective with
    multiplier `ρ u`. -/
theorem admm_fixed_point_kkt_noG (A : E →ₗ[ℝ] F) (AH : F →ₗ[ℝ] E) (y : F) (lam : ℝ) (z : Option E)
    (proxg : Option (ℝ → E → E)) (dg : E → Set E) (hp : ∀ p, proxg = some p → IsProxOf p dg)
    (ρ : ℝ) (hρ : 0 < ρ) (x v u : E) :
    let a := admmArgsNoG A AH y lam z ρ proxg
    ((a.minLx x v u).sys x = (a.minLx x v u).rhs ∧ a.minLv x v u = v ∧ u + (a.A x + a.B v) = u) ↔
    (v = x ∧ IsKKT A AH LinearMap.id LinearMap.id (effDg proxg.isSome dg) y lam (zOf z) x (ρ • u)) := by
  intro a
  obtain ⟨e1, e2, e3, -, e5, e6, -⟩ := admmArgs_noG A AH y lam z ρ proxg x v u x
  rw [e1, e2, e3, e5, e6, add_smul, ← add_assoc]
  exact admm_fixed_iff A AH LinearMap.id LinearMap.id y lam (zOf z) proxg dg hp ρ hρ x v u

/-- **ADMM with `G`** (constraint `G x - v = 0`).  Fixed points of the GENERATED `minL_x` (system
    `(AᴴA (+ λI) + ρGᴴG) x = Aᴴy + ρGᴴ(v-u) (+ λz)`), `minL_v` (`v = prox_{g/ρ}(G x + u)`) and `u += A x + B v`
    are exactly: `v = G x` and `x` a KKT point of `½‖Ax-y‖² + g(Gx) + λ/2‖x-z‖²` with multiplier `ρ u`. -/
theorem admm_fixed_point_kkt_G (A : E →ₗ[ℝ] F) (AH : F →ₗ[ℝ] E) (G : E →ₗ[ℝ] H) (GH : H →ₗ[ℝ] E)
    (y : F) (lam : ℝ) (hl : 0 ≤ lam) (z : Option E)
    (proxg : Option (ℝ → H → H)) (dg : H → Set H) (hp : ∀ p, proxg = some p → IsProxOf p dg)
    (ρ : ℝ) (hρ : 0 < ρ) (x : E) (v u : H) :
    let a := admmArgsG A AH G GH y lam z ρ proxg
    ((a.minLx x v u).sys x = (a.minLx x v u).rhs ∧ a.minLv x v u = v ∧ u + (a.A x + a.B v) = u) ↔
    (v = G x ∧ IsKKT A AH G GH (effDg proxg.isSome dg) y lam (zOf z) x (ρ • u)) := by
  intro a
  obtain ⟨e1, e2, e3, -, e5, e6, -⟩ := admmArgs_G A AH G GH y lam hl z ρ proxg x x v u
  rw [e1, e2, e3, e5, e6]
  exact admm_fixed_iff A AH G GH y lam (zOf z) proxg dg hp ρ hρ x v u

/-! In the `default_steps_*` theorems `max_eig` is the number `MaxEig(op).run()` returned for the operator `op` the
  GENERATED set-up hands to it.
  The hypothesis `hR` says that `max_eig` bounds the Rayleigh quotient of that operator (`⟨h, op h⟩ ≤ max_eig ‖h‖²`),
  which holds when `max_eig = λmax(op)` exactly.  The power method returns an UNDER-estimate of `λmax` after finitely
  many iterations (then `alpha` may exceed `1/L` slightly): what holds then is in Props/C14Power.lean and
  `ista_descent_relaxed` (Props/C14Join.lean). -/

/-- `⟨h, (AᴴA + λI) h⟩ = ‖A h‖² + λ‖h‖²` -/
theorem hessian_quad (A : E →ₗ[ℝ] F) (AH : F →ₗ[ℝ] E) (hA : IsAdj A AH) (lam : ℝ) (h : E) :
    ⟪h, AH (A h) + lam • h⟫ = ‖A h‖ ^ 2 + lam * ‖h‖ ^ 2 := by
  rw [inner_add_right, ← hA, inner_smul_right, real_inner_self_eq_norm_sq, real_inner_self_eq_norm_sq]

/-- the smooth part lies above its tangent planes for `λ ≥ 0` (`ConvexGrad` of C13's ista/fista theorems, with
    the GENERATED `gradf`) -/
theorem gm_convex_grad (A : E →ₗ[ℝ] F) (AH : F →ₗ[ℝ] E) (hA : IsAdj A AH) (y : F) (lam : ℝ) (hl : 0 ≤ lam)
    (z : Option E) (alpha : Option ℝ) (me : ℝ) (x w : E) :
    smooth A y lam (zOf z) x + ⟪(gmArgs A AH y lam z alpha me).gradf x, w - x⟫ ≤ smooth A y lam (zOf z) w := by
  rw [gm_gradient]
  exact smooth_tangent_le A AH hA y lam hl (zOf z) x w

/-- **default step of GradientMethod.**  With `alpha=None` the set-up runs `MaxEig` on the Hessian `AᴴA + λI` and
    takes `alpha = 1/max_eig` (`1` if `max_eig == 0`).  If `max_eig` bounds the Rayleigh quotient of the operator
    that was handed to `MaxEig` (exact `λmax`), then `L := max_eig` and `alpha` satisfy exactly the hypotheses of
    C13's `ista_rate` / `fista_rate`: `0 < alpha`, `alpha * L ≤ 1`, and the descent lemma
    `f(p) ≤ f(x) + ⟨gradf x, p - x⟩ + L/2 ‖p - x‖²` for the smooth part `f` with the generated `gradf`. -/
theorem default_steps_gm (A : E →ₗ[ℝ] F) (AH : F →ₗ[ℝ] E) (hA : IsAdj A AH) (y : F) (lam : ℝ) (z : Option E)
    (me : ℝ) (hme : 0 ≤ me)
    (hR : ∀ f, (gmArgs A AH y lam z none me).eig = .primal f → ∀ h, ⟪h, f h⟫ ≤ me * ‖h‖ ^ 2) :
    let a := gmArgs A AH y lam z none me
    0 < a.alpha ∧ a.alpha * me ≤ 1 ∧
    ∀ x p, smooth A y lam (zOf z) p ≤ smooth A y lam (zOf z) x + ⟪a.gradf x, p - x⟫ + me / 2 * ‖p - x‖ ^ 2 := by
  intro a
  obtain ⟨⟨f, hf, hf'⟩, -⟩ := gmArgs_eig A AH y lam z me
  have hal : a.alpha = if me = 0 then 1 else 1 / me := (gmArgs_alpha A AH y lam z me).1
  refine ⟨?_, ?_, fun x p => ?_⟩
  · rw [hal]; split_ifs with h0
    · exact one_pos
    · exact one_div_pos.mpr (lt_of_le_of_ne hme (Ne.symm h0))
  · rw [hal]; split_ifs with h0
    · rw [h0]; norm_num
    · rw [one_div, inv_mul_cancel₀ h0]
  · have h2 := hR f hf (p - x)
    rw [hf', hessian_quad A AH hA] at h2
    rw [gm_gradient, smooth_eq_expand A AH hA y lam (zOf z) x p]
    linear_combination h2 / 2

theorem step_cond_of_rayleigh {me c N M : ℝ} (hme : 0 < me) (h : c * N ≤ me * M) : 1 / me * c * N ≤ M := by
  rw [one_div, mul_assoc, inv_mul_le_iff₀ hme]; exact h

/-- the operator `_get_PrimalDualHybridGradient` hands to `MaxEig`, without `G`: `Aᴴ S A` with `S = sigma` (1 when
    not given) when `tau` is not given; `A T Aᴴ` when only `tau` is given; none when both are given -/
theorem pdhgArgs_eig_noG (A : E →ₗ[ℝ] F) (AH : F →ₗ[ℝ] E) (y : F) (lam : ℝ) (z : Option E) (hasProxg : Bool)
    (me : ℝ) :
    (∀ sigma, ∃ f, (pdhgArgsNoG A AH y lam z hasProxg none sigma me).eig = .primal f ∧
      ∀ x, f x = AH (sigma.getD 1 • A x)) ∧
    (∀ t, ∃ f, (pdhgArgsNoG A AH y lam z hasProxg (some t) none me).eig = .dual f ∧ ∀ u, f u = A (t • AH u)) ∧
    (∀ t s, (pdhgArgsNoG A AH y lam z hasProxg (some t) (some s) me).eig = .none) := by
  refine ⟨fun sigma => ⟨_, rfl, fun x => ?_⟩, fun t => ⟨_, rfl, fun u => ?_⟩, fun t s => rfl⟩
  · cases sigma <;> simp only [opComp, opMul, Option.getD_none, Option.getD_some]
  · simp only [opComp, opMul]

/-- the same with `G`: `Kᴴ S K = Aᴴ S A + Gᴴ S G` on the primal side, `K T Kᴴ` (blockwise) on the dual side -/
theorem pdhgArgs_eig_G (A : E →ₗ[ℝ] F) (AH : F →ₗ[ℝ] E) (G : E →ₗ[ℝ] H) (GH : H →ₗ[ℝ] E) (y : F) (lam : ℝ)
    (z : Option E) (hasProxg : Bool) (me : ℝ) :
    (∀ sigma, ∃ f, (pdhgArgsG A AH G GH y lam z hasProxg none sigma me).eig = .primal f ∧
      ∀ x, f x = AH (sigma.getD 1 • A x) + GH (sigma.getD 1 • G x)) ∧
    (∀ t, ∃ f, (pdhgArgsG A AH G GH y lam z hasProxg (some t) none me).eig = .dual f ∧
      ∀ u, f u = ⟨A (t • (AH u.fst + GH u.snd)), G (t • (AH u.fst + GH u.snd))⟩) ∧
    (∀ t s, (pdhgArgsG A AH G GH y lam z hasProxg (some t) (some s) me).eig = .none) := by
  refine ⟨fun sigma => ⟨_, rfl, fun x => ?_⟩, fun t => ⟨_, rfl, fun u => ?_⟩, fun t s => rfl⟩
  · cases sigma <;> simp only [opComp, opMul, opVstack, opHstack, Pair.smul_def, Option.getD_none, Option.getD_some]
  · simp only [opComp, opMul, opVstack, opHstack]

/-- **default `tau` of PDHG, without `G`.**  With `tau=None` the set-up takes `tau = 1/max_eig` of `Aᴴ S A` and
    `sigma` (1 when not given).  If `max_eig` bounds the Rayleigh quotient of the operator that was handed to
    `MaxEig`, the step condition `τ σ ‖K x‖² ≤ ‖x‖²` (`τσ‖K‖² ≤ 1`) of the PDHG convergence theorems holds for the
    `K` handed to the solver. -/
theorem default_steps_pdhg_primal_noG (A : E →ₗ[ℝ] F) (AH : F →ₗ[ℝ] E) (hA : IsAdj A AH) (y : F) (lam : ℝ)
    (z : Option E) (hasProxg : Bool) (sigma : Option ℝ) (hσ : ∀ s, sigma = some s → 0 < s) (me : ℝ) (hme : 0 < me)
    (hR : ∀ f, (pdhgArgsNoG A AH y lam z hasProxg none sigma me).eig = .primal f → ∀ x, ⟪x, f x⟫ ≤ me * ‖x‖ ^ 2) :
    let su := pdhgArgsNoG A AH y lam z hasProxg none sigma me
    0 < su.tau ∧ 0 < su.sigma ∧ ∀ x, su.tau * su.sigma * ‖su.K x‖ ^ 2 ≤ ‖x‖ ^ 2 := by
  intro su
  obtain ⟨f, hf, hf'⟩ := (pdhgArgs_eig_noG A AH y lam z hasProxg me).1 sigma
  obtain ⟨-, hK, -, -, -⟩ := pdhgArgs_parts_noG A AH y lam z hasProxg none sigma me
  have hst := (pdhgArgs_steps A AH (0 : E →ₗ[ℝ] E) 0 y lam z hasProxg none sigma me).2
  have hts : su.tau = 1 / me ∧ su.sigma = sigma.getD 1 := by
    cases sigma <;> simpa [Prod.ext_iff] using hst
  have hs : 0 < sigma.getD 1 := by
    cases sigma with
    | none => exact one_pos
    | some s => exact hσ s rfl
  refine ⟨by rw [hts.1]; positivity, by rw [hts.2]; exact hs, fun x => ?_⟩
  have h2 := hR f hf x
  rw [hf', ← hA, inner_smul_right, real_inner_self_eq_norm_sq] at h2
  rw [hK, hts.1, hts.2]
  exact step_cond_of_rayleigh hme h2

/-- **default `tau` of PDHG, with `G`**: `τ σ (‖A x‖² + ‖G x‖²) ≤ ‖x‖²` for `K = Vstack([A, G])`. -/
theorem default_steps_pdhg_primal_G (A : E →ₗ[ℝ] F) (AH : F →ₗ[ℝ] E) (hA : IsAdj A AH) (G : E →ₗ[ℝ] H)
    (GH : H →ₗ[ℝ] E) (hG : IsAdj G GH) (y : F) (lam : ℝ) (z : Option E) (hasProxg : Bool) (sigma : Option ℝ)
    (hσ : ∀ s, sigma = some s → 0 < s) (me : ℝ) (hme : 0 < me)
    (hR : ∀ f, (pdhgArgsG A AH G GH y lam z hasProxg none sigma me).eig = .primal f →
      ∀ x, ⟪x, f x⟫ ≤ me * ‖x‖ ^ 2) :
    let su := pdhgArgsG A AH G GH y lam z hasProxg none sigma me
    0 < su.tau ∧ 0 < su.sigma ∧
      ∀ x, su.tau * su.sigma * (‖(su.K x).fst‖ ^ 2 + ‖(su.K x).snd‖ ^ 2) ≤ ‖x‖ ^ 2 := by
  intro su
  obtain ⟨f, hf, hf'⟩ := (pdhgArgs_eig_G A AH G GH y lam z hasProxg me).1 sigma
  obtain ⟨-, hK, -, -, -⟩ := pdhgArgs_parts_G A AH G GH y lam z hasProxg none sigma me
  obtain ⟨hst0, hst⟩ := pdhgArgs_steps A AH G GH y lam z hasProxg none sigma me
  rw [hst0] at hst
  have hts : su.tau = 1 / me ∧ su.sigma = sigma.getD 1 := by
    cases sigma <;> simpa [Prod.ext_iff] using hst
  have hs : 0 < sigma.getD 1 := by
    cases sigma with
    | none => exact one_pos
    | some s => exact hσ s rfl
  refine ⟨by rw [hts.1]; positivity, by rw [hts.2]; exact hs, fun x => ?_⟩
  have h2 := hR f hf x
  rw [hf', inner_add_right, ← hA, ← hG, inner_smul_right, inner_smul_right, real_inner_self_eq_norm_sq,
    real_inner_self_eq_norm_sq, ← mul_add] at h2
  rw [hK, hts.1, hts.2]
  exact step_cond_of_rayleigh hme h2

/-- **default `sigma` of PDHG (only `tau` given), without `G`**: `sigma = 1/max_eig` of `A T Aᴴ`; with `max_eig`
    a Rayleigh bound, `τ σ ‖Kᴴ u‖² ≤ ‖u‖²` (the same condition `τσ‖K‖² ≤ 1`, stated on the adjoint). -/
theorem default_steps_pdhg_dual_noG (A : E →ₗ[ℝ] F) (AH : F →ₗ[ℝ] E) (hA : IsAdj A AH) (y : F) (lam : ℝ)
    (z : Option E) (hasProxg : Bool) (t : ℝ) (me : ℝ) (hme : 0 < me)
    (hR : ∀ f, (pdhgArgsNoG A AH y lam z hasProxg (some t) none me).eig = .dual f → ∀ u, ⟪u, f u⟫ ≤ me * ‖u‖ ^ 2) :
    let su := pdhgArgsNoG A AH y lam z hasProxg (some t) none me
    su.tau = t ∧ 0 < su.sigma ∧ ∀ u, su.tau * su.sigma * ‖su.KH u‖ ^ 2 ≤ ‖u‖ ^ 2 := by
  intro su
  obtain ⟨f, hf, hf'⟩ := (pdhgArgs_eig_noG A AH y lam z hasProxg me).2.1 t
  obtain ⟨-, -, hKH, -, -⟩ := pdhgArgs_parts_noG A AH y lam z hasProxg (some t) none me
  have hst := (pdhgArgs_steps A AH (0 : E →ₗ[ℝ] E) 0 y lam z hasProxg (some t) none me).2
  have hts : su.tau = t ∧ su.sigma = 1 / me := by simpa [Prod.ext_iff] using hst
  refine ⟨hts.1, by rw [hts.2]; positivity, fun u => ?_⟩
  have h2 := hR f hf u
  rw [hf', real_inner_comm, hA, real_inner_smul_left, real_inner_self_eq_norm_sq] at h2
  rw [hKH, hts.1, hts.2, mul_comm t]
  exact step_cond_of_rayleigh hme h2

/-- **default `sigma` of PDHG (only `tau` given), with `G`**: `τ σ ‖Aᴴu₁ + Gᴴu₂‖² ≤ ‖u₁‖² + ‖u₂‖²`, the Rayleigh
    bound being stated blockwise on the product space. -/
theorem default_steps_pdhg_dual_G (A : E →ₗ[ℝ] F) (AH : F →ₗ[ℝ] E) (hA : IsAdj A AH) (G : E →ₗ[ℝ] H)
    (GH : H →ₗ[ℝ] E) (hG : IsAdj G GH) (y : F) (lam : ℝ) (z : Option E) (hasProxg : Bool) (t : ℝ) (me : ℝ)
    (hme : 0 < me)
    (hR : ∀ f, (pdhgArgsG A AH G GH y lam z hasProxg (some t) none me).eig = .dual f →
      ∀ u : Pair F H, ⟪u.fst, (f u).fst⟫ + ⟪u.snd, (f u).snd⟫ ≤ me * (‖u.fst‖ ^ 2 + ‖u.snd‖ ^ 2)) :
    let su := pdhgArgsG A AH G GH y lam z hasProxg (some t) none me
    su.tau = t ∧ 0 < su.sigma ∧ ∀ u, su.tau * su.sigma * ‖su.KH u‖ ^ 2 ≤ ‖u.fst‖ ^ 2 + ‖u.snd‖ ^ 2 := by
  intro su
  obtain ⟨f, hf, hf'⟩ := (pdhgArgs_eig_G A AH G GH y lam z hasProxg me).2.1 t
  obtain ⟨-, -, hKH, -, -⟩ := pdhgArgs_parts_G A AH G GH y lam z hasProxg (some t) none me
  obtain ⟨hst0, hst⟩ := pdhgArgs_steps A AH G GH y lam z hasProxg (some t) none me
  rw [hst0] at hst
  have hts : su.tau = t ∧ su.sigma = 1 / me := by simpa [Prod.ext_iff] using hst
  refine ⟨hts.1, by rw [hts.2]; positivity, fun u => ?_⟩
  have h2 := hR f hf u
  rw [hf'] at h2
  simp only at h2
  rw [real_inner_comm, hA, real_inner_comm (G _), hG, ← inner_add_right, real_inner_comm, inner_smul_right,
    real_inner_self_eq_norm_sq] at h2
  rw [hKH, hts.1, hts.2, mul_comm t]
  exact step_cond_of_rayleigh hme h2

/-- the conjunction of `default_steps_gm`, `default_steps_pdhg_primal_noG` and `default_steps_pdhg_primal_G`, each
    as an implication from its Rayleigh hypothesis -/
theorem default_steps (A : E →ₗ[ℝ] F) (AH : F →ₗ[ℝ] E) (hA : IsAdj A AH) (G : E →ₗ[ℝ] H) (GH : H →ₗ[ℝ] E)
    (hG : IsAdj G GH) (y : F) (lam : ℝ) (z : Option E) (hasProxg : Bool) (sigma : Option ℝ)
    (hσ : ∀ s, sigma = some s → 0 < s) (me : ℝ) (hme : 0 < me) :
    (let a := gmArgs A AH y lam z none me
     (∀ f, a.eig = .primal f → ∀ h, ⟪h, f h⟫ ≤ me * ‖h‖ ^ 2) →
      0 < a.alpha ∧ a.alpha * me ≤ 1 ∧
      ∀ x p, smooth A y lam (zOf z) p ≤ smooth A y lam (zOf z) x + ⟪a.gradf x, p - x⟫ + me / 2 * ‖p - x‖ ^ 2) ∧
    (let su := pdhgArgsNoG A AH y lam z hasProxg none sigma me
     (∀ f, su.eig = .primal f → ∀ x, ⟪x, f x⟫ ≤ me * ‖x‖ ^ 2) →
      0 < su.tau ∧ 0 < su.sigma ∧ ∀ x, su.tau * su.sigma * ‖su.K x‖ ^ 2 ≤ ‖x‖ ^ 2) ∧
    (let su := pdhgArgsG A AH G GH y lam z hasProxg none sigma me
     (∀ f, su.eig = .primal f → ∀ x, ⟪x, f x⟫ ≤ me * ‖x‖ ^ 2) →
      0 < su.tau ∧ 0 < su.sigma ∧
      ∀ x, su.tau * su.sigma * (‖(su.K x).fst‖ ^ 2 + ‖(su.K x).snd‖ ^ 2) ≤ ‖x‖ ^ 2) :=
  ⟨fun hR => default_steps_gm A AH hA y lam z me hme.le hR,
   fun hR => default_steps_pdhg_primal_noG A AH hA y lam z hasProxg sigma hσ me hme hR,
   fun hR => default_steps_pdhg_primal_G A AH hA G GH hG y lam z hasProxg sigma hσ me hme hR⟩

/-- non-vacuity of the Rayleigh hypothesis: `A = I`, `λ = 1`: the Hessian is `2I` and `max_eig = 2` is exact -/
example (y : E) (z : Option E) (f : E → E)
    (hf : (gmArgs (LinearMap.id : E →ₗ[ℝ] E) (LinearMap.id : E →ₗ[ℝ] E) y (1 : ℝ) z none (2 : ℝ)).eig = .primal f) (h : E) :
    ⟪h, f h⟫ ≤ 2 * ‖h‖ ^ 2 := by
  obtain ⟨⟨f', hf1, hf2⟩, -⟩ := gmArgs_eig (LinearMap.id : E →ₗ[ℝ] E) LinearMap.id y 1 z 2
  rw [hf] at hf1
  obtain rfl : f = f' := by injection hf1
  have hid : IsAdj (LinearMap.id : E →ₗ[ℝ] E) LinearMap.id := fun _ _ => rfl
  rw [hf2, hessian_quad _ _ hid, LinearMap.id_apply, one_mul, ← two_mul]

example : IsAdj (LinearMap.id : E →ₗ[ℝ] E) LinearMap.id := fun _ _ => rfl

/-- `proxg=None` (identity) is the prox of `g = 0` -/
example : IsProxOf (fun (_ : ℝ) (v : H) => v) (fun _ => {0}) := by
  exact noop_isProx

/-- sigpy's `L2Reg(shape, c)` is a caller prox satisfying `IsProxOf`, and its relation is a subgradient of
    `g = c/2‖·‖²` as `kkt_is_minimiser` requires -/
example (c : ℝ) (hc : 0 ≤ c) : IsProxOf (l2regOut c (none : Option H)) (fun w => {c • (w - zOf none)}) :=
  l2reg_is_prox c hc none

example (c : ℝ) (hc : 0 ≤ c) (p w : H) (hw : w ∈ ({c • p} : Set H)) (q : H) :
    c / 2 * ‖p‖ ^ 2 + ⟪w, q - p⟫ ≤ c / 2 * ‖q‖ ^ 2 := by
  rw [Set.mem_singleton_iff] at hw
  have h := norm_add_sq_real p (q - p)
  rw [add_sub_cancel] at h
  have h2 : 0 ≤ c / 2 * ‖q - p‖ ^ 2 := by positivity
  rw [hw, real_inner_smul_left]
  linear_combination h2 - c / 2 * h

/-- with `G` and `λ > 0` the generated set-up keeps `L2Reg(λ, z)` on the primal variable, `gamma_dual = 0`,
    `gamma_primal = λ` -/
example (A : E →ₗ[ℝ] F) (AH : F →ₗ[ℝ] E) (G : E →ₗ[ℝ] H) (GH : H →ₗ[ℝ] E) (y : F) (lam : ℝ) (hl : 0 < lam)
    (z : Option E) (b : Bool) (t s : Option ℝ) (me : ℝ) :
    (pdhgArgsG A AH G GH y lam z b t s me).proxg = .l2reg lam z ∧
    (pdhgArgsG A AH G GH y lam z b t s me).gammaD = 0 ∧ (pdhgArgsG A AH G GH y lam z b t s me).gammaP = lam := by
  simp [pdhgArgsG, hl]

end SigpyVerif.C14
