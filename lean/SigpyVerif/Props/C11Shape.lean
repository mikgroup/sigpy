import SigpyVerif.Model.C11
/-
  C11 — `prox_shape`: every `P(α, x)` of the model returns an array of the input's shape.
  Decision logic over the `PExpr` inductive (its classes and nestings; `PsdProj` is not among them), including the
  early-return path of `l1_proj` (`l1proj_shape`).  The model's shapes are compared with the real classes' output
  shapes by the correspondence check.
-/
namespace SigpyVerif.C11
open SigpyVerif

mutual
/-- well-formed nesting: an inner prox has the shape its wrapper hands it, no `-1` wildcard in a `Stack` size -/
def WF : PExpr → Prop
  | .l2regH sh _ _ h => pshape h = sh ∧ WF h
  | .conj p => WF p
  | .stack ps => stackSize ps ≠ -1 ∧ WFL ps
  | .unitary p _ osh _ => pshape p = osh ∧ WF p
  | _ => True
def WFL : PList → Prop
  | .nil => True
  | .cons p rest => WF p ∧ WFL rest
end

theorem withShape_ok {sh : List Int} {r : Except String (Array CQ)} {out : Tens}
    (h : withShape sh r = .ok out) : out.shape = sh := by
  unfold withShape at h
  split at h
  · cases h
  · cases h; rfl

theorem guard_ok {sh : List Int} {x out : Tens} {r : Except String Tens} (h : guard sh x r = .ok out) :
    r = .ok out ∧ checkShape x.shape sh = true ∧ checkShape out.shape sh = true := by
  unfold guard at h
  by_cases h1 : checkShape x.shape sh = true
  · simp only [h1, Bool.not_true, Bool.false_eq_true, if_false] at h
    cases r with
    | error e => simp at h
    | ok o =>
      by_cases h2 : checkShape o.shape sh = true
      · simp only [h2, Bool.not_true, Bool.false_eq_true, if_false] at h
        cases h; exact ⟨rfl, h1, h2⟩
      · simp [h2] at h
  · simp [h1] at h

/-- one-dimensional shape check without wildcard is equality -/
theorem checkShape_single {a b : Int} (hb : b ≠ -1) (h : checkShape [a] [b] = true) : a = b := by
  simp [checkShape] at h
  rcases h with h | h
  · exact absurd h hb
  · exact h

/-- the generated body of `thresh.l1_proj` (`Gen.ProxBody.l1projWith`): whenever it returns, the result carries the
    input's shape — all ranks, any entry type, any `sort` (both `return` statements reshape to the recorded shape) -/
theorem l1projWith_shape {α β : Type} [Zero α] [One α] [Add α] [Sub α] [Mul α] [Div α] [Neg α] [NatCast α] [LT α]
    [DecidableLT α] [DecidableEq α] (absf : β → α) (soft : α → β → β) (sort : List α → List α) (eps : α)
    (x out : Arr β) (h : Gen.ProxBody.l1projWith absf soft sort eps x = some out) : out.shape = x.shape := by
  unfold Gen.ProxBody.l1projWith at h
  simp only [Arr.ravel, Arr.reshape, Arr.mapData] at h
  by_cases hc : lsum (List.map absf x.data) < eps
  · simp only [hc, ↓reduceIte] at h; cases h; rfl
  · simp only [hc, ↓reduceIte] at h
    -- whatever the nesting of the raising operations (`.max()`, `st[idx]`) around the final `soft_thresh`
    -- (index bound to a name or used in place), the result is `⟨x.shape, _⟩`
    simp only [Option.bind_eq_some_iff, Option.map_eq_some_iff] at h
    first
      | (obtain ⟨_, _, _, _, rfl⟩ := h; rfl)
      | (obtain ⟨_, ⟨_, _, _⟩, rfl⟩ := h; rfl)
      | (obtain ⟨_, _, rfl⟩ := h; rfl)

/-- **`l1_proj` keeps the input's shape on both paths** (feasible early return and thresholded). -/
theorem l1proj_shape (eps : Rat) (x out : Tens) (h : l1projQ eps x = .ok out) : out.shape = x.shape := by
  unfold l1projQ at h
  cases hm : moduli x.data with
  | error e => rw [hm] at h; cases h
  | ok mods =>
    rw [hm] at h
    simp only [bind, Except.bind] at h
    split at h
    · cases h
    · rename_i o ho
      cases h
      exact l1projWith_shape _ _ _ _ _ _ ho

set_option linter.unusedSimpArgs false in
/-- the model's shape guard IS the generated `Prox._check_shape` / `Prox.__call__` -/
theorem checkShape_is_generated (a b : List Int) : checkShape a b = Gen.ProxBody.checkShapeGen a b := by
  unfold checkShape Gen.ProxBody.checkShapeGen
  congr 1
  funext ⟨i1, i2⟩
  -- robust to the spelling of the guard (De Morgan, nested `if`s, `continue` on the negated guard, commuted
  -- comparisons): both sides become propositions over integer (in)equalities, decided by `omega`
  rw [Bool.eq_iff_iff]
  simp only [bne_iff_ne, bne_eq_false_iff_eq, Bool.not_eq_true', Bool.and_eq_true, Bool.or_eq_true, Bool.not_eq_true,
    Bool.and_eq_false_iff, Bool.or_eq_false_iff, Bool.not_eq_false', decide_eq_true_eq, decide_eq_false_iff_not,
    Bool.not_eq_false, ne_eq, gt_iff_lt, ge_iff_le]
  first | done | omega

theorem guard_is_generated (sh : List Int) (x : Tens) (r : Except String Tens) :
    guard sh x r = Gen.ProxBody.callWith Tens.shape sh (fun (_ : Unit) _ => r) () x := by
  unfold guard Gen.ProxBody.callWith
  simp only [checkShape_is_generated]
  cases r <;> rfl

/-- **every `_prox` wrapped by `Prox.__call__` returns the input's shape** — for every class of `PExpr` (all of
    prox.py but `PsdProj`) and every well-formed nesting, applied to an input whose shape IS the operator's own
    (not merely accepted by `_check_shape` through a `-1`).  For `Stack` the conclusion is read off the output
    guard having passed. -/
theorem prox_shape : ∀ (e : PExpr) (α : Rat) (x out : Tens), WF e → x.shape = pshape e →
    call e α x = .ok out → out.shape = x.shape
  -- the elementwise classes attach the input's shape to the computed data
  | .noop _, _, _, _, _, _, h | .l1reg _ _, _, _, _, _, _, h | .l2reg _ _ _, _, _, _, _, _, h
  | .l2proj _ _ _ _, _, _, _, _, _, h | .linfproj _ _ _, _, _, _, _, _, h | .box _ _ _, _, _, _, _, _, h => by
      obtain ⟨h, _, _⟩ := guard_ok h; unfold prox at h; exact withShape_ok h
  | .l1proj _ _, _, _, _, _, _, h => by
      obtain ⟨h, _, _⟩ := guard_ok h; unfold prox at h; exact l1proj_shape _ _ _ h
  | .l2regH sh lam y hh, α, x, out, hwf, hx, h => by
      obtain ⟨h, _, _⟩ := guard_ok h
      unfold prox at h
      split at h
      · cases h
      · rename_i u _
        simp only [WF] at hwf
        simp only [pshape] at hx
        have := prox_shape hh _ ⟨x.shape, u⟩ out hwf.2 (by simp [hx, hwf.1]) h
        simpa using this
  | .conj p, α, x, out, _, _, h => by
      obtain ⟨h, _, _⟩ := guard_ok h
      unfold prox at h
      dsimp only at h
      split at h
      · cases h
      · exact withShape_ok h
  | .stack ps, α, x, out, hwf, hx, h => by
      obtain ⟨h, _, h2⟩ := guard_ok h
      unfold prox at h
      split at h
      · cases h
      · cases h
        simp only [WF] at hwf
        simp only [pshape] at hx h2 ⊢
        rw [hx, checkShape_single hwf.1 h2]
  | .unitary p ish osh A, α, x, out, _, hx, h => by
      obtain ⟨h, _, _⟩ := guard_ok h
      unfold prox at h
      dsimp only at h
      simp only [pshape] at hx
      split at h
      · cases h
      · split at h
        · cases h
        · split at h
          · cases h
          · split at h
            · cases h
            · split at h
              · cases h
              · cases h; simp [hx]

example : WF (.stack (.cons (.l1reg [2] 1) (.cons (.conj (.l1proj [2, 2] 3)) .nil))) := by
  simp [WF, WFL, stackSize, pshape, shapeProd]

end SigpyVerif.C11
