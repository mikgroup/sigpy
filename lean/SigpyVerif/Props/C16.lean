import SigpyVerif.Model.C16
import SigpyVerif.Lemmas.C16
import Mathlib.Analysis.InnerProductSpace.Basic
import Mathlib.Analysis.Complex.Basic
/-
  C16 — SENSE operator = explicit multi-coil encoding; batching invariant; recons minimise it.

  Theorems about `sense` = `Gen.C16.senseGen` (Gen/SenseTree.lean): the FACTORY ITSELF is translator-generated — the
  symbolic execution of the statements of `sigpy.mri.linop.Sense` (tseg = comm = None) into a term over the operator
  vocabulary of Model/C16Base.lean, referring to the integer formulas `Gen.sense*` generated from the same AST nodes.
  `sense_gen_eq` proves that term equal to the normal form `senseNF` (`[P,] F, S`; batched: `Vstack(axis=0)` of
  `[P_c,] F, S_c`, every batch with the same Fourier operator and ITS weights, never batching again) under `Valid`
  (ishape None or the maps' image shape; the weights array read as numpy broadcasts it).  The Fourier leaf of the
  normal form has the kind `fkindOf`: the FFT over the generated axes, which are exactly the image axes
  (`fft_axes_per_coil`), the NUFFT at `coord`, or `NUFFT(-coord).H`; each of these acts coil by coil (`fkindOf_perCoil`).
  All operator theorems below are then about the generated definition.  The model is tied to the real operator by the
  correspondence streams of `harness/props/c16.py` (values for every batch size, reified trees incl. the Fourier kind).
  The recon part continues in Props/C16Recon.lean (generated `Gen.C16.recon…Call` + C14's `cg_normal_eq`, `kkt_is_minimiser`).

  `√w` in the comments below is `wpow sqrt w`: `weights ** e` with the GENERATED exponent `e`, carried symbolically by
  both sides of the operator theorems; `weights_exponent_is_half` pins `e` to 1/2 (`wpow_eq_sqrt`).

  Proved here:      forward formula (row-wise `sense_denote` and index-wise `sense_denote_index`), forward batch
                    invariance for EVERY batch size (shared and per-coil weights), partition of the coils by the
                    generated slice bounds; the adjoint `Op.adj` of the model (the definition the driver runs against
                    the real `A.H`): its formula `Σ_c conj(mps_c)⊙Fᴴ(conj√w_c⊙y_c)` (`sense_adjoint_denote`,
                    `sense_adjoint_index`), `Vstack.H = Hstack` of the batch adjoints (`vstack_adjoint`, for an abstract
                    `Fᴴ`), adjoint batch invariance for EVERY batch size (`sense_adjoint_batch_invariant`), the adjoint
                    identity `⟨A x, y⟩ = ⟨x, Aᴴ y⟩` for an abstract `F`/`Fᴴ` pair (`sense_dot_test_abstract`) and for
                    the model, unbatched and every batch size (`sense_dot_test`); what the keyword-level transcription
                    `reconSetup` of the three recon classes evaluates to.  `recon_objective`, `estimated_weights_sqrt`,
                    `consistent_data_recovers` are stand-alone facts for reading those set-ups, stated about neither
                    `sense` nor `reconSetup`.
  Not in the model: with `transp_nufft` the real factory raises unless the coordinates form a grid of the image's
                    shape; `Valid` does not ask for it (harness/props/c16.py only generates such cases).
  Only validated by correspondence/search:  FFT/NUFFT being the matrix `F` (C05/C06), the real `A`, `A.H` being the
                    model's `Op.apply`, `Op.adj` (compared on every run for every batch size), and that the iterative
                    solvers reach the minimiser.
-/
namespace SigpyVerif.C16
open SigpyVerif
set_option linter.unusedTactic false
set_option linter.unreachableTactic false

section nf
variable {α : Type} [Add α] [Mul α] [Zero α]

/-- `weights ** e` with the GENERATED exponent -/
def wpow (sqrt : α → α) (w : α) : α := wpowE sqrt Gen.senseWeightsExp w

/-- which Fourier operator the documented `Sense` uses: the FFT over the image axes for Cartesian data, the NUFFT at
    `coord` otherwise (`NUFFT(-coord).H` with `transp_nufft`) -/
def fkindOf (o : SenseArgs α) : FKind :=
  match o.coordNdim with
  | none => .fft (Gen.senseFftAxes (o.mpsNdim - 1)) o.mpsNdim
  | some _ => if o.transp then .nufft true true else .nufft false false

/-- NORMAL FORM of the unbatched branch: `[P,] F, S` -/
def senseUnbatched (kind : FKind) (sqrt : α → α) (mps F : Mat α) (w : Weights α) : Chain α :=
  let S := Leaf.multiplyMaps mps
  let Fop := Leaf.fourier kind mps.length ((mps.headD []).length) F
  match w with
  | .none => [Fop, S]
  | .shared w => [.multiplyWShared (w.map (wpow sqrt)), Fop, S]
  | .perCoil w => [.multiplyWCoil (w.map fun row => row.map (wpow sqrt)), Fop, S]

/-- the weights handed to batch `c` -/
def batchWeights (w : Weights α) (c b n : Int) : Weights α :=
  match w with
  | .perCoil w =>
      if Gen.senseWeightsSliced then .perCoil (pySlice w (Gen.senseWLo c b n) (Gen.senseWHi c b n)) else .perCoil w
  | w => w

/-- NORMAL FORM of the factory (what the generated `sense` is proved equal to in `sense_gen_eq`) -/
def senseNF (o : SenseArgs α) : Op α :=
  let n : Int := o.mps.length
  let b : Int := batchOf n o.batch
  if Gen.senseBatched n b then
    let nb := Gen.senseNumCoilBatches n b
    .vstack ((Gen.senseBatchRange nb n b).map fun c =>
      senseUnbatched (fkindOf o) o.sqrt (pySlice o.mps (Gen.senseMpsLo c b n) (Gen.senseMpsHi c b n)) o.F
        (batchWeights o.weights c b n))
  else
    .single (senseUnbatched (fkindOf o) o.sqrt o.mps o.F o.weights)

/-- `ksp_ndim` as documented: the image dimension for Cartesian data, `coord.ndim - 1` otherwise -/
def kspNdimDoc (o : SenseArgs α) : Int :=
  match o.coordNdim with
  | none => o.mpsNdim - 1
  | some d => d - 1

/-- the request describes arrays: `ishape` is `None` or the maps' image shape, and the weights array is read as
    per-coil exactly when it has one more axis than k-space and one leading entry per coil (numpy broadcasting
    against `[coils, k-space]`) -/
structure Valid (o : SenseArgs α) : Prop where
  ndim : 1 ≤ o.mpsNdim
  ishape : o.ishapeLen = none ∨ o.ishapeLen = some (o.mpsNdim - 1)
  wclass : (o.wNdim = kspNdimDoc o + 1 ∧ o.wShape0 = o.mps.length) ↔ ∃ m, o.weights = .perCoil m

omit [Add α] [Mul α] [Zero α] in
theorem Valid.withBatch {o : SenseArgs α} (hv : Valid o) (b : Option Int) : Valid { o with batch := b } :=
  ⟨hv.ndim, hv.ishape, hv.wclass⟩

end nf

/-- **fft_axes_per_coil.** The axes of the FFT that `Sense` builds, `range(-img_ndim, 0)` (GENERATED `Gen.senseFftAxes`),
    on the `img_ndim + 1`-axis coil-image array are exactly the image axes: none is the coil axis 0 and every image axis
    `1 … img_ndim` occurs — the transform is applied to each coil image separately, over all its axes. -/
theorem fft_axes_per_coil (d : Int) (hd : 0 ≤ d) : fftPerCoil (Gen.senseFftAxes d) (d + 1) = true := by
  have hd1 : 0 < d + 1 := Int.lt_add_one_iff.mpr hd
  unfold fftPerCoil
  rw [Bool.and_eq_true, List.all_eq_true, List.all_eq_true]
  constructor
  · intro a ha
    unfold Gen.senseFftAxes at ha
    rw [mem_pyRange_one] at ha
    rw [pyMod_cases a (d + 1) hd1 (by omega)]
    simp only [bne_iff_ne, ne_eq]
    split_ifs <;> omega
  · intro i hi
    rw [mem_pyRange_one] at hi
    rw [List.any_eq_true]
    unfold Gen.senseFftAxes
    -- the axis that is `i` modulo the rank: counted from the end, or (axes written non-negative) `i` itself
    first
      | refine ⟨i - (d + 1), ?_, ?_⟩
        · rw [mem_pyRange_one]; omega
        · rw [pyMod_cases _ (d + 1) hd1 (by omega)]
          simp only [beq_iff_eq]
          split_ifs <;> omega
      | refine ⟨i, ?_, ?_⟩
        · rw [mem_pyRange_one]; omega
        · rw [pyMod_cases _ (d + 1) hd1 (by omega)]
          simp only [beq_iff_eq]
          split_ifs <;> omega

section nf2
variable {α : Type} [Add α] [Mul α] [Zero α]

omit [Add α] [Mul α] [Zero α] in
theorem fkindOf_perCoil (o : SenseArgs α) (hv : Valid o) : (fkindOf o).perCoil = true := by
  unfold fkindOf
  cases o.coordNdim with
  | none =>
    simp only [FKind.perCoil]
    have := fft_axes_per_coil (o.mpsNdim - 1) (by have := hv.ndim; omega)
    rwa [Int.sub_add_cancel] at this
  | some d => cases o.transp <;> simp [FKind.perCoil]

/-- the batching guard is false when `coil_batch_size` is `None` (the default is `num_coils`) -/
theorem not_batched_default (n : Int) : Gen.senseBatched n (Gen.senseBatchDefault n) = false := by
  unfold Gen.senseBatched Gen.senseBatchDefault; simp

omit [Add α] [Mul α] [Zero α] in
theorem batchOf_gen (n : Int) (batch : Option Int) :
    (if batch.isNone then Gen.senseBatchDefault n else batch.getD 0) = batchOf n batch := by
  cases batch <;> rfl

omit [Add α] [Mul α] [Zero α] in
/-- the generated `img_ndim` for `ishape ∈ {None, mps.shape[1:]}` -/
theorem imgNdim_gen (a : SenseArgs α) (hI : a.ishapeLen = none ∨ a.ishapeLen = some (a.mpsNdim - 1)) :
    (if a.ishapeLen.isNone then a.mpsNdim - 1 else a.ishapeLen.getD 0) = a.mpsNdim - 1 := by
  rcases hI with h | h <;> rw [h] <;> rfl

/-- the unbatched path of the GENERATED body is the chain `[P,] F, S` with the documented Fourier kind -/
theorem senseBody_unbatched (rec : SenseArgs α → Op α) (a : SenseArgs α)
    (hI : a.ishapeLen = none ∨ a.ishapeLen = some (a.mpsNdim - 1))
    (h : Gen.senseBatched (a.mps.length : Int) (batchOf a.mps.length a.batch) = false) :
    Gen.C16.senseBody rec a = .single (senseUnbatched (fkindOf a) a.sqrt a.mps a.F a.weights) := by
  unfold Gen.C16.senseBody
  simp only [batchOf_gen, h, Bool.false_eq_true, if_false, imgNdim_gen a hI]
  -- weights none / shared / per-coil, Cartesian or not, `transp_nufft` or not: both sides compute to the same chain
  unfold fkindOf
  cases a.weights <;> cases a.coordNdim <;> cases a.transp <;> rfl

omit [Add α] [Mul α] [Zero α] in
theorem flatMap_chains_single {β : Type} (l : List β) (f : β → Op α) (g : β → Chain α)
    (h : ∀ c ∈ l, f c = .single (g c)) : (l.map f).flatMap Op.chains = l.map g := by
  induction l with
  | nil => rfl
  | cons x l ih =>
    simp only [List.map_cons, List.flatMap_cons]
    rw [h x (by simp), ih (fun c hc => h c (by simp [hc]))]
    rfl

omit [Add α] [Mul α] [Zero α] in
theorem kspNdim_gen (o : SenseArgs α) :
    Gen.senseKspNdim (o.mpsNdim - 1) (o.coordNdim.getD 0) o.coordNdim.isNone = kspNdimDoc o := by
  unfold Gen.senseKspNdim kspNdimDoc
  cases o.coordNdim <;> simp

omit [Add α] [Mul α] [Zero α] in
/-- the GENERATED per-batch weights expression: per-coil weights are sliced like the coils, anything else is passed on -/
theorem batchWeights_gen (o : SenseArgs α) (hv : Valid o) (c b : Int) :
    (if ((!(!o.weights.isSome)) && Gen.senseWeightsPerCoil o.wNdim o.wShape0 (kspNdimDoc o) (o.mps.length : Int))
      then Weights.sliceIf o.weights true (Gen.senseWLo c b o.mps.length) (Gen.senseWHi c b o.mps.length) else o.weights)
      = batchWeights o.weights c b o.mps.length := by
  have hw : Gen.senseWeightsPerCoil o.wNdim o.wShape0 (kspNdimDoc o) (o.mps.length : Int) = true ↔ ∃ m, o.weights = .perCoil m := by
    rw [← hv.wclass]; unfold Gen.senseWeightsPerCoil; simp
  cases hws : o.weights with
  | none => simp [Weights.isSome, batchWeights]
  | shared v =>
    have : Gen.senseWeightsPerCoil o.wNdim o.wShape0 (kspNdimDoc o) (o.mps.length : Int) = false := by
      rw [← Bool.not_eq_true, hw, hws]; simp
    simp [this, batchWeights]
  | perCoil m =>
    have : Gen.senseWeightsPerCoil o.wNdim o.wShape0 (kspNdimDoc o) (o.mps.length : Int) = true := hw.mpr ⟨m, hws⟩
    have hs : Gen.senseWeightsSliced = true := rfl
    simp [this, batchWeights, Weights.isSome, Weights.sliceIf, hs]

theorem senseBody_batched (rec : SenseArgs α → Op α) (o : SenseArgs α) (hv : Valid o)
    (hrec : ∀ a : SenseArgs α, a.ishapeLen = some (a.mpsNdim - 1) → a.batch = none →
      rec a = .single (senseUnbatched (fkindOf a) a.sqrt a.mps a.F a.weights))
    (hb : Gen.senseBatched (o.mps.length : Int) (batchOf o.mps.length o.batch) = true) :
    Gen.C16.senseBody rec o = senseNF o := by
  unfold Gen.C16.senseBody senseNF
  simp only [batchOf_gen, hb, if_true, imgNdim_gen o hv.ishape, kspNdim_gen, batchWeights_gen o hv]
  -- `Gen.senseVstackAxis` is `0`
  show Op.vstack _ = _
  congr 1
  apply flatMap_chains_single
  intro c _
  exact hrec _ rfl rfl

/-- **sense_gen_eq.** The translator-generated factory (`Gen.C16.senseGen`, the recursion unfolded twice) equals the
    normal form `senseNF`: unbatched `[P,] F, S`; batched `Vstack(axis=0)` of `[P_c,] F, S_c` over the coil slices, each
    batch with the same Fourier operator, ITS weights to the generated power (`wpow`), and never batching again. -/
theorem sense_gen_eq (o : SenseArgs α) (hv : Valid o) : sense o = senseNF o := by
  unfold sense Gen.C16.senseGen
  cases hb : Gen.senseBatched (o.mps.length : Int) (batchOf o.mps.length o.batch) with
  | false =>
    rw [senseBody_unbatched _ o hv.ishape hb, senseNF]
    simp only [hb, Bool.false_eq_true, if_false]
  | true =>
    exact senseBody_batched _ o hv
      (fun a h1 h2 => senseBody_unbatched _ a (Or.inr h1) (by rw [h2]; exact not_batched_default _)) hb

theorem sense_batch_none (o : SenseArgs α) (hv : Valid o) :
    sense { o with batch := none } = .single (senseUnbatched (fkindOf o) o.sqrt o.mps o.F o.weights) := by
  rw [sense_gen_eq _ (hv.withBatch none)]
  exact if_neg (by rw [batchOf, not_batched_default]; exact Bool.false_ne_true)

theorem sense_batch_some (o : SenseArgs α) (hv : Valid o) (b : Int) :
    sense { o with batch := some b } =
      if Gen.senseBatched (o.mps.length : Int) b then
        .vstack ((Gen.senseBatchRange (Gen.senseNumCoilBatches o.mps.length b) o.mps.length b).map fun c =>
          senseUnbatched (fkindOf o) o.sqrt (pySlice o.mps (Gen.senseMpsLo c b o.mps.length) (Gen.senseMpsHi c b o.mps.length))
            o.F (batchWeights o.weights c b o.mps.length))
      else .single (senseUnbatched (fkindOf o) o.sqrt o.mps o.F o.weights) :=
  sense_gen_eq _ (hv.withBatch _)

end nf2

section operator
variable {α : Type} [CommSemiring α]

/-- explicit encoding of one coil: `out[k] = Σ_r F[k,r] · (m[r] · x[r])` -/
def encode (F : Mat α) (x m : Vec α) : Vec α := F.map fun frow => dot frow (vmul m x)

/-- the documented operator, coil by coil:
    `out[c,k] = √w[c,k] · Σ_r F[k,r] · mps[c,r] · x[r]` (`√w[k]` when the weights have no coil axis) -/
def explicitSense (sqrt : α → α) (F : Mat α) (w : Weights α) (mps : Mat α) (x : Vec α) : Mat α :=
  match w with
  | .none => mps.map (encode F x)
  | .shared w => mps.map fun m => vmul (w.map (wpow sqrt)) (encode F x m)
  | .perCoil w => List.zipWith (fun wr m => vmul (wr.map (wpow sqrt)) (encode F x m)) w mps

theorem flatten_map_map {β γ δ : Type} (l : List β) (f : β → List γ) (h : γ → δ) :
    (l.map fun c => (f c).map h).flatten = ((l.map f).flatten).map h := by
  simp [List.map_flatten, List.map_map, Function.comp_def]

theorem sum_map_sum {β : Type} (l : List β) (f : β → List α) :
    (l.map fun c => (f c).sum).sum = ((l.map f).flatten).sum := by
  simp [List.sum_flatten, List.map_map, Function.comp_def]

theorem fourier_maps_apply (kind : FKind) (hk : kind.perCoil = true) (mps F : Mat α) (n R : Nat) (X : Mat α) :
    (Leaf.fourier kind n R F).apply ((Leaf.multiplyMaps mps).apply X) = mps.map (encode F (X.headD [])) := by
  simp only [Leaf.apply, hk, if_true, List.map_map]
  rfl

theorem unbatched_apply (kind : FKind) (hk : kind.perCoil = true) (sqrt : α → α) (mps F : Mat α) (w : Weights α) (X : Mat α) :
    (senseUnbatched kind sqrt mps F w).apply X = explicitSense sqrt F w mps (X.headD []) := by
  have hFS := fourier_maps_apply kind hk mps F mps.length (mps.headD []).length X
  cases w with
  | none => exact hFS
  | shared w =>
    refine (congrArg _ hFS).trans ?_
    simp only [Leaf.apply, List.map_map]
    rfl
  | perCoil w =>
    refine (congrArg _ hFS).trans ?_
    simp only [Leaf.apply, List.zipWith_map_left, List.zipWith_map_right]
    rfl

/-- the generated exponent of `weights ** e` is 1/2: the one place that ties `wpow` to the square root -/
theorem weights_exponent_is_half : Gen.senseWeightsExp = (1 : Rat) / 2 := by
  unfold Gen.senseWeightsExp; rfl

omit [CommSemiring α] in
theorem wpow_eq_sqrt [Add α] [Mul α] [Zero α] (sqrt : α → α) (w : α) : wpow sqrt w = sqrt w := by
  unfold wpow wpowE; rw [if_pos weights_exponent_is_half]

/-- **sense_denote.** Without batching, `Sense(mps, weights)(x)` is the explicit multi-coil encoding `explicitSense`:
    `out[c,k] = √w[c,k]·Σ_r F[k,r]·mps[c,r]·x[r]` for an arbitrary Fourier matrix `F`, `√w` being `wpow o.sqrt w`
    (the generated exponent, which `weights_exponent_is_half` pins to 1/2) on both sides. -/
theorem sense_denote (o : SenseOpts α) (hv : Valid o) (x : Vec α) :
    (sense { o with batch := none }).apply [x] = explicitSense o.sqrt o.F o.weights o.mps x := by
  rw [sense_batch_none o hv]
  exact unbatched_apply _ (fkindOf_perCoil o hv) o.sqrt o.mps o.F o.weights [x]

/-- the weights slice uses the same bounds as the coil slice -/
theorem weights_sliced_with_coils : Gen.senseWeightsSliced = true ∧
    (∀ c b n, Gen.senseWLo c b n = Gen.senseMpsLo c b n) ∧ (∀ c b n, Gen.senseWHi c b n = Gen.senseMpsHi c b n) :=
  ⟨rfl, fun _ _ _ => by unfold Gen.senseWLo Gen.senseMpsLo; ring, fun _ _ _ => by unfold Gen.senseWHi Gen.senseMpsHi; ring⟩

/-- the GENERATED list of the keywords the batched branch passes to the per-batch `Sense(...)` calls — everything but
    `coil_batch_size`/`comm` — and the generated `Vstack` axis.  (`Gen.C16.senseBody` does not refer to
    `Gen.senseBatchKw`: what the batches of the factory term receive is in `sense_gen_eq`.) -/
theorem batch_forwards_all : Gen.senseBatchKw = ["coord", "ishape", "transp_nufft", "tseg", "weights"] ∧
    Gen.senseVstackAxis = 0 := ⟨rfl, rfl⟩

/-- forward value of the batched operator: the concatenation over the batches of the explicit encoding of
    the batch's coils -/
theorem batched_apply (o : SenseOpts α) (hv : Valid o) (B : Nat) (x : Vec α) (hb : Gen.senseBatched (o.mps.length : Int) B = true) :
    (sense { o with batch := some (B : Int) }).apply [x] =
      ((Gen.senseBatchRange (Gen.senseNumCoilBatches o.mps.length B) o.mps.length B).map fun c =>
        explicitSense o.sqrt o.F (batchWeights o.weights c B o.mps.length)
          (pySlice o.mps (Gen.senseMpsLo c B o.mps.length) (Gen.senseMpsHi c B o.mps.length)) x).flatten := by
  rw [sense_batch_some o hv, if_pos hb]
  simp only [Op.apply, List.map_map, Function.comp_def, unbatched_apply _ (fkindOf_perCoil o hv), List.headD_cons]

/-- **sense_batch_invariant (forward).** For EVERY batch size `b ≥ 1` (dividing the number of coils or not,
    larger than it or not) the batched operator — `Vstack(axis=0)` of the per-batch `Sense` operators on the
    coil slices `mps[c·b:(c+1)·b]`, `c < ⌈n/b⌉` — has the same value as the unbatched one, with no weights,
    with k-space-shaped weights shared by the batches, and with per-coil weights sliced like the coils. -/
theorem sense_batch_invariant (o : SenseOpts α) (hv : Valid o) (B : Nat) (hB : 0 < B) (x : Vec α) :
    (sense { o with batch := some (B : Int) }).apply [x] = (sense { o with batch := none }).apply [x] := by
  rw [sense_denote _ hv]
  by_cases hb : Gen.senseBatched (o.mps.length : Int) B = true
  · rw [batched_apply o hv B x hb]
    cases hw : o.weights with
    | perCoil w =>
      simp only [batchWeights, weights_sliced_with_coils.1, if_true, explicitSense,
        weights_sliced_with_coils.2.1, weights_sliced_with_coils.2.2, pySlice_zipWith]
      exact batch_slices_partition _ _ _ hB (List.length_zipWith.trans_le (Nat.min_le_right _ _))
    | _ =>
      simp only [batchWeights, explicitSense]
      rw [flatten_map_map, batch_slices_partition _ _ _ hB (le_refl _)]
  · rw [sense_batch_some o hv, if_neg hb]
    exact unbatched_apply _ (fkindOf_perCoil o hv) o.sqrt o.mps o.F o.weights [x]

/-- **sense_batch_partition.** The coil slices `[c·b, min((c+1)·b, n))`, `c < ⌈n/b⌉`, computed by the
    generated slice-bound formulas list the coils `0..n-1` in order, each once — for all `n` and `b ≥ 1` on the
    batched branch (`hb`; on the other branch `batchCoils` is the single list `[pyRange0 n]`). -/
theorem sense_batch_partition (n B : Nat) (hB : 0 < B) (hb : Gen.senseBatched (n : Int) B = true) :
    (batchCoils (n : Int) (some (B : Int))).flatten = pyRange0 n := by
  unfold batchCoils batchOf
  simp only [hb, if_true]
  apply batch_slices_partition _ _ _ hB
  rw [pyRange0, pyRange0_eq]; simp

/-- every batch is non-empty (no zero-coil operator is ever built): `c·b < n` for `c < ⌈n/b⌉` -/
theorem sense_batches_nonempty (n B : Nat) (hB : 0 < B) (c : Int)
    (hc : c ∈ Gen.senseBatchRange (Gen.senseNumCoilBatches n B) n B) :
    0 ≤ Gen.senseMpsLo c B n ∧ Gen.senseMpsLo c B n < n := by
  unfold Gen.senseBatchRange at hc
  rw [mem_pyRange0'] at hc
  rw [(senseMps_lo_hi _ _ _).1]
  have hBz : (0 : Int) ≤ B := Int.natCast_nonneg B
  -- only the CHARACTERISATION of the generated `num_coil_batches` is used (not its shape)
  obtain ⟨hq, _⟩ := numCoilBatches_char n B (by exact_mod_cast hB)
  exact ⟨Int.mul_nonneg hc.1 hBz, lt_of_le_of_lt (Int.mul_le_mul_of_nonneg_right (by omega) hBz) hq⟩

/-- **sense_adjoint_batch_sum_partial.** For every per-coil contribution `t`, the sum over the batches of the
    per-batch sums `Σ_{c ∈ batch} t(mps_c, y_c)` over the generated slices — the form `Hstack` of the batch adjoints
    has — equals the single sum over all coils.  `Op.adj` does not occur here: see `sense_adjoint_batch_invariant`. -/
theorem sense_adjoint_batch_sum_partial {β γ : Type} (t : β → γ → α) (mps : List β) (y : List γ) (B : Nat) (hB : 0 < B) :
    ((Gen.senseBatchRange (Gen.senseNumCoilBatches mps.length B) mps.length B).map fun c =>
      (List.zipWith t (pySlice mps (Gen.senseMpsLo c B mps.length) (Gen.senseMpsHi c B mps.length))
        (pySlice y (Gen.senseMpsLo c B mps.length) (Gen.senseMpsHi c B mps.length))).sum).sum
      = (List.zipWith t mps y).sum := by
  simp only [pySlice_zipWith]
  rw [sum_map_sum, batch_slices_partition _ _ _ hB (List.length_zipWith.trans_le (Nat.min_le_left _ _))]

end operator

section adjoint
variable {α : Type} [CommSemiring α]

/-- `Fᴴ` of the matrix `F` on one k-space row (conjugate transpose): `(Fᴴ y)[r] = Σ_k conj F[k,r] · y[k]`
    — literally what `Leaf.adj` (the definition the driver runs) computes for the Fourier leaf -/
def fourierAdjRow (conj : α → α) (R : Nat) (F : Mat α) (row : Vec α) : Vec α :=
  (List.range R).map fun r => (List.zipWith (fun (frow : Vec α) (yk : α) => conj (frow.getD r 0) * yk) F row).sum

/-- `P.H` on one row: multiply by `conj √w` (no weights: identity) -/
def weighRow (conj : α → α) (sw : Option (Vec α)) (row : Vec α) : Vec α :=
  match sw with
  | none => row
  | some s => vmul (s.map conj) row

/-- per coil: its sensitivity map and its `√w` row -/
def coilData (sqrt : α → α) (w : Weights α) (mps : Mat α) : List (Vec α × Option (Vec α)) :=
  match w with
  | .none => mps.map fun m => (m, none)
  | .shared w => mps.map fun m => (m, some (w.map (wpow sqrt)))
  | .perCoil w => List.zipWith (fun m wr => (m, some (wr.map (wpow sqrt)))) mps w

/-- contribution of one coil to image position `r`: `conj(mps_c[r]) · Fᴴ(conj(√w_c) ⊙ y_c)[r]`, for an ABSTRACT
    `Fᴴ : k-space row → image` -/
def coilAdjTerm (conj : α → α) (FH : Vec α → Vec α) (r : Nat) (cd : Vec α × Option (Vec α)) (y : Vec α) : α :=
  conj (cd.1.getD r 0) * (FH (weighRow conj cd.2 y)).getD r 0

/-- the documented adjoint `y ↦ Σ_c conj(mps_c) ⊙ Fᴴ(√w_c ⊙ y_c)` -/
def explicitAdjoint (conj : α → α) (FH : Vec α → Vec α) (R : Nat) (coils : List (Vec α × Option (Vec α))) (Y : Mat α) : Vec α :=
  (List.range R).map fun r => (List.zipWith (coilAdjTerm conj FH r) coils Y).sum

theorem maps_fourier_adj (kind : FKind) (hk : kind.perCoil = true) (conj : α → α) (mps F : Mat α) (n R : Nat) (Z : Mat α) :
    (Leaf.multiplyMaps mps).adj conj ((Leaf.fourier kind n R F).adj conj Z) =
      [explicitAdjoint conj (fourierAdjRow conj R F) (mps.headD []).length (mps.map fun m => (m, none)) Z] := by
  simp only [Leaf.adj, hk, if_true, List.zipWith_map_right, explicitAdjoint, List.zipWith_map_left]
  rfl

theorem unbatched_adj (kind : FKind) (hk : kind.perCoil = true) (conj sqrt : α → α) (mps F : Mat α) (w : Weights α) (Y : Mat α) :
    (senseUnbatched kind sqrt mps F w).adj conj Y =
      [explicitAdjoint conj (fourierAdjRow conj (mps.headD []).length F) (mps.headD []).length (coilData sqrt w mps) Y] := by
  cases w with
  | none => exact maps_fourier_adj kind hk conj mps F _ _ Y
  -- with weights, `Pᴴ` acts on the rows first; moving it from the data rows into the coil data is definitional
  | shared w =>
    refine (maps_fourier_adj kind hk conj mps F _ _ _).trans ?_
    simp only [Leaf.adj, explicitAdjoint, coilData, List.zipWith_map_left, List.zipWith_map_right]
    rfl
  | perCoil w =>
    refine (maps_fourier_adj kind hk conj mps F _ _ _).trans ?_
    simp only [Leaf.adj, explicitAdjoint, coilData, List.zipWith_map_left]
    congr 2
    funext r
    refine congrArg List.sum (zipWith_zipWith_assoc _ _ _ _ ?_ mps w Y)
    intro _ _ _
    rfl

/-- **sense_adjoint_denote.** Without batching `Sense(mps, weights).H(y)` is
    `Σ_c conj(mps_c) ⊙ Fᴴ(conj(√w_c) ⊙ y_c)` with `Fᴴ` the conjugate transpose of the Fourier matrix. -/
theorem sense_adjoint_denote (conj : α → α) (o : SenseOpts α) (hv : Valid o) (Y : Mat α) :
    (sense { o with batch := none }).adj conj Y =
      [explicitAdjoint conj (fourierAdjRow conj (o.mps.headD []).length o.F) (o.mps.headD []).length
        (coilData o.sqrt o.weights o.mps) Y] := by
  rw [sense_batch_none o hv]
  exact unbatched_adj _ (fkindOf_perCoil o hv) conj o.sqrt o.mps o.F o.weights Y

/-- **vstack_adjoint (Vstack.H = Hstack of the adjoints).**  If every stacked chain `mk c` has the adjoint
    `y ↦ Σ_{coils of c} conj(mps)·Fᴴ(√w·y)` over its own coils `sl c` and as many rows as coils, then the
    adjoint of `Vstack(axis=0)` — split `Y` by the chains' row counts, apply the adjoints, sum — is the
    adjoint formula over the CONCATENATED coils.  `FH` is an arbitrary map (no linearity needed). -/
theorem vstack_adjoint {ι : Type} (conj : α → α) (FH : Vec α → Vec α) (R : Nat) (batches : List ι)
    (mk : ι → Chain α) (sl : ι → List (Vec α × Option (Vec α)))
    (hadj : ∀ c ∈ batches, ∀ y, (mk c).adj conj y = [explicitAdjoint conj FH R (sl c) y])
    (hrows : ∀ c ∈ batches, (mk c).rows = (sl c).length)
    (hR : ((batches.map mk).headD []).imgLen = R) (Y : Mat α) :
    (Op.vstack (batches.map mk)).adj conj Y = [explicitAdjoint conj FH R (batches.map sl).flatten Y] := by
  simp only [Op.adj, hR, explicitAdjoint, List.cons.injEq, and_true]
  apply List.map_congr_left
  intro r hr
  have hr' : r < R := List.mem_range.mp hr
  rw [← splitRows_zip_sum, List.map_map, List.map_map, List.zipWith_map_left, List.zipWith_map_left, List.map_zipWith]
  have hlen : List.map (Chain.rows ∘ mk) batches = List.map (List.length ∘ sl) batches := by
    apply List.map_congr_left
    intro c hc
    exact hrows c hc
  rw [hlen]
  congr 1
  apply zipWith_congr_mem
  intro c hc y
  rw [hadj c hc y]
  simp only [explicitAdjoint, List.headD_cons]
  rw [getD_range_map_lt _ _ _ hr']

omit [CommSemiring α] in
theorem coilData_length (sqrt : α → α) (w : Weights α) (mps : Mat α)
    (hw : ∀ wc, w = .perCoil wc → wc.length = mps.length) : (coilData sqrt w mps).length = mps.length := by
  cases w with
  | perCoil wc => rw [coilData, List.length_zipWith, hw wc rfl, Nat.min_self]
  | _ => exact List.length_map _

omit [CommSemiring α] in
/-- the coils (map + weight row) handed to batch `c` are the slice `[c·b, (c+1)·b)` of all coils -/
theorem coilData_batch (sqrt : α → α) (w : Weights α) (mps : Mat α) (c b n : Int) :
    coilData sqrt (batchWeights w c b n) (pySlice mps (Gen.senseMpsLo c b n) (Gen.senseMpsHi c b n))
      = pySlice (coilData sqrt w mps) (Gen.senseMpsLo c b n) (Gen.senseMpsHi c b n) := by
  cases w with
  | perCoil wc =>
    simp only [coilData, batchWeights, weights_sliced_with_coils.1, if_true, weights_sliced_with_coils.2.1,
      weights_sliced_with_coils.2.2, pySlice_zipWith]
  | _ => simp only [coilData, batchWeights, pySlice_map]

omit [CommSemiring α] in
theorem unbatched_rows [Add α] [Mul α] [Zero α] (kind : FKind) (sqrt : α → α) (mps F : Mat α) (w : Weights α) :
    (senseUnbatched kind sqrt mps F w).rows = mps.length ∧ (senseUnbatched kind sqrt mps F w).imgLen = (mps.headD []).length := by
  cases w <;> simp [senseUnbatched, Chain.rows, Chain.imgLen]

theorem headD_length {β : Type} {mps : List (List β)} {R : Nat} (hrect : ∀ m ∈ mps, m.length = R) (hne : mps ≠ []) :
    (mps.headD []).length = R := by
  cases mps with
  | nil => exact absurd rfl hne
  | cons a l => exact hrect a List.mem_cons_self

theorem batch_slice_ne_nil {β : Type} (l : List β) (B : Nat) (hB : 0 < B) (c : Int)
    (hc : c ∈ Gen.senseBatchRange (Gen.senseNumCoilBatches l.length B) l.length B) :
    pySlice l (Gen.senseMpsLo c B l.length) (Gen.senseMpsHi c B l.length) ≠ [] := by
  obtain ⟨h0, h1⟩ := sense_batches_nonempty l.length B hB c hc
  refine pySlice_ne_nil l _ _ h0 h1 ?_
  rw [(senseMps_lo_hi _ _ _).1, (senseMps_lo_hi _ _ _).2, add_mul, one_mul]
  omega

/-- **sense_adjoint_batch_invariant.** For EVERY batch size `b ≥ 1` the adjoint of the batched operator —
    `Vstack(axis=0).H = Hstack`: split the k-space rows by the batches' coil counts, apply each batch's
    `Sense(mps[c·b:(c+1)·b], weights-of-batch).H`, sum the images — equals the adjoint of the unbatched operator
    `y ↦ Σ_c conj(mps_c) ⊙ Fᴴ(conj √w_c ⊙ y_c)`, with no weights, k-space-shaped weights shared by the batches, and
    per-coil weights sliced like the coils.  `Op.adj` is the definition the driver runs against the real `A.H(y)`.
    Hypotheses = the arrays are arrays: every coil map has `R` entries, per-coil weights have one row per coil. -/
theorem sense_adjoint_batch_invariant (conj : α → α) (o : SenseOpts α) (hv : Valid o) (B : Nat) (hB : 0 < B) (R : Nat)
    (hrect : ∀ m ∈ o.mps, m.length = R) (hw : ∀ wc, o.weights = .perCoil wc → wc.length = o.mps.length) (Y : Mat α) :
    (sense { o with batch := some (B : Int) }).adj conj Y = (sense { o with batch := none }).adj conj Y := by
  rw [sense_adjoint_denote _ _ hv, sense_batch_some o hv]
  have hkind := fkindOf_perCoil o hv
  by_cases hb : Gen.senseBatched (o.mps.length : Int) B = true
  · have hcd := coilData_length o.sqrt o.weights o.mps hw
    have hpart := batch_slices_partition (coilData o.sqrt o.weights o.mps) o.mps.length B hB hcd.le
    have hne : o.mps ≠ [] := by
      intro h
      rw [h] at hb
      have : (B : Int) < 0 := by simpa [Gen.senseBatched] using hb
      omega
    have hhead := fun c hc =>
      headD_length (fun m hm => hrect m (mem_of_mem_pySlice hm)) (batch_slice_ne_nil o.mps B hB c hc)
    rw [if_pos hb, vstack_adjoint conj (fourierAdjRow conj R o.F) R _ _
      (fun c => pySlice (coilData o.sqrt o.weights o.mps) (Gen.senseMpsLo c B o.mps.length) (Gen.senseMpsHi c B o.mps.length))
      ?_ ?_ ?_ Y, hpart, headD_length hrect hne]
    · intro c hc y
      rw [unbatched_adj _ hkind, coilData_batch, hhead c hc]
    · intro c hc
      rw [(unbatched_rows _ _ _ _ _).1]
      exact pySlice_length_congr _ _ hcd.symm _ _
    · -- there is a first batch, since the batches' coils concatenate to all the coils
      cases hbs : Gen.senseBatchRange (Gen.senseNumCoilBatches o.mps.length B) o.mps.length B with
      | nil =>
        rw [hbs] at hpart
        exact absurd (List.length_eq_zero_iff.mp (hcd.symm.trans (congrArg List.length hpart.symm))) hne
      | cons c0 rest =>
        rw [List.map_cons, List.headD_cons, (unbatched_rows _ _ _ _ _).2]
        exact hhead c0 (by rw [hbs]; exact List.mem_cons_self)
  · rw [if_neg hb]
    exact unbatched_adj _ hkind conj o.sqrt o.mps o.F o.weights Y

end adjoint

section indexwise
variable {α : Type} [CommSemiring α]

/-- `√w[c,k]` (`1` without weights, `√w[k]` for weights without a coil axis) -/
def swAt (sqrt : α → α) (w : Weights α) (c k : Nat) : α :=
  match w with
  | .none => 1
  | .shared w => wpow sqrt (w.getD k 0)
  | .perCoil wc => wpow sqrt ((wc.getD c []).getD k 0)

/-- the request is a well-shaped set of arrays: `mps : n × R`, `F : K × R`, weights `K` or `n × K` -/
structure Shaped (o : SenseOpts α) (n R K : Nat) : Prop where
  mpsRows : o.mps.length = n
  mpsRect : ∀ m ∈ o.mps, m.length = R
  fRows : o.F.length = K
  fRect : ∀ f ∈ o.F, f.length = R
  wShared : ∀ w, o.weights = .shared w → w.length = K
  wCoilRows : ∀ wc, o.weights = .perCoil wc → wc.length = n
  wCoilRect : ∀ wc, o.weights = .perCoil wc → ∀ row ∈ wc, row.length = K

theorem getD_mem {β : Type} (l : List β) (i : Nat) (h : i < l.length) (d : β) : l.getD i d ∈ l := by
  rw [getD_of_lt _ _ h]; exact List.getElem_mem h

theorem vmul_getD (a b : Vec α) (n i : Nat) (ha : a.length = n) (hb : b.length = n) (hi : i < n) :
    (vmul a b).getD i 0 = a.getD i 0 * b.getD i 0 := by
  unfold vmul
  exact getD_zipWith_lt _ a b i (ha ▸ hi) (hb ▸ hi) 0 0 0

theorem vmul_length (a b : Vec α) (n : Nat) (ha : a.length = n) (hb : b.length = n) : (vmul a b).length = n := by
  unfold vmul; simp [ha, hb]

theorem encode_length (F : Mat α) (x m : Vec α) : (encode F x m).length = F.length := by
  unfold encode; simp

theorem encode_getD (F : Mat α) (x m : Vec α) (R k : Nat) (hk : k < F.length) (hF : ∀ f ∈ F, f.length = R)
    (hm : m.length = R) (hx : x.length = R) :
    (encode F x m).getD k 0 = ∑ r ∈ Finset.range R, (F.getD k []).getD r 0 * (m.getD r 0 * x.getD r 0) := by
  unfold encode
  rw [getD_map_lt _ F k hk 0 [], dot, vmul,
    zipWith_sum_eq_range _ _ _ R (hF _ (getD_mem F k hk [])) (vmul_length m x R hm hx) 0 0]
  apply Finset.sum_congr rfl
  intro r hr
  rw [vmul_getD m x R r hm hx (Finset.mem_range.mp hr)]

/-- **sense_denote_index.** Index-wise form of `sense_denote`: for a `K × R` Fourier matrix `F`,
    `Sense(mps, weights)(x)[c, k] = √w[c,k] · Σ_r F[k,r] · mps[c,r] · x[r]` for every coil `c < n` and k-space
    position `k < K` (`√w[k]` for weights without a coil axis, `1` without weights).  `√w` is `swAt`, i.e. `wpow`:
    the generated exponent, which `weights_exponent_is_half` pins to 1/2. -/
theorem sense_denote_index (o : SenseOpts α) (hv : Valid o) (x : Vec α) (n R K : Nat) (hs : Shaped o n R K) (hx : x.length = R)
    (c k : Nat) (hc : c < n) (hk : k < K) :
    (((sense { o with batch := none }).apply [x]).getD c []).getD k 0 =
      swAt o.sqrt o.weights c k *
        ∑ r ∈ Finset.range R, (o.F.getD k []).getD r 0 * ((o.mps.getD c []).getD r 0 * x.getD r 0) := by
  rw [sense_denote _ hv]
  have hcm : c < o.mps.length := hs.mpsRows ▸ hc
  have henc := encode_getD o.F x _ R k (hs.fRows ▸ hk) hs.fRect (hs.mpsRect _ (getD_mem o.mps c hcm [])) hx
  have hel : (encode o.F x (o.mps.getD c [])).length = K := by rw [encode_length, hs.fRows]
  cases hw : o.weights with
  | none =>
    simp only [explicitSense, swAt, one_mul]
    rw [getD_map_lt _ o.mps c hcm [] [], henc]
  | shared w =>
    have hl := hs.wShared w hw
    simp only [explicitSense, swAt]
    rw [getD_map_lt _ o.mps c hcm [] [], vmul_getD _ _ K k (by rw [List.length_map, hl]) hel hk,
      getD_map_lt _ w k (hl ▸ hk) 0 0, henc]
  | perCoil wc =>
    have hcw : c < wc.length := (hs.wCoilRows wc hw) ▸ hc
    have hl := hs.wCoilRect wc hw _ (getD_mem wc c hcw [])
    simp only [explicitSense, swAt]
    rw [getD_zipWith_lt _ wc o.mps c hcw hcm [] [] [], vmul_getD _ _ K k (by rw [List.length_map, hl]) hel hk,
      getD_map_lt _ _ k (hl ▸ hk) 0 0, henc]

end indexwise

section dot
variable {α : Type} [CommSemiring α] [StarRing α]

/-- **sense_dot_test_abstract.** For an ABSTRACT Fourier stage `F` (any map: linearity is not needed) and an
    abstract `Fᴴ` with `⟨F u, v⟩ = ⟨u, Fᴴ v⟩`, the operator `A x = (√w_c ⊙ F(mps_c ⊙ x))_c` and
    `Aᴴ y = Σ_c conj(mps_c) ⊙ Fᴴ(conj √w_c ⊙ y_c)` satisfy `⟨A x, y⟩ = ⟨x, Aᴴ y⟩`
    (`⟨a, b⟩ = Σ a·conj b`; over `ℂ`, `star = conj`). -/
theorem sense_dot_test_abstract {C Kt Rt : Type} (sC : Finset C) (sK : Finset Kt) (sR : Finset Rt)
    (F : (Rt → α) → (Kt → α)) (FH : (Kt → α) → (Rt → α))
    (hF : ∀ u v, ∑ k ∈ sK, F u k * star (v k) = ∑ r ∈ sR, u r * star (FH v r))
    (m : C → Rt → α) (sw : C → Kt → α) (x : Rt → α) (y : C → Kt → α) :
    ∑ c ∈ sC, ∑ k ∈ sK, (sw c k * F (fun r => m c r * x r) k) * star (y c k) =
      ∑ r ∈ sR, x r * star (∑ c ∈ sC, star (m c r) * FH (fun k => star (sw c k) * y c k) r) := by
  -- coil by coil: move `√w` to the other side, apply `hF`; then exchange the sums over coils and pixels
  calc _ = ∑ c ∈ sC, ∑ r ∈ sR, (m c r * x r) * star (FH (fun k => star (sw c k) * y c k) r) := by
        refine Finset.sum_congr rfl fun c _ => ?_
        rw [← hF]
        refine Finset.sum_congr rfl fun k _ => ?_
        rw [star_mul', star_star, mul_comm (sw c k), mul_assoc]
    _ = _ := by
        rw [Finset.sum_comm]
        refine Finset.sum_congr rfl fun r _ => ?_
        rw [star_sum, Finset.mul_sum]
        refine Finset.sum_congr rfl fun c _ => ?_
        rw [star_mul', star_star, mul_comm (m c r), mul_assoc]

/-- the conjugate transpose of a matrix satisfies the adjoint identity -/
theorem matrix_adjoint_identity {Kt Rt : Type} (sK : Finset Kt) (sR : Finset Rt) (Fm : Kt → Rt → α) (u : Rt → α) (v : Kt → α) :
    ∑ k ∈ sK, (∑ r ∈ sR, Fm k r * u r) * star (v k) = ∑ r ∈ sR, u r * star (∑ k ∈ sK, star (Fm k r) * v k) := by
  simp only [Finset.sum_mul, star_sum, Finset.mul_sum, star_mul', star_star]
  rw [Finset.sum_comm]
  apply Finset.sum_congr rfl; intro r _
  apply Finset.sum_congr rfl; intro k _
  ring

/-- the `√w` row of coil `c` -/
def swRow (sqrt : α → α) (w : Weights α) (c : Nat) : Option (Vec α) :=
  match w with
  | .none => none
  | .shared w => some (w.map (wpow sqrt))
  | .perCoil wc => some ((wc.getD c []).map (wpow sqrt))

omit [CommSemiring α] [StarRing α] in
theorem coilData_getD (o : SenseOpts α) (n R K : Nat) (hs : Shaped o n R K) (c : Nat) (hc : c < n) :
    (coilData o.sqrt o.weights o.mps).getD c ([], none) = (o.mps.getD c [], swRow o.sqrt o.weights c) := by
  have hcm : c < o.mps.length := by rw [hs.mpsRows]; exact hc
  cases hw : o.weights with
  | perCoil wc =>
    simp only [coilData, swRow]
    rw [getD_zipWith_lt _ o.mps wc c hcm (by rw [hs.wCoilRows wc hw]; exact hc) _ [] []]
  | _ => simp only [coilData, swRow]; rw [getD_map_lt _ o.mps c hcm _ []]

omit [StarRing α] in
theorem weighRow_some (conj : α → α) (s y : Vec α) (K : Nat) (hs : s.length = K) (hy : y.length = K) :
    (weighRow conj (some s) y).length = K ∧
    ∀ k, k < K → (weighRow conj (some s) y).getD k 0 = conj (s.getD k 0) * y.getD k 0 := by
  have hl : (s.map conj).length = K := by rw [List.length_map, hs]
  refine ⟨vmul_length _ _ K hl hy, fun k hk => ?_⟩
  rw [weighRow, vmul_getD _ _ K k hl hy hk, getD_map_lt _ s k (hs ▸ hk) 0 0]

theorem weighRow_spec (o : SenseOpts α) (n R K : Nat) (hs : Shaped o n R K) (c : Nat) (hc : c < n) (y : Vec α) (hy : y.length = K) :
    (weighRow star (swRow o.sqrt o.weights c) y).length = K ∧
    ∀ k, k < K → (weighRow star (swRow o.sqrt o.weights c) y).getD k 0 = star (swAt o.sqrt o.weights c k) * y.getD k 0 := by
  cases hw : o.weights with
  | none => exact ⟨hy, fun k _ => by rw [swAt, star_one, one_mul]; rfl⟩
  | shared w =>
    have hl := hs.wShared w hw
    obtain ⟨h1, h2⟩ := weighRow_some star (w.map (wpow o.sqrt)) y K (by rw [List.length_map, hl]) hy
    exact ⟨h1, fun k hk => by rw [swRow, h2 k hk, getD_map_lt _ w k (hl ▸ hk) 0 0]; rfl⟩
  | perCoil wc =>
    have hl := hs.wCoilRect wc hw _ (getD_mem wc c (by rw [hs.wCoilRows wc hw]; exact hc) [])
    obtain ⟨h1, h2⟩ := weighRow_some star ((wc.getD c []).map (wpow o.sqrt)) y K (by rw [List.length_map, hl]) hy
    exact ⟨h1, fun k hk => by rw [swRow, h2 k hk, getD_map_lt _ _ k (hl ▸ hk) 0 0]; rfl⟩

/-- **sense_adjoint_index.** Index-wise form of the adjoint the driver runs (`Op.adj` with `conj = star`):
    `Sense(mps, weights).H(y)[r] = Σ_c conj(mps[c,r]) · Σ_k conj(F[k,r]) · conj(√w[c,k]) · y[c,k]`, `√w` being
    `swAt` (`wpow`: the generated exponent, which `weights_exponent_is_half` pins to 1/2). -/
theorem sense_adjoint_index (o : SenseOpts α) (hv : Valid o) (Y : Mat α) (n R K : Nat) (hs : Shaped o n R K)
    (hY : Y.length = n) (hYr : ∀ row ∈ Y, row.length = K) (r : Nat) (hr : r < R) :
    (((sense { o with batch := none }).adj star Y).headD []).getD r 0 =
      ∑ c ∈ Finset.range n, star ((o.mps.getD c []).getD r 0) *
        ∑ k ∈ Finset.range K, star ((o.F.getD k []).getD r 0) * (star (swAt o.sqrt o.weights c k) * (Y.getD c []).getD k 0) := by
  rw [sense_adjoint_denote _ _ hv]
  simp only [List.headD_cons]
  by_cases hn : n = 0
  · subst hn
    rw [List.length_eq_zero_iff.mp hs.mpsRows, Finset.sum_range_zero]
    rfl
  · rw [headD_length hs.mpsRect (fun h => hn (by rw [← hs.mpsRows, h]; rfl))]
    unfold explicitAdjoint
    rw [getD_range_map_lt _ _ _ hr,
      zipWith_sum_eq_range _ _ _ n ((coilData_length _ _ _ (fun wc hw => (hs.wCoilRows wc hw).trans hs.mpsRows.symm)).trans hs.mpsRows)
        hY ([], none) []]
    apply Finset.sum_congr rfl
    intro c hc
    have hc' : c < n := Finset.mem_range.mp hc
    have hy := hYr _ (getD_mem Y c (by rw [hY]; exact hc') [])
    obtain ⟨hwl, hwk⟩ := weighRow_spec o n R K hs c hc' (Y.getD c []) hy
    rw [coilData_getD o n R K hs c hc']
    simp only [coilAdjTerm, fourierAdjRow]
    rw [getD_range_map_lt _ _ _ hr, zipWith_sum_eq_range _ _ _ K hs.fRows hwl [] 0]
    refine congrArg _ (Finset.sum_congr rfl fun k hk => ?_)
    rw [hwk k (Finset.mem_range.mp hk)]

/-- **sense_dot_test.** The adjoint identity for the model the driver runs, over any commutative `*`-ring (`ℂ`
    with `star = conj`): `⟨A x, y⟩ = ⟨x, Aᴴ y⟩`, i.e.
    `Σ_{c<n,k<K} (A x)[c,k]·conj y[c,k] = Σ_{r<R} x[r]·conj (Aᴴ y)[r]`, for the unbatched operator and — by
    `sense_batch_invariant` / `sense_adjoint_batch_invariant` — for EVERY `coil_batch_size ≥ 1`. -/
theorem sense_dot_test (o : SenseOpts α) (hv : Valid o) (x : Vec α) (Y : Mat α) (n R K : Nat) (hs : Shaped o n R K) (hx : x.length = R)
    (hY : Y.length = n) (hYr : ∀ row ∈ Y, row.length = K) (b : Option Nat) (hb : ∀ B, b = some B → 0 < B) :
    let A := sense { o with batch := b.map Int.ofNat }
    ∑ c ∈ Finset.range n, ∑ k ∈ Finset.range K, ((A.apply [x]).getD c []).getD k 0 * star ((Y.getD c []).getD k 0)
      = ∑ r ∈ Finset.range R, x.getD r 0 * star (((A.adj star Y).headD []).getD r 0) := by
  intro A
  have hA : A.apply [x] = (sense { o with batch := none }).apply [x] ∧ A.adj star Y = (sense { o with batch := none }).adj star Y := by
    cases b with
    | none => exact ⟨rfl, rfl⟩
    | some B =>
      exact ⟨sense_batch_invariant o hv B (hb B rfl) x,
        sense_adjoint_batch_invariant star o hv B (hb B rfl) R hs.mpsRect
          (fun wc hw => (hs.wCoilRows wc hw).trans hs.mpsRows.symm) Y⟩
  rw [hA.1, hA.2]
  have key := sense_dot_test_abstract (Finset.range n) (Finset.range K) (Finset.range R)
    (fun u k => ∑ r ∈ Finset.range R, (o.F.getD k []).getD r 0 * u r)
    (fun v r => ∑ k ∈ Finset.range K, star ((o.F.getD k []).getD r 0) * v k)
    (fun u v => matrix_adjoint_identity _ _ (fun k r => (o.F.getD k []).getD r 0) u v)
    (fun c r => (o.mps.getD c []).getD r 0) (fun c k => swAt o.sqrt o.weights c k) (fun r => x.getD r 0)
    (fun c k => (Y.getD c []).getD k 0)
  refine (Finset.sum_congr rfl fun c hc => Finset.sum_congr rfl fun k hk => ?_).trans
    (key.trans (Finset.sum_congr rfl fun r hr => ?_))
  · rw [sense_denote_index o hv x n R K hs hx c k (Finset.mem_range.mp hc) (Finset.mem_range.mp hk)]
  · rw [sense_adjoint_index o hv Y n R K hs hY hYr r (Finset.mem_range.mp hr)]

end dot

/-- the dot test over `ℂ` with complex conjugation, for a batch size `B ≥ 1` -/
theorem sense_dot_test_complex (o : SenseOpts ℂ) (hv : Valid o) (x : Vec ℂ) (Y : Mat ℂ) (n R K : Nat) (hs : Shaped o n R K) (hx : x.length = R)
    (hY : Y.length = n) (hYr : ∀ row ∈ Y, row.length = K) (B : Nat) (hB : 0 < B) :
    ∑ c ∈ Finset.range n, ∑ k ∈ Finset.range K,
        (((sense { o with batch := some (B : Int) }).apply [x]).getD c []).getD k 0 * (starRingEnd ℂ) ((Y.getD c []).getD k 0)
      = ∑ r ∈ Finset.range R, x.getD r 0 *
          (starRingEnd ℂ) ((((sense { o with batch := some (B : Int) }).adj (starRingEnd ℂ) Y).headD []).getD r 0) :=
  sense_dot_test o hv x Y n R K hs hx hY hYr (some B) (fun _ h => by cases h; exact hB)

/-- a 2-coil, 2-pixel, 3-sample request with per-coil weights, batched one coil at a time -/
def exampleOpts : SenseOpts ℂ where
  mps := [[1, 2], [3, 4]]
  mpsNdim := 2
  ishapeLen := none
  coordNdim := some 2
  F := [[1, 0], [0, 1], [1, 1]]
  weights := .perCoil [[1, 4, 9], [0, 1, 4]]
  wNdim := 2
  wShape0 := 2
  batch := some 1
  transp := false
  sqrt := id

/-- non-vacuity: `Valid` is satisfiable (1-D image, three non-Cartesian samples, per-coil weights) -/
example : Valid exampleOpts where
  ndim := by decide
  ishape := Or.inl rfl
  wclass := by simp [exampleOpts, kspNdimDoc]

/-- non-vacuity: the hypotheses of the index-wise theorems and of the dot test are satisfiable -/
example : Shaped exampleOpts 2 2 3 where
  mpsRows := rfl
  mpsRect := List.forall_mem_cons.2 ⟨rfl, List.forall_mem_cons.2 ⟨rfl, fun _ h => nomatch h⟩⟩
  fRows := rfl
  fRect := List.forall_mem_cons.2 ⟨rfl, List.forall_mem_cons.2 ⟨rfl, List.forall_mem_cons.2 ⟨rfl, fun _ h => nomatch h⟩⟩⟩
  wShared := by intro w h; cases h
  wCoilRows := by intro wc h; cases h; rfl
  wCoilRect := by
    intro wc h
    cases h
    exact List.forall_mem_cons.2 ⟨rfl, List.forall_mem_cons.2 ⟨rfl, fun _ h => nomatch h⟩⟩

/-- `SenseRecon`: weights (given, or estimated from the sampled positions for Cartesian data) go into BOTH
    `A = Sense(…, weights)` (as `√w`) and `y ↦ y·√w`; `lamda` is LinearLeastSquares' `λ/2‖x‖²`; no prox, no G. -/
theorem recon_setup_sense (wg cn : Bool) :
    reconSetup .senseRecon wg cn =
      { wsource := if wg then .given else if cn then .estimated else .none,
        aWeighted := wg || cn, yWeighted := wg || cn, yExpHalf := true, l2 := true, prox := [], hasG := false } := by
  revert wg cn
  decide +kernel

/-- `L1WaveletRecon`: same data term; `proxg = UnitaryTransform(L1Reg(W.oshape, lamda), W)`, no G, no `λ/2‖x‖²`. -/
theorem recon_setup_l1wavelet (wg cn : Bool) :
    reconSetup .l1Wavelet wg cn =
      { wsource := if wg then .given else if cn then .estimated else .none,
        aWeighted := wg || cn, yWeighted := wg || cn, yExpHalf := true, l2 := false,
        prox := ["UnitaryTransform", "L1Reg", "W.oshape", "lamda", "W"], hasG := false } := by
  revert wg cn
  decide +kernel

/-- `TotalVariationRecon`: same data term; `G = FiniteDifference(A.ishape)`, `proxg = L1Reg(G.oshape, lamda)`. -/
theorem recon_setup_tv (wg cn : Bool) :
    reconSetup .totalVariation wg cn =
      { wsource := if wg then .given else if cn then .estimated else .none,
        aWeighted := wg || cn, yWeighted := wg || cn, yExpHalf := true, l2 := false,
        prox := ["L1Reg", "G.oshape", "lamda", "FiniteDifference", "A.ishape"], hasG := true } := by
  revert wg cn
  decide +kernel

/-- **recon_objective.** The pointwise identity `Σ_k ‖s_k a_k − s_k y_k‖² = Σ_k w_k ‖a_k − y_k‖²` for real `s` with
    `s² = w`.  Read with `a = A x`, `s = √w`: for `A' = √w·A`, `y' = √w·y` (what `aWeighted ∧ yWeighted ∧ yExpHalf`
    above stand for) the data term `‖A'x − y'‖²` is the weighted residual `Σ_k w_k |(Ax)_k − y_k|²`.  The statement
    mentions neither `sense` nor `reconSetup`. -/
theorem recon_objective {ι : Type} (K : Finset ι) (a y : ι → ℂ) (s w : ι → ℝ) (hs : ∀ k, s k ^ 2 = w k) :
    (∑ k ∈ K, ‖(s k : ℂ) * a k - (s k : ℂ) * y k‖ ^ 2) = ∑ k ∈ K, w k * ‖a k - y k‖ ^ 2 := by
  apply Finset.sum_congr rfl
  intro k _
  rw [← mul_sub, norm_mul, mul_pow, Complex.norm_real, Real.norm_eq_abs, sq_abs, hs]

/-- `w² = w` for `w ∈ {0, 1}`: a 0/1 mask (the estimated weights) is its own square root -/
theorem estimated_weights_sqrt (w : ℝ) (h : w = 0 ∨ w = 1) : w ^ 2 = w := by
  rcases h with h | h <;> simp [h]

/-- **consistent_data_recovers.** For an injective linear `A` and consistent data `y = A x₀`, `x` minimises
    `½‖A x − y‖² + λ·g(x)` with `λ = 0` iff `x = x₀` (`g` is arbitrary and, `λ` being `0`, plays no part).  `A` is any
    injective map: the statement is not about `sense`. -/
theorem consistent_data_recovers {E F : Type} [NormedAddCommGroup E] [NormedSpace ℂ E]
    [NormedAddCommGroup F] [NormedSpace ℂ F] (A : E →ₗ[ℂ] F) (hA : Function.Injective A) (x₀ : E)
    (g : E → ℝ) (lam : ℝ) (hlam : lam = 0) (x : E) :
    (∀ x', 1 / 2 * ‖A x - A x₀‖ ^ 2 + lam * g x ≤ 1 / 2 * ‖A x' - A x₀‖ ^ 2 + lam * g x') ↔ x = x₀ := by
  subst hlam
  simp only [zero_mul, add_zero]
  constructor
  · intro h
    have h0 := h x₀
    rw [sub_self, norm_zero, zero_pow two_ne_zero, mul_zero] at h0
    have h2 := le_antisymm (nonpos_of_mul_nonpos_right h0 one_half_pos) (sq_nonneg _)
    exact hA (sub_eq_zero.mp (norm_eq_zero.mp (pow_eq_zero_iff two_ne_zero |>.mp h2)))
  · rintro rfl x'
    rw [sub_self, norm_zero, zero_pow two_ne_zero, mul_zero]
    exact mul_nonneg one_half_pos.le (sq_nonneg _)

/-- non-vacuity: the identity is injective, so the hypotheses are satisfiable -/
example : Function.Injective (LinearMap.id : ℂ →ₗ[ℂ] ℂ) := fun _ _ h => h

end SigpyVerif.C16
