import SigpyVerif.Model.C09
import SigpyVerif.Lemmas.Py
set_option linter.unusedTactic false
set_option linter.unreachableTactic false
/-
  C09 — Resize/shift/resample/block functions move exactly the documented elements.
  Everything is stated about the definitions in `Gen.*` that the translator regenerates from sigpy
  on every run, or about the hand-written model in `Model/C09.lean`, which the correspondence check
  ties to the code.
  This file: one axis at a time, and membership in the block loop nests.  Proofs about generated
  formulas compare their arguments as integers (`congrArg₂ pyDiv (by ring) (by ring)`), so a commuted /
  re-associated sum in the source still checks and a different value does not.
-/
namespace SigpyVerif.C09
open SigpyVerif

theorem resizeSrc1_eq_some (i o si so k j : Int) :
    resizeSrc1 i o si so k = some j ↔ j - si = k - so ∧ so ≤ k ∧ si ≤ j ∧ k < o ∧ j < i := by
  unfold resizeSrc1 Gen.resizeCopyLen
  simp only [pyMin_eq_min]
  split_ifs with h
  · rw [Option.some.injEq]; omega
  · exact iff_of_false nofun (by omega)

/-- With the default shifts, output index `k` reads input index `j` exactly when both are in range
    and `j - i//2 = k - o//2`: index `i//2` of the input is aligned with index `o//2` of the output,
    and *every* pair that can be copied is copied (pad, crop, and mixed cases alike). -/
theorem resize_default_aligns (i o k j : Int) :
    resizeSrc1 i o (Gen.resizeIshiftDefault i o) (Gen.resizeOshiftDefault i o) k = some j ↔
      (0 ≤ k ∧ k < o ∧ 0 ≤ j ∧ j < i ∧ j - i / 2 = k - o / 2) := by
  rw [resizeSrc1_eq_some]
  unfold Gen.resizeIshiftDefault Gen.resizeOshiftDefault
  simp only [pyMax_eq_max, pyDiv_two]
  omega

/-- With explicit non-negative shifts the copy never reads or writes out of bounds. -/
theorem resize_in_bounds (i o si so k j : Int) (h1 : 0 ≤ si) (h2 : 0 ≤ so)
    (h : resizeSrc1 i o si so k = some j) : 0 ≤ k ∧ k < o ∧ 0 ≤ j ∧ j < i := by
  rw [resizeSrc1_eq_some] at h
  omega

/-- Swapping the roles of input and output (and of the two shifts) gives the transposed index
    relation: this is why `Resize(o,i,ishift,oshift).H = Resize(i,o,oshift,ishift)`. -/
theorem resize_transpose (i o si so k j : Int) :
    resizeSrc1 i o si so k = some j ↔ resizeSrc1 o i so si j = some k := by
  rw [resizeSrc1_eq_some, resizeSrc1_eq_some]
  omega

/-- The default shift of one side is the swapped default of the other. -/
theorem resize_default_swap (i o : Int) :
    Gen.resizeIshiftDefault i o = Gen.resizeOshiftDefault o i := by
  -- robust to commuted / re-associated arithmetic in the source: compared as integers, not syntactically
  unfold Gen.resizeIshiftDefault Gen.resizeOshiftDefault
  first
  | rfl
  | (unfold pyMax; simp only [pyDiv_of_pos _ (show (0 : Int) < 2 by decide)]; split_ifs <;> omega)

example : resizeSrc1 5 8 (Gen.resizeIshiftDefault 5 8) (Gen.resizeOshiftDefault 5 8) 2 = some 0 := by decide +kernel
example : resizeSrc1 7 4 (Gen.resizeIshiftDefault 7 4) (Gen.resizeOshiftDefault 7 4) 0 = some 1 := by decide +kernel

/-- rolling by `s` and then by `-s` is the identity on `0 ≤ k < n` -/
theorem roll_inverse (n s k : Int) (hn : 0 < n) (hk : 0 ≤ k) (hkn : k < n) :
    rollSrc n s (rollSrc n (-s) k) = k := by
  unfold rollSrc
  rw [pyMod_of_pos _ hn, pyMod_of_pos _ hn]
  rw [Int.emod_sub_emod]  -- ((k + s) % n - s) % n
  have : k - -s - s = k := by ring
  rw [this]; exact Int.emod_eq_of_lt hk hkn

/-- a roll is a bijection of `0 ≤ k < n`: sources stay in range -/
theorem roll_in_range (n s k : Int) (hn : 0 < n) : 0 ≤ rollSrc n s k ∧ rollSrc n s k < n := by
  unfold rollSrc; exact pyMod_range _ n hn

/-- flipping twice is the identity on the index level, and a flipped index stays in range -/
theorem flip_index (n k : Int) (h0 : 0 ≤ k) (h1 : k < n) :
    n - 1 - (n - 1 - k) = k ∧ 0 ≤ n - 1 - k ∧ n - 1 - k < n := by omega

theorem downsampleLen_eq (i f s : Int) : Gen.downsampleLen i f s = pyDiv (i - s + f - 1) f := by
  unfold Gen.downsampleLen; exact congrArg₂ pyDiv (by ring) (by ring)

/-- `Downsample`'s advertised length `(i - s + f - 1) // f` counts exactly the indices
    `s, s+f, s+2f, … < i` that the slice `s::f` selects. -/
theorem downsampleLen_spec (i f s k : Int) (hf : 0 < f) :
    (0 ≤ k ∧ s + k * f < i) ↔ (0 ≤ k ∧ k < Gen.downsampleLen i f s) := by
  rw [downsampleLen_eq, pyDiv_of_pos _ hf, lt_ceilDiv_iff hf]
  omega

/-- The length of the numpy slice `s::f` (what `util.downsample` returns) equals the length
    `Downsample`/`Upsample` advertise, `(n - s + f - 1) // f`, whenever that is non-negative. -/
theorem sliceLen_eq_advertised (n s f : Int) (hf : 0 < f) (h : 0 ≤ Gen.downsampleLen n f s) :
    (sliceLen n s f : Int) = Gen.downsampleLen n f s := by
  rw [downsampleLen_eq, pyDiv_of_pos _ hf] at h ⊢
  unfold sliceLen pyRange
  rw [if_neg (by omega)]
  simp only [List.length_map, List.length_range]
  rw [Int.toNat_of_nonneg h]

theorem upsampleLen_eq_downsampleLen (i f s : Int) : Gen.upsampleLen i f s = Gen.downsampleLen i f s := by
  -- the two `__init__` sites may write the same sum in a different order
  unfold Gen.upsampleLen Gen.downsampleLen
  exact congrArg₂ pyDiv (by ring) (by ring)

/-- upsample's membership test recovers exactly the index downsample took: `(s + k f - s)` is a
    non-negative multiple of `f` with quotient `k`; so `downsample ∘ upsample = id` and
    `upsample ∘ downsample` keeps the sampled positions and zeroes the rest. -/
theorem up_down_index (f s k : Int) (hf : 0 < f) (hk : 0 ≤ k) :
    0 ≤ (s + k * f) - s ∧ pyMod ((s + k * f) - s) f = 0 ∧ pyDiv ((s + k * f) - s) f = k := by
  rw [pyMod_of_pos _ hf, pyDiv_of_pos _ hf, add_sub_cancel_left]
  exact ⟨Int.mul_nonneg hk hf.le, Int.mul_emod_left _ _, Int.mul_ediv_cancel _ hf.ne'⟩

/-- conversely a position passing upsample's test is one downsample reads -/
theorem up_test_is_sample (f s d : Int) (hf : 0 < f) (h0 : 0 ≤ d - s) (h1 : pyMod (d - s) f = 0) :
    d = s + pyDiv (d - s) f * f ∧ 0 ≤ pyDiv (d - s) f := by
  rw [pyMod_of_pos _ hf] at h1
  rw [pyDiv_of_pos _ hf]
  have := Int.ediv_mul_cancel (Int.dvd_of_emod_eq_zero h1)
  exact ⟨by omega, Int.ediv_nonneg h0 hf.le⟩

/-- `num_blks = (N - B + S) // S` is the largest block count whose last block still fits
    (for `B ≤ N`), and it is positive. -/
theorem numBlks_maximal (N B S : Int) (hS : 0 < S) (hB : B ≤ N) :
    (∀ n, 0 ≤ n → n < Gen.numBlks N B S → n * S + B ≤ N) ∧
    N < Gen.numBlks N B S * S + B ∧ 0 < Gen.numBlks N B S := by
  have key : Gen.numBlks N B S = pyDiv (N - B + S) S := by
    unfold Gen.numBlks; exact congrArg₂ pyDiv (by ring) (by ring)
  rw [key, pyDiv_of_pos _ hS]
  have hq : ∀ n, n < (N - B + S) / S ↔ n * S + B ≤ N := fun n => by
    rw [show N - B + S = N - B + 1 + S - 1 by omega, lt_ceilDiv_iff hS]; omega
  have := (hq ((N - B + S) / S)).not.mp (lt_irrefl _)
  exact ⟨fun n _ h => (hq n).mp h, by omega, (hq 0).mpr (by omega)⟩

theorem numBlks_sites_agree (i b s : Int) :
    Gen.a2bNumBlks i b s = Gen.numBlks i b s ∧ Gen.b2aNumBlks i b s = Gen.numBlks i b s := by
  -- the three `num_blks` sites (block.py, ArrayToBlocks, BlocksToArray) may commute / re-associate
  -- `i - b + s`; a different value (e.g. `i - b + s - 1`) does not check
  unfold Gen.a2bNumBlks Gen.b2aNumBlks Gen.numBlks
  exact ⟨congrArg₂ pyDiv (by ring) (by ring), congrArg₂ pyDiv (by ring) (by ring)⟩

/-- `_array_to_blocks1`: block `(n, b)` reads array index `n·S + b` — exactly the window starting
    at each stride multiple — for every batch, and nothing else is written. -/
theorem a2b1_mem (osh ish : Int → Int) (batch B S N : Int) (u : Upd Rat) :
    u ∈ Gen.a2b1 osh ish batch B S N ↔
      ∃ b n x, 0 ≤ b ∧ b < batch ∧ 0 ≤ n ∧ n < N ∧ 0 ≤ x ∧ x < B ∧ n * S + x < ish (-1) ∧
        u = ([b, n, x], [b, n * S + x], 1) := by
  unfold Gen.a2b1
  simp only [List.mem_flatMap, mem_pyRange0']
  constructor
  · rintro ⟨b, hb, n, hn, x, hx, h⟩
    split_ifs at h with hg
    · exact ⟨b, n, x, hb.1, hb.2, hn.1, hn.2, hx.1, hx.2, hg, List.mem_singleton.mp h⟩
    · nomatch h
  · rintro ⟨b, n, x, hb0, hb1, hn0, hn1, hx0, hx1, hg, rfl⟩
    refine ⟨b, ⟨hb0, hb1⟩, n, ⟨hn0, hn1⟩, x, ⟨hx0, hx1⟩, ?_⟩
    rw [if_pos hg]
    exact List.mem_singleton_self _

/-- `_blocks_to_array1` is the transpose of `_array_to_blocks1`: array index `n·S + x` receives
    block entry `(n, x)`, for *every* in-range pair (overlaps accumulate because the kernel uses
    `+=`, see `Gen.b2a1_accumulates`), and nothing else is touched (uncovered indices stay 0). -/
theorem b2a1_mem (osh ish : Int → Int) (batch B S N : Int) (hS : 0 < S) (u : Upd Rat) :
    u ∈ Gen.b2a1 osh ish batch B S N ↔
      ∃ b n x, 0 ≤ b ∧ b < batch ∧ 0 ≤ n ∧ n < N ∧ 0 ≤ x ∧ x < B ∧ n * S + x < osh (-1) ∧
        u = ([b, n * S + x], [b, n, x], 1) := by
  unfold Gen.b2a1
  simp only [List.mem_flatMap, mem_pyRange0']
  constructor
  · rintro ⟨b, hb, ix, hix, x, hx, h⟩
    split_ifs at h with hg
    · obtain ⟨x0, x1, n0, n1, e⟩ := (scatter_iff S B N ix x hS).mp ⟨hx, hg.1, hg.2⟩
      refine ⟨b, pyDiv (ix - x) S, x, hb.1, hb.2, n0, n1, x0, x1, e ▸ hix.2, ?_⟩
      rw [List.mem_singleton.mp h, ← e]
    · nomatch h
  · rintro ⟨b, n, x, hb0, hb1, hn0, hn1, hx0, hx1, hg, rfl⟩
    have hi0 : 0 ≤ n * S + x := by have := Int.mul_nonneg hn0 hS.le; omega
    refine ⟨b, ⟨hb0, hb1⟩, n * S + x, ⟨hi0, hg⟩, x, mem_scatter_range hS hn0 hx0 hx1, ?_⟩
    simp only [pyDiv_mul_add_sub _ _ _ hS]
    rw [if_pos ⟨hn0, hn1⟩]
    exact List.mem_singleton_self _

/-- gather and scatter are mutually transposed relations when both see the same array length -/
theorem b2a1_transpose_a2b1 (osh ish osh' ish' : Int → Int) (batch B S N : Int) (hS : 0 < S)
    (hlen : osh (-1) = ish' (-1)) (d s : List Int) (w : Rat) :
    (d, s, w) ∈ Gen.b2a1 osh ish batch B S N ↔ (s, d, w) ∈ Gen.a2b1 osh' ish' batch B S N := by
  rw [b2a1_mem _ _ _ _ _ _ hS, a2b1_mem, hlen]
  constructor
  · rintro ⟨b, n, x, h1, h2, h3, h4, h5, h6, h7, h8⟩
    cases h8
    exact ⟨b, n, x, h1, h2, h3, h4, h5, h6, h7, rfl⟩
  · rintro ⟨b, n, x, h1, h2, h3, h4, h5, h6, h7, h8⟩
    cases h8
    exact ⟨b, n, x, h1, h2, h3, h4, h5, h6, h7, rfl⟩

/-- `_array_to_blocks2`: block `(ny, nx, by, bx)` reads array position `(ny·Sy + by, nx·Sx + bx)`;
    `y` indices pair with `Sy/By/Ny`, `x` indices with `Sx/Bx/Nx`, output index order
    `[b, ny, nx, by, bx]`. -/
theorem a2b2_mem (osh ish : Int → Int) (batch Bx By Sx Sy Nx Ny : Int) (u : Upd Rat) :
    u ∈ Gen.a2b2 osh ish batch Bx By Sx Sy Nx Ny ↔
      ∃ b ny nx y x, 0 ≤ b ∧ b < batch ∧ 0 ≤ ny ∧ ny < Ny ∧ 0 ≤ nx ∧ nx < Nx ∧
        0 ≤ y ∧ y < By ∧ 0 ≤ x ∧ x < Bx ∧ nx * Sx + x < ish (-1) ∧ ny * Sy + y < ish (-2) ∧
        u = ([b, ny, nx, y, x], [b, ny * Sy + y, nx * Sx + x], 1) := by
  unfold Gen.a2b2
  simp only [List.mem_flatMap, mem_pyRange0']
  constructor
  · rintro ⟨b, hb, ny, hny, nx, hnx, y, hy, x, hx, h⟩
    split_ifs at h with hg
    · exact ⟨b, ny, nx, y, x, hb.1, hb.2, hny.1, hny.2, hnx.1, hnx.2, hy.1, hy.2, hx.1, hx.2, hg.1, hg.2,
        List.mem_singleton.mp h⟩
    · nomatch h
  · rintro ⟨b, ny, nx, y, x, hb0, hb1, hny0, hny1, hnx0, hnx1, hy0, hy1, hx0, hx1, hgx, hgy, rfl⟩
    refine ⟨b, ⟨hb0, hb1⟩, ny, ⟨hny0, hny1⟩, nx, ⟨hnx0, hnx1⟩, y, ⟨hy0, hy1⟩, x, ⟨hx0, hx1⟩, ?_⟩
    rw [if_pos ⟨hgx, hgy⟩]
    exact List.mem_singleton_self _

/-- `_blocks_to_array2` is the transpose of `_array_to_blocks2`. -/
theorem b2a2_mem (osh ish : Int → Int) (batch Bx By Sx Sy Nx Ny : Int) (hSx : 0 < Sx) (hSy : 0 < Sy)
    (u : Upd Rat) :
    u ∈ Gen.b2a2 osh ish batch Bx By Sx Sy Nx Ny ↔
      ∃ b ny nx y x, 0 ≤ b ∧ b < batch ∧ 0 ≤ ny ∧ ny < Ny ∧ 0 ≤ nx ∧ nx < Nx ∧
        0 ≤ y ∧ y < By ∧ 0 ≤ x ∧ x < Bx ∧ nx * Sx + x < osh (-1) ∧ ny * Sy + y < osh (-2) ∧
        u = ([b, ny * Sy + y, nx * Sx + x], [b, ny, nx, y, x], 1) := by
  unfold Gen.b2a2
  simp only [List.mem_flatMap, mem_pyRange0']
  constructor
  · rintro ⟨b, hb, iy, hiy, ix, hix, y, hy, h⟩
    split_ifs at h with hgy
    · obtain ⟨x, hx, h⟩ := List.mem_flatMap.mp h
      split_ifs at h with hgx
      · obtain ⟨y0, y1, ny0, ny1, ey⟩ := (scatter_iff Sy By Ny iy y hSy).mp ⟨hy, hgy.1, hgy.2⟩
        obtain ⟨x0, x1, nx0, nx1, ex⟩ := (scatter_iff Sx Bx Nx ix x hSx).mp ⟨hx, hgx.1, hgx.2⟩
        refine ⟨b, pyDiv (iy - y) Sy, pyDiv (ix - x) Sx, y, x, hb.1, hb.2, ny0, ny1, nx0, nx1, y0, y1, x0, x1,
          ex ▸ hix.2, ey ▸ hiy.2, ?_⟩
        rw [List.mem_singleton.mp h, ← ey, ← ex]
      · nomatch h
    · nomatch h
  · rintro ⟨b, ny, nx, y, x, hb0, hb1, hny0, hny1, hnx0, hnx1, hy0, hy1, hx0, hx1, hgx, hgy, hu⟩
    rw [hu]
    have hiy : 0 ≤ ny * Sy + y := by have := Int.mul_nonneg hny0 hSy.le; omega
    have hix : 0 ≤ nx * Sx + x := by have := Int.mul_nonneg hnx0 hSx.le; omega
    refine ⟨b, ⟨hb0, hb1⟩, ny * Sy + y, ⟨hiy, hgy⟩, nx * Sx + x, ⟨hix, hgx⟩, y,
      mem_scatter_range hSy hny0 hy0 hy1, ?_⟩
    simp only [pyDiv_mul_add_sub _ _ _ hSy]
    rw [if_pos ⟨hny0, hny1⟩]
    refine List.mem_flatMap.mpr ⟨x, mem_scatter_range hSx hnx0 hx0 hx1, ?_⟩
    simp only [pyDiv_mul_add_sub _ _ _ hSx]
    rw [if_pos ⟨hnx0, hnx1⟩]
    exact List.mem_singleton_self _

/-- `_array_to_blocks3`: block `(nz,ny,nx,bz,by,bx)` reads `(nz·Sz+bz, ny·Sy+by, nx·Sx+bx)`. -/
theorem a2b3_mem (osh ish : Int → Int) (batch Bx By Bz Sx Sy Sz Nx Ny Nz : Int) (u : Upd Rat) :
    u ∈ Gen.a2b3 osh ish batch Bx By Bz Sx Sy Sz Nx Ny Nz ↔
      ∃ b nz ny nx z y x, 0 ≤ b ∧ b < batch ∧ 0 ≤ nz ∧ nz < Nz ∧ 0 ≤ ny ∧ ny < Ny ∧ 0 ≤ nx ∧ nx < Nx ∧
        0 ≤ z ∧ z < Bz ∧ 0 ≤ y ∧ y < By ∧ 0 ≤ x ∧ x < Bx ∧
        nx * Sx + x < ish (-1) ∧ ny * Sy + y < ish (-2) ∧ nz * Sz + z < ish (-3) ∧
        u = ([b, nz, ny, nx, z, y, x], [b, nz * Sz + z, ny * Sy + y, nx * Sx + x], 1) := by
  unfold Gen.a2b3
  simp only [List.mem_flatMap, mem_pyRange0']
  constructor
  · rintro ⟨b, hb, nz, hnz, ny, hny, nx, hnx, z, hz, y, hy, x, hx, h⟩
    split_ifs at h with hg
    · exact ⟨b, nz, ny, nx, z, y, x, hb.1, hb.2, hnz.1, hnz.2, hny.1, hny.2, hnx.1, hnx.2, hz.1, hz.2,
        hy.1, hy.2, hx.1, hx.2, hg.1, hg.2.1, hg.2.2, List.mem_singleton.mp h⟩
    · nomatch h
  · rintro ⟨b, nz, ny, nx, z, y, x, hb0, hb1, hnz0, hnz1, hny0, hny1, hnx0, hnx1, hz0, hz1, hy0, hy1,
      hx0, hx1, hgx, hgy, hgz, rfl⟩
    refine ⟨b, ⟨hb0, hb1⟩, nz, ⟨hnz0, hnz1⟩, ny, ⟨hny0, hny1⟩, nx, ⟨hnx0, hnx1⟩, z, ⟨hz0, hz1⟩,
      y, ⟨hy0, hy1⟩, x, ⟨hx0, hx1⟩, ?_⟩
    rw [if_pos ⟨hgx, hgy, hgz⟩]
    exact List.mem_singleton_self _

/-- `_blocks_to_array3` is the transpose of `_array_to_blocks3`. -/
theorem b2a3_mem (osh ish : Int → Int) (batch Bx By Bz Sx Sy Sz Nx Ny Nz : Int)
    (hSx : 0 < Sx) (hSy : 0 < Sy) (hSz : 0 < Sz) (u : Upd Rat) :
    u ∈ Gen.b2a3 osh ish batch Bx By Bz Sx Sy Sz Nx Ny Nz ↔
      ∃ b nz ny nx z y x, 0 ≤ b ∧ b < batch ∧ 0 ≤ nz ∧ nz < Nz ∧ 0 ≤ ny ∧ ny < Ny ∧ 0 ≤ nx ∧ nx < Nx ∧
        0 ≤ z ∧ z < Bz ∧ 0 ≤ y ∧ y < By ∧ 0 ≤ x ∧ x < Bx ∧
        nx * Sx + x < osh (-1) ∧ ny * Sy + y < osh (-2) ∧ nz * Sz + z < osh (-3) ∧
        u = ([b, nz * Sz + z, ny * Sy + y, nx * Sx + x], [b, nz, ny, nx, z, y, x], 1) := by
  unfold Gen.b2a3
  simp only [List.mem_flatMap, mem_pyRange0']
  constructor
  · rintro ⟨b, hb, iz, hiz, iy, hiy, ix, hix, z, hz, y, hy, x, hx, h⟩
    split_ifs at h with hg
    · obtain ⟨gx0, gx1, gy0, gy1, gz0, gz1⟩ := hg
      obtain ⟨z0, z1, nz0, nz1, ez⟩ := (scatter_iff Sz Bz Nz iz z hSz).mp ⟨hz, gz0, gz1⟩
      obtain ⟨y0, y1, ny0, ny1, ey⟩ := (scatter_iff Sy By Ny iy y hSy).mp ⟨hy, gy0, gy1⟩
      obtain ⟨x0, x1, nx0, nx1, ex⟩ := (scatter_iff Sx Bx Nx ix x hSx).mp ⟨hx, gx0, gx1⟩
      refine ⟨b, pyDiv (iz - z) Sz, pyDiv (iy - y) Sy, pyDiv (ix - x) Sx, z, y, x, hb.1, hb.2,
        nz0, nz1, ny0, ny1, nx0, nx1, z0, z1, y0, y1, x0, x1, ex ▸ hix.2, ey ▸ hiy.2, ez ▸ hiz.2, ?_⟩
      rw [List.mem_singleton.mp h, ← ez, ← ey, ← ex]
    · nomatch h
  · rintro ⟨b, nz, ny, nx, z, y, x, hb0, hb1, hnz0, hnz1, hny0, hny1, hnx0, hnx1, hz0, hz1, hy0, hy1,
      hx0, hx1, hgx, hgy, hgz, hu⟩
    rw [hu]
    have hiz : 0 ≤ nz * Sz + z := by have := Int.mul_nonneg hnz0 hSz.le; omega
    have hiy : 0 ≤ ny * Sy + y := by have := Int.mul_nonneg hny0 hSy.le; omega
    have hix : 0 ≤ nx * Sx + x := by have := Int.mul_nonneg hnx0 hSx.le; omega
    refine ⟨b, ⟨hb0, hb1⟩, nz * Sz + z, ⟨hiz, hgz⟩, ny * Sy + y, ⟨hiy, hgy⟩, nx * Sx + x, ⟨hix, hgx⟩,
      z, mem_scatter_range hSz hnz0 hz0 hz1, y, mem_scatter_range hSy hny0 hy0 hy1,
      x, mem_scatter_range hSx hnx0 hx0 hx1, ?_⟩
    simp only [pyDiv_mul_add_sub _ _ _ hSz, pyDiv_mul_add_sub _ _ _ hSy, pyDiv_mul_add_sub _ _ _ hSx]
    rw [if_pos ⟨hnx0, hnx1, hny0, hny1, hnz0, hnz1⟩]
    exact List.mem_singleton_self _

end SigpyVerif.C09
