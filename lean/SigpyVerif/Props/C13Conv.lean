import SigpyVerif.Props.C13
import SigpyVerif.Lemmas.C13Conv
import Mathlib.Analysis.InnerProductSpace.Adjoint
/-
  C13 — convergence of the ITERATES of the translator-generated solver steps in finite dimension, and the ergodic
  primal–dual gap of PDHG.

  All theorems are about `gmStep` / `gmRun` / `pdStep` / `pdRun` of Model/C13.lean, i.e. about the `Gen.C13.*`
  formulas regenerated from sigpy/alg.py on every run (same instantiation as Props/C13.lean).
  ISTA (`α ≤ 1/L`, a minimiser exists) and PDHG (constant positive scalar or array steps, `θ = 1`, a saddle point exists)
  converge by Opial's argument; for PDHG it is run in the metric of the steps, which may be only positive SEMI-definite
  (`MetricPSD`; for scalars `τσ‖A‖² ≤ 1`, EQUALITY ALLOWED).  The gap bound is Chambolle–Pock 2011 Thm 1 in the pairing the
  code couples: `x` before the primal step with `u` after the dual step, so the dual average is shifted by one.
-/
namespace SigpyVerif.C13
open RealInnerProductSpace Filter Topology

variable {E F : Type} [NormedAddCommGroup E] [InnerProductSpace ℝ E] [NormedAddCommGroup F] [InnerProductSpace ℝ F]

section ista
variable (sq : ℝ → ℝ) (f g : E → ℝ) (gf : E → E) (proxg : Option (ℝ → E → E)) (α L : ℝ)

/-- the new `x` of a non-accelerated update depends on the old `x` only -/
theorem gmStep_x_of_x (s s' : GMState ℝ E) (h : s.x = s'.x) :
    (gmStep sq gf proxg α false s).x = (gmStep sq gf proxg α false s').x := by
  cases proxg <;> simp [gmStep, h]

/-- `ista_step_nonexpansive` — with `α ≤ 1/L` one non-accelerated `GradientMethod.update()` is a nonexpansive map of
    `x` (the prox is 1-Lipschitz by its variational characterisation, the gradient step by Baillon–Haddad). -/
theorem ista_step_nonexpansive (hα : 0 < α) (hL : α * L ≤ 1) (hf : ConvexGrad f gf) (hd : Descent f gf L)
    (hg : ProxOpt g proxg) (s s' : GMState ℝ E) :
    ‖(gmStep sq gf proxg α false s).x - (gmStep sq gf proxg α false s').x‖ ≤ ‖s.x - s'.x‖ := by
  have hp := gmStep_x_isProx sq g gf proxg α hα hg false s
  have hp' := gmStep_x_isProx sq g gf proxg α hα hg false s'
  simp only [Bool.false_eq_true, if_false] at hp hp'
  exact (isProx_nonexpansive hα hp hp').trans (grad_step_nonexpansive f gf α L hα hL hf hd s'.x s.x)

/-- `ista_fixed_iff_minimiser` — `update()` leaves `x` unchanged iff `x` minimises `f + g`. -/
theorem ista_fixed_iff_minimiser (hα : 0 < α) (hL : α * L ≤ 1) (hf : ConvexGrad f gf) (hd : Descent f gf L)
    (hg : ProxOpt g proxg) (s : GMState ℝ E) :
    (gmStep sq gf proxg α false s).x = s.x ↔ ∀ y, f s.x + g s.x ≤ f y + g y := by
  constructor
  · intro h y
    have := ista_step_ineq sq f g gf proxg α L hα hL hf hd hg s y
    rwa [h, sub_self, mul_zero, add_zero] at this
  · intro h
    have h1 := ista_sufficient_decrease sq f g gf proxg α L hα hL hd hg s
    have h2 := h (gmStep sq gf proxg α false s).x
    have h3 := h1.trans (mul_nonpos_of_nonneg_of_nonpos (by positivity) (by linarith))
    exact sub_eq_zero.mp (norm_eq_zero.mp (pow_eq_zero_iff two_ne_zero |>.mp (le_antisymm h3 (sq_nonneg _))))

set_option linter.unusedVariables false in
/-- `ista_asymptotic_regularity` — the squared update sizes are summable:
    `Σ_{k<N} ‖x_{k+1} - x_k‖² ≤ 2α (F(x_0) - F(w))` for every `w` with `F(w) ≤ F(x_k)` for all `k`
    (in particular a minimiser). Only the descent lemma is used, not convexity of `f`. -/
theorem ista_asymptotic_regularity (hα : 0 < α) (hL : α * L ≤ 1) (hf : ConvexGrad f gf) (hd : Descent f gf L)
    (hg : ProxOpt g proxg) (x0 w : E) (hw : ∀ y, f w + g w ≤ f y + g y) (N : ℕ) :
    ∑ k ∈ Finset.range N, ‖(gmRun sq gf proxg α false x0 (k + 1)).x - (gmRun sq gf proxg α false x0 k).x‖ ^ 2
      ≤ 2 * α * ((f x0 + g x0) - (f w + g w)) := by
  have hs := fejer_sum_le
    (fun k => 2 * α * ((f (gmRun sq gf proxg α false x0 k).x + g (gmRun sq gf proxg α false x0 k).x) - (f w + g w)))
    (fun k => ‖(gmRun sq gf proxg α false x0 (k + 1)).x - (gmRun sq gf proxg α false x0 k).x‖ ^ 2)
    (fun k => by
      have h := ista_sufficient_decrease sq f g gf proxg α L hα hL hd hg (gmRun sq gf proxg α false x0 k)
      have e : gmRun sq gf proxg α false x0 (k + 1) = gmStep sq gf proxg α false (gmRun sq gf proxg α false x0 k) := rfl
      rw [← e] at h
      linarith) N
  have hN : 0 ≤ 2 * α * ((f (gmRun sq gf proxg α false x0 N).x + g (gmRun sq gf proxg α false x0 N).x) - (f w + g w)) :=
    mul_nonneg (by positivity) (sub_nonneg.mpr (hw _))
  have h0 : (gmRun sq gf proxg α false x0 0).x = x0 := rfl
  rw [h0] at hs
  linarith

/-- `ista_iterates_converge` — finite dimension, `α ≤ 1/L`, `f` convex with the descent lemma, `g` given by its prox
    (or absent), a minimiser of `F = f + g` exists: the sequence `x_k` generated by `GradientMethod.update()`
    (no acceleration) CONVERGES to a minimiser of `F`. -/
theorem ista_iterates_converge [FiniteDimensional ℝ E] (hα : 0 < α) (hL : α * L ≤ 1) (hf : ConvexGrad f gf)
    (hd : Descent f gf L) (hg : ProxOpt g proxg) (x0 : E) (hmin : ∃ w, ∀ y, f w + g w ≤ f y + g y) :
    ∃ w, (∀ y, f w + g w ≤ f y + g y) ∧
      Tendsto (fun k => (gmRun sq gf proxg α false x0 k).x) atTop (𝓝 w) := by
  obtain ⟨w0, hw0⟩ := hmin
  set Tm : E → E := fun y => (gmStep sq gf proxg α false ⟨y, y, 1⟩).x with hTm
  have hfixmin : ∀ w, Tm w = w ↔ ∀ y, f w + g w ≤ f y + g y := fun w =>
    ista_fixed_iff_minimiser sq f g gf proxg α L hα hL hf hd hg ⟨w, w, 1⟩
  have hne : ∀ a b, ‖Tm a - Tm b‖ ≤ ‖a - b‖ := fun a b =>
    ista_step_nonexpansive sq f g gf proxg α L hα hL hf hd hg ⟨a, a, 1⟩ ⟨b, b, 1⟩
  have hstep : ∀ k, (gmRun sq gf proxg α false x0 (k + 1)).x = Tm (gmRun sq gf proxg α false x0 k).x := fun k =>
    gmStep_x_of_x sq gf proxg α _ _ rfl
  have hreg : Tendsto (fun k => ‖(gmRun sq gf proxg α false x0 (k + 1)).x - (gmRun sq gf proxg α false x0 k).x‖ ^ 2)
      atTop (𝓝 0) :=
    tendsto_zero_of_sum_le _ (fun k => sq_nonneg _) _
      (ista_asymptotic_regularity sq f g gf proxg α L hα hL hf hd hg x0 w0 hw0)
  obtain ⟨w, hw, hlim⟩ := opial_core (fun k => (gmRun sq gf proxg α false x0 k).x) Tm (fun a => ‖a‖ ^ 2) 1 zero_le_one
    hstep (fun a => sq_nonneg _) (by fun_prop) (by simp) (fun a => by rw [norm_neg])
    (fun a b => by rw [one_mul]; exact pow_le_pow_left₀ (norm_nonneg _) (hne a b) 2)
    (fun w hw k => by
      have := hne (gmRun sq gf proxg α false x0 k).x w
      rw [hw, ← hstep] at this
      exact pow_le_pow_left₀ (norm_nonneg _) this 2)
    hreg ⟨w0, (hfixmin w0).mpr hw0⟩
  exact ⟨w, (hfixmin w).mp hw, hlim⟩
end ista

section pdconv
variable (g : E → ℝ) (fc : F → ℝ) (proxg : StepOp E → E → E) (proxfc : StepOp F → F → F)

/-- the pair the algorithm couples after `k` updates: `(x_k, u_{k+1})` -/
noncomputable def pdPair (A : E → F) (AH : F → E) (s0 : PDState ℝ E F (StepOp E) (StepOp F)) (k : ℕ) : E × F :=
  ((pdRun Real.sqrt A AH proxfc proxg 0 0 1 s0 k).x, (pdRun Real.sqrt A AH proxfc proxg 0 0 1 s0 (k + 1)).u)

/-- two consecutive generated updates are one "primal first" Chambolle–Pock sweep on the coupled pair -/
theorem pdPair_succ (A : E → F) (AH : F → E) (s0 : PDState ℝ E F (StepOp E) (StepOp F)) (k : ℕ) :
    pdPair proxg proxfc A AH s0 (k + 1) = cpMap A AH s0.tau s0.sigma proxg proxfc (pdPair proxg proxfc A AH s0 k) := by
  have hc := pdRunW_const_steps proxg proxfc A AH 1 s0 k
  have hc1 := pdRunW_const_steps proxg proxfc A AH 1 s0 (k + 1)
  have hx := pdStepW_x proxg proxfc A AH 0 0 1 (pdRun Real.sqrt A AH proxfc proxg 0 0 1 s0 k)
  have hu := pdStepW_u proxg proxfc A AH 0 0 1 (pdRun Real.sqrt A AH proxfc proxg 0 0 1 s0 (k + 1))
  rw [hc.1] at hx
  rw [hc1.2, show pdRun Real.sqrt A AH proxfc proxg 0 0 1 s0 (k + 1)
    = pdStep Real.sqrt A AH proxfc proxg 0 0 1 (pdRun Real.sqrt A AH proxfc proxg 0 0 1 s0 k) from rfl,
    pdStepW_x_ext_one, hx] at hu
  exact Prod.ext hx hu

/-- fixed points of the sweep are exactly the saddle points -/
theorem cpMap_fixed_iff_saddle (A : E → F) (AH : F → E) (T : StepOp E) (Sg : StepOp F) (hT : T.Pos) (hS : Sg.Pos)
    (hg : ProxOfW g proxg) (hfc : ProxOfW fc proxfc) (z : E × F) :
    cpMap A AH T Sg proxg proxfc z = z ↔ IsSaddle g fc A AH z.1 z.2 := by
  have hX := hg T (z.1 + T.op (-(AH z.2))) hT
  have hU := hfc Sg (z.2 + Sg.op (A z.1)) hS
  rw [IsSaddle, ← isProxW_fixed_iff hT hX, ← isProxW_fixed_iff hS hU, Prod.ext_iff]
  refine and_congr_right fun (hx : proxg T (z.1 + T.op (-(AH z.2))) = z.1) => ?_
  simp only [cpMap, hx, sub_self, add_zero]

/-- `pdhg_iterates_converge` — finite dimension, constant positive array-valued (or scalar) steps, `θ = 1`,
    `gamma = 0`, the metric of the steps positive SEMI-definite (`MetricPSD`: `2|⟨Ax,u⟩| ≤ ⟨T⁻¹x,x⟩ + ⟨Σ⁻¹u,u⟩`, for
    scalar steps `τσ‖A‖² ≤ 1` with equality allowed), a saddle point exists: the sequence `(x_k, u_k)` generated by
    `PrimalDualHybridGradient.update()` from ANY initial state CONVERGES to a saddle point. -/
theorem pdhg_iterates_converge [FiniteDimensional ℝ E] [FiniteDimensional ℝ F]
    (A : E →ₗ[ℝ] F) (AH : F → E) (hadj : ∀ x u, ⟪A x, u⟫ = ⟪x, AH u⟫)
    (hg : ProxOfW g proxg) (hfc : ProxOfW fc proxfc)
    (s0 : PDState ℝ E F (StepOp E) (StepOp F)) (hτ : s0.tau.Pos) (hσ : s0.sigma.Pos)
    (hM : MetricPSD A s0.tau s0.sigma) (hex : ∃ xs us, IsSaddle g fc A AH xs us) :
    ∃ xs us, IsSaddle g fc A AH xs us ∧
      Tendsto (fun k => (pdRun Real.sqrt A AH proxfc proxg 0 0 1 s0 k).x) atTop (𝓝 xs) ∧
      Tendsto (fun k => (pdRun Real.sqrt A AH proxfc proxg 0 0 1 s0 k).u) atTop (𝓝 us) := by
  obtain ⟨xs0, us0, hs0⟩ := hex
  obtain ⟨AHl, hAHl⟩ : ∃ AHl : F →ₗ[ℝ] E, AH = ⇑AHl := by
    refine ⟨LinearMap.adjoint A, funext fun u => ?_⟩
    apply ext_inner_left ℝ
    intro x
    rw [LinearMap.adjoint_inner_right, hadj]
  subst hAHl
  obtain ⟨K, hK, hTq⟩ := cpMap_lipschitz_metric A AHl hadj s0.tau s0.sigma hτ hσ hM g fc proxg proxfc
    (fun v => hg _ v hτ) (fun v => hfc _ v hσ)
  have hrate := fun xs us hs => pdhg_residual_rate_partial g fc proxg proxfc A AHl hadj hg hfc s0 hτ hσ hM xs us hs
  have hfixs := cpMap_fixed_iff_saddle g fc proxg proxfc A AHl s0.tau s0.sigma hτ hσ hg hfc
  have hreg : Tendsto (fun k => cpQ A s0.tau s0.sigma
      (pdPair proxg proxfc A AHl s0 (k + 1) - pdPair proxg proxfc A AHl s0 k)) atTop (𝓝 0) := by
    refine tendsto_zero_of_sum_le (fejerMove proxg proxfc A AHl s0) (fun k => hM.coupled_nonneg _ _)
      (fejerDist proxg proxfc A AHl s0 xs0 us0 0) (fun N => ?_)
    have h1 := (hrate xs0 us0 hs0 N).2.2.1
    have h2 : 0 ≤ fejerDist proxg proxfc A AHl s0 xs0 us0 N := hM.coupled_nonneg _ _
    linarith
  obtain ⟨w, hw, hlim⟩ := opial_core (pdPair proxg proxfc A AHl s0) (cpMap A AHl s0.tau s0.sigma proxg proxfc)
    (cpQ A s0.tau s0.sigma) K hK (pdPair_succ proxg proxfc A AHl s0)
    (fun a => hM.coupled_nonneg a.1 a.2) (cpQ_continuous A s0.tau s0.sigma)
    (cpQ_zero A _ _) (cpQ_neg A _ _) hTq
    (fun w hw k => (hrate w.1 w.2 ((hfixs w).mp hw) 0).2.1 k)
    hreg ⟨(xs0, us0), (hfixs (xs0, us0)).mpr hs0⟩
  refine ⟨w.1, w.2, (hfixs w).mp hw, (continuous_fst.tendsto w).comp hlim, ?_⟩
  have := (continuous_snd.tendsto w).comp hlim
  exact (tendsto_add_atTop_iff_nat 1).mp this

/-- the same when the steps are the operators `StepOp.scalar τ`, `StepOp.scalar σ` (still the `StepOp` instance of
    `pdStep`, not the `P = D = ℝ` one), with the step condition in its familiar form `τσ‖A‖² ≤ 1` (equality allowed) -/
theorem pdhg_iterates_converge_scalar [FiniteDimensional ℝ E] [FiniteDimensional ℝ F]
    (A : E →ₗ[ℝ] F) (AH : F → E) (hadj : ∀ x u, ⟪A x, u⟫ = ⟪x, AH u⟫)
    (hg : ProxOfW g proxg) (hfc : ProxOfW fc proxfc) (τ σ Lop : ℝ) (hτ : 0 < τ) (hσ : 0 < σ)
    (hstep : τ * σ * Lop ^ 2 ≤ 1) (hA : ∀ x, ‖A x‖ ≤ Lop * ‖x‖)
    (s0 : PDState ℝ E F (StepOp E) (StepOp F)) (h1 : s0.tau = StepOp.scalar τ) (h2 : s0.sigma = StepOp.scalar σ)
    (hex : ∃ xs us, IsSaddle g fc A AH xs us) :
    ∃ xs us, IsSaddle g fc A AH xs us ∧
      Tendsto (fun k => (pdRun Real.sqrt A AH proxfc proxg 0 0 1 s0 k).x) atTop (𝓝 xs) ∧
      Tendsto (fun k => (pdRun Real.sqrt A AH proxfc proxg 0 0 1 s0 k).u) atTop (𝓝 us) :=
  pdhg_iterates_converge g fc proxg proxfc A AH hadj hg hfc s0 (h1 ▸ StepOp.scalar_pos hτ) (h2 ▸ StepOp.scalar_pos hσ)
    (by rw [h1, h2]; exact metricPSD_scalar A τ σ Lop hτ hσ hstep hA) hex

end pdconv

section gap
variable (g : E → ℝ) (fc : F → ℝ) (proxg : StepOp E → E → E) (proxfc : StepOp F → F → F)

/-- the Lagrangian `L(x, u) = g(x) + ⟨A x, u⟩ - f*(u)` of the saddle problem PDHG solves -/
def lagr (A : E → F) (x : E) (u : F) : ℝ := g x + ⟪A x, u⟫ - fc u

/-- Jensen for the gap `L(·, v) - L(w, ·)`, which is convex -/
theorem lagr_gap_avg_le (A : E →ₗ[ℝ] F) (hgc : ConvexOn ℝ Set.univ g) (hfcc : ConvexOn ℝ Set.univ fc)
    (x : ℕ → E) (u : ℕ → F) (w : E) (v : F) (N : ℕ) (hN : 0 < N) :
    lagr g fc A (∑ k ∈ Finset.range N, (1 / (N : ℝ)) • x k) v - lagr g fc A w (∑ k ∈ Finset.range N, (1 / (N : ℝ)) • u k)
      ≤ ∑ k ∈ Finset.range N, (1 / (N : ℝ)) * (lagr g fc A (x k) v - lagr g fc A w (u k)) := by
  have hN' : (0 : ℝ) < N := Nat.cast_pos.mpr hN
  have hw1 : ∑ _k ∈ Finset.range N, (1 / (N : ℝ)) = 1 := by
    rw [Finset.sum_const, Finset.card_range, nsmul_eq_mul, mul_one_div_cancel hN'.ne']
  have hJg := hgc.map_sum_le (t := Finset.range N) (w := fun _ => 1 / (N : ℝ)) (p := x)
    (fun _ _ => by positivity) hw1 (fun _ _ => Set.mem_univ _)
  have hJf := hfcc.map_sum_le (t := Finset.range N) (w := fun _ => 1 / (N : ℝ)) (p := u)
    (fun _ _ => by positivity) hw1 (fun _ _ => Set.mem_univ _)
  simp only [lagr, map_sum, map_smul, sum_inner, inner_sum, real_inner_smul_left, real_inner_smul_right, mul_sub,
    mul_add, Finset.sum_sub_distrib, Finset.sum_add_distrib, ← Finset.sum_mul, hw1, one_mul]
  simp only [smul_eq_mul] at hJg hJf
  linarith

/-- `pdhg_gap_step_diag` — two consecutive updates `s → s₁ → s₂`, constant positive (array) steps, `θ = 1`, ANY
    comparison pair `(w, v)` (no saddle point, no step condition):
    `D(x₁-w, u₂-v) + D(x₁-x, u₂-u₁) + 2 (L(x₁, v) - L(w, u₂)) ≤ D(x-w, u₁-v)`.
    (`pdhg_fejer_diag` is the case where `(w, v)` is a saddle point and the gap, then `≥ 0`, is dropped.) -/
theorem pdhg_gap_step_diag (A : E →ₗ[ℝ] F) (AH : F → E) (hadj : ∀ x u, ⟪A x, u⟫ = ⟪x, AH u⟫)
    (hg : ProxOfW g proxg) (hfc : ProxOfW fc proxfc)
    (s : PDState ℝ E F (StepOp E) (StepOp F)) (hτ : s.tau.Pos) (hσ : s.sigma.Pos) (w : E) (v : F) :
    coupledW A s.tau s.sigma
        ((pdStep Real.sqrt A AH proxfc proxg 0 0 1 s).x - w)
        ((pdStep Real.sqrt A AH proxfc proxg 0 0 1 (pdStep Real.sqrt A AH proxfc proxg 0 0 1 s)).u - v)
      + coupledW A s.tau s.sigma
        ((pdStep Real.sqrt A AH proxfc proxg 0 0 1 s).x - s.x)
        ((pdStep Real.sqrt A AH proxfc proxg 0 0 1 (pdStep Real.sqrt A AH proxfc proxg 0 0 1 s)).u
          - (pdStep Real.sqrt A AH proxfc proxg 0 0 1 s).u)
      + 2 * (lagr g fc A (pdStep Real.sqrt A AH proxfc proxg 0 0 1 s).x v
          - lagr g fc A w (pdStep Real.sqrt A AH proxfc proxg 0 0 1 (pdStep Real.sqrt A AH proxfc proxg 0 0 1 s)).u)
      ≤ coupledW A s.tau s.sigma (s.x - w) ((pdStep Real.sqrt A AH proxfc proxg 0 0 1 s).u - v) := by
  have hc := pdStepW_const_steps proxg proxfc A AH 1 s
  have hX := pdStepW_x_isProxW g proxg proxfc hg A AH 0 0 1 s hτ
  have hU := pdStepW_u_isProxW fc proxg proxfc hfc A AH 0 0 1 _ ((congrArg StepOp.Pos hc.2).mpr hσ)
  rw [hc.2, pdStepW_x_ext_one] at hU
  exact gap_stepW A AH hadj hτ hσ hX hU w v

/-- primal–dual gap of update `k+1` against `(w, v)`: `L(x_{k+1}, v) - L(w, u_{k+2})` -/
noncomputable def gapAt (A : E → F) (AH : F → E) (s0 : PDState ℝ E F (StepOp E) (StepOp F)) (w : E) (v : F) (k : ℕ) : ℝ :=
  lagr g fc A (pdRun Real.sqrt A AH proxfc proxg 0 0 1 s0 (k + 1)).x v
    - lagr g fc A w (pdRun Real.sqrt A AH proxfc proxg 0 0 1 s0 (k + 2)).u

/-- the one-step gap inequality along the run: `D_{k+1}(w,v) + R_k + 2 gap_k(w,v) ≤ D_k(w,v)` -/
theorem pdhg_gap_run_diag (A : E →ₗ[ℝ] F) (AH : F → E) (hadj : ∀ x u, ⟪A x, u⟫ = ⟪x, AH u⟫)
    (hg : ProxOfW g proxg) (hfc : ProxOfW fc proxfc)
    (s0 : PDState ℝ E F (StepOp E) (StepOp F)) (hτ : s0.tau.Pos) (hσ : s0.sigma.Pos) (w : E) (v : F) (k : ℕ) :
    fejerDist proxg proxfc A AH s0 w v (k + 1)
      + (fejerMove proxg proxfc A AH s0 k + 2 * gapAt g fc proxg proxfc A AH s0 w v k)
      ≤ fejerDist proxg proxfc A AH s0 w v k := by
  have hc := pdRunW_const_steps proxg proxfc A AH 1 s0 k
  have h := pdhg_gap_step_diag g fc proxg proxfc A AH hadj hg hfc (pdRun Real.sqrt A AH proxfc proxg 0 0 1 s0 k)
    (by rw [hc.1]; exact hτ) (by rw [hc.2]; exact hσ) w v
  rw [hc.1, hc.2] at h
  rw [← add_assoc]
  exact h

/-- ergodic averages of the generated iterates: `X_N = (x_1 + … + x_N)/N`, `U_N = (u_2 + … + u_{N+1})/N` -/
noncomputable def avgX (A : E → F) (AH : F → E) (s0 : PDState ℝ E F (StepOp E) (StepOp F)) (N : ℕ) : E :=
  ∑ k ∈ Finset.range N, (1 / (N : ℝ)) • (pdRun Real.sqrt A AH proxfc proxg 0 0 1 s0 (k + 1)).x
noncomputable def avgU (A : E → F) (AH : F → E) (s0 : PDState ℝ E F (StepOp E) (StepOp F)) (N : ℕ) : F :=
  ∑ k ∈ Finset.range N, (1 / (N : ℝ)) • (pdRun Real.sqrt A AH proxfc proxg 0 0 1 s0 (k + 2)).u

/-- `pdhg_ergodic_gap` — constant positive array-valued (or scalar) steps, `θ = 1`, metric positive semidefinite
    (`τσ‖A‖² ≤ 1` for scalars), `g` and `f*` convex: for EVERY `(w, v)` and every `N ≥ 1` the averages of the generated
    iterates satisfy `L(X_N, v) - L(w, U_N) ≤ D_0(w, v) / (2N)` where
    `D_0(w,v) = ⟨T⁻¹(x_0-w), x_0-w⟩ - 2⟨A(x_0-w), u_1-v⟩ + ⟨Σ⁻¹(u_1-v), u_1-v⟩`
    (= `‖x_0-w‖²/τ + ‖u_1-v‖²/σ` minus the cross term for scalar steps): the O(1/N) ergodic rate of the
    primal–dual gap. -/
theorem pdhg_ergodic_gap (A : E →ₗ[ℝ] F) (AH : F → E) (hadj : ∀ x u, ⟪A x, u⟫ = ⟪x, AH u⟫)
    (hg : ProxOfW g proxg) (hfc : ProxOfW fc proxfc) (hgc : ConvexOn ℝ Set.univ g) (hfcc : ConvexOn ℝ Set.univ fc)
    (s0 : PDState ℝ E F (StepOp E) (StepOp F)) (hτ : s0.tau.Pos) (hσ : s0.sigma.Pos)
    (hM : MetricPSD A s0.tau s0.sigma) (w : E) (v : F) (N : ℕ) (hN : 0 < N) :
    lagr g fc A (avgX proxg proxfc A AH s0 N) v - lagr g fc A w (avgU proxg proxfc A AH s0 N)
      ≤ fejerDist proxg proxfc A AH s0 w v 0 / (2 * N) := by
  have hsum := fejer_sum_le (fejerDist proxg proxfc A AH s0 w v)
    (fun k => fejerMove proxg proxfc A AH s0 k + 2 * gapAt g fc proxg proxfc A AH s0 w v k)
    (pdhg_gap_run_diag g fc proxg proxfc A AH hadj hg hfc s0 hτ hσ w v) N
  rw [Finset.sum_add_distrib, ← Finset.mul_sum] at hsum
  have hD : 0 ≤ fejerDist proxg proxfc A AH s0 w v N := hM.coupled_nonneg _ _
  have hR : 0 ≤ ∑ k ∈ Finset.range N, fejerMove proxg proxfc A AH s0 k :=
    Finset.sum_nonneg (fun k _ => hM.coupled_nonneg _ _)
  have hgap : ∑ k ∈ Finset.range N, gapAt g fc proxg proxfc A AH s0 w v k
      ≤ fejerDist proxg proxfc A AH s0 w v 0 / 2 := by linarith
  refine (lagr_gap_avg_le g fc A hgc hfcc _ _ w v N hN).trans ?_
  rw [← Finset.mul_sum]
  calc 1 / (N : ℝ) * ∑ k ∈ Finset.range N, gapAt g fc proxg proxfc A AH s0 w v k
      ≤ 1 / (N : ℝ) * (fejerDist proxg proxfc A AH s0 w v 0 / 2) := mul_le_mul_of_nonneg_left hgap (by positivity)
    _ = fejerDist proxg proxfc A AH s0 w v 0 / (2 * N) := by ring
end gap

section examples

/-- all hypotheses of `ista_iterates_converge` hold for `f(x) = x²/2`, `g = 0` (`proxg = None`), `α = L = 1` on `ℝ`,
    with minimiser `0` -/
example : ∃ (f g : ℝ → ℝ) (gf : ℝ → ℝ) (α L : ℝ), 0 < α ∧ α * L ≤ 1 ∧ ConvexGrad f gf ∧ Descent f gf L ∧
    ProxOpt g (none : Option (ℝ → ℝ → ℝ)) ∧ ∃ w, ∀ y, f w + g w ≤ f y + g y := by
  refine ⟨fun x => x ^ 2 / 2, fun _ => 0, id, 1, 1, one_pos, by norm_num, convexGrad_sq_half, descent_sq_half,
    fun _ => rfl, 0, fun y => ?_⟩
  simp; positivity

/-- all hypotheses of `pdhg_iterates_converge` / `pdhg_ergodic_gap` hold on `ℝ` with `A = id`, `g = f* = 0` (identity
    prox maps), `τ = σ = 1` — the BOUNDARY case `τσ‖A‖² = 1` — with saddle point `(0, 0)` -/
example : ∃ (A : ℝ →ₗ[ℝ] ℝ) (AH : ℝ → ℝ) (g fc : ℝ → ℝ) (proxg proxfc : StepOp ℝ → ℝ → ℝ) (T Sg : StepOp ℝ),
    (∀ x u, ⟪A x, u⟫ = ⟪x, AH u⟫) ∧ ProxOfW g proxg ∧ ProxOfW fc proxfc ∧ ConvexOn ℝ Set.univ g ∧
    ConvexOn ℝ Set.univ fc ∧ T.Pos ∧ Sg.Pos ∧ MetricPSD A T Sg ∧ (∃ xs us, IsSaddle g fc A AH xs us) := by
  refine ⟨LinearMap.id, id, fun _ => 0, fun _ => 0, fun _ v => v, fun _ v => v, StepOp.scalar 1, StepOp.scalar 1,
    fun x u => rfl, ?_, ?_, convexOn_const 0 convex_univ, convexOn_const 0 convex_univ,
    StepOp.scalar_pos one_pos, StepOp.scalar_pos one_pos, ?_, 0, 0, ?_⟩
  · intro T v _ w; simp
  · intro T v _ w; simp
  · exact metricPSD_scalar _ 1 1 1 one_pos one_pos (by norm_num) (fun x => by simp)
  · constructor <;> intro w <;> simp
end examples

end SigpyVerif.C13
