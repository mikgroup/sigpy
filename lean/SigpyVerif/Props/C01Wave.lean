import SigpyVerif.Props.C01Ext
import SigpyVerif.Props.C10
/-
  C01 — Wavelet / InverseWavelet leaves in one dimension, imported from C10 (partial: 1-D, real scalars).

  Entries: column `i` of the Wavelet leaf is `C10.fwt1 h g level (e_i)` (the C10 model of `sigpy.fwt`: pad to
  even, `wavedec`, pack), column `k` of the adjoint side is `C10.iwt1 h g level n (e_k)` (unpack with the
  slices of the padded length, `waverec`, crop) — the class the *generated* table `adjOpaque` returns for
  Wavelet, with the same axes / wavelet / level.  C10's `iwt1_is_adjoint` (any even-length filter pair, any
  level, odd lengths included) gives `⟨fwt e_i, e_k⟩ = ⟨e_i, iwt e_k⟩`, i.e. the two matrices are transposes.
  The filters are real, so over scalars with trivial conjugation (ℝ, ℚ) the leaf satisfies `LeafProved`.
  Not covered: N-d / multi-axis transforms (C10's N-d results, Props/C10Ml.lean, are not used here) and complex scalars
  (needs `star (fwt1 h g x) = fwt1 h g (star x)` for real filters, not proved).
-/
set_option linter.unusedSectionVars false
namespace SigpyVerif.C01
open SigpyVerif

section
variable {α : Type} [CommRing α] [StarRing α] [TrivialStar α]

/-- `e_k` of length `p` as a list -/
def unitL : Nat → Nat → List α
  | 0, _ => []
  | p + 1, 0 => 1 :: List.replicate p 0
  | p + 1, k + 1 => 0 :: unitL p k

theorem unitL_length (p k : Nat) : (unitL p k : List α).length = p := by
  induction p generalizing k with
  | zero => rfl
  | succ p ih => cases k <;> simp [unitL, ih]

theorem dot_zeros (a : List α) (p : Nat) : C10.dot a (List.replicate p 0) = 0 := by
  induction a generalizing p with
  | nil => rfl
  | cons x a ih =>
    cases p with
    | zero => rfl
    | succ p => rw [List.replicate_succ, C10.dot_cons_cons, ih, mul_zero, add_zero]

theorem zeros_dot (a : List α) (p : Nat) : C10.dot (List.replicate p 0) a = 0 := by
  rw [C10.dot_comm, dot_zeros]

/-- pairing with a unit vector reads an entry -/
theorem dot_unit_right (a : List α) (p k : Nat) (hk : k < p) : C10.dot a (unitL p k) = a.getD k 0 := by
  induction p generalizing a k with
  | zero => omega
  | succ p ih =>
    cases a with
    | nil => rw [C10.dot_nil_left]; rfl
    | cons x a =>
      cases k with
      | zero => rw [unitL, C10.dot_cons_cons, dot_zeros, mul_one, add_zero]; rfl
      | succ k => rw [unitL, C10.dot_cons_cons, ih a k (by omega), mul_zero, zero_add]; rfl

theorem dot_unit_left (b : List α) (n i : Nat) (hi : i < n) : C10.dot (unitL n i) b = b.getD i 0 := by
  rw [C10.dot_comm, dot_unit_right b n i hi]

/-- packed coefficient length of a length-`n` signal -/
def wavePacked (L : Nat) (level : Option Nat) (n : Nat) : Nat :=
  C10.packedLen (C10.zlen n) L (level.getD (C10.maxLevel (C10.zlen n) L))

/-- the matrix entries of `fwt` and `iwt` agree transposed: `fwt(e_i)[k] = iwt(e_k)[i]` -/
theorem wave_entry_transpose (h g : List α) (hev : h.length % 2 = 0) (hpos : 0 < h.length) (level : Option Nat)
    (n i k : Nat) (hi : i < n) (hk : k < wavePacked h.length level n) :
    (C10.fwt1 h g level (unitL n i)).getD k 0
      = (C10.iwt1 h g level n (unitL (wavePacked h.length level n) k)).getD i 0 := by
  have key := C10.iwt1_is_adjoint h g hev hpos level (unitL n i) (unitL (wavePacked h.length level n) k)
    (by rw [unitL_length, unitL_length]; rfl)
  rw [unitL_length] at key
  rw [dot_unit_right _ _ _ hk, dot_unit_left _ _ _ hi] at key
  exact key

/-- entries of the 1-D Wavelet leaf (`inv = false`: `fwt`, `p × n`) and of InverseWavelet (`n × p`) -/
def waveE (h g : List α) (level : Option Nat) (n : Nat) : List (Ent α) :=
  (List.range (wavePacked h.length level n)).flatMap fun k => (List.range n).flatMap fun i =>
    [((k, i, (C10.fwt1 h g level (unitL n i)).getD k 0) : Ent α)]

def iwaveE (h g : List α) (level : Option Nat) (n : Nat) : List (Ent α) :=
  (List.range n).flatMap fun i => (List.range (wavePacked h.length level n)).flatMap fun k =>
    [((i, k, (C10.iwt1 h g level n (unitL (wavePacked h.length level n) k)).getD i 0) : Ent α)]

theorem iwaveE_perm_adj (h g : List α) (hev : h.length % 2 = 0) (hpos : 0 < h.length) (level : Option Nat) (n : Nat) :
    (iwaveE h g level n).Perm (adjE star (waveE h g level n)) := by
  have e : iwaveE h g level n = (List.range n).flatMap fun i => (List.range (wavePacked h.length level n)).flatMap fun k =>
      [((i, k, (C10.fwt1 h g level (unitL n i)).getD k 0) : Ent α)] := by
    unfold iwaveE
    apply List.flatMap_congr; intro i hi
    apply List.flatMap_congr; intro k hk
    rw [wave_entry_transpose h g hev hpos level n i k (List.mem_range.mp hi) (List.mem_range.mp hk)]
  rw [e]
  unfold waveE adjE
  simp only [List.map_flatMap, List.map_cons, List.map_nil, star_trivial]
  exact flatMap_swap_perm _ _ _

/-- what the 1-D instances denote, for a filter bank `bank : wave_name ↦ (dec_lo, dec_hi)` -/
def waveSem (bank : String → Option (List α × List α)) : Opaque α → Option (Sem α)
  | .wavelet ish axes w level =>
      match bank w with
      | some (h, g) =>
        if ish.length = 1 ∧ 0 ≤ getI ish 0 ∧ (axes = none ∨ axes = some [0] ∨ axes = some [-1]) ∧
            h.length % 2 = 0 ∧ 0 < h.length ∧ 0 ≤ level.getD 0 then
          some ⟨[(wavePacked h.length (level.map Int.toNat) (getI ish 0).toNat : Nat)], [((getI ish 0).toNat : Nat)],
            waveE h g (level.map Int.toNat) (getI ish 0).toNat⟩
        else none
      | none => none
  | .iwavelet osh axes w level =>
      match bank w with
      | some (h, g) =>
        if osh.length = 1 ∧ 0 ≤ getI osh 0 ∧ (axes = none ∨ axes = some [0] ∨ axes = some [-1]) ∧
            h.length % 2 = 0 ∧ 0 < h.length ∧ 0 ≤ level.getD 0 then
          some ⟨[((getI osh 0).toNat : Nat)], [(wavePacked h.length (level.map Int.toNat) (getI osh 0).toNat : Nat)],
            iwaveE h g (level.map Int.toNat) (getI osh 0).toNat⟩
        else none
      | none => none
  | _ => none

def waveLeaf (bank : String → Option (List α × List α)) (c : Opaque α) : Option (Leaf α) :=
  match waveSem bank c, waveSem bank (Gen.LinopAdjoint.adjOpaque c) with
  | some s, some s' => some (.ext 10 s.osh s.ish s.E s'.E)  -- tag: the property the pair comes from (C10)
  | _, _ => none

theorem shapeProd_natCast (a : Nat) : (shapeProd [(a : Int)]).toNat = a := by
  rw [shapeProd_single]; simp

/-- **Wavelet / InverseWavelet, 1-D, real scalars (partial):** the leaf built from the C10 model of the class
    and of the class its generated `_adjoint_linop` returns satisfies `LeafProved`, for every length (odd
    included), every level (`None` = maximal) and every even-length filter pair. -/
theorem wave_leaf_proved_partial (bank : String → Option (List α × List α)) (c : Opaque α) (l : Leaf α)
    (h : waveLeaf bank c = some l) : LeafProved l := by
  unfold waveLeaf at h
  cases c with
  | wavelet ish axes w level =>
    simp only [waveSem, Gen.LinopAdjoint.adjOpaque] at h
    cases hb : bank w with
    | none => simp [hb] at h
    | some hg =>
      obtain ⟨hh, gg⟩ := hg
      simp only [hb] at h
      split_ifs at h with hc
      simp only [Option.some.injEq] at h
      subst h
      simp only [LeafProved, shapeProd_natCast]
      exact isAdj_clip_of_perm _ _ _ _ (iwaveE_perm_adj hh gg hc.2.2.2.1 hc.2.2.2.2.1 _ _)
  | iwavelet osh axes w level =>
    simp only [waveSem, Gen.LinopAdjoint.adjOpaque] at h
    cases hb : bank w with
    | none => simp [hb] at h
    | some hg =>
      obtain ⟨hh, gg⟩ := hg
      simp only [hb] at h
      split_ifs at h with hc
      simp only [Option.some.injEq] at h
      subst h
      simp only [LeafProved, shapeProd_natCast]
      exact isAdj_clip_of_perm _ _ _ _ (perm_adjE_symm (iwaveE_perm_adj hh gg hc.2.2.2.1 hc.2.2.2.2.1 _ _))
  | _ => exact nomatch h  -- `waveSem` is `none` on every other class

end

/-- non-vacuity: the (unnormalised) Haar pair on a length-5 signal, maximal level: a `7 × 5` leaf whose adjoint
    side is the `5 × 7` matrix of `iwt` -/
example : ((waveLeaf (α := ℤ) (fun _ => some ([1, 1], [-1, 1])) (.wavelet [5] (some [-1]) "haar" none)).map fun l =>
    match l with
    | .ext _ o i E E' => (o, i, E.length, E'.length)
    | _ => ([], [], 0, 0)) = some ([7], [5], 35, 35) := by decide +kernel

end SigpyVerif.C01
