/-
  C20 — trapezoid gradient designers meet area, amplitude and slew limits.

  The theorems on the designers are about `SigpyVerif.C20.trapGrad` / `minTrapGrad` (Model/C20.lean) instantiated
  over ℝ with `opsR` (`Nat.ceil`, `Nat.floor`, `Real.sqrt`); the formulas inside are the translator-generated
  `Gen.TrapGrad.*` (regenerated from sigpy/mri/rf/trajgrad.py on every run), so a changed ceiling, test,
  flat length or rescale changes the definitions these proofs are checked against.
  They hold for ALL positive real `area gmax dgdt dt` (no range restriction, any consistent units).
  `Props/C20Rat.lean` transfers them to the `Rat` instantiation with exact operations and checked hints
  (`trapGradRat`, `minTrapGradRat`); `Props/C20Spokes.lean` treats the translator-generated `spokes_grad` assembly.
  Not carried by a theorem: IEEE rounding of the float evaluation (`ceil_perturb_iff` in C20Rat says exactly when
  it can change a ceiling; the correspondence then follows the float code through the recorded double and
  compares exactly), and the numpy primitives (`linspace`, `concatenate`, `ones`, `sum`).
-/
import SigpyVerif.Lemmas.C20
namespace SigpyVerif.C20
open SigpyVerif.Gen.TrapGrad

theorem wave_sum (d : Design ℝ) (hr : 1 ≤ d.ramppts) :
    d.wave.sum = ((d.ramppts : ℝ) + 1 + d.nflat) * d.scale := by
  unfold Design.wave
  rw [List.sum_map_mul_right]
  simp only [List.map_id', sum_pulse _ _ hr]

theorem flat_sum (d : Design ℝ) : d.flat.sum = (d.nflat : ℝ) * d.scale := by
  rw [Design.flat, List.sum_map_mul_right, List.map_id', List.sum_replicate, nsmul_eq_mul, Nat.cast_one, mul_one]

theorem wave_ends (d : Design ℝ) : d.wave.head? = some 0 ∧ d.wave.getLast? = some 0 := by
  obtain ⟨h1, h2⟩ := pulse_ends d.ramppts d.nflat
  unfold Design.wave
  rw [List.head?_map, List.getLast?_map, h1, h2]
  simp

theorem wave_range (d : Design ℝ) (hr : 1 ≤ d.ramppts) (hc : 0 ≤ d.scale) :
    ∀ x ∈ d.wave, 0 ≤ x ∧ x ≤ d.scale := by
  intro x hx
  simp only [Design.wave, List.mem_map] at hx
  obtain ⟨y, hy, rfl⟩ := hx
  obtain ⟨h0, h1⟩ := pulse_range hr hy
  exact ⟨mul_nonneg h0 hc, mul_le_of_le_one_left hc h1⟩

theorem wave_chain (d : Design ℝ) (hr : 1 ≤ d.ramppts) (hc : 0 ≤ d.scale) :
    List.IsChain (fun x y : ℝ => |y - x| ≤ d.scale / d.ramppts) d.wave := by
  unfold Design.wave
  rw [List.isChain_map]
  refine (pulse_chain d.ramppts d.nflat hr).imp ?_
  intro x y h
  rw [← sub_mul, abs_mul, abs_of_nonneg hc, div_eq_mul_one_div, mul_comm]
  exact mul_le_mul_of_nonneg_left h hc

/-- The four conditions of the property for a design whose plateau `scale` respects `gmax` and whose ramp
step `scale / ramppts` respects `dgdt · dt`. -/
theorem design_meets_limits (d : Design ℝ) {gmax dgdt dt : ℝ} (hdt : 0 < dt)
    (hr : 1 ≤ d.ramppts) (hc : 0 ≤ d.scale) (hpk : d.scale ≤ gmax)
    (hsl : d.scale / d.ramppts / dt ≤ dgdt) :
    (d.wave.head? = some 0 ∧ d.wave.getLast? = some 0) ∧
    (∀ x ∈ d.wave, |x| ≤ gmax) ∧
    List.IsChain (fun x y : ℝ => |y - x| / dt ≤ dgdt) d.wave := by
  refine ⟨wave_ends d, ?_, ?_⟩
  · intro x hx
    obtain ⟨h0, h1⟩ := wave_range d hr hc x hx
    rw [abs_of_nonneg h0]; linarith
  · refine (wave_chain d hr hc).imp ?_
    intro x y h
    exact le_trans (div_le_div_of_nonneg_right h hdt.le) hsl

section trap
variable {area gmax dgdt dt : ℝ}

theorem absG_eq_abs (x : ℝ) : absG x = |x| := by
  unfold absG
  simp only [Nat.cast_zero]
  split_ifs with h
  · rw [abs_of_neg h]
  · rw [abs_of_nonneg (not_lt.mp h)]

theorem absG_of_pos {x : ℝ} (hx : 0 < x) : absG x = x := by
  rw [absG_eq_abs, abs_of_pos hx]

/-- the first ramp length in normal form, whatever algebraically equal way the source writes the quotient
(`gmax / dgdt / dt`, `gmax / (dgdt * dt)`, …) -/
theorem ramppts0_eq (hs : 0 < dgdt) (hdt : 0 < dt) :
    trapRamppts0 opsR gmax dgdt dt = ⌈gmax / (dgdt * dt)⌉₊ := by
  have hs' := hs.ne'
  have hdt' := hdt.ne'
  have key : ∀ x : ℝ, x = gmax / (dgdt * dt) → ⌈x⌉₊ = ⌈gmax / (dgdt * dt)⌉₊ := fun x h => by rw [h]
  exact key _ (by first | rfl | field_simp)

theorem ramppts0_spec (hg : 0 < gmax) (hs : 0 < dgdt) (hdt : 0 < dt) :
    1 ≤ trapRamppts0 opsR gmax dgdt dt ∧
    gmax ≤ (trapRamppts0 opsR gmax dgdt dt : ℝ) * (dgdt * dt) ∧
    (trapRamppts0 opsR gmax dgdt dt : ℝ) * (dgdt * dt) < gmax + dgdt * dt := by
  have hd : 0 < dgdt * dt := mul_pos hs hdt
  have hpos : 0 < gmax / (dgdt * dt) := div_pos hg hd
  have e : gmax / (dgdt * dt) * (dgdt * dt) = gmax := div_mul_cancel₀ _ hd.ne'
  rw [ramppts0_eq hs hdt]
  refine ⟨Nat.ceil_pos.mpr hpos, le_natCeil_mul _ _ _ hd e, ?_⟩
  have := mul_lt_mul_of_pos_right (Nat.ceil_lt_add_one hpos.le) hd
  rwa [add_mul, e, one_mul] at this

/-- The design `trap_grad` returns in the triangle regime. -/
theorem trap_triangle (ha : 0 < area)
    (h : area < trapTriareamax (trapRamppts0 opsR gmax dgdt dt) gmax dt) :
    trapGrad opsR area gmax dgdt dt =
      ⟨⌈Real.sqrt (area * dgdt) / dgdt / dt⌉₊, 0,
        area / ((pulse (α := ℝ) ⌈Real.sqrt (area * dgdt) / dgdt / dt⌉₊ 0).sum * dt)⟩ := by
  unfold trapGrad
  simp only [trapIsTriangle, opsR_lt, absG_of_pos ha, h, decide_true, if_true]
  simp only [trapTriRamppts, trapScale, absG_of_pos ha, opsR]

/-- The design `trap_grad` returns in the trapezoid regime. -/
theorem trap_trapezoid (ha : 0 < area)
    (h : ¬ area < trapTriareamax (trapRamppts0 opsR gmax dgdt dt) gmax dt) :
    trapGrad opsR area gmax dgdt dt =
      ⟨trapRamppts0 opsR gmax dgdt dt,
        trapNflat opsR area (trapTriareamax (trapRamppts0 opsR gmax dgdt dt) gmax dt) gmax dt,
        area / ((pulse (α := ℝ) (trapRamppts0 opsR gmax dgdt dt)
          (trapNflat opsR area (trapTriareamax (trapRamppts0 opsR gmax dgdt dt) gmax dt) gmax dt)).sum * dt)⟩ := by
  unfold trapGrad
  simp only [trapIsTriangle, opsR_lt, absG_of_pos ha, h, decide_false, trapScale]
  rfl

/-- the ramp length is at least one in both regimes (no division by zero in `k / ramppts`) -/
theorem trap_ramppts_pos (ha : 0 < area) (hg : 0 < gmax) (hs : 0 < dgdt) (hdt : 0 < dt) :
    1 ≤ (trapGrad opsR area gmax dgdt dt).ramppts := by
  by_cases h : area < trapTriareamax (trapRamppts0 opsR gmax dgdt dt) gmax dt
  · rw [trap_triangle ha h]
    exact (natCeil_div_div (Real.sqrt_pos.mpr (mul_pos ha hs)) hs hdt).1
  · rw [trap_trapezoid ha h]; exact (ramppts0_spec hg hs hdt).1

theorem trap_sum (ha : 0 < area) (hg : 0 < gmax) (hs : 0 < dgdt) (hdt : 0 < dt) :
    let d := trapGrad opsR area gmax dgdt dt
    (pulse (α := ℝ) d.ramppts d.nflat).sum = (d.ramppts : ℝ) + 1 + d.nflat ∧
    d.scale = area / (((d.ramppts : ℝ) + 1 + d.nflat) * dt) := by
  intro d
  have hr : 1 ≤ d.ramppts := trap_ramppts_pos ha hg hs hdt
  refine ⟨sum_pulse _ _ hr, ?_⟩
  rw [← sum_pulse _ _ hr]
  by_cases h : area < trapTriareamax (trapRamppts0 opsR gmax dgdt dt) gmax dt
  · simp only [d, trap_triangle ha h]
  · simp only [d, trap_trapezoid ha h]

/-- **exact area**: `Σ trap · dt = area`. -/
theorem trap_area (ha : 0 < area) (hg : 0 < gmax) (hs : 0 < dgdt) (hdt : 0 < dt) :
    (trapGrad opsR area gmax dgdt dt).wave.sum * dt = area := by
  have hr := trap_ramppts_pos ha hg hs hdt
  obtain ⟨_, hsc⟩ := trap_sum ha hg hs hdt
  have : (0 : ℝ) < ((trapGrad opsR area gmax dgdt dt).ramppts : ℝ) + 1 + (trapGrad opsR area gmax dgdt dt).nflat :=
    add_pos_of_pos_of_nonneg (Nat.cast_add_one_pos _) (Nat.cast_nonneg _)
  rw [wave_sum _ hr, hsc, mul_right_comm, mul_div_cancel₀ _ (mul_pos this hdt).ne']

/-- triangle regime: plateau ≤ gmax and ramp step ≤ dgdt·dt -/
theorem trap_tri_limits (ha : 0 < area) (hg : 0 < gmax) (hs : 0 < dgdt) (hdt : 0 < dt)
    (h : area < trapTriareamax (trapRamppts0 opsR gmax dgdt dt) gmax dt) :
    let r : ℕ := ⌈Real.sqrt (area * dgdt) / dgdt / dt⌉₊
    area / (((r : ℝ) + 1 + (0 : ℕ)) * dt) ≤ gmax ∧ area / (((r : ℝ) + 1 + (0 : ℕ)) * dt) / r / dt ≤ dgdt := by
  intro r
  obtain ⟨_, _, hr0⟩ := ramppts0_spec hg hs hdt
  have hq : 0 < area * dgdt := mul_pos ha hs
  obtain ⟨hr1, hrs⟩ := natCeil_div_div (Real.sqrt_pos.mpr hq) hs hdt
  have h' : area < (trapRamppts0 opsR gmax dgdt dt : ℝ) * dt * gmax := by
    simp only [trapTriareamax] at h; linarith
  rw [Nat.cast_zero, add_zero]
  exact triangle_bounds hg hs hdt (Real.sqrt_nonneg _) (Real.mul_self_sqrt hq.le) hrs (Nat.cast_pos.mpr hr1) hr0 h'

/-- trapezoid regime: plateau ≤ gmax and ramp step ≤ dgdt·dt -/
theorem trap_trapezoid_limits (ha : 0 < area) (hg : 0 < gmax) (hs : 0 < dgdt) (hdt : 0 < dt)
    (_h : ¬ area < trapTriareamax (trapRamppts0 opsR gmax dgdt dt) gmax dt) :
    let r : ℕ := trapRamppts0 opsR gmax dgdt dt
    let n : ℕ := trapNflat opsR area (trapTriareamax r gmax dt) gmax dt
    area / (((r : ℝ) + 1 + n) * dt) ≤ gmax ∧ area / (((r : ℝ) + 1 + n) * dt) / r / dt ≤ dgdt := by
  intro r n
  obtain ⟨hr1, hrg, _⟩ := ramppts0_spec hg hs hdt
  have hn : area - (r : ℝ) * dt * gmax ≤ (n : ℝ) * (gmax * dt) := by
    have e : (n : ℝ) = (⌈(area - trapTriareamax r gmax dt) / gmax / dt / ((2 : ℕ) : ℝ)⌉₊ : ℝ) * 2 := by
      simp only [n, trapNflat, opsR]; push_cast; ring
    rw [e, mul_assoc _ (2 : ℝ)]
    exact le_natCeil_mul (area - (r : ℝ) * dt * gmax) (2 * (gmax * dt))
      ((area - trapTriareamax r gmax dt) / gmax / dt / ((2 : ℕ) : ℝ)) (by positivity)
      (by simp only [trapTriareamax]; push_cast; field_simp)
  exact trapezoid_bounds hg hdt (Nat.cast_pos.mpr hr1) (Nat.cast_nonneg n) hrg hn

/-- **C20 for `trap_grad`** (all positive inputs): the waveform starts and ends at zero, never exceeds
`gmax` in magnitude and no two neighbouring samples differ by more than `dgdt·dt`. -/
theorem trap_meets_limits (ha : 0 < area) (hg : 0 < gmax) (hs : 0 < dgdt) (hdt : 0 < dt) :
    let w := (trapGrad opsR area gmax dgdt dt).wave
    (w.head? = some 0 ∧ w.getLast? = some 0) ∧ (∀ x ∈ w, |x| ≤ gmax) ∧
    List.IsChain (fun x y : ℝ => |y - x| / dt ≤ dgdt) w := by
  intro w
  have hr := trap_ramppts_pos ha hg hs hdt
  obtain ⟨_, hsc⟩ := trap_sum ha hg hs hdt
  have hm : (0 : ℝ) < ((trapGrad opsR area gmax dgdt dt).ramppts : ℝ) + 1 + (trapGrad opsR area gmax dgdt dt).nflat :=
    add_pos_of_pos_of_nonneg (Nat.cast_add_one_pos _) (Nat.cast_nonneg _)
  have hc : 0 ≤ (trapGrad opsR area gmax dgdt dt).scale := hsc ▸ (div_pos ha (mul_pos hm hdt)).le
  have hlim : (trapGrad opsR area gmax dgdt dt).scale ≤ gmax ∧
      (trapGrad opsR area gmax dgdt dt).scale / (trapGrad opsR area gmax dgdt dt).ramppts / dt ≤ dgdt := by
    rw [hsc]
    by_cases h : area < trapTriareamax (trapRamppts0 opsR gmax dgdt dt) gmax dt
    · simpa only [trap_triangle ha h] using trap_tri_limits ha hg hs hdt h
    · simpa only [trap_trapezoid ha h] using trap_trapezoid_limits ha hg hs hdt h
  exact design_meets_limits _ hdt hr hc hlim.1 hlim.2

/-- the same slew statement sample by sample -/
theorem trap_slew_getElem (ha : 0 < area) (hg : 0 < gmax) (hs : 0 < dgdt) (hdt : 0 < dt)
    (i : ℕ) (hi : i + 1 < (trapGrad opsR area gmax dgdt dt).wave.length) :
    |(trapGrad opsR area gmax dgdt dt).wave[i + 1] - (trapGrad opsR area gmax dgdt dt).wave[i]| / dt ≤ dgdt :=
  List.isChain_iff_getElem.mp (trap_meets_limits ha hg hs hdt).2.2 i hi

end trap

section mintrap
variable {area gmax dgdt dt : ℝ}

/-- value of each flat sample for `n ≥ 1` flat points: `area / (n·dt)`, so the area under the flat top is exact -/
theorem minFlatVal_spec (n : ℕ) (hn : 1 ≤ n) (ha : 0 < area) (hdt : 0 < dt) :
    0 < (minFlatVal n area dt : ℝ) ∧ (n : ℝ) * minFlatVal n area dt * dt = area := by
  have : (0 : ℝ) < n := by exact_mod_cast hn
  simp only [minFlatVal, Nat.cast_one]
  constructor
  · positivity
  · field_simp

/-- all conditions for a `min_trap_grad`-shaped design: `nflat ≥ 1` samples of value `fv ≤ gmax`, ramps of
`ceil(fv/dgdt/dt)` points -/
theorem min_design_ok (n : ℕ) (hn : 1 ≤ n) (ha : 0 < area) (hs : 0 < dgdt) (hdt : 0 < dt)
    (hle : (minFlatVal n area dt : ℝ) ≤ gmax) :
    let d : Design ℝ := ⟨minRamppts opsR (minFlatVal n area dt) dgdt dt, n, minFlatVal n area dt⟩
    1 ≤ d.ramppts ∧ d.flat.sum * dt = area ∧
    (d.wave.head? = some 0 ∧ d.wave.getLast? = some 0) ∧ (∀ x ∈ d.wave, |x| ≤ gmax) ∧
    List.IsChain (fun x y : ℝ => |y - x| / dt ≤ dgdt) d.wave := by
  intro d
  obtain ⟨hfv, hfa⟩ := minFlatVal_spec n hn ha hdt
  obtain ⟨hr, hrs⟩ : 1 ≤ d.ramppts ∧ d.scale ≤ (d.ramppts : ℝ) * (dgdt * dt) := natCeil_div_div hfv hs hdt
  exact ⟨hr, (flat_sum d).symm ▸ hfa, design_meets_limits d hdt hr hfv.le hle (slew_le (Nat.cast_pos.mpr hr) hdt hrs)⟩

/-- **C20 for `min_trap_grad`** (all positive inputs): for the design `d` it returns (by `min_trap_defined` it
always returns one) there is at least one ramp point and one flat point, the area under the flat top is exactly
`area`, the waveform starts and ends at zero, never exceeds `gmax` and never changes by more than `dgdt·dt` between
samples (ramps and the ramp-to-flat joints included). -/
theorem min_trap_meets_limits (ha : 0 < area) (hg : 0 < gmax) (hs : 0 < dgdt) (hdt : 0 < dt)
    (d : Design ℝ) (hd : minTrapGrad opsR area gmax dgdt dt = some d) :
    1 ≤ d.ramppts ∧ 1 ≤ d.nflat ∧ d.flat.sum * dt = area ∧
    (d.wave.head? = some 0 ∧ d.wave.getLast? = some 0) ∧ (∀ x ∈ d.wave, |x| ≤ gmax) ∧
    List.IsChain (fun x y : ℝ => |y - x| / dt ≤ dgdt) d.wave := by
  unfold minTrapGrad at hd
  simp only [minOverGmax, opsR_lt, decide_eq_true_eq] at hd
  split_ifs at hd with h0 hov h2
  · -- capped at gmax
    obtain rfl := Option.some.inj hd
    have hn : 1 ≤ minPts2 opsR area gmax dt := Nat.one_le_iff_ne_zero.mpr h2
    have hle : (minFlatVal (minPts2 opsR area gmax dt) area dt : ℝ) ≤ gmax := by
      -- `n · fv · dt = area ≤ n · gmax · dt` for `n = ⌈area / gmax / dt⌉`
      obtain ⟨_, hfa⟩ := minFlatVal_spec _ hn ha hdt
      have hcov : area ≤ (minPts2 opsR area gmax dt : ℝ) * (gmax * dt) := (natCeil_div_div ha hg hdt).2
      refine le_of_mul_le_mul_left ?_ (mul_pos (Nat.cast_pos.mpr hn) hdt)
      linarith
    exact (min_design_ok _ hn ha hs hdt hle).imp_right (And.intro hn)
  · obtain rfl := Option.some.inj hd
    have hn : 1 ≤ minPts opsR area dgdt dt := Nat.one_le_iff_ne_zero.mpr h0
    exact (min_design_ok _ hn ha hs hdt (not_lt.mp hov)).imp_right (And.intro hn)

/-- `minTrapGrad` can return `none` only through its first test `minPts = 0`: the second, `minPts2 = 0`, never fires
(`⌈area/gmax/dt⌉ ≥ 1`). For the generated `minPts = max(⌊…⌋, 1)` neither side holds, which is `min_trap_defined`. -/
theorem min_trap_none_iff (ha : 0 < area) (hg : 0 < gmax) (hdt : 0 < dt) :
    minTrapGrad opsR area gmax dgdt dt = none ↔ minPts opsR area dgdt dt = 0 := by
  have h2 : minPts2 opsR area gmax dt ≠ 0 := by
    simp only [minPts2, opsR]
    exact (Nat.ceil_pos.mpr (by positivity)).ne'
  unfold minTrapGrad
  simp only [h2, if_false]
  split_ifs <;> simp_all

/-- the bare `floor(area / sqrt(dgdt·area/2) / dt)`, which `minPts` wraps in `max(·, 1)`, is zero exactly for
`2·area < dgdt·dt²` (inside the quantified domain, e.g. `area = 1e-6, dgdt = 1e4, dt = 1e-4`). -/
theorem floor_flat_zero_iff (ha : 0 < area) (hs : 0 < dgdt) (hdt : 0 < dt) :
    opsR.floorDivSqrt2 area (dgdt * area / 2) dt = 0 ↔ 2 * area < dgdt * (dt * dt) := by
  -- `area² < dgdt·area/2·dt²`, and a factor `area/2` cancels
  have e : 1 * 1 * (dgdt * area / 2) * (dt * dt) - area * area = area / 2 * (dgdt * (dt * dt) - 2 * area) := by
    ring
  simp only [opsR, Nat.floor_eq_zero]
  rw [div_sqrt_div_lt_iff ha.le (by positivity) hdt zero_le_one, ← sub_pos, e,
    mul_pos_iff_of_pos_left (half_pos ha), sub_pos]

/-- `min_trap_grad` is defined for all positive inputs: the flat part always has a sample, because the generated
`minPts` is `max(floor(…), 1)` (the proof unfolds it and depends on that `max`). -/
theorem min_trap_defined (ha : 0 < area) (hg : 0 < gmax) (hdt : 0 < dt) :
    ∃ d, minTrapGrad opsR area gmax dgdt dt = some d := by
  have : minPts opsR area dgdt dt ≠ 0 := by
    simp only [minPts]
    exact (Nat.lt_of_lt_of_le Nat.one_pos (Nat.le_max_right _ _)).ne'
  exact Option.ne_none_iff_exists'.mp fun h => this ((min_trap_none_iff ha hg hdt).mp h)

end mintrap

/-! ## the square-root operations are determined by inequalities without square roots
(what the driver checks on the integer hints, in rational arithmetic) -/

theorem ceilSqrtDiv2Ok_iff {x y z : ℝ} (hx : 0 < x) (hy : 0 < y) (hz : 0 < z) (r : ℕ) :
    ceilSqrtDiv2Ok x y z r = true ↔ r = opsR.ceilSqrtDiv2 x y z := by
  have hpos : 0 < Real.sqrt x / y / z := div_pos (div_pos (Real.sqrt_pos.mpr hx) hy) hz
  simp only [ceilSqrtDiv2Ok, opsR, Bool.and_eq_true, decide_eq_true_eq, Bool.not_eq_true',
    decide_eq_false_iff_not]
  rcases Nat.eq_zero_or_pos r with rfl | hr
  · simpa using (Nat.ceil_pos.mpr hpos).ne
  · rw [eq_comm, Nat.ceil_eq_iff hr.ne', lt_sqrt_div_div_iff hx.le hy hz (Nat.cast_nonneg _),
      ← not_lt (a := (r : ℝ)), lt_sqrt_div_div_iff hx.le hy hz (Nat.cast_nonneg _)]
    exact ⟨fun h => ⟨h.1.2, h.2⟩, fun h => ⟨⟨hr, h.1⟩, h.2⟩⟩

theorem floorDivSqrt2Ok_iff {x s z : ℝ} (hx : 0 < x) (hs : 0 < s) (hz : 0 < z) (p : ℕ) :
    floorDivSqrt2Ok x s z p = true ↔ p = opsR.floorDivSqrt2 x s z := by
  simp only [floorDivSqrt2Ok, opsR, Bool.and_eq_true, decide_eq_true_eq, Bool.not_eq_true',
    decide_eq_false_iff_not]
  rw [eq_comm, Nat.floor_eq_iff (div_pos (div_pos hx (Real.sqrt_pos.mpr hs)) hz).le, ← not_lt,
    div_sqrt_div_lt_iff hx.le hs hz (Nat.cast_nonneg _), ← Nat.cast_succ,
    div_sqrt_div_lt_iff hx.le hs hz (Nat.cast_nonneg _)]

/-- a waveform within amplitude `B`, with neighbouring samples at most `D` apart, that starts and ends at 0
(the empty waveform qualifies) -/
def ZeroEnded (B D : ℝ) (w : List ℝ) : Prop :=
  (∀ x ∈ w, |x| ≤ B) ∧ List.IsChain (fun x y : ℝ => |y - x| ≤ D) w ∧
  (∀ x ∈ w.head?, x = 0) ∧ (∀ x ∈ w.getLast?, x = 0)

theorem ZeroEnded.append {B D : ℝ} (hD : 0 ≤ D) {u v : List ℝ} (hu : ZeroEnded B D u) (hv : ZeroEnded B D v) :
    ZeroEnded B D (u ++ v) := by
  obtain ⟨u1, u2, u3, u4⟩ := hu
  obtain ⟨v1, v2, v3, v4⟩ := hv
  refine ⟨fun x hx => (List.mem_append.mp hx).elim (u1 x) (v1 x), ?_, head?_append_all u3 v3,
    getLast?_append_all u4 v4⟩
  exact isChain_append_of_ends 0 u2 v2 u4 v3 (by rwa [sub_self, abs_zero])

theorem ZeroEnded.flatten {B D : ℝ} (hD : 0 ≤ D) (L : List (List ℝ)) (h : ∀ w ∈ L, ZeroEnded B D w) :
    ZeroEnded B D L.flatten := by
  induction L with
  | nil => exact ⟨by simp, by simp, by simp, by simp⟩
  | cons w L ih =>
    rw [List.flatten_cons]
    exact ZeroEnded.append hD (h w (by simp)) (ih fun v hv => h v (by simp [hv]))

theorem ZeroEnded.flatten_map {B D : ℝ} (hD : 0 ≤ D) {ι : Type} (l : List ι) (f : ι → List ℝ)
    (h : ∀ i ∈ l, ZeroEnded B D (f i)) : ZeroEnded B D (l.map f).flatten :=
  ZeroEnded.flatten hD _ fun w hw => by
    obtain ⟨i, hi, rfl⟩ := List.mem_map.mp hw
    exact h i hi

theorem ZeroEnded.zeros {B D : ℝ} (hB : 0 ≤ B) (hD : 0 ≤ D) (n : ℕ) : ZeroEnded B D (List.replicate n (0 : ℝ)) := by
  refine ⟨?_, List.isChain_replicate_of_rel n (by simpa using hD), ?_, ?_⟩
  · intro x hx; rw [(List.mem_replicate.mp hx).2]; simpa using hB
  · intro x hx; exact (List.mem_replicate.mp (List.mem_of_mem_head? hx)).2
  · intro x hx; exact (List.mem_replicate.mp (List.mem_of_mem_getLast? hx)).2

theorem ZeroEnded.scale {B D σ : ℝ} (hσ : |σ| ≤ 1) {w : List ℝ} (h : ZeroEnded B D w) :
    ZeroEnded B D (w.map fun v => σ * v) := by
  obtain ⟨h1, h2, h3, h4⟩ := h
  have le : ∀ {x c : ℝ}, |x| ≤ c → |σ * x| ≤ c := fun {x c} hx => by
    rw [abs_mul]; exact (mul_le_of_le_one_left (abs_nonneg x) hσ).trans hx
  have zero : ∀ {o : Option ℝ}, (∀ y ∈ o, y = 0) → ∀ x ∈ o.map fun v => σ * v, x = 0 := fun ho x hx => by
    obtain ⟨y, hy, rfl⟩ := Option.mem_map.mp hx
    rw [ho y hy, mul_zero]
  refine ⟨?_, ?_, List.head?_map ▸ zero h3, List.getLast?_map ▸ zero h4⟩
  · intro x hx
    obtain ⟨y, hy, rfl⟩ := List.mem_map.mp hx
    exact le (h1 y hy)
  · rw [List.isChain_map]
    exact h2.imp fun x y hxy => by rw [← mul_sub]; exact le hxy

theorem ZeroEnded.neg {B D : ℝ} {w : List ℝ} (h : ZeroEnded B D w) : ZeroEnded B D (w.map fun x => -x) := by
  simpa only [neg_one_mul] using h.scale (σ := -1) (by rw [abs_neg, abs_one])

/-- the conclusion of `design_meets_limits`, in `ZeroEnded` form -/
theorem ZeroEnded.of_limits {gmax dgdt dt : ℝ} (hdt : 0 < dt) {w : List ℝ}
    (h : (w.head? = some 0 ∧ w.getLast? = some 0) ∧ (∀ x ∈ w, |x| ≤ gmax) ∧
      List.IsChain (fun x y : ℝ => |y - x| / dt ≤ dgdt) w) : ZeroEnded gmax (dgdt * dt) w := by
  obtain ⟨⟨h1, h2⟩, h3, h4⟩ := h
  refine ⟨h3, h4.imp fun x y h => (div_le_iff₀ hdt).mp h, ?_, ?_⟩
  · intro x hx; exact Option.some.inj (hx.symm.trans h1)
  · intro x hx; exact Option.some.inj (hx.symm.trans h2)

theorem trap_zeroEnded {area gmax dgdt dt : ℝ} (ha : 0 < area) (hg : 0 < gmax) (hs : 0 < dgdt) (hdt : 0 < dt) :
    ZeroEnded gmax (dgdt * dt) (trapGrad opsR area gmax dgdt dt).wave :=
  ZeroEnded.of_limits hdt (trap_meets_limits ha hg hs hdt)

theorem min_trap_zeroEnded {area gmax dgdt dt : ℝ} (ha : 0 < area) (hg : 0 < gmax) (hs : 0 < dgdt) (hdt : 0 < dt)
    (d : Design ℝ) (hd : minTrapGrad opsR area gmax dgdt dt = some d) : ZeroEnded gmax (dgdt * dt) d.wave :=
  ZeroEnded.of_limits hdt (min_trap_meets_limits ha hg hs hdt d hd).2.2.2

/-- The hand-written in-plane axis `spokesAxis` of Model/C20.lean (the generated `spokes_grad` assembly is treated in
Props/C20Spokes.lean): zeros and blips that each start and end at zero and respect the limits give an axis waveform
that starts and ends at zero and respects the same limits — the joints between sub-waveforms are `0 → 0`. -/
theorem spokes_axis_limits {B D : ℝ} (hB : 0 ≤ B) (hD : 0 ≤ D) (nsub nref : ℕ) (blips : List (Option (List ℝ)))
    (h : ∀ w, some w ∈ blips → ZeroEnded B D w) : ZeroEnded B D (spokesAxis nsub nref blips) := by
  unfold spokesAxis
  refine ZeroEnded.append hD (ZeroEnded.flatten_map hD _ _ fun b hb => ?_) (ZeroEnded.zeros hB hD nref)
  cases b with
  | none => exact ZeroEnded.zeros hB hD nsub
  | some v => exact ZeroEnded.append hD (ZeroEnded.zeros hB hD _) (h v hb)

/-- The hand-written slice axis `spokesGz` of Model/C20.lean (alternating-sign slice-select lobes followed by the
negated rephaser) keeps the limits of its two sub-waveforms. -/
theorem spokes_gz_limits {B D : ℝ} (hD : 0 ≤ D) (sub ref : List ℝ) (n : ℕ)
    (hsub : ZeroEnded B D sub) (href : ZeroEnded B D ref) : ZeroEnded B D (spokesGz sub ref n) := by
  unfold spokesGz
  refine ZeroEnded.append hD (ZeroEnded.flatten_map hD _ _ fun i _ => ?_) href.neg
  split_ifs
  exacts [hsub, hsub.neg]

/-- **k-space increment of one blip**: the signed blip `σ · trap_grad(a, …)` integrates to `σ · a` exactly, so
`4257 · Σ g · dt = 4257 · σ · a = Δk` for `a = |Δk| / 4257`, `σ = sign Δk`. -/
theorem blip_kspace {area gmax dgdt dt : ℝ} (ha : 0 < area) (hg : 0 < gmax) (hs : 0 < dgdt) (hdt : 0 < dt) (σ : ℝ) :
    ((trapGrad opsR area gmax dgdt dt).wave.map fun x => σ * x).sum * dt = σ * area := by
  rw [List.sum_map_mul_left, List.map_id', mul_assoc, trap_area ha hg hs hdt]

/-- the positivity hypotheses are satisfiable -/
example : ∃ area gmax dgdt dt : ℝ, 0 < area ∧ 0 < gmax ∧ 0 < dgdt ∧ 0 < dt := ⟨1, 1, 1, 1, by norm_num⟩

end SigpyVerif.C20
