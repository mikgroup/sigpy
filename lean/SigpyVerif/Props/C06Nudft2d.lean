import SigpyVerif.Props.C06Nudft
import SigpyVerif.Props.C06Nd
import SigpyVerif.Props.C06Kernel
/-
  C06 — the error identity of the TWO-dimensional pipeline `nufft2` (composed in Props/C06Nd.lean), kernel as a parameter.

  The generated weight of `Gen.interp2` is the product `K(u_y, p_y) · K(u_x, p_x)` sent through `wt`; for the identity the
  weight has to be separable, which is the hypothesis `hsep : wt (K u_y p_y * K u_x p_x) = f₂ u_y · f₁ u_x` (true for the
  spline with `wt = cast`, and achievable for ANY real `f₁, f₂` — Kaiser–Bessel — by `sep_encoding2`, Props/C06Kernel.lean).
  Then (`nufft2_eq_nudft_times_kernel`)

      nufft(x)(k_j) = Σ_{n₁,n₂} x[n₁,n₂] (N₁N₂)^{-1/2} e^{-2πi k_{j,y} ν₁/N₁} e^{-2πi k_{j,x} ν₂/N₂} · a[n₁,n₂] · S_y(κ_{j,y}, ν₁) · S_x(κ_{j,x}, ν₂)

  with `ν_d = n_d - N_d//2` and `S_d` the 1-D kernel sums `kernelSum` of Props/C06Nudft.lean for `f₂` resp. `f₁`: the 2-D error
  factor is the PRODUCT of the per-axis factors, so the N-d accuracy again reduces to the 1-D kernel quantity.
-/
namespace SigpyVerif.C06
open SigpyVerif Matrix ComplexConjugate Finset
open scoped InnerProductSpace

theorem list_sum_flatMap {α : Type} (l : List α) (f : α → List ℂ) :
    (l.flatMap f).sum = (l.map fun a => (f a).sum).sum := by
  rw [List.flatMap_def, List.sum_flatten, List.map_map]
  rfl

theorem list_sum_mul_sum {α β : Type} (l1 : List α) (l2 : List β) (f : α → ℂ) (g : β → ℂ) :
    (l1.map f).sum * (l2.map g).sum = (l1.map fun a => (l2.map fun b => f a * g b).sum).sum := by
  simp only [List.sum_map_mul_left, List.sum_map_mul_right]

theorem list_sum2_factor (l1 l2 : List ℤ) (p q : ℤ → ℝ) (E1 E2 : ℤ → ℂ) (T1 T2 C : ℂ) :
    (l1.map fun iy => (l2.map fun ix => ((p iy * q ix : ℝ) : ℂ) * (E1 iy * T1 * (E2 ix * T2) * C)).sum).sum =
      T1 * T2 * C * ((l1.map fun iy => ((p iy : ℝ) : ℂ) * E1 iy).sum * (l2.map fun ix => ((q ix : ℝ) : ℂ) * E2 ix).sum) := by
  rw [list_sum_mul_sum, ← List.sum_map_mul_left]
  refine congrArg List.sum (List.map_congr_left fun iy _ => ?_)
  rw [← List.sum_map_mul_left]
  refine congrArg List.sum (List.map_congr_left fun ix _ => ?_)
  push_cast
  ring

/-- the generated 2-D interpolation, explicitly: the double window sum with the product weight and periodic wrap -/
theorem interpLin2_apply (K : Rat → Rat → Rat) (wt : Rat → ℝ) (L1 L2 M : ℕ) (h1 : 0 < L1) (h2 : 0 < L2)
    (coord : Int → Int → Rat) (width param : Int → Rat) (g : EuclideanSpace ℂ (Fin L1 × Fin L2)) (j : Fin M) :
    WithLp.ofLp (interpLin2 K wt L1 L2 M coord width param g) j =
      ((pyRange (Rat.ceil (coord ((j : ℕ) : ℤ) (-2) - width (-2) / 2))
          (Rat.floor (coord ((j : ℕ) : ℤ) (-2) + width (-2) / 2) + 1) 1).map fun iy : ℤ =>
        ((pyRange (Rat.ceil (coord ((j : ℕ) : ℤ) (-1) - width (-1) / 2))
            (Rat.floor (coord ((j : ℕ) : ℤ) (-1) + width (-1) / 2) + 1) 1).map fun ix : ℤ =>
          ((wt (K (((iy : Rat) - coord ((j : ℕ) : ℤ) (-2)) / (width (-2) / 2)) (param (-2)) *
                K (((ix : Rat) - coord ((j : ℕ) : ℤ) (-1)) / (width (-1) / 2)) (param (-1))) : ℝ) : ℂ) *
            WithLp.ofLp g (wrapIdx L1 h1 iy, wrapIdx L2 h2 ix)).sum).sum := by
  have e1 : shape3 1 (L1 : ℤ) (L2 : ℤ) 1 = L1 := rfl
  have e2 : shape3 1 (L1 : ℤ) (L2 : ℤ) 2 = L2 := rfl
  unfold interpLin2
  rw [updLinG_cw_apply, show jx1 M j = [0, ((j : ℕ) : ℤ)] from rfl,
    C07.interp2_filter_dst K _ _ _ coord width param 0 ((j : ℕ) : ℤ) ⟨le_rfl, Int.one_pos⟩
      ⟨Int.natCast_nonneg _, Int.ofNat_lt.mpr j.2⟩, List.map_flatMap, list_sum_flatMap]
  refine congrArg List.sum (List.map_congr_left fun iy _ => ?_)
  rw [List.map_map]
  refine congrArg List.sum (List.map_congr_left fun ix _ => ?_)
  rw [← embG_apply (ix2_inj L1 L2) (WithLp.ofLp g) (wrapIdx L1 h1 iy, wrapIdx L2 h2 ix)]
  simp only [Function.comp, ix2, wrapIdx_val, e1, e2]

/-- N-d zero-pad `[1,N₁,N₂] → [1,L₁,L₂]` (`N_d ≤ L_d`): sample `(n₁,n₂)` lands on `(padIdxG n₁, padIdxG n₂)` -/
theorem resizeMatNd_padG2 (N1 N2 L1 L2 : ℕ) (hNL1 : N1 ≤ L1) (hNL2 : N2 ≤ L2) (m : Fin L1 × Fin L2) (n : Fin N1 × Fin N2) :
    resizeMatNd [1, (N1 : ℤ), (N2 : ℤ)] [1, (L1 : ℤ), (L2 : ℤ)] (ix2 N1 N2) (ix2 L1 L2) m n =
      if m = (padIdxG N1 L1 hNL1 n.1, padIdxG N2 L2 hNL2 n.2) then 1 else 0 := by
  simp only [resizeMatNd_ix2, kroneckerMap_apply, resizeMat_padG _ _ hNL1, resizeMat_padG _ _ hNL2,
    ite_zero_mul_ite_zero, mul_one, Prod.ext_iff]

/-- zero-pad then centred unnormalised 2-D FFT, explicitly -/
theorem ufft_resize2_apply (N1 N2 L1 L2 : ℕ) (h1 : 0 < L1) (h2 : 0 < L2) (hNL1 : N1 ≤ L1) (hNL2 : N2 ≤ L2)
    (u : EuclideanSpace ℂ (Fin N1 × Fin N2)) (s : Fin L1 × Fin L2) :
    WithLp.ofLp (ufftLin2 L1 L2 (resizeLin2 N1 N2 L1 L2 u)) s =
      ∑ n : Fin N1 × Fin N2,
        fftRoot L1 ^ ((((s.1 : ℕ) : ℤ) - (L1 : ℤ) / 2) * (((n.1 : ℕ) : ℤ) - (N1 : ℤ) / 2)) *
          fftRoot L2 ^ ((((s.2 : ℕ) : ℤ) - (L2 : ℤ) / 2) * (((n.2 : ℕ) : ℤ) - (N2 : ℤ) / 2)) * WithLp.ofLp u n := by
  unfold ufftLin2 resizeLin2
  rw [toEuclideanLin_mul_apply, resizeMatNd_ix2, ← mul_kronecker_mul]
  simp only [kroneckerMap_apply, dft_mul_resizeMat_apply _ _ h1 hNL1, dft_mul_resizeMat_apply _ _ h2 hNL2]

/-- **2-D `nufft` = NUDFT with every term multiplied by `a[n] · S_y · S_x`** (pipeline `nufft2`, separable weights) -/
theorem nufft2_eq_nudft_times_kernel (os : Rat) (N1 N2 L1 L2 M : ℕ) (hN1 : 0 < N1) (hN2 : 0 < N2) (hos : 1 ≤ os)
    (hLen1 : (L1 : ℤ) = Gen.oversampLen os N1) (hLen2 : (L2 : ℤ) = Gen.oversampLen os N2)
    (a : Fin N1 × Fin N2 → ℝ) (K : Rat → Rat → Rat) (wt : Rat → ℝ) (f1 f2 : Rat → ℝ)
    (c : Int → Int → Rat) (W : Rat) (param : Int → Rat)
    (hsep : ∀ uy ux : Rat, wt (K uy (param (-2)) * K ux (param (-1))) = f2 uy * f1 ux)
    (x : EuclideanSpace ℂ (Fin N1 × Fin N2)) (j : Fin M) :
    WithLp.ofLp (nufft2 os N1 N2 L1 L2 M a K wt c W param x) j =
      ∑ n : Fin N1 × Fin N2, WithLp.ofLp x n * ((Real.sqrt (((N1 : ℤ) * (N2 : ℤ) : ℤ)) : ℝ) : ℂ)⁻¹ *
        (nudftTerm N1 (((c ((j : ℕ) : ℤ) (-2) : Rat)) : ℝ) ((n.1 : ℕ) : ℤ) *
          nudftTerm N2 (((c ((j : ℕ) : ℤ) (-1) : Rat)) : ℝ) ((n.2 : ℕ) : ℤ)) *
        (((a n : ℝ) : ℂ) *
          (kernelSum (fun u _ => u) f2 W 0 L1 (Gen.scaleCoord os N1 (c ((j : ℕ) : ℤ) (-2))) (((n.1 : ℕ) : ℤ) - (N1 : ℤ) / 2) *
           kernelSum (fun u _ => u) f1 W 0 L2 (Gen.scaleCoord os N2 (c ((j : ℕ) : ℤ) (-1))) (((n.2 : ℕ) : ℤ) - (N2 : ℤ) / 2))) := by
  have hNL1 := le_of_oversampLen os N1 L1 hos hLen1
  have hNL2 := le_of_oversampLen os N2 L2 hos hLen2
  have h1 : 0 < L1 := hN1.trans_le hNL1
  have h2 : 0 < L2 := hN2.trans_le hNL2
  have e1 : imgShape2 (N1 : ℤ) (N2 : ℤ) (-2) = N1 := rfl
  have e2 : imgShape2 (N1 : ℤ) (N2 : ℤ) (-1) = N2 := rfl
  unfold nufft2 fwd
  rw [WithLp.ofLp_smul, Pi.smul_apply, smul_eq_mul, interpLin2_apply K wt L1 L2 M h1 h2]
  simp only [ufft_resize2_apply N1 N2 L1 L2 h1 h2 hNL1 hNL2, hsep, e1, e2,
    phase_wrap os N1 L1 hN1 h1 hLen1 (c ((j : ℕ) : ℤ) (-2)), phase_wrap os N2 L2 hN2 h2 hLen2 (c ((j : ℕ) : ℤ) (-1)),
    WithLp.ofLp_smul, Pi.smul_apply, smul_eq_mul, apodLinG, toEuclideanLin_diagonal_apply, Finset.mul_sum, sum_list_comm]
  refine Finset.sum_congr rfl fun n _ => ?_
  rw [list_sum2_factor, kernelSum, kernelSum]
  unfold Gen.nufftFwdDiv Gen.nufftFwdWidthDiv
  rw [Complex.ofReal_pow]
  ring

/-- sigpy's exact 2-D NUDFT (scaling `1/√(N₁N₂)`, origins at `N_d//2`) -/
noncomputable def nudft2 (N1 N2 : ℕ) (x : Fin N1 × Fin N2 → ℂ) (ky kx : ℝ) : ℂ :=
  ∑ n : Fin N1 × Fin N2, x n * ((Real.sqrt (((N1 : ℤ) * (N2 : ℤ) : ℤ)) : ℝ) : ℂ)⁻¹ *
    (nudftTerm N1 ky ((n.1 : ℕ) : ℤ) * nudftTerm N2 kx ((n.2 : ℕ) : ℤ))

/-- **2-D error identity**: `nufft - NUDFT = Σ_n x_n (N₁N₂)^{-1/2} e^{…} (a_n S_y S_x - 1)` -/
theorem nufft2_error_identity (os : Rat) (N1 N2 L1 L2 M : ℕ) (hN1 : 0 < N1) (hN2 : 0 < N2) (hos : 1 ≤ os)
    (hLen1 : (L1 : ℤ) = Gen.oversampLen os N1) (hLen2 : (L2 : ℤ) = Gen.oversampLen os N2)
    (a : Fin N1 × Fin N2 → ℝ) (K : Rat → Rat → Rat) (wt : Rat → ℝ) (f1 f2 : Rat → ℝ)
    (c : Int → Int → Rat) (W : Rat) (param : Int → Rat)
    (hsep : ∀ uy ux : Rat, wt (K uy (param (-2)) * K ux (param (-1))) = f2 uy * f1 ux)
    (x : EuclideanSpace ℂ (Fin N1 × Fin N2)) (j : Fin M) :
    WithLp.ofLp (nufft2 os N1 N2 L1 L2 M a K wt c W param x) j -
        nudft2 N1 N2 (WithLp.ofLp x) (((c ((j : ℕ) : ℤ) (-2) : Rat)) : ℝ) (((c ((j : ℕ) : ℤ) (-1) : Rat)) : ℝ) =
      ∑ n : Fin N1 × Fin N2, WithLp.ofLp x n * ((Real.sqrt (((N1 : ℤ) * (N2 : ℤ) : ℤ)) : ℝ) : ℂ)⁻¹ *
        (nudftTerm N1 (((c ((j : ℕ) : ℤ) (-2) : Rat)) : ℝ) ((n.1 : ℕ) : ℤ) *
          nudftTerm N2 (((c ((j : ℕ) : ℤ) (-1) : Rat)) : ℝ) ((n.2 : ℕ) : ℤ)) *
        (((a n : ℝ) : ℂ) *
          (kernelSum (fun u _ => u) f2 W 0 L1 (Gen.scaleCoord os N1 (c ((j : ℕ) : ℤ) (-2))) (((n.1 : ℕ) : ℤ) - (N1 : ℤ) / 2) *
           kernelSum (fun u _ => u) f1 W 0 L2 (Gen.scaleCoord os N2 (c ((j : ℕ) : ℤ) (-1))) (((n.2 : ℕ) : ℤ) - (N2 : ℤ) / 2)) - 1) := by
  rw [nufft2_eq_nudft_times_kernel os N1 N2 L1 L2 M hN1 hN2 hos hLen1 hLen2 a K wt f1 f2 c W param hsep]
  unfold nudft2
  rw [← Finset.sum_sub_distrib]
  apply Finset.sum_congr rfl
  intro n _
  ring

/-- the row error over any index set: unit-modulus phases drop out (`nufft1_row_error` for products of NUDFT terms) -/
theorem row_error_phases {ι : Type} [Fintype ι] (s : ℂ) (T q : ι → ℂ) (hT : ∀ n, ‖T n‖ = 1) :
    ∑ n : ι, ‖s * T n * q n - s * T n‖ ^ 2 = ‖s‖ ^ 2 * ∑ n : ι, ‖q n - 1‖ ^ 2 := by
  rw [Finset.mul_sum]
  exact Finset.sum_congr rfl fun n _ => norm_sq_phase_err s (T n) (q n) (hT n)

/-- the separability hypothesis is satisfiable for ARBITRARY real per-axis kernels (Kaiser–Bessel): `sep_encoding2` -/
example (f1 f2 : ℚ → ℝ) : ∀ uy ux : Rat,
    wtEnc2 f1 f2 (Kenc uy (tagParam (-2)) * Kenc ux (tagParam (-1))) = f2 uy * f1 ux := sep_encoding2 f1 f2

/-- and for a rational kernel used as is (`wt` = cast: the spline) -/
example (K : Rat → Rat → Rat) (p : Int → Rat) : ∀ uy ux : Rat,
    (fun q : Rat => (q : ℝ)) (K uy (p (-2)) * K ux (p (-1))) =
      (fun u : Rat => ((K u (p (-2)) : Rat) : ℝ)) uy * (fun u : Rat => ((K u (p (-1)) : Rat) : ℝ)) ux := by
  intro uy ux
  push_cast
  ring

end SigpyVerif.C06
