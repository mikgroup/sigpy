import SigpyVerif.Model.C07
import SigpyVerif.Lemmas.C07
import SigpyVerif.Lemmas.C07Wrap
import SigpyVerif.Lemmas.C07Apply
import SigpyVerif.Props.C07
/-
  C07 — the Python wrappers `interpolate` / `gridding` and the array machinery.

  `Gen.interpolateW` / `Gen.griddingW` / `Gen.interpolateTable` / `Gen.griddingTable` are regenerated from
  the bodies of `interpolate`, `gridding`, `_get_interpolate`, `_get_gridding` in sigpy/interp.py on every run
  (harness/translate/gen_c07.py: `InterpWrappers`).  The theorems below say what those definitions compute.
-/
namespace SigpyVerif.C07
open SigpyVerif

/-- **Executable = function-level semantics**, for an arbitrary element type and scalar action.  If every index of
    the update list is in bounds, the array application succeeds, returns an array of `prod oshape` elements, and its
    entry at the row-major position of every in-bounds multi-index `d` is `runG smul acc E x 0 d`, where `x` is read
    row-major. -/
theorem applyUpd_eq_runG {α : Type} [Add α] [Zero α] (smul : Rat → α → α) (acc : Bool) (oshape ishape : List Int)
    (E : List (Upd Rat)) (x : Array α)
    (hE : ∀ u ∈ E, inBounds oshape u.1 = true ∧ inBounds ishape u.2.1 = true) :
    ∃ out, applyUpd smul acc oshape ishape E x = some out ∧ out.size = (shapeProd oshape).toNat ∧
      ∀ d, inBounds oshape d = true →
        out.getD (ravel oshape d).toNat 0 =
          runG smul acc E (fun i => x.getD (ravel ishape i).toNat 0) (fun _ => 0) d := by
  rw [applyUpd_eq_foldlM]
  refine foldlM_applyStep smul acc oshape ishape x E hE _ (fun _ => 0) Array.size_replicate fun d _ => ?_
  rw [Array.getD_eq_getD_getElem?, Array.getElem?_replicate]
  split <;> rfl

/-- the same for rational data and multiplication (`runG (· * ·) = runUpd`) -/
theorem applyUpd_eq_runUpd (acc : Bool) (oshape ishape : List Int) (E : List (Upd Rat)) (x : Array Rat)
    (hE : ∀ u ∈ E, inBounds oshape u.1 = true ∧ inBounds ishape u.2.1 = true) :
    ∃ out, applyUpd (· * ·) acc oshape ishape E x = some out ∧ out.size = (shapeProd oshape).toNat ∧
      ∀ d, inBounds oshape d = true →
        out.getD (ravel oshape d).toNat 0 =
          runUpd acc E (fun i => x.getD (ravel ishape i).toNat 0) (fun _ => 0) d :=
  applyUpd_eq_runG (· * ·) acc oshape ishape E x hE

/-- the application fails exactly when some index is out of bounds -/
theorem applyUpd_eq_none_iff {α : Type} [Add α] [Zero α] (smul : Rat → α → α) (acc : Bool)
    (oshape ishape : List Int) (E : List (Upd Rat)) (x : Array α) :
    applyUpd smul acc oshape ishape E x = none ↔
      ∃ u ∈ E, ¬ (inBounds oshape u.1 = true ∧ inBounds ishape u.2.1 = true) := by
  constructor
  · intro h
    by_contra hne
    obtain ⟨out, h1, _⟩ := applyUpd_eq_runG smul acc oshape ishape E x fun u hu =>
      not_not.mp fun hb => hne ⟨u, hu, hb⟩
    rw [h] at h1; cases h1
  · intro h
    rw [applyUpd_eq_foldlM]
    exact foldlM_applyStep_none smul acc oshape ishape x E h _

/-- hence, with `+=`: every output element is the sum — with multiplicity — of `w · x[src]` over the updates
    that target it (what `runUpd_acc_eq_sum` says about `runUpd` holds for what the driver executes). -/
theorem applyUpd_eq_sum (oshape ishape : List Int) (E : List (Upd Rat)) (x : Array Rat)
    (hE : ∀ u ∈ E, inBounds oshape u.1 = true ∧ inBounds ishape u.2.1 = true) :
    ∃ out, applyUpd (· * ·) true oshape ishape E x = some out ∧ out.size = (shapeProd oshape).toNat ∧
      ∀ d, inBounds oshape d = true →
        out.getD (ravel oshape d).toNat 0 =
          ((E.filter (fun u => u.1 = d)).map (fun u => u.2.2 * x.getD (ravel ishape u.2.1).toNat 0)).sum := by
  obtain ⟨out, h1, h2, h3⟩ := applyUpd_eq_runUpd true oshape ishape E x hE
  refine ⟨out, h1, h2, fun d hd => ?_⟩
  rw [h3 d hd, runUpd_acc_eq_sum, zero_add]

-- non-vacuity: two updates onto the same cell add; the executable result is the sum
example : applyUpd (· * ·) true [2] [3] [([1], [0], (2 : Rat)), ([1], [2], 3)] #[(5 : Rat), 7, 11] = some #[0, 43] := by
  decide +kernel

/-- complex data (real weights): real and imaginary parts of the executable result are the `runUpd`
    semantics of the real and imaginary parts of the input. -/
theorem applyC_eq_runUpd (acc : Bool) (oshape ishape : List Int) (E : List (Upd Rat)) (x : Array (Rat × Rat))
    (hE : ∀ u ∈ E, inBounds oshape u.1 = true ∧ inBounds ishape u.2.1 = true) :
    ∃ y, applyC acc oshape ishape E x = some y ∧ y.size = (shapeProd oshape).toNat ∧
      ∀ d, inBounds oshape d = true →
        y.getD (ravel oshape d).toNat (0, 0) =
          (runUpd acc E (fun i => (x.getD (ravel ishape i).toNat (0, 0)).1) (fun _ => 0) d,
           runUpd acc E (fun i => (x.getD (ravel ishape i).toNat (0, 0)).2) (fun _ => 0) d) := by
  obtain ⟨re, r1, r2, r3⟩ := applyUpd_eq_runUpd acc oshape ishape E (x.map (·.1)) hE
  obtain ⟨im, i1, i2, i3⟩ := applyUpd_eq_runUpd acc oshape ishape E (x.map (·.2)) hE
  refine ⟨re.zip im, ?_, by rw [Array.size_zip, r2, i2, min_self], fun d hd => ?_⟩
  · simp only [applyC, r1, i1, Option.pure_def, Option.bind_eq_bind, Option.bind_some]
  · have hlt := ravel_lt_of_inBounds hd
    have e1 : ∀ k, (x.map (·.1)).getD k 0 = (x.getD k (0, 0)).1 := fun k => by
      simp only [Array.getD_eq_getD_getElem?, Array.getElem?_map]; cases x[k]? <;> rfl
    have e2 : ∀ k, (x.map (·.2)).getD k 0 = (x.getD k (0, 0)).2 := fun k => by
      simp only [Array.getD_eq_getD_getElem?, Array.getElem?_map]; cases x[k]? <;> rfl
    rw [← funext (fun i => e1 (ravel ishape i).toNat), ← funext (fun i => e2 (ravel ishape i).toNat),
      ← r3 d hd, ← i3 d hd]
    have h1 : (ravel oshape d).toNat < re.size := by omega
    have h2 : (ravel oshape d).toNat < im.size := by omega
    simp only [Array.getD_eq_getD_getElem?, Array.size_zip, lt_inf_iff, h1, h2, and_self, getElem?_pos,
      Array.getElem_zip, Option.getD_some]

/-- the D-dimensional loop nests (specification-side selector; the generated code selects through
    `Gen.interpolateTable K` / `Gen.griddingTable K` and the index `ndim - 1`) -/
def interpNest : Nat → (Rat → Rat → Rat) → LoopNest
  | 1 => Gen.interp1
  | 2 => Gen.interp2
  | _ => Gen.interp3

def gridNest : Nat → (Rat → Rat → Rat) → LoopNest
  | 1 => Gen.grid1
  | 2 => Gen.grid2
  | _ => Gen.grid3

/-- `shape[:-ndim]` and `shape[-ndim:]` split `batch ++ grid` at the batch axes -/
theorem slice_batch_grid (batch grid : List Int) (D : Nat) (hD : 1 ≤ D) (hg : grid.length = D) :
    pySliceTo (batch ++ grid) (-(D : Int)) = batch ∧ pySliceFrom (batch ++ grid) (-(D : Int)) = grid := by
  subst hg
  exact ⟨pySliceTo_append_neg batch grid hD, pySliceFrom_append_neg batch grid hD⟩

/-- **`interpolate`, the wrapper.**  For `input.shape = batch ++ grid`, `coord.shape = pts ++ [D]` with
    `D = len(grid) ∈ {1,2,3}` the generated wrapper computes `ndim = D`, selects the `D`-dimensional loop nest
    (`_interpolate[kernel][ndim - 1]`, an accumulating one), runs it on
    `output = zeros([prod batch, prod pts])`, `input.reshape([prod batch] ++ grid)`, `coord.reshape([prod pts, D])`,
    `width` / `param` broadcast (scalar → `D` copies, sequence → itself; in this argument order), performs exactly
    these three reshapes, and returns an array of shape `batch ++ pts`. -/
theorem interpolateW_spec (K : Rat → Rat → Rat) (batch grid pts : List Int) (D : Nat) (hD : 1 ≤ D) (hD3 : D ≤ 3)
    (hg : grid.length = D) (coord : List Rat) (width param : Bc) :
    Gen.interpolateW K (batch ++ grid) (pts ++ [(D : Int)]) coord width param = some
      { ndim := D
        oshape := [shapeProd batch, shapeProd pts]
        ishape := shapeProd batch :: grid
        entries := interpNest D K (shapeFn [shapeProd batch, shapeProd pts]) (shapeFn (shapeProd batch :: grid))
          (shapeFn [shapeProd pts, (D : Int)]) (arr2 [shapeProd pts, (D : Int)] coord)
          (idx1 (width.toList D)) (idx1 (param.toList D))
        acc := true
        reshapes := [(batch ++ grid, shapeProd batch :: grid), (pts ++ [(D : Int)], [shapeProd pts, (D : Int)]),
                     ([shapeProd batch, shapeProd pts], batch ++ pts)]
        resultShape := batch ++ pts } := by
  obtain ⟨e1, e2⟩ := slice_batch_grid batch grid D hD hg
  have hsel : pyGet? (Gen.interpolateTable K) ((D : Int) - 1) = some (interpNest D K, true) := by
    obtain rfl | rfl | rfl : D = 1 ∨ D = 2 ∨ D = 3 := by omega
    all_goals
      simp [pyGet?, pyNorm, Gen.interpolateTable, interpNest,
        Gen.interp1_accumulates, Gen.interp2_accumulates, Gen.interp3_accumulates]
  unfold Gen.interpolateW
  simp only [pyGet?_append_last, pySliceTo_append_last, e1, e2, hsel,
    Option.bind_eq_bind, Option.bind_some, List.singleton_append]
  cases width <;> cases param <;> simp only [pyRepeat_singleton, Bc.toList]

/-- **`gridding`, the wrapper.**  For `shape = batch ++ grid`, `coord.shape = pts ++ [D]`, `D = len(grid) ∈ {1,2,3}`:
    the `D`-dimensional gridding loop nest (`_gridding[kernel][ndim - 1]`) is run on
    `output = zeros([prod batch] ++ grid)`, `input.reshape([prod batch, prod pts])`, `coord.reshape([prod pts, D])`,
    `width` / `param` broadcast, and the result is reshaped to the `shape` argument. -/
theorem griddingW_spec (K : Rat → Rat → Rat) (ishape batch grid pts : List Int) (D : Nat) (hD : 1 ≤ D) (hD3 : D ≤ 3)
    (hg : grid.length = D) (coord : List Rat) (width param : Bc) :
    Gen.griddingW K ishape (pts ++ [(D : Int)]) (batch ++ grid) coord width param = some
      { ndim := D
        oshape := shapeProd batch :: grid
        ishape := [shapeProd batch, shapeProd pts]
        entries := gridNest D K (shapeFn (shapeProd batch :: grid)) (shapeFn [shapeProd batch, shapeProd pts])
          (shapeFn [shapeProd pts, (D : Int)]) (arr2 [shapeProd pts, (D : Int)] coord)
          (idx1 (width.toList D)) (idx1 (param.toList D))
        acc := true
        reshapes := [(ishape, [shapeProd batch, shapeProd pts]), (pts ++ [(D : Int)], [shapeProd pts, (D : Int)]),
                     (shapeProd batch :: grid, batch ++ grid)]
        resultShape := batch ++ grid } := by
  obtain ⟨e1, e2⟩ := slice_batch_grid batch grid D hD hg
  have hsel : pyGet? (Gen.griddingTable K) ((D : Int) - 1) = some (gridNest D K, true) := by
    obtain rfl | rfl | rfl : D = 1 ∨ D = 2 ∨ D = 3 := by omega
    all_goals
      simp [pyGet?, pyNorm, Gen.griddingTable, gridNest,
        Gen.grid1_accumulates, Gen.grid2_accumulates, Gen.grid3_accumulates]
  unfold Gen.griddingW
  simp only [pyGet?_append_last, pySliceTo_append_last, e1, e2, hsel,
    Option.bind_eq_bind, Option.bind_some, List.singleton_append]
  cases width <;> cases param <;> simp only [pyRepeat_singleton, Bc.toList]

/-- the generated dispatch tables list the 1-, 2-, 3-dimensional loop nests in this order, and the
    generated index `ndim - 1` (inside `interpolateW_spec`) therefore selects loop nest `D` for `ndim = D` -/
theorem dispatch_tables (K : Rat → Rat → Rat) :
    (Gen.interpolateTable K).map (·.1) = [interpNest 1 K, interpNest 2 K, interpNest 3 K] ∧
    (Gen.griddingTable K).map (·.1) = [gridNest 1 K, gridNest 2 K, gridNest 3 K] := ⟨rfl, rfl⟩

-- non-vacuity: batch [2], grid [4,5], two points, scalar width, per-axis param
example (K : Rat → Rat → Rat) (coord : List Rat) :
    (Gen.interpolateW K [2, 4, 5] [2, 2] coord (.scalar 3) (.perAxis [1, 2])).map (fun w => (w.oshape, w.ishape, w.resultShape))
      = some ([2, 2], [2, 4, 5], [2, 2]) := by
  have := interpolateW_spec K [2] [4, 5] [2] 2 (by omega) (by omega) rfl coord (.scalar 3) (.perAxis [1, 2])
  simp only [List.cons_append, List.nil_append, Nat.cast_ofNat] at this
  rw [this]; rfl

theorem domainOk_spec (batch grid pts : List Int) (D : Nat) (hD : 1 ≤ D) (hD3 : D ≤ 3) (hg : grid.length = D) :
    domainOk (batch ++ grid) (pts ++ [(D : Int)]) = true := by
  simp only [domainOk, List.getLast?_append, List.getLast?_singleton, Option.some_or, List.length_append, hg,
    decide_eq_true_eq]
  omega

theorem shapeProd_pair (a b : Int) : shapeProd [a, b] = a * b := by
  rw [C09.shapeProd_cons, C09.shapeProd_cons, C09.shapeProd_nil, mul_one]

theorem pyReshape_pts (pts : List Int) (D : Nat) (hp : ∀ n ∈ pts, 0 ≤ n) :
    pyReshape (pts ++ [(D : Int)]) [shapeProd pts, (D : Int)] = some [shapeProd pts, (D : Int)] :=
  pyReshape_ok _ _ (by rw [C09.shapeProd_append, shapeProd_pair, C09.shapeProd_cons, C09.shapeProd_nil, mul_one])
    (List.forall_mem_cons.mpr ⟨C09.shapeProd_nonneg pts hp, List.forall_mem_cons.mpr ⟨Int.natCast_nonneg D, nofun⟩⟩)

/-- the reshapes performed by `interpolate` are legal for every array with non-negative extents -/
theorem interp_reshapes_ok (batch grid pts : List Int) (D : Nat)
    (hb : ∀ n ∈ batch, 0 ≤ n) (hgr : ∀ n ∈ grid, 0 ≤ n) (hp : ∀ n ∈ pts, 0 ≤ n) :
    ([(batch ++ grid, shapeProd batch :: grid), (pts ++ [(D : Int)], [shapeProd pts, (D : Int)]),
      ([shapeProd batch, shapeProd pts], batch ++ pts)] : List (List Int × List Int)).all
        (fun r => (pyReshape r.1 r.2).isSome) = true := by
  rw [List.all_cons, List.all_cons, List.all_cons, List.all_nil, pyReshape_pts pts D hp,
    pyReshape_ok (batch ++ grid) _ (by rw [C09.shapeProd_append, C09.shapeProd_cons])
      (List.forall_mem_cons.mpr ⟨C09.shapeProd_nonneg batch hb, hgr⟩),
    pyReshape_ok [shapeProd batch, shapeProd pts] _ (by rw [C09.shapeProd_append, shapeProd_pair])
      (List.forall_mem_append.mpr ⟨hb, hp⟩)]
  rfl

/-- **`interpolate` as executed by the driver** = the `D`-dimensional loop nest applied to the flattened batch and
    the flattened points with `width` / `param` broadcast, result shape `batch ++ pts`. -/
theorem wrapper_spec (K : Rat → Rat → Rat) (batch grid pts : List Int) (D : Nat) (hD : 1 ≤ D) (hD3 : D ≤ 3)
    (hg : grid.length = D) (hb : ∀ n ∈ batch, 0 ≤ n) (hgr : ∀ n ∈ grid, 0 ≤ n) (hp : ∀ n ∈ pts, 0 ≤ n)
    (coord : List Rat) (width param : Bc) (x : Array (Rat × Rat)) :
    interpolate K (batch ++ grid) (pts ++ [(D : Int)]) coord width param x =
      (applyC true [shapeProd batch, shapeProd pts] (shapeProd batch :: grid)
        (interpNest D K (shapeFn [shapeProd batch, shapeProd pts]) (shapeFn (shapeProd batch :: grid))
          (shapeFn [shapeProd pts, (D : Int)]) (arr2 [shapeProd pts, (D : Int)] coord)
          (idx1 (width.toList D)) (idx1 (param.toList D))) x).map fun y => (batch ++ pts, y) := by
  unfold interpolate
  rw [domainOk_spec batch grid pts D hD hD3 hg, interpolateW_spec K batch grid pts D hD hD3 hg]
  simp only [Bool.not_true, Bool.false_eq_true, if_false, Option.bind_eq_bind, Option.bind_some,
    Option.pure_def, reshapesOk, interp_reshapes_ok batch grid pts D hb hgr hp]
  cases applyC _ _ _ _ x <;> rfl

/-- **`gridding` as executed by the driver**: for input data of `prod batch · prod pts` elements, the `D`-dimensional
    gridding loop nest on the flattened problem, result reshaped to the `shape` argument `batch ++ grid`. -/
theorem gridding_wrapper_spec (K : Rat → Rat → Rat) (batch grid pts : List Int) (D : Nat) (hD : 1 ≤ D) (hD3 : D ≤ 3)
    (hg : grid.length = D) (hb : ∀ n ∈ batch, 0 ≤ n) (hgr : ∀ n ∈ grid, 0 ≤ n) (hp : ∀ n ∈ pts, 0 ≤ n)
    (coord : List Rat) (width param : Bc) (x : Array (Rat × Rat))
    (hx : (x.size : Int) = shapeProd batch * shapeProd pts) :
    gridding K (batch ++ grid) (pts ++ [(D : Int)]) coord width param x =
      (applyC true (shapeProd batch :: grid) [shapeProd batch, shapeProd pts]
        (gridNest D K (shapeFn (shapeProd batch :: grid)) (shapeFn [shapeProd batch, shapeProd pts])
          (shapeFn [shapeProd pts, (D : Int)]) (arr2 [shapeProd pts, (D : Int)] coord)
          (idx1 (width.toList D)) (idx1 (param.toList D))) x).map fun y => (batch ++ grid, y) := by
  unfold gridding
  rw [domainOk_spec batch grid pts D hD hD3 hg, griddingW_spec K _ batch grid pts D hD hD3 hg]
  have r1 : pyReshape [(x.size : Int)] [shapeProd batch, shapeProd pts] = some [shapeProd batch, shapeProd pts] :=
    pyReshape_ok _ _ (by rw [shapeProd_pair, C09.shapeProd_cons, C09.shapeProd_nil, mul_one, hx])
      (List.forall_mem_cons.mpr ⟨C09.shapeProd_nonneg batch hb,
        List.forall_mem_cons.mpr ⟨C09.shapeProd_nonneg pts hp, nofun⟩⟩)
  have r2 := pyReshape_pts pts D hp
  have r3 : pyReshape (shapeProd batch :: grid) (batch ++ grid) = some (batch ++ grid) :=
    pyReshape_ok _ _ (by rw [C09.shapeProd_append, C09.shapeProd_cons]) (List.forall_mem_append.mpr ⟨hb, hgr⟩)
  simp only [Bool.not_true, Bool.false_eq_true, if_false, Option.bind_eq_bind, Option.bind_some,
    Option.pure_def, reshapesOk, List.all_cons, List.all_nil, r1, r2, r3, Option.isSome_some, Bool.and_self]
  cases applyC _ _ _ _ x <;> rfl

/-- `_griddingD` is `_interpolateD` with destination and source swapped, for the selected `D` -/
theorem gridNest_eq_transpose (D : Nat) (K : Rat → Rat → Rat) (gsh psh csh : Int → Int)
    (coord : Int → Int → Rat) (width param : Int → Rat) :
    gridNest D K gsh psh csh coord width param = (interpNest D K psh gsh csh coord width param).map swapUpd := by
  unfold gridNest interpNest
  split
  · exact grid1_eq_transpose_interp1 ..
  · exact grid2_eq_transpose_interp2 ..
  · exact grid3_eq_transpose_interp3 ..

/-- every index the selected loop nest touches on the flattened problem is in bounds when the grid axes are
    non-empty (the `% n` wrap): destination in `[B, N]`, source in `[B] ++ grid`. -/
theorem interpNest_in_bounds (K : Rat → Rat → Rat) (D : Nat) (hD : 1 ≤ D) (hD3 : D ≤ 3) (B N : Int) (grid : List Int)
    (hg : grid.length = D) (hpos : ∀ n ∈ grid, 0 < n) (coord : Int → Int → Rat) (width param : Int → Rat) :
    ∀ u ∈ interpNest D K (shapeFn [B, N]) (shapeFn (B :: grid)) (shapeFn [N, (D : Int)]) coord width param,
      inBounds [B, N] u.1 = true ∧ inBounds (B :: grid) u.2.1 = true := by
  intro u hu
  have hB : ∀ {b j : Int}, 0 ≤ b → b < B → 0 ≤ j → j < N → inBounds [B, N] [b, j] = true := fun hb0 hb1 hj0 hj1 =>
    (inBounds_cons ..).mpr ⟨⟨hb0, hb1⟩, (inBounds_cons ..).mpr ⟨⟨hj0, hj1⟩, rfl⟩⟩
  obtain rfl | rfl | rfl : D = 1 ∨ D = 2 ∨ D = 3 := by omega
  · obtain ⟨g0, rfl⟩ : ∃ g0, grid = [g0] := List.length_eq_one_iff.mp hg
    obtain ⟨j, i, b, hj0, hj1, _, hb0, hb1, rfl⟩ :=
      (interp1_mem K (shapeFn [B, N]) (shapeFn [B, g0]) (shapeFn [N, ((1 : Nat) : Int)]) coord width param u).mp hu
    exact ⟨hB hb0 hb1 hj0 hj1, (inBounds_cons ..).mpr ⟨⟨hb0, hb1⟩,
      (inBounds_cons ..).mpr ⟨pyMod_range i g0 (hpos g0 (by simp)), rfl⟩⟩⟩
  · obtain ⟨g0, g1, rfl⟩ : ∃ g0 g1, grid = [g0, g1] := List.length_eq_two.mp hg
    obtain ⟨j, iy, ix, b, hj0, hj1, _, _, hb0, hb1, rfl⟩ :=
      (interp2_mem K (shapeFn [B, N]) (shapeFn [B, g0, g1]) (shapeFn [N, ((2 : Nat) : Int)]) coord width param u).mp hu
    exact ⟨hB hb0 hb1 hj0 hj1, (inBounds_cons ..).mpr ⟨⟨hb0, hb1⟩,
      (inBounds_cons ..).mpr ⟨pyMod_range iy g0 (hpos g0 (by simp)),
      (inBounds_cons ..).mpr ⟨pyMod_range ix g1 (hpos g1 (by simp)), rfl⟩⟩⟩⟩
  · obtain ⟨g0, g1, g2, rfl⟩ : ∃ g0 g1 g2, grid = [g0, g1, g2] := List.length_eq_three.mp hg
    obtain ⟨j, iz, iy, ix, b, hj0, hj1, _, _, _, hb0, hb1, rfl⟩ :=
      (interp3_mem K (shapeFn [B, N]) (shapeFn [B, g0, g1, g2]) (shapeFn [N, ((3 : Nat) : Int)]) coord width param u).mp hu
    exact ⟨hB hb0 hb1 hj0 hj1, (inBounds_cons ..).mpr ⟨⟨hb0, hb1⟩,
      (inBounds_cons ..).mpr ⟨pyMod_range iz g0 (hpos g0 (by simp)),
      (inBounds_cons ..).mpr ⟨pyMod_range iy g1 (hpos g1 (by simp)),
      (inBounds_cons ..).mpr ⟨pyMod_range ix g2 (hpos g2 (by simp)), rfl⟩⟩⟩⟩⟩

/-- flattening the batch axes: element `[batch…, g…]` of the original array is element `[ravel batch, g…]` of the
    reshaped one -/
theorem ravel_batch_flatten (batch grid bi g : List Int) (hbi : bi.length = batch.length) (hgl : g.length = grid.length) :
    ravel (shapeProd batch :: grid) (ravel batch bi :: g) = ravel (batch ++ grid) (bi ++ g) := by
  rw [C09.ravel_cons _ _ _ _ hgl, ravel_append _ _ _ _ hbi hgl]

/-- **`interpolate`, values.**  On a valid request (non-empty grid axes) the model function the driver executes
    returns an array of shape `batch ++ pts` whose entry at `[batch index…, point index…]` is the sum — with
    multiplicity — of `w · x[src]` over the updates `(dst, src, w)` of the `D`-dimensional loop nest with
    `dst = [flat batch index, flat point index]` (real and imaginary parts separately; the weights are real).
    By `interp{1,2,3}_mem` those updates are exactly the documented window `|i_d − c_d| ≤ W_d/2` with weights
    `Π_d K((i_d − c_d)/(W_d/2), param_d)` and periodic wrap; `x[src]` with `src = [b, i…]` is `input[batch index…, i…]`
    (`ravel_batch_flatten`). -/
theorem interpolate_value_spec (K : Rat → Rat → Rat) (batch grid pts : List Int) (D : Nat) (hD : 1 ≤ D) (hD3 : D ≤ 3)
    (hg : grid.length = D) (hb : ∀ n ∈ batch, 0 ≤ n) (hgr : ∀ n ∈ grid, 0 < n) (hp : ∀ n ∈ pts, 0 ≤ n)
    (coord : List Rat) (width param : Bc) (x : Array (Rat × Rat)) :
    let B := shapeProd batch
    let N := shapeProd pts
    let E := interpNest D K (shapeFn [B, N]) (shapeFn (B :: grid)) (shapeFn [N, (D : Int)])
      (arr2 [N, (D : Int)] coord) (idx1 (width.toList D)) (idx1 (param.toList D))
    ∃ y, interpolate K (batch ++ grid) (pts ++ [(D : Int)]) coord width param x = some (batch ++ pts, y) ∧
      y.size = (shapeProd (batch ++ pts)).toNat ∧
      ∀ bi pj, inBounds batch bi = true → inBounds pts pj = true →
        y.getD (ravel (batch ++ pts) (bi ++ pj)).toNat (0, 0) =
          (((E.filter fun u => u.1 = [ravel batch bi, ravel pts pj]).map
              fun u => u.2.2 * (x.getD (ravel (B :: grid) u.2.1).toNat (0, 0)).1).sum,
           ((E.filter fun u => u.1 = [ravel batch bi, ravel pts pj]).map
              fun u => u.2.2 * (x.getD (ravel (B :: grid) u.2.1).toNat (0, 0)).2).sum) := by
  intro B N E
  have hE := interpNest_in_bounds K D hD hD3 B N grid hg hgr (arr2 [N, (D : Int)] coord)
    (idx1 (width.toList D)) (idx1 (param.toList D))
  obtain ⟨y, y1, y2, y3⟩ := applyC_eq_runUpd true [B, N] (B :: grid) E x hE
  refine ⟨y, ?_, ?_, fun bi pj hbi hpj => ?_⟩
  · rw [wrapper_spec K batch grid pts D hD hD3 hg hb (fun n hn => le_of_lt (hgr n hn)) hp]
    show Option.map _ (applyC true [B, N] (B :: grid) E x) = _
    rw [y1]; rfl
  · rw [y2, C09.shapeProd_append, shapeProd_pair]
  · obtain ⟨b0, b1⟩ := ravel_range_of_inBounds hbi
    obtain ⟨p0, p1⟩ := ravel_range_of_inBounds hpj
    have hd : inBounds [B, N] [ravel batch bi, ravel pts pj] = true :=
      (inBounds_cons ..).mpr ⟨⟨b0, b1⟩, (inBounds_cons ..).mpr ⟨⟨p0, p1⟩, rfl⟩⟩
    have e : ravel (batch ++ pts) (bi ++ pj) = ravel [B, N] [ravel batch bi, ravel pts pj] := by
      rw [ravel_append _ _ _ _ (length_of_inBounds hbi) (length_of_inBounds hpj), ravel_pair]
    rw [e, y3 _ hd, runUpd_acc_eq_sum, runUpd_acc_eq_sum, zero_add, zero_add]

/-- **`gridding`, values.**  For input data of `prod batch · prod pts` elements the result has the shape of the `shape`
    argument `batch ++ grid`, and its entry at `[batch index…, grid index…]` is the sum — with multiplicity, so
    coincident points and wrapped window indices add — of `w · y[src]` over the updates of the `D`-dimensional
    *interpolation* loop nest, transposed: those with *source* `[flat batch index, grid index…]`, reading the
    point `dst`. -/
theorem gridding_value_spec (K : Rat → Rat → Rat) (batch grid pts : List Int) (D : Nat) (hD : 1 ≤ D) (hD3 : D ≤ 3)
    (hg : grid.length = D) (hb : ∀ n ∈ batch, 0 ≤ n) (hgr : ∀ n ∈ grid, 0 < n) (hp : ∀ n ∈ pts, 0 ≤ n)
    (coord : List Rat) (width param : Bc) (x : Array (Rat × Rat))
    (hx : (x.size : Int) = shapeProd batch * shapeProd pts) :
    let B := shapeProd batch
    let N := shapeProd pts
    let E := interpNest D K (shapeFn [B, N]) (shapeFn (B :: grid)) (shapeFn [N, (D : Int)])
      (arr2 [N, (D : Int)] coord) (idx1 (width.toList D)) (idx1 (param.toList D))
    ∃ y, gridding K (batch ++ grid) (pts ++ [(D : Int)]) coord width param x = some (batch ++ grid, y) ∧
      y.size = (shapeProd (batch ++ grid)).toNat ∧
      ∀ bi gi, inBounds batch bi = true → inBounds grid gi = true →
        y.getD (ravel (batch ++ grid) (bi ++ gi)).toNat (0, 0) =
          (((E.filter fun u => u.2.1 = ravel batch bi :: gi).map
              fun u => u.2.2 * (x.getD (ravel [B, N] u.1).toNat (0, 0)).1).sum,
           ((E.filter fun u => u.2.1 = ravel batch bi :: gi).map
              fun u => u.2.2 * (x.getD (ravel [B, N] u.1).toNat (0, 0)).2).sum) := by
  intro B N E
  have hE := interpNest_in_bounds K D hD hD3 B N grid hg hgr (arr2 [N, (D : Int)] coord)
    (idx1 (width.toList D)) (idx1 (param.toList D))
  have hE' : ∀ u ∈ E.map swapUpd, inBounds (B :: grid) u.1 = true ∧ inBounds [B, N] u.2.1 = true := by
    intro u hu
    obtain ⟨v, hv, rfl⟩ := List.mem_map.mp hu
    exact ⟨(hE v hv).2, (hE v hv).1⟩
  obtain ⟨y, y1, y2, y3⟩ := applyC_eq_runUpd true (B :: grid) [B, N] (E.map swapUpd) x hE'
  refine ⟨y, ?_, ?_, fun bi gi hbi hgi => ?_⟩
  · rw [gridding_wrapper_spec K batch grid pts D hD hD3 hg hb (fun n hn => le_of_lt (hgr n hn)) hp _ _ _ _ hx,
      gridNest_eq_transpose]
    show Option.map _ (applyC true (B :: grid) [B, N] (E.map swapUpd) x) = _
    rw [y1]; rfl
  · rw [y2, C09.shapeProd_append, C09.shapeProd_cons]
  · obtain ⟨b0, b1⟩ := ravel_range_of_inBounds hbi
    have hd : inBounds (B :: grid) (ravel batch bi :: gi) = true := (inBounds_cons ..).mpr ⟨⟨b0, b1⟩, hgi⟩
    have e : ravel (batch ++ grid) (bi ++ gi) = ravel (B :: grid) (ravel batch bi :: gi) :=
      (ravel_batch_flatten batch grid bi gi (length_of_inBounds hbi) (length_of_inBounds hgi)).symm
    rw [e, y3 _ hd, runUpd_acc_eq_sum, runUpd_acc_eq_sum, zero_add, zero_add]
    simp only [List.filter_map, List.map_map]
    rfl

-- non-vacuity of the value statement: linear interpolation of x = [10, 20, 30, 40] at c = 3/2 (W = 2) is 25
example : interpolate (fun u _ => 1 - |u|) [4] [1, 1] [3 / 2] (.scalar 2) (.scalar 1)
    #[(10, 0), (20, 0), (30, 0), (40, 0)] = some ([1], #[(25, 0)]) := by
  decide +kernel

/-- the updates of `_interpolate1` that target `[b, j]`, in program order: one per integer of the window of point `j` -/
theorem interp1_filter_dst (K : Rat → Rat → Rat) (osh ish csh : Int → Int) (coord : Int → Int → Rat)
    (width param : Int → Rat) (b0 j0 : Int) (hb : 0 ≤ b0 ∧ b0 < ish 0) (hj : 0 ≤ j0 ∧ j0 < csh 0) :
    (Gen.interp1 K osh ish csh coord width param).filter (fun u => u.1 = [b0, j0]) =
      (pyRange (Rat.ceil (coord j0 (-1) - width (-1) / 2)) (Rat.floor (coord j0 (-1) + width (-1) / 2) + 1) 1).map
        fun i => ([b0, j0], [b0, pyMod i (ish 1)],
          K (((i : Rat) - coord j0 (-1)) / (width (-1) / 2)) (param (-1))) := by
  unfold Gen.interp1
  simp only [cast2, List.filter_flatMap, filter_dst_batch _ _ _ _ hb]
  rw [flatMap_eq_of_unique _ _ j0 (pyRange_nodup _ _ _) (mem_pyRange0'.mpr hj)]
  · simp only [if_true, ← List.map_eq_flatMap]
  · intro j _ hne
    simp only [if_neg hne, List.flatMap_eq_nil_iff, implies_true]

theorem interp2_filter_dst (K : Rat → Rat → Rat) (osh ish csh : Int → Int) (coord : Int → Int → Rat)
    (width param : Int → Rat) (b0 j0 : Int) (hb : 0 ≤ b0 ∧ b0 < ish 0) (hj : 0 ≤ j0 ∧ j0 < csh 0) :
    (Gen.interp2 K osh ish csh coord width param).filter (fun u => u.1 = [b0, j0]) =
      (pyRange (Rat.ceil (coord j0 (-2) - width (-2) / 2)) (Rat.floor (coord j0 (-2) + width (-2) / 2) + 1) 1).flatMap
        fun iy =>
      (pyRange (Rat.ceil (coord j0 (-1) - width (-1) / 2)) (Rat.floor (coord j0 (-1) + width (-1) / 2) + 1) 1).map
        fun ix => ([b0, j0], [b0, pyMod iy (ish 1), pyMod ix (ish 2)],
          K (((iy : Rat) - coord j0 (-2)) / (width (-2) / 2)) (param (-2)) *
          K (((ix : Rat) - coord j0 (-1)) / (width (-1) / 2)) (param (-1))) := by
  unfold Gen.interp2
  simp only [cast2, List.filter_flatMap, filter_dst_batch _ _ _ _ hb]
  rw [flatMap_eq_of_unique _ _ j0 (pyRange_nodup _ _ _) (mem_pyRange0'.mpr hj)]
  · simp only [if_true, ← List.map_eq_flatMap]
  · intro j _ hne
    simp only [if_neg hne, List.flatMap_eq_nil_iff, implies_true]

theorem interp3_filter_dst (K : Rat → Rat → Rat) (osh ish csh : Int → Int) (coord : Int → Int → Rat)
    (width param : Int → Rat) (b0 j0 : Int) (hb : 0 ≤ b0 ∧ b0 < ish 0) (hj : 0 ≤ j0 ∧ j0 < csh 0) :
    (Gen.interp3 K osh ish csh coord width param).filter (fun u => u.1 = [b0, j0]) =
      (pyRange (Rat.ceil (coord j0 (-3) - width (-3) / 2)) (Rat.floor (coord j0 (-3) + width (-3) / 2) + 1) 1).flatMap
        fun iz =>
      (pyRange (Rat.ceil (coord j0 (-2) - width (-2) / 2)) (Rat.floor (coord j0 (-2) + width (-2) / 2) + 1) 1).flatMap
        fun iy =>
      (pyRange (Rat.ceil (coord j0 (-1) - width (-1) / 2)) (Rat.floor (coord j0 (-1) + width (-1) / 2) + 1) 1).map
        fun ix => ([b0, j0], [b0, pyMod iz (ish 1), pyMod iy (ish 2), pyMod ix (ish 3)],
          K (((iz : Rat) - coord j0 (-3)) / (width (-3) / 2)) (param (-3)) *
          K (((iy : Rat) - coord j0 (-2)) / (width (-2) / 2)) (param (-2)) *
          K (((ix : Rat) - coord j0 (-1)) / (width (-1) / 2)) (param (-1))) := by
  unfold Gen.interp3
  simp only [cast2, List.filter_flatMap, filter_dst_batch _ _ _ _ hb]
  rw [flatMap_eq_of_unique _ _ j0 (pyRange_nodup _ _ _) (mem_pyRange0'.mpr hj)]
  · simp only [if_true, ← List.map_eq_flatMap]
  · intro j _ hne
    simp only [if_neg hne, List.flatMap_eq_nil_iff, implies_true]

/-- **1-D interpolation, fully explicit.**  `interpolate(x, coord, K, width, param)[batch…, pts…]` for a grid of
    `n > 0` cells is `Σ_{i = ⌈c − W/2⌉}^{⌊c + W/2⌋} K((i − c)/(W/2), p) · x[batch…, i mod n]` where `c` is the
    coordinate of that point, `W` / `p` the (broadcast) width / param — the docstring's sum with periodic wrap,
    for what the driver executes. -/
theorem interpolate1_value_explicit (K : Rat → Rat → Rat) (batch pts : List Int) (n : Int) (hn : 0 < n)
    (hb : ∀ m ∈ batch, 0 ≤ m) (hp : ∀ m ∈ pts, 0 ≤ m)
    (coord : List Rat) (width param : Bc) (x : Array (Rat × Rat)) :
    ∃ y, interpolate K (batch ++ [n]) (pts ++ [1]) coord width param x = some (batch ++ pts, y) ∧
      ∀ bi pj, inBounds batch bi = true → inBounds pts pj = true →
        let c := arr2 [shapeProd pts, 1] coord (ravel pts pj) (-1)
        let W := idx1 (width.toList 1) (-1)
        let win := pyRange (Rat.ceil (c - W / 2)) (Rat.floor (c + W / 2) + 1) 1
        y.getD (ravel (batch ++ pts) (bi ++ pj)).toNat (0, 0) =
          ((win.map fun (i : Int) => K (((i : Rat) - c) / (W / 2)) (idx1 (param.toList 1) (-1)) *
              (x.getD (ravel (batch ++ [n]) (bi ++ [pyMod i n])).toNat (0, 0)).1).sum,
           (win.map fun (i : Int) => K (((i : Rat) - c) / (W / 2)) (idx1 (param.toList 1) (-1)) *
              (x.getD (ravel (batch ++ [n]) (bi ++ [pyMod i n])).toNat (0, 0)).2).sum) := by
  obtain ⟨y, h1, _, h3⟩ := interpolate_value_spec K batch [n] pts 1 le_rfl (by omega) rfl hb
    (fun m hm => List.mem_singleton.mp hm ▸ hn) hp coord width param x
  refine ⟨y, h1, fun bi pj hbi hpj => ?_⟩
  -- the updates that target this element are one per integer of the window (`interp1_filter_dst`) …
  have hf := interp1_filter_dst K (shapeFn [shapeProd batch, shapeProd pts]) (shapeFn [shapeProd batch, n])
    (shapeFn [shapeProd pts, ((1 : Nat) : Int)]) (arr2 [shapeProd pts, ((1 : Nat) : Int)] coord)
    (idx1 (width.toList 1)) (idx1 (param.toList 1)) (ravel batch bi) (ravel pts pj)
    (ravel_range_of_inBounds hbi) (ravel_range_of_inBounds hpj)
  -- … and each reads `x[batch…, i mod n]`
  have e : ∀ i : Int, ravel [shapeProd batch, n] [ravel batch bi, pyMod i (shapeFn [shapeProd batch, n] 1)]
      = ravel (batch ++ [n]) (bi ++ [pyMod i n]) := fun i =>
    ravel_batch_flatten batch [n] bi [pyMod i n] (length_of_inBounds hbi) rfl
  intro c W win
  rw [h3 bi pj hbi hpj]
  simp only [interpNest, hf, List.map_map, Function.comp_def, e]
  rfl

-- gridding the value 8 at c = 3/2 (W = 2, linear) onto a grid of 4 cells puts 4 on cells 1 and 2; `shape = [4]`
example : gridding (fun u _ => 1 - |u|) [4] [1, 1] [3 / 2] (.scalar 2) (.scalar 1) #[(8, 0)]
    = some ([4], #[(0, 0), (4, 0), (4, 0), (0, 0)]) := by
  decide +kernel

-- a request whose input cannot be reshaped to `[batch_size, npts]` is an error (numpy raises ValueError)
example : gridding (fun u _ => 1 - |u|) [4] [1, 1] [3 / 2] (.scalar 2) (.scalar 1) #[(8, 0), (1, 0)] = none := by
  decide +kernel

end SigpyVerif.C07
