import SigpyVerif.Model.C11
import SigpyVerif.Props.C11L1Body
import Mathlib.Algebra.Order.Field.Rat
import Mathlib.Algebra.BigOperators.Group.List.Basic
/-
  C11 — `Model/C11.lean: duchiTheta`, a second executable index search (insertion sort descending, cumsum, `zip`
  with `range`, the generated `l1projSt` / `l1projCond`, `filter`, `getLast?`) that the driver runs for the
  correspondence stream `duchi-kkt`, always returns a threshold that passes the exact KKT certificate `kktOk`
  (`duchiTheta_kkt`).  The model's `l1projQ` does not call it: it runs the generated body, whose search is
  `l1body_theta` (Props/C11L1Body).
-/
namespace SigpyVerif.C11
open SigpyVerif.Gen.Prox Finset

theorem insDesc_perm (a : Rat) (l : List Rat) : (insDesc a l).Perm (a :: l) := by
  induction l with
  | nil => exact List.Perm.refl _
  | cons b t ih =>
    unfold insDesc
    split_ifs
    · exact List.Perm.refl _
    · exact (List.Perm.cons b ih).trans (List.Perm.swap a b t)

theorem sortDesc_perm (l : List Rat) : (sortDesc l).Perm l := by
  induction l with
  | nil => exact List.Perm.refl _
  | cons a t ih =>
    have : sortDesc (a :: t) = insDesc a (sortDesc t) := rfl
    rw [this]
    exact (insDesc_perm a _).trans (List.Perm.cons a ih)

theorem insDesc_sorted (a : Rat) (l : List Rat) (h : l.Pairwise (· ≥ ·)) : (insDesc a l).Pairwise (· ≥ ·) := by
  induction l with
  | nil => simp [insDesc]
  | cons b t ih =>
    rw [List.pairwise_cons] at h
    unfold insDesc
    split_ifs with hba
    · refine List.pairwise_cons.mpr ⟨fun x hx => ?_, List.pairwise_cons.mpr h⟩
      rcases List.mem_cons.mp hx with rfl | hx
      · exact hba.le
      · exact le_trans (h.1 x hx) hba.le
    · refine List.pairwise_cons.mpr ⟨fun x hx => ?_, ih h.2⟩
      rcases List.mem_cons.mp ((insDesc_perm a t).mem_iff.mp hx) with rfl | hx
      · exact not_lt.mp hba
      · exact h.1 x hx

theorem sortDesc_sorted (l : List Rat) : (sortDesc l).Pairwise (· ≥ ·) := by
  induction l with
  | nil => simp [sortDesc]
  | cons a t ih =>
    have : sortDesc (a :: t) = insDesc a (sortDesc t) := rfl
    rw [this]; exact insDesc_sorted a _ ih

def psums (acc : Rat) : List Rat → List Rat
  | [] => []
  | a :: t => (acc + a) :: psums (acc + a) t

theorem cumsum_fold (l : List Rat) (acc : Rat) (rev : List Rat) :
    l.foldl (fun (acc : Rat × List Rat) a => (acc.1 + a, (acc.1 + a) :: acc.2)) (acc, rev)
      = (acc + l.sum, (psums acc l).reverse ++ rev) := by
  induction l generalizing acc rev with
  | nil => simp [psums]
  | cons a t ih =>
    rw [List.foldl_cons, ih]
    simp [psums, add_assoc]

theorem cumsum_eq (l : List Rat) : cumsum l = psums 0 l := by
  unfold cumsum
  rw [cumsum_fold]; simp

theorem psums_eq_cumsumFrom (acc : Rat) (l : List Rat) : psums acc l = cumsumFrom acc l := by
  induction l generalizing acc with
  | nil => rfl
  | cons a t ih => rw [psums, cumsumFrom, ih]

theorem take_sum_eq (l : List Rat) (k : ℕ) : (l.take k).sum = ∑ i ∈ range k, l.getD i 0 := by
  induction l generalizing k with
  | nil => simp
  | cons a t ih =>
    cases k with
    | zero => simp
    | succ k =>
      rw [List.take_succ_cons, List.sum_cons, ih, sum_range_succ', add_comm]
      simp only [List.getD_cons_succ, List.getD_cons_zero]

theorem getLast?_filter_some {α : Type} (p : α → Bool) (L : List α) (x : α)
    (h : (L.filter p).getLast? = some x) :
    ∃ l₁ l₂, L = l₁ ++ x :: l₂ ∧ p x = true ∧ ∀ z ∈ l₂, p z = false := by
  obtain ⟨ys, hys⟩ := List.getLast?_eq_some_iff.mp h
  obtain ⟨a, b, hab, _, hb⟩ := List.filter_eq_append_iff.mp hys
  obtain ⟨b₁, b₂, hb12, _, hpx, hb2⟩ := List.filter_eq_cons_iff.mp hb
  refine ⟨a ++ b₁, b₂, by rw [hab, hb12, List.append_assoc], hpx, fun z hz => ?_⟩
  have := List.filter_eq_nil_iff.mp hb2 z hz
  simpa using this

/-- the sorted moduli as a sequence, and the list the code filters: `zip(s, st)` -/
theorem duchi_zip_eq (eps : Rat) (s : List Rat) :
    List.zip s ((List.zip (cumsum s) (List.range s.length)).map fun (ck, k) => l1projSt ck eps ((k : Nat) : Rat))
      = (List.range s.length).map fun k =>
          (s.getD k 0, l1projSt (∑ i ∈ range (k + 1), s.getD i 0) eps ((k : Nat) : Rat)) := by
  have hlen : (cumsum s).length = s.length := by rw [cumsum_eq, psums_eq_cumsumFrom, cumsumFrom_length]
  rw [List.zip_eq_zipWith, List.zip_eq_zipWith, List.map_zipWith, ← List.map_id (List.range s.length),
    zipWith_map_range _ (cumsum s) 0 id hlen, zipWith_map_range _ s 0 _ rfl, List.map_id]
  refine List.map_congr_left fun k hk => ?_
  rw [cumsum_eq, psums_eq_cumsumFrom, cumsumFrom_getD 0 s k (List.mem_range.mp hk), zero_add]; rfl

/-- the generated condition at index `k` of the sorted list, in inequality form -/
theorem model_cond_iff (eps : Rat) (s : List Rat) (k : ℕ) :
    l1projCond (s.getD k 0) (l1projSt (∑ i ∈ range (k + 1), s.getD i 0) eps ((k : Nat) : Rat)) = true ↔
      s.getD k 0 - ((∑ i ∈ range (k + 1), s.getD i 0) - eps) / ((k : Rat) + 1) > 0 :=
  l1projCond_iff _ _ _ _

/-- **`duchiTheta` (the index search the driver runs for the stream `duchi-kkt`) returns a KKT threshold**: for
    non-negative moduli with `Σ mods ≥ eps > 0` (the else-branch) it returns `some θ` — so `.max()` is never taken of
    an empty array — and `θ` passes the exact certificate `kktOk` (`θ ≥ 0`, `Σ (m - θ)₊ = eps`) that the
    correspondence stream `duchi-kkt` evaluates per case. -/
theorem duchiTheta_kkt (eps : Rat) (mods : List Rat) (hε : 0 < eps) (hnn : ∀ m ∈ mods, 0 ≤ m)
    (hsum : eps ≤ mods.sum) : ∃ θ, duchiTheta eps mods = some θ ∧ kktOk eps θ mods = true := by
  set s := sortDesc mods with hs
  have hperm : s.Perm mods := sortDesc_perm mods
  set F : ℕ → Rat × Rat := fun k =>
    (s.getD k 0, l1projSt (∑ i ∈ range (k + 1), s.getD i 0) eps ((k : Nat) : Rat)) with hF
  set p : Rat × Rat → Bool := fun x => l1projCond x.1 x.2
  have hdef : duchiTheta eps mods = (((List.range s.length).map F).filter p).getLast?.map (·.2) := by
    unfold duchiTheta
    simp only [← hs]
    rw [duchi_zip_eq]
  cases hlast : (((List.range s.length).map F).filter p).getLast? with
  | none =>
    -- index `0` always passes the filter
    exfalso
    have hnpos : 0 < s.length := List.length_pos_of_sum_pos s (hperm.sum_eq ▸ lt_of_lt_of_le hε hsum)
    exact List.filter_eq_nil_iff.mp (List.getLast?_eq_none_iff.mp hlast) (F 0)
      (List.mem_map.mpr ⟨0, List.mem_range.mpr hnpos, rfl⟩)
      ((model_cond_iff eps s 0).mpr (duchi_cond_zero (fun k => s.getD k 0) hε))
  | some x =>
    -- `x = F ρ` for the last index `ρ` that passes the filter
    obtain ⟨l₁, l₂, hL, hpx, hl₂⟩ := getLast?_filter_some p _ x hlast
    obtain ⟨r₁, r₂, hr, _, hr₂⟩ := List.map_eq_append_iff.mp hL
    obtain ⟨ρ, r₃, hr₂', hxρ, hr₃⟩ := List.map_eq_cons_iff.mp hr₂
    subst hr₂'
    have hρ : ρ < s.length := List.mem_range.mp (by rw [hr]; simp)
    have hafter : ∀ k, ρ < k → k < s.length → p (F k) = false := by
      intro k hk hkn
      have hkmem : k ∈ List.range s.length := List.mem_range.mpr hkn
      rw [hr] at hkmem
      have hpw : (r₁ ++ ρ :: r₃).Pairwise (· < ·) := hr ▸ List.pairwise_lt_range
      rcases List.mem_append.mp hkmem with h | h
      · have := (List.pairwise_append.mp hpw).2.2 k h ρ (List.mem_cons_self)
        omega
      · rcases List.mem_cons.mp h with h | h
        · omega
        · exact hl₂ _ (hr₃ ▸ List.mem_map.mpr ⟨k, h, rfl⟩)
    have hx2 : x.2 = ((∑ i ∈ range (ρ + 1), s.getD i 0) - eps) / ((ρ : Rat) + 1) := by
      rw [← hxρ]; simp only [hF]; unfold l1projSt; ring
    have hcρ : p (F ρ) = true := by rw [hxρ]; exact hpx
    have core := duchi_core_sorted s mods hperm (sortDesc_sorted mods) hnn hsum ρ hρ
      ((model_cond_iff eps s ρ).mp hcρ)
      (fun h hc => Bool.false_ne_true
        ((hafter (ρ + 1) (Nat.lt_succ_self ρ) h).symm.trans ((model_cond_iff eps s (ρ + 1)).mpr hc)))
    rw [← hx2] at core
    refine ⟨x.2, by rw [hdef, hlast]; rfl, ?_⟩
    unfold kktOk
    rw [Bool.and_eq_true, decide_eq_true_iff, decide_eq_true_iff]
    refine ⟨core.1, ?_⟩
    have hfold : ∀ (l : List Rat) (acc : Rat),
        l.foldl (fun acc m => acc + (if m - x.2 > 0 then m - x.2 else 0)) acc
          = acc + (l.map fun m => max (m - x.2) 0).sum := by
      intro l
      induction l with
      | nil => intro acc; simp
      | cons a t ih =>
        intro acc
        rw [List.foldl_cons, ih, List.map_cons, List.sum_cons]
        have : (if a - x.2 > 0 then a - x.2 else 0) = max (a - x.2) 0 := by
          split_ifs with h
          · exact (max_eq_left h.le).symm
          · exact (max_eq_right (not_lt.mp h)).symm
        rw [this]; ring
    rw [hfold, zero_add]
    exact core.2

/-- `|y| = (1, 3)`, `eps = 2` -/
example : ∃ θ, duchiTheta 2 [1, 3] = some θ ∧ kktOk 2 θ [1, 3] = true :=
  duchiTheta_kkt 2 [1, 3] (by norm_num) (by intro m hm; simp at hm; rcases hm with rfl | rfl <;> norm_num) (by norm_num)

end SigpyVerif.C11
