import SigpyVerif.Props.C01Leaves
/-
  C01 — MatMul / RightMatMul leaf pairs, proved at the entry level for all valid symbolic parameters:
  any matrix shape `[.., m, n]`, any input shape `[.., n, c]` (resp. `[.., r, m]`), leading batch axes
  on either side (ranks may differ; singleton batch axes broadcast), `adjoint` flag on or off, and
  the adjoint exactly as `_adjoint_linop` builds it:
      `Reshape(ishape, ·) ∘ Sum(_get_matmul_adjoint_sum_axes) ∘ (Right)MatMul(oshape, mat, not adjoint)`.

  Method: both entry lists are brought into a four-deep loop form (`loop4`: batch index, two matrix
  indices of one side, contracted index); the adjoint's loop nest is the forward nest with two loops
  interchanged and every entry index-swapped and conjugated, hence a permutation of the conjugate
  transpose (`isAdj_of_perm`).  The Sum over the broadcast batch axes followed by the Reshape sends the
  output index of the inner (Right)MatMul to the broadcast input index of the forward operator
  (`rm_bcast`, as for Multiply).
-/
set_option linter.unusedSectionVars false
set_option linter.unusedVariables false
namespace SigpyVerif.C01
open SigpyVerif

theorem flatMap_swap_perm {A B C : Type} (l1 : List A) (l2 : List B) (g : A → B → List C) :
    (l1.flatMap fun a => l2.flatMap fun b => g a b).Perm (l2.flatMap fun b => l1.flatMap fun a => g a b) := by
  induction l1 with
  | nil => simp
  | cons a l1 ih =>
    simp only [List.flatMap_cons]
    exact (List.Perm.append_left _ ih).trans (List.flatMap_append_perm l2 _ _)

/-- four nested loops: batch multi-index, then three scalar loops -/
def loop4 {γ : Type} (ob : List Int) (A B C : Int) (f : List Int → Int → Int → Int → γ) : List γ :=
  (allIdx ob).flatMap fun kb => (pyRange0 A).flatMap fun a => (pyRange0 B).flatMap fun b =>
    (pyRange0 C).flatMap fun c => [f kb a b c]

theorem loop4_congr {γ : Type} (ob : List Int) (A B C : Int) (f g : List Int → Int → Int → Int → γ)
    (h : ∀ kb ∈ allIdx ob, ∀ a ∈ pyRange0 A, ∀ b ∈ pyRange0 B, ∀ c ∈ pyRange0 C, f kb a b c = g kb a b c) :
    loop4 ob A B C f = loop4 ob A B C g := by
  unfold loop4
  apply List.flatMap_congr; intro kb hkb
  apply List.flatMap_congr; intro a ha
  apply List.flatMap_congr; intro b hb
  apply List.flatMap_congr; intro c hc
  rw [h kb hkb a ha b hb c hc]

theorem loop4_map {γ δ : Type} (ob : List Int) (A B C : Int) (f : List Int → Int → Int → Int → γ) (φ : γ → δ) :
    (loop4 ob A B C f).map φ = loop4 ob A B C fun kb a b c => φ (f kb a b c) := by
  unfold loop4
  simp only [List.map_flatMap, List.map_cons, List.map_nil]

/-- interchange of the last two loops -/
theorem loop4_perm_23 {γ : Type} (ob : List Int) (A B C : Int) (f : List Int → Int → Int → Int → γ) :
    (loop4 ob A C B fun kb a c b => f kb a b c).Perm (loop4 ob A B C f) := by
  unfold loop4
  apply List.Perm.flatMap_left; intro kb _
  apply List.Perm.flatMap_left; intro a _
  exact flatMap_swap_perm _ _ _

/-- interchange of the first and the last scalar loop -/
theorem loop4_perm_13 {γ : Type} (ob : List Int) (A B C : Int) (f : List Int → Int → Int → Int → γ) :
    (loop4 ob C B A fun kb c b a => f kb a b c).Perm (loop4 ob A B C f) := by
  unfold loop4
  apply List.Perm.flatMap_left; intro kb _
  -- (c, b, a) → (c, a, b) → (a, c, b) → (a, b, c)
  refine (List.Perm.flatMap_left _ (fun c _ => flatMap_swap_perm (pyRange0 B) (pyRange0 A)
    (fun b a => [f kb a b c]))).trans ?_
  refine (flatMap_swap_perm (pyRange0 C) (pyRange0 A) (fun c a => (pyRange0 B).flatMap fun b => [f kb a b c])).trans ?_
  apply List.Perm.flatMap_left; intro a _
  exact flatMap_swap_perm _ _ _

theorem allIdx_append (a b : List Int) :
    allIdx (a ++ b) = (allIdx a).flatMap fun ka => (allIdx b).map fun kb => ka ++ kb := by
  induction a with
  | nil => simp [allIdx]
  | cons n a ih =>
    simp only [List.cons_append, allIdx, ih, List.flatMap_assoc, List.flatMap_map, List.map_flatMap,
      List.map_map, Function.comp_def, List.cons_append]

theorem allIdx_pair (P Q : Int) :
    allIdx [P, Q] = (pyRange0 P).flatMap fun r => (pyRange0 Q).flatMap fun c => [[r, c]] := by
  simp only [allIdx, List.map_cons, List.map_nil, List.map_flatMap]

/-- a loop over the multi-indices of `ob ++ [P, Q]` with an inner loop of length `T`, in `loop4` form -/
theorem loopify {γ : Type} (ob : List Int) (P Q T : Int) (F : List Int → Int → γ) :
    ((allIdx (ob ++ [P, Q])).flatMap fun k => (pyRange0 T).map fun t => F k t)
      = loop4 ob P Q T fun kb r c t => F (kb ++ [r, c]) t := by
  unfold loop4
  rw [allIdx_append, allIdx_pair]
  simp only [List.flatMap_assoc, List.map_flatMap, List.map_cons, List.map_nil,
    List.flatMap_cons, List.flatMap_nil, List.append_nil]
  apply List.flatMap_congr; intro kb _
  apply List.flatMap_congr; intro r _
  apply List.flatMap_congr; intro c _
  induction pyRange0 T with
  | nil => rfl
  | cons t l ih => simp [ih]

theorem len_sub2 (a : List Int) (x y : Int) : (a ++ [x, y]).length - 2 = a.length := by
  rw [List.length_append]; rfl
theorem len_sub1 (a : List Int) (x y : Int) : (a ++ [x, y]).length - 1 = a.length + 1 := by
  rw [List.length_append]; rfl
theorem take_app2 (a : List Int) (x y : Int) (n : Nat) (h : a.length = n) : List.take n (a ++ [x, y]) = a :=
  List.take_left' h
theorem getI_app2_0 (a : List Int) (x y : Int) (n : Nat) (h : a.length = n) : getI (a ++ [x, y]) n = x := by
  subst h
  rw [getI, List.getD_eq_getElem?_getD, List.getElem?_append_right (le_refl _), Nat.sub_self]; rfl
theorem getI_app2_1 (a : List Int) (x y : Int) (n : Nat) (h : a.length = n) : getI (a ++ [x, y]) (n + 1) = y := by
  subst h
  rw [getI, List.getD_eq_getElem?_getD, List.getElem?_append_right (Nat.le_add_right _ 1),
    Nat.add_sub_cancel_left]; rfl
theorem getI_append_left (a b : List Int) (t : Nat) (h : t < a.length) : getI (a ++ b) t = getI a t := by
  rw [getI, getI, List.getD_eq_getElem?_getD, List.getD_eq_getElem?_getD, List.getElem?_append_left h]
theorem swapLast2_app2 (a : List Int) (x y : Int) : swapLast2 (a ++ [x, y]) = a ++ [y, x] := by
  unfold swapLast2
  simp only [len_sub2, len_sub1, take_app2 a x y _ rfl, getI_app2_0 a x y _ rfl, getI_app2_1 a x y _ rfl]

theorem split_last2 (l : List Int) (h : 2 ≤ l.length) :
    ∃ a x y, l = a ++ [x, y] := by
  have h1 : l ≠ [] := by rintro rfl; simp at h
  have h2 : l.dropLast ≠ [] := by
    intro h0
    have := congrArg List.length h0
    rw [List.length_dropLast, List.length_nil] at this
    omega
  refine ⟨l.dropLast.dropLast, l.dropLast.getLast h2, l.getLast h1, ?_⟩
  rw [List.append_cons, List.dropLast_append_getLast, List.dropLast_append_getLast]

section
variable {α : Type} [CommRing α] [StarRing α]

/-- rows / columns of `M' = conj(M).swapaxes(-1,-2)` (when `adjoint`) for `M` of shape `[.., M2, M1]` -/
def mm2 (adjoint : Bool) (M2 M1 : Int) : Int := if adjoint then M1 else M2
def mm1 (adjoint : Bool) (M2 M1 : Int) : Int := if adjoint then M2 else M1

/-- the inner-dimension test of `_get_matmul_oshape` / `_get_right_matmul_oshape` -/
def mmCond (right adjoint : Bool) (I2 I1 M2 M1 : Int) : Prop :=
  if right then I1 = mm2 adjoint M2 M1 else mm1 adjoint M2 M1 = I2

def mmP (right adjoint : Bool) (I2 I1 M2 M1 : Int) : Int := if right then I2 else mm2 adjoint M2 M1
def mmQ (right adjoint : Bool) (I2 I1 M2 M1 : Int) : Int := if right then mm1 adjoint M2 M1 else I1
def mmT (right adjoint : Bool) (I2 I1 M2 M1 : Int) : Int := if right then I1 else mm1 adjoint M2 M1

def mmOsh (right adjoint : Bool) (ob : List Int) (I2 I1 M2 M1 : Int) : List Int :=
  ob ++ [mmP right adjoint I2 I1 M2 M1, mmQ right adjoint I2 I1 M2 M1]

/-- the entry for batch index `kb`, output position `(r, c)`, contracted index `t` -/
def mmEnt (right adjoint : Bool) (osh ib mb ie me : List Int) (mat : List α) (kb : List Int) (r c t : Int) : Ent α :=
  if right then
    (fl osh (kb ++ [r, c]), fl ie (bcast ib kb ++ [r, t]),
      if adjoint then star (mat.getD (fl me (bcast mb kb ++ [c, t])) 0) else mat.getD (fl me (bcast mb kb ++ [t, c])) 0)
  else
    (fl osh (kb ++ [r, c]), fl ie (bcast ib kb ++ [t, c]),
      if adjoint then star (mat.getD (fl me (bcast mb kb ++ [t, r])) 0) else mat.getD (fl me (bcast mb kb ++ [r, t])) 0)

def mmE (right adjoint : Bool) (ob ib mb : List Int) (I2 I1 M2 M1 : Int) (mat : List α) : List (Ent α) :=
  loop4 ob (mmP right adjoint I2 I1 M2 M1) (mmQ right adjoint I2 I1 M2 M1) (mmT right adjoint I2 I1 M2 M1)
    (mmEnt right adjoint (mmOsh right adjoint ob I2 I1 M2 M1) ib mb (ib ++ [I2, I1]) (mb ++ [M2, M1]) mat)

/-- `matmulSem` with the do-block guards written as nested ifs (definitionally the same) -/
def matmulSemC (right : Bool) (ish msh : List Int) (mat : List α) (adjoint : Bool) : Option (Sem α) :=
  if ish.length < 2 ∨ msh.length < 2 then none else
  if mat.length ≠ (shapeProd msh).toNat then none else
  let ie := (C09.expandShapes ish msh).1
  let me := (C09.expandShapes ish msh).2
  let n := ie.length
  let me' := if adjoint then swapLast2 me else me
  (bshape (ie.take (n - 2)) (me'.take (n - 2))).bind fun ob =>
  let i2 := getI ie (n - 2)
  let i1 := getI ie (n - 1)
  let m2 := getI me' (n - 2)
  let m1 := getI me' (n - 1)
  if (if right then i1 ≠ m2 else m1 ≠ i2) then none else
  let osh := ob ++ (if right then [i2, m1] else [m2, i1])
  let inner := if right then i1 else m1
  some ⟨osh, ish, (allIdx osh).flatMap fun k => (pyRange0 inner).map fun t =>
      if right then (fl osh k, fl ie (bcast (ie.take (n - 2)) (k.take (n - 2)) ++ [getI k (n - 2), t]),
        if adjoint then star (mat.getD (fl me (bcast (me.take (n - 2)) (k.take (n - 2)) ++ [getI k (n - 1), t])) 0)
        else mat.getD (fl me (bcast (me.take (n - 2)) (k.take (n - 2)) ++ [t, getI k (n - 1)])) 0)
      else (fl osh k, fl ie (bcast (ie.take (n - 2)) (k.take (n - 2)) ++ [t, getI k (n - 1)]),
        if adjoint then star (mat.getD (fl me (bcast (me.take (n - 2)) (k.take (n - 2)) ++ [t, getI k (n - 2)])) 0)
        else mat.getD (fl me (bcast (me.take (n - 2)) (k.take (n - 2)) ++ [getI k (n - 2), t])) 0)⟩

theorem matmulSem_eq_C (right : Bool) (ish msh : List Int) (mat : List α) (adjoint : Bool) :
    matmulSem star right ish msh mat adjoint = matmulSemC right ish msh mat adjoint := rfl

theorem bshape_length {a b o : List Int} (h : bshape a b = some o) (hl : a.length = b.length) :
    o.length = a.length := (bshape_spec h hl).1

theorem mem_allIdx_length {sh k : List Int} (h : k ∈ allIdx sh) : k.length = sh.length :=
  ((mem_allIdx.mp h).length).symm

/-- **what `(Right)MatMul(ishape, mat, adjoint)` denotes**, for expanded shapes `ib ++ [I2, I1]` (input) and
    `mb ++ [M2, M1]` (matrix): it exists iff both ranks are ≥ 2, the batch shapes broadcast and the inner
    dimensions agree, and then it is the loop nest `mmE` -/
theorem matmulSem_iff (right adjoint : Bool) (ish msh : List Int) (mat : List α) (ib mb : List Int)
    (I2 I1 M2 M1 : Int) (hie : (C09.expandShapes ish msh).1 = ib ++ [I2, I1])
    (hme : (C09.expandShapes ish msh).2 = mb ++ [M2, M1]) (hl : mb.length = ib.length) (s : Sem α) :
    matmulSem star right ish msh mat adjoint = some s ↔
      ¬ (ish.length < 2 ∨ msh.length < 2) ∧ mat.length = (shapeProd msh).toNat ∧
      ∃ ob, bshape ib mb = some ob ∧ mmCond right adjoint I2 I1 M2 M1 ∧
        s = ⟨mmOsh right adjoint ob I2 I1 M2 M1, ish, mmE right adjoint ob ib mb I2 I1 M2 M1 mat⟩ := by
  rw [matmulSem_eq_C]
  unfold matmulSemC
  by_cases h1 : ish.length < 2 ∨ msh.length < 2
  · rw [if_pos h1]
    constructor
    · intro h; cases h
    · rintro ⟨h, _⟩; exact absurd h1 h
  rw [if_neg h1]
  by_cases h2 : mat.length ≠ (shapeProd msh).toNat
  · rw [if_pos h2]
    constructor
    · intro h; cases h
    · rintro ⟨_, h, _⟩; exact absurd h h2
  rw [if_neg h2]
  have h2' : mat.length = (shapeProd msh).toNat := not_not.mp h2
  simp only [hie, hme, len_sub2, len_sub1, take_app2 ib _ _ _ rfl, take_app2 mb _ _ _ hl,
    getI_app2_0 ib _ _ _ rfl, getI_app2_1 ib _ _ _ rfl, swapLast2_app2]
  have htk : List.take ib.length (if adjoint = true then mb ++ [M1, M2] else mb ++ [M2, M1]) = mb := by
    cases adjoint <;> simp only [if_true, if_false, Bool.false_eq_true, take_app2 mb _ _ _ hl]
  have hg0 : getI (if adjoint = true then mb ++ [M1, M2] else mb ++ [M2, M1]) ib.length = mm2 adjoint M2 M1 := by
    cases adjoint <;> simp only [if_true, if_false, Bool.false_eq_true, getI_app2_0 mb _ _ _ hl, mm2]
  have hg1 : getI (if adjoint = true then mb ++ [M1, M2] else mb ++ [M2, M1]) (ib.length + 1) = mm1 adjoint M2 M1 := by
    cases adjoint <;> simp only [if_true, if_false, Bool.false_eq_true, getI_app2_1 mb _ _ _ hl, mm1]
  simp only [htk, hg0, hg1]
  cases hb : bshape ib mb with
  | none =>
    simp only [Option.bind_none]
    constructor
    · intro h; cases h
    · rintro ⟨_, _, ob, h, _⟩; cases h
  | some ob =>
    have hol : ob.length = ib.length := bshape_length hb hl.symm
    simp only [Option.bind_some]
    -- once the entries and the output shape are recognised as `mmE` / `mmOsh`, only the guard is left
    have key : ∀ (O : List Int) (E : List (Ent α)), O = mmOsh right adjoint ob I2 I1 M2 M1 →
        E = mmE right adjoint ob ib mb I2 I1 M2 M1 mat →
        ((if (if right = true then I1 ≠ mm2 adjoint M2 M1 else mm1 adjoint M2 M1 ≠ I2) then none
            else some (⟨O, ish, E⟩ : Sem α)) = some s ↔
          ¬ (ish.length < 2 ∨ msh.length < 2) ∧ mat.length = (shapeProd msh).toNat ∧
          ∃ ob', some ob = some ob' ∧ mmCond right adjoint I2 I1 M2 M1 ∧
            s = ⟨mmOsh right adjoint ob' I2 I1 M2 M1, ish, mmE right adjoint ob' ib mb I2 I1 M2 M1 mat⟩) := by
      rintro _ _ rfl rfl
      by_cases hc : mmCond right adjoint I2 I1 M2 M1
      · have hc' : ¬ (if right = true then I1 ≠ mm2 adjoint M2 M1 else mm1 adjoint M2 M1 ≠ I2) := by
          unfold mmCond at hc; cases right <;> simpa using hc
        rw [if_neg hc']
        constructor
        · intro h
          simp only [Option.some.injEq] at h
          exact ⟨h1, h2', ob, rfl, hc, h.symm⟩
        · rintro ⟨_, _, ob', hob', _, rfl⟩
          cases hob'
          rfl
      · have hc' : (if right = true then I1 ≠ mm2 adjoint M2 M1 else mm1 adjoint M2 M1 ≠ I2) := by
          unfold mmCond at hc; cases right <;> simpa using hc
        rw [if_pos hc']
        constructor
        · intro h; cases h
        · rintro ⟨_, _, _, _, h, _⟩; exact absurd h hc
    refine key _ _ ?_ ?_
    · unfold mmOsh mmP mmQ; cases right <;> simp
    · unfold mmE mmOsh mmP mmQ mmT
      cases right
      · simp only [Bool.false_eq_true, if_false]
        rw [loopify]
        apply loop4_congr
        intro kb hkb r _ c _ t _
        have hkl : kb.length = ib.length := (mem_allIdx_length hkb).trans hol
        simp only [mmEnt, Bool.false_eq_true, if_false, take_app2 kb _ _ _ hkl, getI_app2_0 kb _ _ _ hkl,
          getI_app2_1 kb _ _ _ hkl]
      · simp only [if_true]
        rw [loopify]
        apply loop4_congr
        intro kb hkb r _ c _ t _
        have hkl : kb.length = ib.length := (mem_allIdx_length hkb).trans hol
        simp only [mmEnt, if_true, take_app2 kb _ _ _ hkl, getI_app2_0 kb _ _ _ hkl,
          getI_app2_1 kb _ _ _ hkl]

theorem mem_loop4 {γ : Type} {ob : List Int} {A B C : Int} {f : List Int → Int → Int → Int → γ} {e : γ} :
    e ∈ loop4 ob A B C f ↔ ∃ kb ∈ allIdx ob, ∃ a ∈ pyRange0 A, ∃ b ∈ pyRange0 B, ∃ c ∈ pyRange0 C, e = f kb a b c := by
  unfold loop4
  simp only [List.mem_flatMap, List.mem_singleton]

/-- a gather-like entry list `A` (one entry per element of a duplicate-free list, weights 1) composed with
    any entry list whose output indices are keys of `A`: each entry of the second list is re-targeted -/
theorem compE_gather_perm {β X : Type} (L : List β) (hL : L.Nodup) (key : β → Nat)
    (hinj : ∀ j ∈ L, ∀ k ∈ L, key j = key k → j = k) (oa : β → Nat) (Xs : List X) (κ : X → β)
    (hκ : ∀ x ∈ Xs, κ x ∈ L) (ib : X → Nat) (wb : X → α) :
    (compE (L.map fun j => ((oa j, key j, (1 : α)) : Ent α)) (Xs.map fun x => ((key (κ x), ib x, wb x) : Ent α))).Perm
      (Xs.map fun x => ((oa (κ x), ib x, wb x) : Ent α)) := by
  unfold compE
  simp only [List.filterMap_eq_flatMap_toList, List.flatMap_map]
  refine (flatMap_swap_perm L Xs _).trans ?_
  rw [← List.flatMap_singleton' (Xs.map fun x => ((oa (κ x), ib x, wb x) : Ent α)), List.flatMap_map]
  apply List.Perm.flatMap_left
  intro x hx
  have h := filterMap_single (α := α) L hL key (fun k => ((oa k, ib x, wb x) : Ent α)) (κ x) (hκ x hx)
    (hinj (κ x) (hκ x hx))
  rw [List.filterMap_eq_flatMap_toList] at h
  have e : (L.flatMap fun a => (if key a = key (κ x) then some ((oa a, ib x, (1 : α) * wb x) : Ent α) else none).toList)
      = L.flatMap fun a => (if key (κ x) = key a then some ((oa a, ib x, wb x) : Ent α) else none).toList := by
    apply List.flatMap_congr
    intro a _
    by_cases hk : key a = key (κ x)
    · rw [if_pos hk, if_pos hk.symm, one_mul]
    · rw [if_neg hk, if_neg (fun h => hk h.symm)]
  rw [e, h]

theorem inB_app2 {ob kb : List Int} (h : InB ob kb) {P Q r c : Int} (hr : r ∈ pyRange0 P) (hc : c ∈ pyRange0 Q) :
    InB (ob ++ [P, Q]) (kb ++ [r, c]) :=
  List.rel_append h (List.Forall₂.cons (mem_pyRange0.mp hr) (List.Forall₂.cons (mem_pyRange0.mp hc) List.Forall₂.nil))

theorem bcast_app2 {ib kb : List Int} (hl : ib.length = kb.length) {P Q r c : Int} (hr : r ∈ pyRange0 P)
    (hc : c ∈ pyRange0 Q) : bcast (ib ++ [P, Q]) (kb ++ [r, c]) = bcast ib kb ++ [r, c] := by
  have h2 : bcast [P, Q] [r, c] = [r, c] :=
    bcast_self (List.Forall₂.cons (mem_pyRange0.mp hr) (List.Forall₂.cons (mem_pyRange0.mp hc) List.Forall₂.nil))
  unfold bcast at h2 ⊢
  rw [List.zip_append hl, List.map_append, h2]

theorem saOf_norm_le (ie me osh : List Int) (n : Nat) (hn : ie.length ≤ n) :
    normAxes (saOf ie me osh) n = saOf ie me osh :=
  normAxes_of_inRange fun a ha => by obtain ⟨d, hd, rfl⟩ := mem_saOf ha; omega

/-- the two matrix axes are never summed over: the broadcast description of the batch axes extends to
    `batch ++ [x, y]` -/
theorem saOf_rm_app2 (ib mb ob : List Int) (hol : ob.length = ib.length) (x y : Int)
    (h : ∀ t, t < ob.length →
      ((saOf ib mb ob).contains ((0 + t : Nat) : Int) = true → getI ib t = 1) ∧
      ((saOf ib mb ob).contains ((0 + t : Nat) : Int) = false → getI ib t = getI ob t)) :
    ∀ t, t < (ob ++ [x, y]).length →
      ((saOf ib mb ob).contains ((0 + t : Nat) : Int) = true → getI (ib ++ [x, y]) t = 1) ∧
      ((saOf ib mb ob).contains ((0 + t : Nat) : Int) = false →
        getI (ib ++ [x, y]) t = getI (ob ++ [x, y]) t) := by
  intro t ht
  by_cases ht' : t < ob.length
  · rw [getI_append_left _ _ _ (hol ▸ ht'), getI_append_left _ _ _ ht']; exact h t ht'
  · refine ⟨fun hr => ?_, fun _ => ?_⟩
    · rw [Nat.zero_add] at hr
      exact absurd (hol ▸ ((saOf_contains ib mb ob t).mp hr).1) ht'
    · rw [List.length_append] at ht
      have : t = ob.length ∨ t = ob.length + 1 := by
        have : [x, y].length = 2 := rfl
        omega
      rcases this with rfl | rfl
      · rw [getI_app2_0 ib _ _ _ hol.symm, getI_app2_0 ob _ _ _ rfl]
      · rw [getI_app2_1 ib _ _ _ hol.symm, getI_app2_1 ob _ _ _ rfl]

/-- `_get_matmul_adjoint_sum_axes` only looks at the batch axes -/
theorem matmulSumAxes_eq (osh ish msh ib mb ob : List Int) (I2 I1 M2 M1 P Q : Int)
    (hie : (C09.expandShapes ish msh).1 = ib ++ [I2, I1]) (hme : (C09.expandShapes ish msh).2 = mb ++ [M2, M1])
    (hl : mb.length = ib.length) (hol : ob.length = ib.length) (ho : osh = ob ++ [P, Q]) :
    matmulSumAxes osh ish msh = saOf ib mb ob := by
  unfold matmulSumAxes saOf
  simp only [hie, hme, len_sub2, ho]
  apply List.filterMap_congr
  intro d hd
  have hd' := List.mem_range.mp hd
  rw [getI_append_left _ _ _ hd', getI_append_left _ _ _ (hl ▸ hd'), getI_append_left _ _ _ (hol ▸ hd')]

theorem mm_adj_cond (right adjoint : Bool) (I2 I1 M2 M1 : Int) :
    mmCond right (!adjoint) (mmP right adjoint I2 I1 M2 M1) (mmQ right adjoint I2 I1 M2 M1) M2 M1 := by
  unfold mmCond mmP mmQ mm1 mm2
  -- four closed cases of the two flags
  cases right <;> cases adjoint <;> simp

theorem mm_adj_PQT (right adjoint : Bool) (I2 I1 M2 M1 : Int) (h : mmCond right adjoint I2 I1 M2 M1) :
    mmP right (!adjoint) (mmP right adjoint I2 I1 M2 M1) (mmQ right adjoint I2 I1 M2 M1) M2 M1 = I2 ∧
    mmQ right (!adjoint) (mmP right adjoint I2 I1 M2 M1) (mmQ right adjoint I2 I1 M2 M1) M2 M1 = I1 ∧
    mmT right (!adjoint) (mmP right adjoint I2 I1 M2 M1) (mmQ right adjoint I2 I1 M2 M1) M2 M1
      = (if right then mmQ right adjoint I2 I1 M2 M1 else mmP right adjoint I2 I1 M2 M1) := by
  unfold mmCond at h
  unfold mmP mmQ mmT mm1 mm2 at *
  -- four closed cases of the two flags; `h` identifies the contracted extents
  cases right <;> cases adjoint <;> simp at h ⊢ <;> simp [h]

theorem mmE_inRange (right adjoint : Bool) (ob ib mb : List Int) (I2 I1 M2 M1 : Int) (mat : List α)
    (hc : mmCond right adjoint I2 I1 M2 M1) (hbc : ∀ kb ∈ allIdx ob, InB ib (bcast ib kb)) :
    InRange (shapeProd (mmOsh right adjoint ob I2 I1 M2 M1)).toNat (shapeProd (ib ++ [I2, I1])).toNat
      (mmE right adjoint ob ib mb I2 I1 M2 M1 mat) := by
  intro e he
  unfold mmE at he
  obtain ⟨kb, hkb, r, hr, c, hcc, t, ht, rfl⟩ := mem_loop4.mp he
  unfold mmCond at hc
  cases right
  · simp only [mmEnt, mmOsh, Bool.false_eq_true, if_false]
    simp only [mmP, mmQ, mmT, Bool.false_eq_true, if_false] at hr hcc ht hc
    rw [hc] at ht
    exact ⟨fl_lt (inB_app2 (mem_allIdx.mp hkb) hr hcc), fl_lt (inB_app2 (hbc kb hkb) ht hcc)⟩
  · simp only [mmEnt, mmOsh, if_true]
    simp only [mmP, mmQ, mmT, if_true] at hr hcc ht hc
    exact ⟨fl_lt (inB_app2 (mem_allIdx.mp hkb) hr hcc), fl_lt (inB_app2 (hbc kb hkb) hr ht)⟩

theorem star_ite_not (a : Bool) (x y : α) :
    (if (!a) = true then star x else y) = star (if a = true then star y else x) := by
  cases a <;> simp

/-- the indices of a `loop4` -/
def idx4 (ob : List Int) (A B C : Int) : List (List Int × Int × Int × Int) :=
  loop4 ob A B C fun kb a b c => (kb, a, b, c)

theorem loop4_eq_map {γ : Type} (ob : List Int) (A B C : Int) (f : List Int → Int → Int → Int → γ) :
    loop4 ob A B C f = (idx4 ob A B C).map fun x => f x.1 x.2.1 x.2.2.1 x.2.2.2 := by
  unfold idx4; rw [loop4_map]

theorem adjE_loop4 (ob : List Int) (A B C : Int) (f : List Int → Int → Int → Int → Ent α) :
    adjE star (loop4 ob A B C f)
      = loop4 ob A B C fun kb a b c => ((f kb a b c).2.1, (f kb a b c).1, star (f kb a b c).2.2) := by
  unfold adjE; rw [loop4_map]

theorem compE_gather_loop4 {β : Type} (L : List β) (hL : L.Nodup) (key : β → Nat)
    (hinj : ∀ j ∈ L, ∀ k ∈ L, key j = key k → j = k) (oa : β → Nat) (ob : List Int) (A B C : Int)
    (κ : List Int → Int → Int → Int → β)
    (hκ : ∀ kb ∈ allIdx ob, ∀ a ∈ pyRange0 A, ∀ b ∈ pyRange0 B, ∀ c ∈ pyRange0 C, κ kb a b c ∈ L)
    (ib : List Int → Int → Int → Int → Nat) (wb : List Int → Int → Int → Int → α) :
    (compE (L.map fun j => ((oa j, key j, (1 : α)) : Ent α))
      (loop4 ob A B C fun kb a b c => ((key (κ kb a b c), ib kb a b c, wb kb a b c) : Ent α))).Perm
      (loop4 ob A B C fun kb a b c => ((oa (κ kb a b c), ib kb a b c, wb kb a b c) : Ent α)) := by
  rw [loop4_eq_map, loop4_eq_map]
  refine compE_gather_perm L hL key hinj oa (idx4 ob A B C) (fun x => κ x.1 x.2.1 x.2.2.1 x.2.2.2) ?_
    (fun x => ib x.1 x.2.1 x.2.2.1 x.2.2.2) (fun x => wb x.1 x.2.1 x.2.2.1 x.2.2.2)
  intro x hx
  unfold idx4 at hx
  obtain ⟨kb, hkb, a, ha, b, hb, c, hc, rfl⟩ := mem_loop4.mp hx
  exact hκ kb hkb a ha b hb c hc

/-- **Core of the (Right)MatMul pair.**  If `(Right)MatMul(ishape, mat, adjoint)` denotes `s`, then
    `M = (Right)MatMul(s.oshape, mat, not adjoint)` exists, the `Sum` over `_get_matmul_adjoint_sum_axes`
    followed by `Reshape` is well-formed, all pieces stay inside their matrices, and
    `Sum ∘ M` acts as the adjoint of `s`. -/
theorem matmul_core (right adjoint : Bool) (ish msh : List Int) (mat : List α) (hv : MulValid ish msh)
    (s : Sem α) (hs : matmulSem star right ish msh mat adjoint = some s) :
    ∃ m : Sem α, matmulSem star right s.osh msh mat (!adjoint) = some m ∧
      shapeProd (removeAxes (matmulSumAxes s.osh ish msh) m.osh) = shapeProd ish ∧
      normAxes (matmulSumAxes s.osh ish msh) m.osh.length = matmulSumAxes s.osh ish msh ∧
      m.ish = s.osh ∧ s.ish = ish ∧
      InRange (shapeProd s.osh).toNat (shapeProd ish).toNat s.E ∧
      InRange (shapeProd m.osh).toNat (shapeProd s.osh).toNat m.E ∧
      InRange (shapeProd ish).toNat (shapeProd m.osh).toNat ((allIdx m.osh).map fun j =>
        ((fl (removeAxes (matmulSumAxes s.osh ish msh) m.osh) (removeAxes (matmulSumAxes s.osh ish msh) j),
          fl m.osh j, (1 : α)) : Ent α)) ∧
      IsAdj (shapeProd s.osh).toNat (shapeProd ish).toNat s.E
        (compE ((allIdx m.osh).map fun j =>
          ((fl (removeAxes (matmulSumAxes s.osh ish msh) m.osh) (removeAxes (matmulSumAxes s.osh ish msh) j),
            fl m.osh j, (1 : α)) : Ent α)) m.E) ∧
      (∀ d, d < (C09.expandShapes ish msh).1.length - 2 →
        getI s.osh d = max (getI (C09.expandShapes ish msh).1 d) (getI (C09.expandShapes ish msh).2 d)) := by
  have hg : ¬ (ish.length < 2 ∨ msh.length < 2) := by
    intro h; rw [matmulSem_eq_C] at hs; unfold matmulSemC at hs; rw [if_pos h] at hs; cases hs
  obtain ⟨hlie, hlme⟩ := expand_len ish msh
  obtain ⟨ib, I2, I1, hie⟩ := split_last2 (C09.expandShapes ish msh).1 (by rw [hlie]; omega)
  obtain ⟨mb, M2, M1, hme⟩ := split_last2 (C09.expandShapes ish msh).2 (by rw [hlme]; omega)
  have hibl : ib.length + 2 = max ish.length msh.length := by
    have a := congrArg List.length hie
    simp only [List.length_append, List.length_cons, List.length_nil] at a; omega
  have hl : mb.length = ib.length := by
    have b := congrArg List.length hme
    simp only [List.length_append, List.length_cons, List.length_nil] at b; omega
  obtain ⟨_, hlen, ob, hb, hc, rfl⟩ :=
    (matmulSem_iff right adjoint ish msh mat ib mb I2 I1 M2 M1 hie hme hl s).mp hs
  have hol : ob.length = ib.length := bshape_length hb hl.symm
  obtain ⟨hpi0, hpm0⟩ := expand_pos ish msh hv.1 hv.2
  rw [hie] at hpi0; rw [hme] at hpm0
  have hpi : ∀ d ∈ ib, 0 < d := fun d hd => hpi0 d (List.mem_append_left _ hd)
  have hpm : ∀ d ∈ mb, 0 < d := fun d hd => hpm0 d (List.mem_append_left _ hd)
  have hprodie : shapeProd (ib ++ [I2, I1]) = shapeProd ish := by rw [← hie]; exact (expandShapes_prod ish msh).1
  -- the adjoint operator
  have ho_len : (mmOsh right adjoint ob I2 I1 M2 M1).length = max ish.length msh.length := by
    unfold mmOsh; simp only [List.length_append, List.length_cons, List.length_nil]; omega
  have e1 := expand_fst_of_len (mmOsh right adjoint ob I2 I1 M2 M1) msh (ho_len ▸ le_max_right _ _)
  have e2 := expand_snd_of_len ish (mmOsh right adjoint ob I2 I1 M2 M1) msh ho_len
  obtain ⟨hP', hQ', hT'⟩ := mm_adj_PQT right adjoint I2 I1 M2 M1 hc
  have hmo : mmOsh right (!adjoint) ob (mmP right adjoint I2 I1 M2 M1) (mmQ right adjoint I2 I1 M2 M1) M2 M1
      = ob ++ [I2, I1] := by unfold mmOsh; rw [hP', hQ']
  have hM := (matmulSem_iff right (!adjoint) (mmOsh right adjoint ob I2 I1 M2 M1) msh mat ob mb
      (mmP right adjoint I2 I1 M2 M1) (mmQ right adjoint I2 I1 M2 M1) M2 M1 e1 (e2.trans hme) (hl.trans hol.symm)
      ⟨_, _, _⟩).mpr
    ⟨by rw [ho_len]; exact fun h => hg (h.elim (fun h => .inl (lt_of_le_of_lt (le_max_left _ _) h)) .inr),
      hlen, ob, bshape_idem hb hl.symm, mm_adj_cond right adjoint I2 I1 M2 M1, rfl⟩
  refine ⟨_, hM, ?_⟩
  simp only []  -- reduces the projections of the two `Sem` records
  rw [hmo]
  -- the sum axes
  have hsa : matmulSumAxes (mmOsh right adjoint ob I2 I1 M2 M1) ish msh = saOf ib mb ob :=
    matmulSumAxes_eq _ ish msh ib mb ob I2 I1 M2 M1 _ _ hie hme hl hol rfl
  rw [hsa]
  have hrm0 := saOf_rm ib mb ob hl.symm hpi hpm hb
  obtain ⟨hprod, hidx⟩ := removeAxes_bcast (saOf ib mb ob) (ob ++ [I2, I1]) (ib ++ [I2, I1])
    (by rw [List.length_append, List.length_append, hol])
    (saOf_rm_app2 ib mb ob hol I2 I1 hrm0)
  rw [hprodie] at hprod hidx
  have hbc : ∀ kb ∈ allIdx ob, InB ib (bcast ib kb) :=
    fun kb hkb => ((removeAxes_bcast (saOf ib mb ob) ob ib hol.symm hrm0).2 kb hkb).1
  have hbo : ∀ kb ∈ allIdx ob, InB ob (bcast ob kb) := by
    intro kb hkb; rw [bcast_self (mem_allIdx.mp hkb)]; exact mem_allIdx.mp hkb
  have hE := mmE_inRange right adjoint ob ib mb I2 I1 M2 M1 mat hc hbc
  rw [hprodie] at hE
  have hME := mmE_inRange right (!adjoint) ob ob mb (mmP right adjoint I2 I1 M2 M1) (mmQ right adjoint I2 I1 M2 M1)
    M2 M1 mat (mm_adj_cond right adjoint I2 I1 M2 M1) hbo
  rw [hmo] at hME
  have hmax : ∀ d, d < (ib ++ [I2, I1]).length - 2 →
      getI (mmOsh right adjoint ob I2 I1 M2 M1) d = max (getI (ib ++ [I2, I1]) d) (getI (mb ++ [M2, M1]) d) := by
    intro d hd
    rw [len_sub2] at hd
    unfold mmOsh
    rw [getI_append_left _ _ _ (hol ▸ hd), getI_append_left _ _ _ hd, getI_append_left _ _ _ (hl ▸ hd)]
    exact ((bshape_spec hb hl.symm).2 d hd).2
  rw [hie, hme]
  refine ⟨hprod, saOf_norm_le ib mb ob _ (by rw [List.length_append, hol]; exact Nat.le_add_right _ _),
    trivial, trivial, hE, hME, fun e he => ?_, ?_, hmax⟩
  · obtain ⟨j, hj, rfl⟩ := List.mem_map.mp he
    dsimp only
    exact ⟨(hidx j hj).2.2, fl_lt (mem_allIdx.mp hj)⟩
  -- the permutation
  apply isAdj_of_perm _ _ _ _ hE
  unfold mmE
  rw [hP', hQ', hT', hmo, adjE_loop4]
  have hκ : ∀ (C : Int), ∀ kb ∈ allIdx ob, ∀ a ∈ pyRange0 I2, ∀ b ∈ pyRange0 I1, ∀ c ∈ pyRange0 C,
      kb ++ [a, b] ∈ allIdx (ob ++ [I2, I1]) :=
    fun C kb hkb a ha b hb c _ => mem_allIdx.mpr (inB_app2 (mem_allIdx.mp hkb) ha hb)
  have hfl : ∀ kb ∈ allIdx ob, ∀ a ∈ pyRange0 I2, ∀ b ∈ pyRange0 I1,
      fl (removeAxes (saOf ib mb ob) (ob ++ [I2, I1])) (removeAxes (saOf ib mb ob) (kb ++ [a, b]))
        = fl (ib ++ [I2, I1]) (bcast ib kb ++ [a, b]) := by
    intro kb hkb a ha b hb
    have h3 := (hidx _ (mem_allIdx.mpr (inB_app2 (mem_allIdx.mp hkb) ha hb))).2.1
    rwa [bcast_app2 (hol.symm.trans (mem_allIdx_length hkb).symm) ha hb] at h3
  cases right
  · have hQ : mmQ false adjoint I2 I1 M2 M1 = I1 := by simp [mmQ]
    have hT : mmT false adjoint I2 I1 M2 M1 = I2 := by simpa [mmT, mmCond] using hc
    rw [hQ, hT]
    unfold mmEnt
    simp only [Bool.false_eq_true, if_false]
    refine (compE_gather_loop4 (allIdx (ob ++ [I2, I1])) (allIdx_nodup _) (fl (ob ++ [I2, I1]))
      (fun j hj k hk h => fl_inj _ hj hk h)
      (fun j => fl (removeAxes (saOf ib mb ob) (ob ++ [I2, I1])) (removeAxes (saOf ib mb ob) j))
      ob I2 I1 (mmP false adjoint I2 I1 M2 M1) (fun kb a b c => kb ++ [a, b]) (hκ _) _ _).trans ?_
    have hp := loop4_perm_13 ob (mmP false adjoint I2 I1 M2 M1) I1 I2 (fun kb r c t =>
      ((fl (ib ++ [I2, I1]) (bcast ib kb ++ [t, c]), fl (mmOsh false adjoint ob I2 I1 M2 M1) (kb ++ [r, c]),
        star (if adjoint = true then star (mat.getD (fl (mb ++ [M2, M1]) (bcast mb kb ++ [t, r])) 0)
          else mat.getD (fl (mb ++ [M2, M1]) (bcast mb kb ++ [r, t])) 0)) : Ent α))
    refine (List.Perm.of_eq ?_).trans hp
    apply loop4_congr
    intro kb hkb t ht c hcc r hr
    rw [hfl kb hkb t ht c hcc, bcast_self (mem_allIdx.mp hkb)]
    rw [star_ite_not, mmOsh, hQ]
  · have hP : mmP true adjoint I2 I1 M2 M1 = I2 := by simp [mmP]
    have hT : mmT true adjoint I2 I1 M2 M1 = I1 := by simp [mmT]
    rw [hP, hT]
    unfold mmEnt
    simp only [if_true]
    refine (compE_gather_loop4 (allIdx (ob ++ [I2, I1])) (allIdx_nodup _) (fl (ob ++ [I2, I1]))
      (fun j hj k hk h => fl_inj _ hj hk h)
      (fun j => fl (removeAxes (saOf ib mb ob) (ob ++ [I2, I1])) (removeAxes (saOf ib mb ob) j))
      ob I2 I1 (mmQ true adjoint I2 I1 M2 M1) (fun kb a b c => kb ++ [a, b]) (hκ _) _ _).trans ?_
    have hp := loop4_perm_23 ob I2 (mmQ true adjoint I2 I1 M2 M1) I1 (fun kb r c t =>
      ((fl (ib ++ [I2, I1]) (bcast ib kb ++ [r, t]), fl (mmOsh true adjoint ob I2 I1 M2 M1) (kb ++ [r, c]),
        star (if adjoint = true then star (mat.getD (fl (mb ++ [M2, M1]) (bcast mb kb ++ [c, t])) 0)
          else mat.getD (fl (mb ++ [M2, M1]) (bcast mb kb ++ [t, c])) 0)) : Ent α))
    refine (List.Perm.of_eq ?_).trans hp
    apply loop4_congr
    intro kb hkb r hr t ht c hcc
    rw [hfl kb hkb r hr t ht, bcast_self (mem_allIdx.mp hkb)]
    rw [star_ite_not, mmOsh, hP]

variable (ofRat : Rat → α)

/-- **`MatMul(ishape, mat, adjoint).H`** — `Reshape(ishape, ·) ∘ Sum(_get_matmul_adjoint_sum_axes) ∘
    MatMul(oshape, mat, not adjoint)` — **is the true adjoint** for every matrix shape `[.., m, n]`, every
    input shape `[.., n, c]` with broadcast-compatible leading axes (either side may have the larger rank;
    singleton batch axes of the input are summed over in the adjoint; positive extents, `MulValid`), with or
    without `adjoint`:
    `⟨mat @ x, y⟩ = ⟨x, MatMul.H y⟩`. -/
theorem matmul_leaf_adjoint (ish msh : List Int) (mat : List α) (adjoint : Bool) (hv : MulValid ish msh) :
    AdjOK ofRat (.leaf (.matmul ish msh mat adjoint : Leaf α)) := by
  refine adjOK_reshape_sum ofRat _ ish fun s hs => ?_
  have hs' : matmulSem star false ish msh mat adjoint = some s := hs
  obtain ⟨m, hM, hprod, hnorm, hmi, hsi, hE, hME, hSE, hadj, _⟩ := matmul_core false adjoint ish msh mat hv s hs'
  exact ⟨.matmul s.osh msh mat (!adjoint), matmulSumAxes s.osh ish msh, m, hM,
    by simp only [adjLeaf, hs', hM], hprod, hnorm, hmi, hsi, hE, hME, hSE, hadj⟩

/-- **`RightMatMul(ishape, mat, adjoint).H`** — `Reshape ∘ Sum ∘ RightMatMul(oshape, mat, not adjoint)` —
    **is the true adjoint**: `⟨x @ mat, y⟩ = ⟨x, RightMatMul.H y⟩`, same generality as `matmul_leaf_adjoint`. -/
theorem rmatmul_leaf_adjoint (ish msh : List Int) (mat : List α) (adjoint : Bool) (hv : MulValid ish msh) :
    AdjOK ofRat (.leaf (.rmatmul ish msh mat adjoint : Leaf α)) := by
  refine adjOK_reshape_sum ofRat _ ish fun s hs => ?_
  have hs' : matmulSem star true ish msh mat adjoint = some s := hs
  obtain ⟨m, hM, hprod, hnorm, hmi, hsi, hE, hME, hSE, hadj, _⟩ := matmul_core true adjoint ish msh mat hv s hs'
  exact ⟨.rmatmul s.osh msh mat (!adjoint), matmulSumAxes s.osh ish msh, m, hM,
    by simp only [adjLeaf, hs', hM], hprod, hnorm, hmi, hsi, hE, hME, hSE, hadj⟩

end
end SigpyVerif.C01
