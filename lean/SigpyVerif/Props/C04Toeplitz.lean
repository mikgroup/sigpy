import SigpyVerif.Props.C06ToeplitzNd
import SigpyVerif.Gen.LinopNormal
/-
  C04 — the Toeplitz normal operator of NUFFT, about the operator chain GENERATED from
  `NUFFT._normal_linop` (`Gen.LinopNormal.nufftNormalChain`, `psfShape`; harness/translate/gen_c04.py).

  The generated chain is a list of symbolic factors (`.op X` / `.adj X` with `X` a `Resize`, `FFT` or
  `Multiply(psf)` object with its constructor arguments).  `chainMat1/2/3` interpret it as a product of matrices,
  factor by factor: `Resize(o, i)` ↦ C09's zero-pad relation with default shifts (`C06.resizeMat(Nd)`), `FFT(shape,
  axes, center=True)` ↦ the Kronecker product of C05's centred orthonormal DFT matrices over the transform axes
  (the axes list must name every transform axis, any spelling / order), `Multiply(psf)` ↦ `diagonal psf`,
  `.adj` ↦ conjugate transpose — and return `none` for other shapes, axes, shifts or another number of factors
  (the three middle factors are interpreted whatever their order and `.op` / `.adj`).  Theorems: for the EXACT psf
  (the centred unnormalised DFT of the exact Gram kernel sampled on the `2N` grid) the interpreted generated chain exists and equals `Aᴴ A` of the exact non-uniform DFT
  `A[j, n] = c · Π_d exp(-2πi k_{j,d} (n_d - N_d//2) / N_d)`, entry by entry, in 1, 2 and 3 dimensions
  (`toeplitz_chain_exact_1d/_2d/_3d`, from C06's `toeplitz_structure{,_2d,_3d}`).
  What stays oracle-only: the psf COMPUTED by `fourier.toeplitz_psf` (Kaiser-Bessel nufft / nufft_adjoint in
  complex64) is only close to the exact one (C06's accuracy bound; harness/props/c04.py `toeplitz_oracle`);
  leading batch axes.
-/
namespace SigpyVerif.C04
open SigpyVerif Matrix ComplexConjugate

/-- the generated `psf.shape`: every transform axis has twice the image length -/
theorem psfShape_eq (lead : List Int) (g : List Int) :
    Gen.LinopNormal.psfShape (lead ++ g) (g.length : Int) = lead ++ g.map fun n => 2 * n := by
  unfold Gen.LinopNormal.psfShape
  have h1 : (lead ++ g).length - ((g.length : Int)).toNat = lead.length := by simp
  rw [h1, List.take_left', List.drop_left']
  · congr 1
    apply List.map_congr_left
    intro n _
    exact C06.toep_embed_len n
  · rfl
  · rfl

/-- the axes list names every one of the `nd` axes of a rank-`nd` array exactly once (any spelling) -/
def axesAll (ax : List Int) (nd : Nat) : Bool :=
  ax.length == nd && (List.range nd).all fun d => (ax.map fun a => pyMod a nd).contains (d : Int)

section d1
variable (N : ℕ) (ω : ℂ) (s : ℝ) (p : Fin (2 * N) → ℂ)

noncomputable def padMat1 : ChainOp → Option (Matrix (Fin (2 * N)) (Fin N) ℂ)
  | .resize o i none none => if o = [((2 * N : ℕ) : ℤ)] ∧ i = [(N : ℤ)] then some (C06.resizeMat N (2 * N)) else none
  | _ => none

noncomputable def sqMat1 : ChainOp → Option (Matrix (Fin (2 * N)) (Fin (2 * N)) ℂ)
  | .fft sh (some ax) true =>
      if sh = [((2 * N : ℕ) : ℤ)] ∧ axesAll ax 1 = true then some (C05.dftMatrix ω (2 * N) true s) else none
  | .multiplyPsf sh msh false =>
      if sh = [((2 * N : ℕ) : ℤ)] ∧ msh = [((2 * N : ℕ) : ℤ)] then some (Matrix.diagonal p) else none
  | _ => none

noncomputable def factorSq1 : ChainFactor → Option (Matrix (Fin (2 * N)) (Fin (2 * N)) ℂ)
  | .op x => sqMat1 N ω s p x
  | .adj x => (sqMat1 N ω s p x).map fun M => Mᴴ

/-- the matrix of a chain `R'.H * f' * q * f * R` -/
noncomputable def chainMat1 : List ChainFactor → Option (Matrix (Fin N) (Fin N) ℂ)
  | [.adj r', f', q, f, .op r] =>
      match padMat1 N r', factorSq1 N ω s p f', factorSq1 N ω s p q, factorSq1 N ω s p f, padMat1 N r with
      | some R', some F', some P, some F, some R => some (R'ᴴ * (F' * P * F) * R)
      | _, _, _, _, _ => none
  | _ => none

/-- the generated chain, one transform axis, is `Rᴴ Fᴴ diag(p) F R` -/
theorem chainMat1_gen :
    chainMat1 N ω s p (Gen.LinopNormal.nufftNormalChain (Gen.LinopNormal.psfShape [(N : ℤ)] 1) [(N : ℤ)] 1)
      = some (C06.resizeMat (2 * N) N * ((C05.dftMatrix ω (2 * N) true s)ᴴ * Matrix.diagonal p *
          C05.dftMatrix ω (2 * N) true s) * C06.resizeMat N (2 * N)) := by
  have hp : Gen.LinopNormal.psfShape [(N : ℤ)] 1 = [((2 * N : ℕ) : ℤ)] :=
    (psfShape_eq [] [(N : ℤ)]).trans
      (by simp only [List.nil_append, List.map_cons, List.map_nil, Nat.cast_mul, Nat.cast_ofNat])
  have hax : axesAll (rangeStep (-1) (-((1 : Int) + 1)) (-1)) 1 = true := by decide
  rw [hp]
  simp only [Gen.LinopNormal.nufftNormalChain, chainMat1, padMat1, factorSq1, sqMat1, hax, and_self, if_true,
    Option.map_some, C06.resizeMat_conjTranspose]

/-- **NUFFT Toeplitz normal, 1-D, exact psf.**  The operator chain that `NUFFT([N], coord, toeplitz=True)._normal_linop`
    builds — generated from the source: `R.H * F.H * P * F * R`, `R = Resize(psf.shape, ishape)`, `F = FFT(psf.shape,
    axes=(-1,))`, `P = Multiply(psf.shape, psf)`, `psf.shape = [2N]` — with `psf` the exact one (centred unnormalised
    DFT of the exact Gram kernel `t(d) = |c|² Σ_j exp(2πi k_j d / N)` at `d = m - N`) has the entries of `Aᴴ A` of the
    exact non-uniform DFT `A[j, n] = c · exp(-2πi k_j (n - N//2)/N)`. -/
theorem toeplitz_chain_exact_1d {M : ℕ} (hN : 0 < N) (hω : IsPrimitiveRoot ω (2 * N))
    (hs : s * s * ((2 * N : ℕ) : ℝ) = 1) (k : Fin M → ℝ) (c : ℂ) :
    ∃ T, chainMat1 N ω s ((C05.dftMatrix ω (2 * N) true 1).mulVec
          fun m : Fin (2 * N) => C06.gramKernel (N : ℤ) k c (((m : ℕ) : ℤ) - N))
        (Gen.LinopNormal.nufftNormalChain (Gen.LinopNormal.psfShape [(N : ℤ)] 1) [(N : ℤ)] 1) = some T ∧
      ∀ n n' : Fin N, T n n' = ∑ j : Fin M, conj (c * C06.nudftTerm (N : ℤ) (k j) ((n : ℕ) : ℤ)) *
        (c * C06.nudftTerm (N : ℤ) (k j) ((n' : ℕ) : ℤ)) :=
  ⟨_, chainMat1_gen N ω s _, fun n n' => C06.toeplitz_structure N hN hω s hs k c n n'⟩

end d1

section d2
variable (N1 N2 : ℕ) (ω1 ω2 : ℂ) (s1 s2 : ℝ) (p : Fin (2 * N1) × Fin (2 * N2) → ℂ)

noncomputable def padMat2 : ChainOp → Option (Matrix (Fin (2 * N1) × Fin (2 * N2)) (Fin N1 × Fin N2) ℂ)
  | .resize o i none none =>
      if o = [((2 * N1 : ℕ) : ℤ), ((2 * N2 : ℕ) : ℤ)] ∧ i = [(N1 : ℤ), (N2 : ℤ)] then
        some (C06.resizeMatNd ([1] ++ i) ([1] ++ o) (C06.ix2 N1 N2) (C06.ix2 (2 * N1) (2 * N2)))
      else none
  | _ => none

noncomputable def sqMat2 : ChainOp → Option (Matrix (Fin (2 * N1) × Fin (2 * N2)) (Fin (2 * N1) × Fin (2 * N2)) ℂ)
  | .fft sh (some ax) true =>
      if sh = [((2 * N1 : ℕ) : ℤ), ((2 * N2 : ℕ) : ℤ)] ∧ axesAll ax 2 = true then
        some (kroneckerMap (· * ·) (C05.dftMatrix ω1 (2 * N1) true s1) (C05.dftMatrix ω2 (2 * N2) true s2))
      else none
  | .multiplyPsf sh msh false =>
      if sh = [((2 * N1 : ℕ) : ℤ), ((2 * N2 : ℕ) : ℤ)] ∧ msh = sh then some (Matrix.diagonal p) else none
  | _ => none

noncomputable def factorSq2 : ChainFactor → Option (Matrix (Fin (2 * N1) × Fin (2 * N2)) (Fin (2 * N1) × Fin (2 * N2)) ℂ)
  | .op x => sqMat2 N1 N2 ω1 ω2 s1 s2 p x
  | .adj x => (sqMat2 N1 N2 ω1 ω2 s1 s2 p x).map fun M => Mᴴ

noncomputable def chainMat2 : List ChainFactor → Option (Matrix (Fin N1 × Fin N2) (Fin N1 × Fin N2) ℂ)
  | [.adj r', f', q, f, .op r] =>
      match padMat2 N1 N2 r', factorSq2 N1 N2 ω1 ω2 s1 s2 p f', factorSq2 N1 N2 ω1 ω2 s1 s2 p q,
        factorSq2 N1 N2 ω1 ω2 s1 s2 p f, padMat2 N1 N2 r with
      | some R', some F', some P, some F, some R => some (R'ᴴ * (F' * P * F) * R)
      | _, _, _, _, _ => none
  | _ => none

theorem chainMat2_gen :
    chainMat2 N1 N2 ω1 ω2 s1 s2 p
        (Gen.LinopNormal.nufftNormalChain (Gen.LinopNormal.psfShape [(N1 : ℤ), (N2 : ℤ)] 2) [(N1 : ℤ), (N2 : ℤ)] 2)
      = some (C06.resizeMatNd [1, ((2 * N1 : ℕ) : ℤ), ((2 * N2 : ℕ) : ℤ)] [1, (N1 : ℤ), (N2 : ℤ)]
            (C06.ix2 (2 * N1) (2 * N2)) (C06.ix2 N1 N2) *
          ((kroneckerMap (· * ·) (C05.dftMatrix ω1 (2 * N1) true s1) (C05.dftMatrix ω2 (2 * N2) true s2))ᴴ *
            Matrix.diagonal p *
            kroneckerMap (· * ·) (C05.dftMatrix ω1 (2 * N1) true s1) (C05.dftMatrix ω2 (2 * N2) true s2)) *
          C06.resizeMatNd [1, (N1 : ℤ), (N2 : ℤ)] [1, ((2 * N1 : ℕ) : ℤ), ((2 * N2 : ℕ) : ℤ)]
            (C06.ix2 N1 N2) (C06.ix2 (2 * N1) (2 * N2))) := by
  have hp : Gen.LinopNormal.psfShape [(N1 : ℤ), (N2 : ℤ)] 2 = [((2 * N1 : ℕ) : ℤ), ((2 * N2 : ℕ) : ℤ)] :=
    (psfShape_eq [] [(N1 : ℤ), (N2 : ℤ)]).trans
      (by simp only [List.nil_append, List.map_cons, List.map_nil, Nat.cast_mul, Nat.cast_ofNat])
  have hax : axesAll (rangeStep (-1) (-((2 : Int) + 1)) (-1)) 2 = true := by decide
  rw [hp]
  simp only [Gen.LinopNormal.nufftNormalChain, chainMat2, padMat2, factorSq2, sqMat2, hax, and_self, if_true,
    Option.map_some, C06.resizeMatNd_conjTranspose, List.cons_append, List.nil_append]

/-- **NUFFT Toeplitz normal, 2-D, exact psf**: the generated chain (`psf.shape = [2N₁, 2N₂]`, `fft_axes = (-1, -2)`) with
    the exact psf has the entries of `Aᴴ A` of the exact 2-D non-uniform DFT. -/
theorem toeplitz_chain_exact_2d {M : ℕ} (hN1 : 0 < N1) (hN2 : 0 < N2) (hω1 : IsPrimitiveRoot ω1 (2 * N1))
    (hω2 : IsPrimitiveRoot ω2 (2 * N2)) (hs1 : s1 * s1 * ((2 * N1 : ℕ) : ℝ) = 1)
    (hs2 : s2 * s2 * ((2 * N2 : ℕ) : ℝ) = 1) (k1 k2 : Fin M → ℝ) (c : ℂ) :
    ∃ T, chainMat2 N1 N2 ω1 ω2 s1 s2
        ((kroneckerMap (· * ·) (C05.dftMatrix ω1 (2 * N1) true 1) (C05.dftMatrix ω2 (2 * N2) true 1)).mulVec
          fun m : Fin (2 * N1) × Fin (2 * N2) =>
            C06.gramKernel2 (N1 : ℤ) (N2 : ℤ) k1 k2 c (((m.1 : ℕ) : ℤ) - N1) (((m.2 : ℕ) : ℤ) - N2))
        (Gen.LinopNormal.nufftNormalChain (Gen.LinopNormal.psfShape [(N1 : ℤ), (N2 : ℤ)] 2) [(N1 : ℤ), (N2 : ℤ)] 2)
          = some T ∧
      ∀ n n' : Fin N1 × Fin N2, T n n' = ∑ j : Fin M,
        conj (c * (C06.nudftTerm (N1 : ℤ) (k1 j) ((n.1 : ℕ) : ℤ) * C06.nudftTerm (N2 : ℤ) (k2 j) ((n.2 : ℕ) : ℤ))) *
          (c * (C06.nudftTerm (N1 : ℤ) (k1 j) ((n'.1 : ℕ) : ℤ) * C06.nudftTerm (N2 : ℤ) (k2 j) ((n'.2 : ℕ) : ℤ))) :=
  ⟨_, chainMat2_gen N1 N2 ω1 ω2 s1 s2 _, fun n n' =>
    C06.toeplitz_structure_2d N1 N2 hN1 hN2 hω1 hω2 s1 s2 hs1 hs2 k1 k2 c n n'⟩

end d2

section d3
variable (N1 N2 N3 : ℕ) (ω1 ω2 ω3 : ℂ) (s1 s2 s3 : ℝ) (p : Fin (2 * N1) × Fin (2 * N2) × Fin (2 * N3) → ℂ)

noncomputable def padMat3 :
    ChainOp → Option (Matrix (Fin (2 * N1) × Fin (2 * N2) × Fin (2 * N3)) (Fin N1 × Fin N2 × Fin N3) ℂ)
  | .resize o i none none =>
      if o = [((2 * N1 : ℕ) : ℤ), ((2 * N2 : ℕ) : ℤ), ((2 * N3 : ℕ) : ℤ)] ∧ i = [(N1 : ℤ), (N2 : ℤ), (N3 : ℤ)] then
        some (C06.resizeMatNd ([1] ++ i) ([1] ++ o) (C06.ix3 N1 N2 N3) (C06.ix3 (2 * N1) (2 * N2) (2 * N3)))
      else none
  | _ => none

noncomputable def sqMat3 : ChainOp → Option (Matrix (Fin (2 * N1) × Fin (2 * N2) × Fin (2 * N3))
    (Fin (2 * N1) × Fin (2 * N2) × Fin (2 * N3)) ℂ)
  | .fft sh (some ax) true =>
      if sh = [((2 * N1 : ℕ) : ℤ), ((2 * N2 : ℕ) : ℤ), ((2 * N3 : ℕ) : ℤ)] ∧ axesAll ax 3 = true then
        some (kroneckerMap (· * ·) (C05.dftMatrix ω1 (2 * N1) true s1)
          (kroneckerMap (· * ·) (C05.dftMatrix ω2 (2 * N2) true s2) (C05.dftMatrix ω3 (2 * N3) true s3)))
      else none
  | .multiplyPsf sh msh false =>
      if sh = [((2 * N1 : ℕ) : ℤ), ((2 * N2 : ℕ) : ℤ), ((2 * N3 : ℕ) : ℤ)] ∧ msh = sh then some (Matrix.diagonal p)
      else none
  | _ => none

noncomputable def factorSq3 : ChainFactor → Option (Matrix (Fin (2 * N1) × Fin (2 * N2) × Fin (2 * N3))
    (Fin (2 * N1) × Fin (2 * N2) × Fin (2 * N3)) ℂ)
  | .op x => sqMat3 N1 N2 N3 ω1 ω2 ω3 s1 s2 s3 p x
  | .adj x => (sqMat3 N1 N2 N3 ω1 ω2 ω3 s1 s2 s3 p x).map fun M => Mᴴ

noncomputable def chainMat3 :
    List ChainFactor → Option (Matrix (Fin N1 × Fin N2 × Fin N3) (Fin N1 × Fin N2 × Fin N3) ℂ)
  | [.adj r', f', q, f, .op r] =>
      match padMat3 N1 N2 N3 r', factorSq3 N1 N2 N3 ω1 ω2 ω3 s1 s2 s3 p f', factorSq3 N1 N2 N3 ω1 ω2 ω3 s1 s2 s3 p q,
        factorSq3 N1 N2 N3 ω1 ω2 ω3 s1 s2 s3 p f, padMat3 N1 N2 N3 r with
      | some R', some F', some P, some F, some R => some (R'ᴴ * (F' * P * F) * R)
      | _, _, _, _, _ => none
  | _ => none

theorem chainMat3_gen :
    chainMat3 N1 N2 N3 ω1 ω2 ω3 s1 s2 s3 p
        (Gen.LinopNormal.nufftNormalChain (Gen.LinopNormal.psfShape [(N1 : ℤ), (N2 : ℤ), (N3 : ℤ)] 3)
          [(N1 : ℤ), (N2 : ℤ), (N3 : ℤ)] 3)
      = some (C06.resizeMatNd [1, ((2 * N1 : ℕ) : ℤ), ((2 * N2 : ℕ) : ℤ), ((2 * N3 : ℕ) : ℤ)] [1, (N1 : ℤ), (N2 : ℤ), (N3 : ℤ)]
            (C06.ix3 (2 * N1) (2 * N2) (2 * N3)) (C06.ix3 N1 N2 N3) *
          ((kroneckerMap (· * ·) (C05.dftMatrix ω1 (2 * N1) true s1)
              (kroneckerMap (· * ·) (C05.dftMatrix ω2 (2 * N2) true s2) (C05.dftMatrix ω3 (2 * N3) true s3)))ᴴ *
            Matrix.diagonal p *
            kroneckerMap (· * ·) (C05.dftMatrix ω1 (2 * N1) true s1)
              (kroneckerMap (· * ·) (C05.dftMatrix ω2 (2 * N2) true s2) (C05.dftMatrix ω3 (2 * N3) true s3))) *
          C06.resizeMatNd [1, (N1 : ℤ), (N2 : ℤ), (N3 : ℤ)] [1, ((2 * N1 : ℕ) : ℤ), ((2 * N2 : ℕ) : ℤ), ((2 * N3 : ℕ) : ℤ)]
            (C06.ix3 N1 N2 N3) (C06.ix3 (2 * N1) (2 * N2) (2 * N3))) := by
  have hp : Gen.LinopNormal.psfShape [(N1 : ℤ), (N2 : ℤ), (N3 : ℤ)] 3
      = [((2 * N1 : ℕ) : ℤ), ((2 * N2 : ℕ) : ℤ), ((2 * N3 : ℕ) : ℤ)] :=
    (psfShape_eq [] [(N1 : ℤ), (N2 : ℤ), (N3 : ℤ)]).trans
      (by simp only [List.nil_append, List.map_cons, List.map_nil, Nat.cast_mul, Nat.cast_ofNat])
  have hax : axesAll (rangeStep (-1) (-((3 : Int) + 1)) (-1)) 3 = true := by decide
  rw [hp]
  simp only [Gen.LinopNormal.nufftNormalChain, chainMat3, padMat3, factorSq3, sqMat3, hax, and_self, if_true,
    Option.map_some, C06.resizeMatNd_conjTranspose, List.cons_append, List.nil_append]

/-- **NUFFT Toeplitz normal, 3-D, exact psf.** -/
theorem toeplitz_chain_exact_3d {M : ℕ} (hN1 : 0 < N1) (hN2 : 0 < N2) (hN3 : 0 < N3)
    (hω1 : IsPrimitiveRoot ω1 (2 * N1)) (hω2 : IsPrimitiveRoot ω2 (2 * N2)) (hω3 : IsPrimitiveRoot ω3 (2 * N3))
    (hs1 : s1 * s1 * ((2 * N1 : ℕ) : ℝ) = 1) (hs2 : s2 * s2 * ((2 * N2 : ℕ) : ℝ) = 1)
    (hs3 : s3 * s3 * ((2 * N3 : ℕ) : ℝ) = 1) (k1 k2 k3 : Fin M → ℝ) (c : ℂ) :
    ∃ T, chainMat3 N1 N2 N3 ω1 ω2 ω3 s1 s2 s3
        ((kroneckerMap (· * ·) (C05.dftMatrix ω1 (2 * N1) true 1)
          (kroneckerMap (· * ·) (C05.dftMatrix ω2 (2 * N2) true 1) (C05.dftMatrix ω3 (2 * N3) true 1))).mulVec
          fun m : Fin (2 * N1) × Fin (2 * N2) × Fin (2 * N3) =>
            C06.gramKernel3 (N1 : ℤ) (N2 : ℤ) (N3 : ℤ) k1 k2 k3 c (((m.1 : ℕ) : ℤ) - N1) (((m.2.1 : ℕ) : ℤ) - N2)
              (((m.2.2 : ℕ) : ℤ) - N3))
        (Gen.LinopNormal.nufftNormalChain (Gen.LinopNormal.psfShape [(N1 : ℤ), (N2 : ℤ), (N3 : ℤ)] 3)
          [(N1 : ℤ), (N2 : ℤ), (N3 : ℤ)] 3) = some T ∧
      ∀ n n' : Fin N1 × Fin N2 × Fin N3, T n n' = ∑ j : Fin M,
        conj (c * (C06.nudftTerm (N1 : ℤ) (k1 j) ((n.1 : ℕ) : ℤ) * C06.nudftTerm (N2 : ℤ) (k2 j) ((n.2.1 : ℕ) : ℤ) *
            C06.nudftTerm (N3 : ℤ) (k3 j) ((n.2.2 : ℕ) : ℤ))) *
          (c * (C06.nudftTerm (N1 : ℤ) (k1 j) ((n'.1 : ℕ) : ℤ) * C06.nudftTerm (N2 : ℤ) (k2 j) ((n'.2.1 : ℕ) : ℤ) *
            C06.nudftTerm (N3 : ℤ) (k3 j) ((n'.2.2 : ℕ) : ℤ))) :=
  ⟨_, chainMat3_gen N1 N2 N3 ω1 ω2 ω3 s1 s2 s3 _, fun n n' =>
    C06.toeplitz_structure_3d N1 N2 N3 hN1 hN2 hN3 hω1 hω2 hω3 s1 s2 s3 hs1 hs2 hs3 k1 k2 k3 c n n'⟩

end d3

/-- the generated switch: `toeplitz=True` selects the chain, with `ndim = coord.shape[-1]` -/
theorem nufft_toeplitz_switch (ishape : List Int) (coord : C01.Arr Rat) (ov w : Rat) :
    Gen.LinopNormal.normalOpaque (.nufft ishape coord ov w true : C01.Opaque ℂ) =
      .chain (Gen.LinopNormal.nufftNormalChain
        (Gen.LinopNormal.psfShape ishape (C01.getI coord.shape (coord.shape.length - 1))) ishape
        (C01.getI coord.shape (coord.shape.length - 1))) := rfl

/-- a 4-factor list (e.g. the chain without the crop) has no matrix -/
example (N : ℕ) (ω : ℂ) (s : ℝ) (p : Fin (2 * N) → ℂ) (a b c d : ChainFactor) :
    chainMat1 N ω s p [a, b, c, d] = none := by
  cases a <;> rfl

/-- the hypothesis `hω` is satisfiable: sigpy's root `e^{-2πi/2N}` (the scale `1/√(2N)`: Props/C06Toeplitz.lean) -/
example (N : ℕ) (hN : 0 < N) : IsPrimitiveRoot (C06.fftRoot (2 * N)) (2 * N) := C06.fftRoot_primitive _ (by omega)

end SigpyVerif.C04
