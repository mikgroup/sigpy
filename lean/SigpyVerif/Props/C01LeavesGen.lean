import SigpyVerif.Props.C01Leaves
import SigpyVerif.Props.C01MatMul
import SigpyVerif.Props.C04
import SigpyVerif.Lemmas.C01Block
/-
  C01 — leaf pairs that rest on the loop nests regenerated from block.py / interp.py
  (ArrayToBlocks ↔ BlocksToArray, Interpolate ↔ Gridding), and `adj_denote_leaves`: `adj_denote` over the leaf
  classes proved here, in Props/C01Leaves.lean and in Props/C01MatMul.lean (`LeafProved`).
-/
set_option linter.unusedSectionVars false
namespace SigpyVerif.C01
open SigpyVerif

section
variable {α : Type} [CommRing α] [StarRing α] (ofRat : Rat → α)

/-- template for two classes that are each other's `.H`: they denote for the same parameters, and then
    the entries of one are a rearrangement of the conjugate transpose of the other's -/
theorem adjOK_pair (l l' : Leaf α) (hadj : adjLeaf star l = .leaf l') (hadj' : adjLeaf star l' = .leaf l)
    (h : (leafSem0 star ofRat l = none ∧ leafSem0 star ofRat l' = none) ∨
      ∃ s s', leafSem0 star ofRat l = some s ∧ leafSem0 star ofRat l' = some s' ∧
        s'.osh = s.ish ∧ s'.ish = s.osh ∧ s'.E.Perm (adjE star s.E)) :
    AdjOK ofRat (.leaf l) ∧ AdjOK ofRat (.leaf l') := by
  constructor
  · refine adjOK_of_perm ofRat l l' hadj fun t ht => ?_
    rcases h with ⟨h1, _⟩ | ⟨s, s', h1, h2, ho, hi, hp⟩
    · rw [h1] at ht; cases ht
    · obtain rfl := Option.some.inj (h1.symm.trans ht)
      exact ⟨s', h2, ho, hi, hp⟩
  · refine adjOK_of_perm ofRat l' l hadj' fun t ht => ?_
    rcases h with ⟨_, h2⟩ | ⟨s, s', h1, h2, ho, hi, hp⟩
    · rw [h2] at ht; cases ht
    · obtain rfl := Option.some.inj (h2.symm.trans ht)
      exact ⟨s, h1, hi.symm, ho.symm, perm_adjE_symm hp⟩

theorem updToEnt_swap (dsh ssh : List Int) (E : List (Upd Rat)) :
    (updToEnt ofRat dsh ssh (E.map fun u => (u.2.1, u.1, u.2.2)) : List (Ent α))
      = swapE (updToEnt ofRat ssh dsh E) := by
  unfold updToEnt swapE
  simp [List.map_map, Function.comp]

theorem updToEnt_adj (hreal : ∀ r, star (ofRat r) = ofRat r) (dsh ssh : List Int) (E : List (Upd Rat)) :
    adjE star (updToEnt ofRat dsh ssh E : List (Ent α)) = swapE (updToEnt ofRat dsh ssh E) := by
  unfold updToEnt swapE adjE
  simp [List.map_map, Function.comp, hreal]

theorem interpEntries_grid (gsh pts : List Int) (coord : List (List Rat)) (w p : Rat) :
    interpEntries true gsh pts coord w p =
      (interpEntries false gsh pts coord w p).map fun t =>
        (t.1, t.2.1, t.2.2.1, t.2.2.2.map fun u => (u.2.1, u.1, u.2.2)) := by
  unfold interpEntries
  dsimp only
  split_ifs with hc
  · rfl
  · simp only [Option.map_some, Option.some.injEq, Prod.mk.injEq, true_and]
    generalize (coord.headD []).length = nd
    rcases nd with _ | _ | _ | n
    · exact grid3_eq_swap_interp3 _ _ _ _ _ _ _ _ _ rfl rfl rfl rfl
    · exact grid1_eq_swap_interp1 _ _ _ _ _ _ _ _ _ rfl rfl
    · exact grid2_eq_swap_interp2 _ _ _ _ _ _ _ _ _ rfl rfl rfl
    · exact grid3_eq_swap_interp3 _ _ _ _ _ _ _ _ _ rfl rfl rfl rfl

theorem interp_sem_pair (hreal : ∀ r, star (ofRat r) = ofRat r) (gsh pts : List Int)
    (coord : List (List Rat)) (w p : Rat) :
    (leafSem0 star ofRat (.interp gsh pts coord w p : Leaf α) = none ∧
      leafSem0 star ofRat (.gridding gsh pts coord w p : Leaf α) = none) ∨
      ∃ s s', leafSem0 star ofRat (.interp gsh pts coord w p : Leaf α) = some s ∧
        leafSem0 star ofRat (.gridding gsh pts coord w p : Leaf α) = some s' ∧
        s'.osh = s.ish ∧ s'.ish = s.osh ∧ s'.E.Perm (adjE star s.E) := by
  simp only [leafSem0]
  rw [interpEntries_grid]
  cases he : interpEntries false gsh pts coord w p with
  | none => exact .inl ⟨rfl, rfl⟩
  | some t =>
    obtain ⟨lead, gs, ps, E⟩ := t
    refine .inr ⟨_, _, rfl, rfl, rfl, rfl, ?_⟩
    dsimp only
    rw [updToEnt_swap, updToEnt_adj ofRat hreal]

/-- `Interpolate(ishape, coord, spline).H = Gridding(ishape, coord, …)` is the true adjoint: the
    gridding loop nests emit exactly the index-swapped triples of the interpolation loop nests (1-3 D,
    any batch, any points, any width/param), and the weights are real. -/
theorem interp_leaf_adjoint (hreal : ∀ r, star (ofRat r) = ofRat r) (ish pts : List Int)
    (coord : List (List Rat)) (w p : Rat) : AdjOK ofRat (.leaf (.interp ish pts coord w p : Leaf α)) :=
  (adjOK_pair ofRat _ (.gridding ish pts coord w p) rfl rfl (interp_sem_pair ofRat hreal ish pts coord w p)).1

/-- `Gridding(oshape, coord, spline).H = Interpolate(oshape, coord, …)` -/
theorem gridding_leaf_adjoint (hreal : ∀ r, star (ofRat r) = ofRat r) (osh pts : List Int)
    (coord : List (List Rat)) (w p : Rat) : AdjOK ofRat (.leaf (.gridding osh pts coord w p : Leaf α)) :=
  (adjOK_pair ofRat (.interp osh pts coord w p) _ rfl rfl (interp_sem_pair ofRat hreal osh pts coord w p)).2

/-- the two block kernels are defined for the same parameters, and then the scatter loop emits the
    index-swapped updates of the gather loop (rank 1-3) -/
theorem blockEntries_pair (batch : Int) (nsh blk str nb : List Int) (hstr : ∀ s ∈ str, 0 < s) :
    (C09.a2bEntries batch nsh blk str nb = none ∧ C09.b2aEntries batch nsh blk str nb = none) ∨
    ∃ Ea Eb, C09.a2bEntries batch nsh blk str nb = some Ea ∧ C09.b2aEntries batch nsh blk str nb = some Eb ∧
      Eb.Perm (Ea.map fun u => (u.2.1, u.1, u.2.2)) := by
  unfold C09.a2bEntries C09.b2aEntries
  split
  · exact .inr ⟨_, _, rfl, rfl, b2a1_perm_swap_a2b1 _ _ _ _ _ _ _ _ (hstr _ (.head _)) rfl⟩
  · exact .inr ⟨_, _, rfl, rfl, b2a2_perm_swap_a2b2 _ _ _ _ _ _ _ _ _ _ _ (hstr _ (.tail _ (.head _)))
      (hstr _ (.head _)) rfl rfl⟩
  · exact .inr ⟨_, _, rfl, rfl, b2a3_perm_swap_a2b3 _ _ _ _ _ _ _ _ _ _ _ _ _ _
      (hstr _ (.tail _ (.tail _ (.head _)))) (hstr _ (.tail _ (.head _))) (hstr _ (.head _)) rfl rfl rfl⟩
  · exact .inl ⟨rfl, rfl⟩

theorem a2b_b2a_entries (batch : Int) (nsh blk str nb : List Int) (hstr : ∀ s ∈ str, 0 < s)
    (Ea : List (Upd Rat)) (h : C09.a2bEntries batch nsh blk str nb = some Ea) :
    ∃ Eb, C09.b2aEntries batch nsh blk str nb = some Eb ∧
      Eb.Perm (Ea.map fun u => (u.2.1, u.1, u.2.2)) := by
  rcases blockEntries_pair batch nsh blk str nb hstr with ⟨h1, _⟩ | ⟨Ea', Eb, h1, h2, hp⟩
  · rw [h1] at h; cases h
  · obtain rfl := Option.some.inj (h1.symm.trans h)
    exact ⟨Eb, h2, hp⟩

theorem b2a_a2b_entries (batch : Int) (nsh blk str nb : List Int) (hstr : ∀ s ∈ str, 0 < s)
    (Eb : List (Upd Rat)) (h : C09.b2aEntries batch nsh blk str nb = some Eb) :
    ∃ Ea, C09.a2bEntries batch nsh blk str nb = some Ea ∧
      Eb.Perm (Ea.map fun u => (u.2.1, u.1, u.2.2)) := by
  rcases blockEntries_pair batch nsh blk str nb hstr with ⟨_, h2⟩ | ⟨Ea, Eb', h1, h2, hp⟩
  · rw [h2] at h; cases h
  · obtain rfl := Option.some.inj (h2.symm.trans h)
    exact ⟨Ea, h1, hp⟩

/-- both classes compute the number of blocks with the same formula -/
theorem numBlks_same : Gen.b2aNumBlks = Gen.a2bNumBlks := by
  funext i b s
  unfold Gen.b2aNumBlks Gen.a2bNumBlks
  ring_nf

theorem updToEnt_perm (dsh ssh : List Int) {E E' : List (Upd Rat)} (h : E.Perm E') :
    (updToEnt ofRat dsh ssh E : List (Ent α)).Perm (updToEnt ofRat dsh ssh E') := h.map _

theorem blockShapes_nb {ash blk str lead nsh nb : List Int} (hb : blockShapes ash blk str = some (lead, nsh, nb)) :
    nb = C09.zip3With Gen.a2bNumBlks nsh blk str := by
  unfold blockShapes at hb
  dsimp only at hb
  split_ifs at hb
  simp only [Option.some.injEq, Prod.mk.injEq] at hb
  rw [← hb.2.2, ← hb.2.1]

theorem blocks_sem_pair (hreal : ∀ r, star (ofRat r) = ofRat r) (ash blk str : List Int)
    (hstr : ∀ s ∈ str, 0 < s) :
    (a2bSem (α := α) ofRat ash blk str = none ∧ b2aSem (α := α) ofRat ash blk str = none) ∨
      ∃ s s', a2bSem (α := α) ofRat ash blk str = some s ∧ b2aSem ofRat ash blk str = some s' ∧
        s'.osh = s.ish ∧ s'.ish = s.osh ∧ s'.E.Perm (adjE star s.E) := by
  simp only [a2bSem, b2aSem, numBlks_same]
  cases hb : blockShapes ash blk str with
  | none => exact .inl ⟨rfl, rfl⟩
  | some t =>
    obtain ⟨lead, nsh, nb⟩ := t
    simp only [Option.bind_eq_bind, Option.bind_some]
    rw [← blockShapes_nb hb]
    rcases blockEntries_pair (shapeProd lead) nsh blk str nb hstr with ⟨h1, h2⟩ | ⟨Ea, Eb, h1, h2, hp⟩
    · rw [h1, h2]; exact .inl ⟨rfl, rfl⟩
    · rw [h1, h2]
      refine .inr ⟨_, _, rfl, rfl, rfl, rfl, (updToEnt_perm ofRat _ _ hp).trans ?_⟩
      rw [updToEnt_swap, updToEnt_adj ofRat hreal]

/-- `ArrayToBlocks(ishape, blk, strides).H = BlocksToArray(ishape, blk, strides)` is the true
    adjoint for every positive stride (overlap, gap and tiling alike): the scatter loop visits every
    (array element, block entry) pair of the gather loop exactly once. -/
theorem a2b_leaf_adjoint (hreal : ∀ r, star (ofRat r) = ofRat r) (ish blk str : List Int)
    (hstr : ∀ s ∈ str, 0 < s) : AdjOK ofRat (.leaf (.a2b ish blk str : Leaf α)) :=
  (adjOK_pair ofRat (.a2b ish blk str) (.b2a ish blk str) rfl rfl
    (blocks_sem_pair ofRat hreal ish blk str hstr)).1

/-- `BlocksToArray(oshape, blk, strides).H = ArrayToBlocks(oshape, blk, strides)`, same condition -/
theorem b2a_leaf_adjoint (hreal : ∀ r, star (ofRat r) = ofRat r) (osh blk str : List Int)
    (hstr : ∀ s ∈ str, 0 < s) : AdjOK ofRat (.leaf (.b2a osh blk str : Leaf α)) :=
  (adjOK_pair ofRat (.a2b osh blk str) (.b2a osh blk str) rfl rfl
    (blocks_sem_pair ofRat hreal osh blk str hstr)).2

/-- a leaf given by the entries `E` of a class and the entries `E'` of the class its `_adjoint_linop`
    returns (Props/C01Ext.lean builds these from the C08 / C05 models through the generated pairing
    table) pairs with its adjoint as soon as the two entry lists are adjoint matrices -/
theorem ext_leaf_adjoint (t : Nat) (osh ish : List Int) (E E' : List (Ent α))
    (h : IsAdj (shapeProd osh).toNat (shapeProd ish).toNat
      (inRangeE (shapeProd osh).toNat (shapeProd ish).toNat E)
      (inRangeE (shapeProd ish).toNat (shapeProd osh).toNat E')) :
    AdjOK ofRat (.leaf (.ext t osh ish E E' : Leaf α)) := by
  intro s hs
  simp only [denote, leafSem, leafSem0, Option.map_some, Option.some.injEq] at hs
  subst hs
  refine ⟨Sem.clip ⟨ish, osh, E'⟩, ?_, rfl, rfl, h⟩
  simp only [adj, adjLeaf, denote, leafSem, leafSem0, Option.map_some]

/-- leaf classes (with their validity conditions on the parameters) whose pairing with
    `_adjoint_linop` is proved in Lean at the entry level -/
def LeafProved : Leaf α → Prop
  | .identity _ => True
  | .reshape _ _ => True
  | .slice _ _ => True
  | .embed _ _ => True
  | .flip _ _ => True
  | .circshift sh _ _ => ∀ n ∈ sh, 0 ≤ n
  | .downsample ish f s => DSValid ish f s
  | .upsample osh f s => DSValid osh f s
  | .resize _ _ is' os' => ShiftOK is' ∧ ShiftOK os'
  | .sum _ _ => True
  | .tile _ _ => True
  | .a2b _ _ str => ∀ s ∈ str, 0 < s
  | .b2a _ _ str => ∀ s ∈ str, 0 < s
  | .interp _ _ _ _ _ => True
  | .gridding _ _ _ _ _ => True
  | .transpose _ _ => True
  | .multiply ish msh _ _ => MulValid ish msh
  | .matmul ish msh _ _ => MulValid ish msh
  | .rmatmul ish msh _ _ => MulValid ish msh
  | .ext _ osh ish E E' =>
      IsAdj (shapeProd osh).toNat (shapeProd ish).toNat
        (inRangeE (shapeProd osh).toNat (shapeProd ish).toNat E)
        (inRangeE (shapeProd ish).toNat (shapeProd osh).toNat E')

theorem leafProved_adjOK (hreal : ∀ r, star (ofRat r) = ofRat r) (l : Leaf α) (hl : LeafProved l) :
    AdjOK ofRat (.leaf l) := by
  cases l
  · exact identity_leaf_adjoint ofRat _
  · exact reshape_leaf_adjoint ofRat _ _
  · exact transpose_leaf_adjoint ofRat _ _
  · exact resize_leaf_adjoint ofRat _ _ _ _ hl.1 hl.2
  · exact flip_leaf_adjoint ofRat _ _
  · exact circshift_leaf_adjoint ofRat _ _ _ hl
  · exact downsample_leaf_adjoint ofRat _ _ _ hl
  · exact upsample_leaf_adjoint ofRat _ _ _ hl
  · exact sum_leaf_adjoint ofRat _ _
  · exact tile_leaf_adjoint ofRat _ _
  · exact slice_leaf_adjoint ofRat _ _
  · exact embed_leaf_adjoint ofRat _ _
  · exact multiply_leaf_adjoint ofRat _ _ _ _ hl
  · exact matmul_leaf_adjoint ofRat _ _ _ _ hl
  · exact rmatmul_leaf_adjoint ofRat _ _ _ _ hl
  · exact a2b_leaf_adjoint ofRat hreal _ _ _ hl
  · exact b2a_leaf_adjoint ofRat hreal _ _ _ hl
  · exact interp_leaf_adjoint ofRat hreal _ _ _ _ _
  · exact gridding_leaf_adjoint ofRat hreal _ _ _ _ _
  · exact ext_leaf_adjoint ofRat _ _ _ _ _ hl

/-- **`adj_denote` with the leaf hypothesis discharged.**  For every expression tree built with Compose, Add,
    Conj, Hstack, Vstack, Diag over leaves satisfying `LeafProved` — the validity conditions on the parameters
    listed there and, for an `ext` leaf, that its two entry lists are adjoint (what `conv_leaf_proved`,
    `fft_leaf_proved`, `wave_leaf_proved_partial` provide for the leaves their builders return) — whenever the
    tree denotes an operator `A`, the tree `.H` builds denotes an operator with the shapes swapped and
    `⟨A x, y⟩ = ⟨x, A.H y⟩` for all `x`, `y`.  `hreal` says that the embedding of the (rational) kernel
    weights into the scalars is real. -/
theorem adj_denote_leaves (hreal : ∀ r, star (ofRat r) = ofRat r) (e : Expr α)
    (he : allLeaves LeafProved e) : AdjOK ofRat e :=
  adj_denote ofRat LeafProved (leafProved_adjOK ofRat hreal) e he

/-- the C04 consequence: over the same leaf classes, `A.N` (default rule `A.H * A`) denotes the Gram
    operator of `A`: `⟨A.N x, z⟩ = ⟨A x, A z⟩`. -/
theorem normal_gram_leaves (hreal : ∀ r, star (ofRat r) = ofRat r) (e : Expr α)
    (he : allLeaves LeafProved e) (h : ¬ C04.Shortcut e) (s : Sem α) (hs : denote star ofRat e = some s) :
    ∃ sN, denote star ofRat (normal star e) = some sN ∧ sN.osh = s.ish ∧ sN.ish = s.ish ∧
      ∀ x z : Nat → α, dotL star (List.range s.isz) (applyF sN.E x) z
        = dotL star (List.range s.osz) (applyF s.E x) (applyF s.E z) :=
  C04.normal_gram ofRat LeafProved (leafProved_adjOK ofRat hreal) e he h s hs

example : allLeaves (α := α) LeafProved
    (.vstack (some 0)
      (.comp (.leaf (.downsample [6, 4] [2, 1] [1, 0])) (.leaf (.circshift [6, 4] [1, -2] none)))
      (.comp (.leaf (.resize [3, 4] [5, 4] none (some [0, 0])))
        (.comp (.leaf (.b2a [5, 4] [2] [1]))
          (.comp (.leaf (.a2b [5, 4] [2] [1]))
            (.comp (.leaf (.multiply [5, 1] [1, 4] (List.replicate 4 2) true)) (.leaf (.transpose [1, 5] (some [-1, 0])))))))) := by
  simp only [allLeaves, LeafProved, DSValid, ShiftOK, MulValid, reduceCtorEq, Option.some.injEq, forall_eq',
    false_imp_iff, implies_true, true_and, and_true]
  decide

/-! non-vacuity: concrete trees over these classes denote operators, and so do their adjoints
    (scalars ℤ with the trivial conjugation; `+kernel` because array operations do not unfold in the
    elaborator's `decide`) -/
example : ((denote (α := ℤ) star (fun r => r.num)
    (.comp (.leaf (.downsample [4] [2] [1])) (.leaf (.circshift [4] [1] none)))).map
      fun s => (s.osh, s.ish, s.E)) = some ([2], [4], [(0, 0, 1), (1, 2, 1)]) := by decide +kernel
example : ((denote (α := ℤ) star (fun r => r.num)
    (adj star (.comp (.leaf (.downsample [4] [2] [1])) (.leaf (.circshift [4] [1] none))))).map
      fun s => (s.osh, s.ish, s.E)) = some ([4], [2], [(0, 0, 1), (2, 1, 1)]) := by decide +kernel
example : ((denote (α := ℤ) star (fun r => r.num) (.leaf (.multiply [2, 1] [3] [5, 6, 7] true))).map
    fun s => (s.osh, s.ish, s.E.length)) = some ([2, 3], [2, 1], 6) := by decide +kernel
example : ((denote (α := ℤ) star (fun r => r.num) (adj star (.leaf (.multiply [2, 1] [3] [5, 6, 7] true)))).map
    fun s => (s.osh, s.ish, s.E.length)) = some ([2, 1], [2, 3], 6) := by decide +kernel
example : DSValid [6, 4] [2, 1] [1, 0] := by simp only [DSValid]; decide
/-- a tree with a broadcasting MatMul (matrix batch 3 against input batch 1: the adjoint sums over axis 0)
    and a RightMatMul with the larger rank on the input side is covered -/
example : allLeaves (α := α) LeafProved
    (.comp (.leaf (.rmatmul [3, 2, 4] [4, 2] (List.replicate 8 1) false))
      (.leaf (.matmul [1, 3, 4] [3, 2, 3] (List.replicate 18 2) true))) := by
  simp only [allLeaves, LeafProved, MulValid]
  decide
example : ((denote (α := ℤ) star (fun r => r.num) (.leaf (.matmul [1, 3, 2] [2, 2, 3] [1, 2, 3, 4, 5, 6, 7, 8, 9, 10, 11, 12] false))).map
    fun s => (s.osh, s.ish, s.E.length)) = some ([2, 2, 2], [1, 3, 2], 24) := by decide +kernel
example : ((denote (α := ℤ) star (fun r => r.num) (adj star (.leaf (.matmul [1, 3, 2] [2, 2, 3] [1, 2, 3, 4, 5, 6, 7, 8, 9, 10, 11, 12] false)))).map
    fun s => (s.osh, s.ish, s.E.length)) = some ([1, 3, 2], [2, 2, 2], 24) := by decide +kernel
example : AxValid (normAxes [-1, 0] 2) 2 := by unfold AxValid; decide
end
end SigpyVerif.C01
