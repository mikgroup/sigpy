import SigpyVerif.Props.C06
set_option linter.unusedTactic false
set_option linter.unreachableTactic false
/-
  C06 (Toeplitz normal operator) — `fourier.toeplitz_psf` and `linop.NUFFT._normal_linop(toeplitz=True)`.

  What is proved here (about the formulas the translator regenerates from sigpy/fourier.py / sigpy/linop.py into
  `Gen/NufftFormulas.lean`, and about C05's DFT matrices and C09's resize relation):

  * the embedding grid of `toeplitz_psf` has exactly twice the image length (`toep_embed_len`), its coordinates are
    the image coordinates doubled plus one whole period of the embedding grid (`toep_coord_doubled`), the unit
    sample sits on the index the NUDFT calls 0 (`toep_delta_on_centre`), and the final factor `2**ndim` compensates
    the `1/√(2N)` vs `1/√N` normalisations of the two grids (`toep_final_mul`);
  * for one coordinate `k`, the term of the exact transform on the embedding grid gives the image-grid phase
    `exp(2πi k d/N)` (`toep_psf_is_kernel`); the four facts are not assembled into a statement that an exact
    `toeplitz_psf` produces the `p` of `toeplitz_structure`;
  * the Gram operator `AᴴA` of an exact NUDFT `A[j,n] = c·exp(-2πi k_j (n - N/2)/N)` is Toeplitz with kernel
    `t(d) = |c|² Σ_j exp(2πi k_j d/N)` (`nudft_gram_toeplitz`);
  * **`toeplitz_embedding_exact`**: ANY Toeplitz operator `T[n,n'] = t(n - n')` on length `N` equals
    `Rᴴ Fᴴ diag(p) F R` — with SIGPY'S CENTRED CONVENTIONS: `R` = C09's zero-pad `N → 2N` with
    default shifts, `Rᴴ` = C09's crop, `F` = C05's centred DFT matrix of length `2N` with the orthonormal scale
    `1/√(2N)` (what `linop.FFT` applies; the two factors are the explicit `1/(2N)` normalisation), and
    `p = centred unnormalised DFT of psf`, `psf[m] = t(m - N)` — exactly what `_normal_linop` builds
    (`T = R.H * F.H * P * F * R`).  The intermediate statement `circulant_diagonalised` says that
    `Fᴴ diag(p) F` is the circular convolution with the wrapped kernel.
  NOT proved (oracle only, harness/props/c06.py: `A.N(x)` against `A.H(A(x))` within `TOEPLITZ_TOL`): that the psf COMPUTED by the approximate
  `nufft` / `nufft_adjoint` (Kaiser–Bessel interpolation, complex64) is close to the exact kernel `t`.
-/
namespace SigpyVerif.C06
open SigpyVerif Matrix ComplexConjugate Finset

theorem toepShapeOversamp_eq : Gen.toepShapeOversamp = 2 := by
  unfold Gen.toepShapeOversamp; norm_num

theorem toepCoordOversamp_eq : Gen.toepCoordOversamp = 2 := by
  unfold Gen.toepCoordOversamp; norm_num

/-- the embedding grid `new_shape` has exactly twice the image length on every transform axis -/
theorem toep_embed_len (n : Int) : Gen.toepEmbedLen n = 2 * n := by
  unfold Gen.toepEmbedLen Gen.oversampLen
  rw [toepShapeOversamp_eq]
  have h : ∀ q : Rat, q = ((2 * n : Int) : Rat) → Rat.ceil q = 2 * n := fun q hq => by rw [hq, Rat.ceil_intCast]
  exact h _ (by push_cast; ring)

/-- `new_coord = 2·coord + 2N`: the image coordinates doubled (the embedding grid samples the same frequencies at
    half the spacing) plus exactly one period `2N` of the embedding grid (which `nufft` ignores: `nufft_periodic1`) -/
theorem toep_coord_doubled (n : Int) (hn : n ≠ 0) (c : Rat) :
    Gen.toepScaleCoord n c = 2 * c + ((Gen.toepEmbedLen n : Int) : Rat) := by
  unfold Gen.toepScaleCoord Gen.scaleCoord
  rw [(os_sites_agree _ _).2.1, (os_sites_agree _ _).2.2, toepCoordOversamp_eq, toep_embed_len]
  have h4 : Gen.oversampLen 2 (2 * n) = 4 * n := by
    unfold Gen.oversampLen
    have h : ∀ q : Rat, q = ((4 * n : Int) : Rat) → Rat.ceil q = 4 * n := fun q hq => by rw [hq, Rat.ceil_intCast]
    exact h _ (by push_cast; ring)
  rw [h4, pyDiv_of_pos _ (show (0 : Int) < 2 by decide)]
  have h2 : 4 * n / 2 = 2 * n := by omega
  rw [h2]
  have : ((n : Int) : Rat) ≠ 0 := by exact_mod_cast hn
  push_cast
  field_simp
  ring

/-- the unit sample of `toeplitz_psf` sits at index `N` of the `2N` grid, which is the index `nufft` / `_apodize`
    treat as the origin of that grid (`Gen.apodCentre`) -/
theorem toep_delta_on_centre (n : Int) :
    Gen.toepDeltaIdx (Gen.toepEmbedLen n) = n ∧ ∀ m, Gen.toepDeltaIdx m = Gen.apodCentre m := by
  refine ⟨?_, fun m => ?_⟩
  · unfold Gen.toepDeltaIdx
    rw [toep_embed_len, pyDiv_of_pos _ (show (0 : Int) < 2 by decide)]
    omega
  · unfold Gen.toepDeltaIdx Gen.apodCentre
    -- `rfl` for the source as written; the second branch covers another spelling of `m // 2` at either site
    first | rfl | (simp only [pyDiv_of_pos _ (show (0 : Int) < 2 by decide)]; omega)

/-- the final factor is `2^ndim`, and it turns the `1/ΠL` of the embedding-grid transforms (`L = 2N` per axis:
    `(1/√ΠL)²`) into the `1/ΠN` of the image-grid normal operator -/
theorem toep_final_mul (ndim : Nat) (prodN : Int) (hN : 0 < prodN) :
    (Gen.toepFinalMul ndim : ℝ) = 2 ^ ndim ∧
    (Gen.toepFinalMul ndim : ℝ) * ((Gen.nufftFwdDiv Real.sqrt (2 ^ ndim * prodN)) ^ 2)⁻¹ =
      ((Gen.nufftFwdDiv Real.sqrt prodN) ^ 2)⁻¹ := by
  have h1 : (Gen.toepFinalMul ndim : ℝ) = 2 ^ ndim := by
    unfold Gen.toepFinalMul; norm_num
  refine ⟨h1, ?_⟩
  rw [h1]
  unfold Gen.nufftFwdDiv
  have hp : (0 : ℝ) < (prodN : ℝ) := by exact_mod_cast hN
  have h2 : (0 : ℝ) < 2 ^ ndim := by positivity
  rw [Real.sq_sqrt (by push_cast; positivity), Real.sq_sqrt hp.le]
  push_cast
  field_simp

example : Gen.toepEmbedLen 9 = 18 ∧ Gen.toepDeltaIdx (Gen.toepEmbedLen 9) = 9 :=
  ⟨by rw [toep_embed_len]; norm_num, (toep_delta_on_centre 9).1⟩

/-- The two constants are the literal `true` that the translator writes after it has found the documented call
    structure of `toeplitz_psf` and of `NUFFT._normal_linop` (it aborts otherwise).  Trusted: the statement itself
    carries no content. -/
theorem toeplitz_checked : Gen.toeplitzPsfChecked = true ∧ Gen.toeplitzNormalChecked = true := ⟨rfl, rfl⟩

/-- the Toeplitz kernel of the exact normal operator: `t(d) = |c|² Σ_j exp(2πi k_j d / N)` -/
noncomputable def gramKernel {M : ℕ} (N : ℤ) (k : Fin M → ℝ) (c : ℂ) (d : ℤ) : ℂ :=
  ∑ j : Fin M, Complex.exp (2 * Real.pi * Complex.I * k j * (d : ℂ) / N) * (Complex.normSq c : ℂ)

theorem conj_nudftTerm_mul (N : ℤ) (k : ℝ) (n n' : ℤ) :
    conj (nudftTerm N k n) * nudftTerm N k n' = Complex.exp (2 * Real.pi * Complex.I * k * ((n - n' : ℤ) : ℂ) / N) := by
  unfold nudftTerm
  rw [← Complex.exp_conj, ← Complex.exp_add]
  congr 1
  simp only [map_div₀, map_mul, map_neg, Complex.conj_ofReal, Complex.conj_I, map_intCast, map_ofNat]
  push_cast
  ring

theorem conj_mul_mul (c a b : ℂ) : conj (c * a) * (c * b) = conj a * b * (Complex.normSq c : ℂ) := by
  rw [map_mul, Complex.normSq_eq_conj_mul_self]
  ring

/-- **AᴴA is Toeplitz.**  For the exact NUDFT `A[j,n] = c · exp(-2πi k_j (n - N//2)/N)` (any coordinates `k_j`, any
    scaling `c`, e.g. sigpy's `1/√N`), entry `(n, n')` of `AᴴA` depends on `n - n'` only and equals `gramKernel`. -/
theorem nudft_gram_toeplitz {M : ℕ} (N : ℤ) (k : Fin M → ℝ) (c : ℂ) (n n' : ℤ) :
    ∑ j : Fin M, conj (c * nudftTerm N (k j) n) * (c * nudftTerm N (k j) n') = gramKernel N k c (n - n') :=
  Finset.sum_congr rfl fun j _ => by rw [conj_mul_mul, conj_nudftTerm_mul]

/-- one coordinate `k`, one term: on the embedding grid (length `2N`, coordinate doubled) the term of the exact
    transform at the centre `N` times the conjugate term at `N + d` is the image-grid phase at lag `d`,
    `conj(term_{2N}(2k, N + d)) · term_{2N}(2k, N) = exp(2πi k d / N)`.  The sum over the coordinates, the scalings,
    the period `2N` of `toep_coord_doubled` and the factor `2^ndim` are not part of the statement. -/
theorem toep_psf_is_kernel (N : ℤ) (hN : N ≠ 0) (k : ℝ) (d : ℤ) :
    conj (nudftTerm (2 * N) (2 * k) (N + d)) * nudftTerm (2 * N) (2 * k) N =
      Complex.exp (2 * Real.pi * Complex.I * k * (d : ℂ) / N) := by
  have hN' : (N : ℂ) ≠ 0 := by exact_mod_cast hN
  rw [conj_nudftTerm_mul, add_sub_cancel_left]
  congr 1
  push_cast
  rw [div_eq_div_iff (mul_ne_zero two_ne_zero hN') hN']
  ring

section embedding
variable {L : ℕ}

/-- the index `r` of the length-`L` grid with `r - L/2 ≡ a - b (mod L)`: the lag of the centred circular convolution -/
def lagIdx (hL : 0 < L) (a b : Fin L) : Fin L :=
  ⟨((((a : ℕ) : ℤ) - ((b : ℕ) : ℤ) + (L : ℤ) / 2) % (L : ℤ)).toNat, by
    have h1 := Int.emod_nonneg (((a : ℕ) : ℤ) - ((b : ℕ) : ℤ) + (L : ℤ) / 2) (show (L : ℤ) ≠ 0 by omega)
    have h2 := Int.emod_lt_of_pos (((a : ℕ) : ℤ) - ((b : ℕ) : ℤ) + (L : ℤ) / 2) (show (0 : ℤ) < L by omega)
    omega⟩

theorem lagIdx_val (hL : 0 < L) (a b : Fin L) :
    (((lagIdx hL a b : Fin L) : ℕ) : ℤ) = (((a : ℕ) : ℤ) - ((b : ℕ) : ℤ) + (L : ℤ) / 2) % (L : ℤ) := by
  unfold lagIdx
  have h1 := Int.emod_nonneg (((a : ℕ) : ℤ) - ((b : ℕ) : ℤ) + (L : ℤ) / 2) (show (L : ℤ) ≠ 0 by omega)
  simp only [Int.toNat_of_nonneg h1]

theorem dft_entry {ω : ℂ} (hω : IsPrimitiveRoot ω L) (hL : 0 < L) (s : ℝ) (k m : Fin L) :
    C05.dftMatrix ω L true s k m = (s : ℂ) * ω ^ ((((k : ℕ) : ℤ) - (L : ℤ) / 2) * (((m : ℕ) : ℤ) - (L : ℤ) / 2)) := by
  simp only [C05.dftMatrix, of_apply, C05.zpow_axisExp hω hL, C05.centre, if_true]

/-- in an exponent `(i - h) * ν` of an `L`-th root of unity, `i` only matters modulo `L` -/
theorem zpow_emod_sub_mul {ω : ℂ} (h1 : ω ^ L = 1) (h0 : ω ≠ 0) (i h ν : ℤ) :
    ω ^ ((i % (L : ℤ) - h) * ν) = ω ^ ((i - h) * ν) := by
  have hν : ω ^ ν ≠ 0 := zpow_ne_zero _ h0
  have h1' : (ω ^ ν) ^ L = 1 := by rw [← zpow_natCast, zpow_comm, zpow_natCast, h1, one_zpow]
  rw [mul_comm, zpow_mul, zpow_sub₀ hν, C05.zpow_emod_of_pow_eq_one h1' hν, ← zpow_sub₀ hν, ← zpow_mul, mul_comm]

/-- the convolution identity of the characters: `conj U[k,a] · U[k,b] = conj U[k, lag(a,b)]` -/
theorem char_shift {ω : ℂ} (hω : IsPrimitiveRoot ω L) (hL : 0 < L) (k a b : Fin L) :
    conj (ω ^ ((((k : ℕ) : ℤ) - (L : ℤ) / 2) * (((a : ℕ) : ℤ) - (L : ℤ) / 2))) *
        ω ^ ((((k : ℕ) : ℤ) - (L : ℤ) / 2) * (((b : ℕ) : ℤ) - (L : ℤ) / 2)) =
      conj (ω ^ ((((k : ℕ) : ℤ) - (L : ℤ) / 2) * ((((lagIdx hL a b : Fin L) : ℕ) : ℤ) - (L : ℤ) / 2))) := by
  -- the wrap in `lag = (a - b + L/2) % L` is invisible to `ω`; what is left is `-(a - L/2) + (b - L/2) = -(a - b)`
  rw [lagIdx_val, mul_comm _ (_ % _ - _), zpow_emod_sub_mul hω.pow_eq_one (hω.ne_zero hL.ne'), map_zpow₀, map_zpow₀,
    C05.conj_root hω hL, inv_zpow', inv_zpow', ← zpow_add₀ (hω.ne_zero hL.ne')]
  congr 1
  ring

section entries
variable {ι ν : Type} [Fintype ι] [DecidableEq ι]

theorem conjTranspose_mul_diagonal_mul_apply (F U : Matrix ι ι ℂ) (q : ι → ℂ) (a b : ι) :
    (Fᴴ * Matrix.diagonal (U.mulVec q) * F) a b = ∑ k : ι, star (F k a) * (∑ m : ι, U k m * q m) * F k b := by
  rw [Matrix.mul_apply]
  simp only [Matrix.mul_diagonal, conjTranspose_apply, mulVec, dotProduct]

/-- the character-sum argument of circulant diagonalisation: if the characters `χ k` turn the lag into a product
    (`hshift`) and are orthogonal with squared norm `c` (`horth`), then `Fᴴ diag(χ q) F` with `F = s · χ`, `s² c = 1`,
    reads `q` at the lag -/
theorem sum_characters_eq_lag (χ : ι → ι → ℂ) (lag : ι → ι → ι) (s : ℝ) (c : ℂ)
    (hshift : ∀ k a b, conj (χ k a) * χ k b = conj (χ k (lag a b)))
    (horth : ∀ r m, ∑ k, conj (χ k r) * χ k m = if r = m then c else 0)
    (hs : (s : ℂ) * s * c = 1) (q : ι → ℂ) (a b : ι) :
    ∑ k, star ((s : ℂ) * χ k a) * (∑ m, χ k m * q m) * ((s : ℂ) * χ k b) = q (lag a b) := by
  have hterm : ∀ k, star ((s : ℂ) * χ k a) * (∑ m, χ k m * q m) * ((s : ℂ) * χ k b) =
      ∑ m, (s : ℂ) * s * q m * (conj (χ k (lag a b)) * χ k m) := fun k => by
    rw [← hshift k a b, Finset.mul_sum, Finset.sum_mul]
    simp only [star_mul', RCLike.star_def, Complex.conj_ofReal]
    exact Finset.sum_congr rfl fun m _ => by ring
  simp only [hterm]
  rw [Finset.sum_comm]
  simp only [← Finset.mul_sum, horth, mul_ite, mul_zero, Finset.sum_ite_eq, Finset.mem_univ, if_true]
  rw [mul_right_comm, hs, one_mul]

theorem pad_mul_mul_apply [Fintype ν] (pad : ν → ι) (R : Matrix ι ν ℂ) (R' : Matrix ν ι ℂ)
    (hR : ∀ m n, R m n = if m = pad n then 1 else 0) (hR' : ∀ n m, R' n m = if m = pad n then 1 else 0)
    (C : Matrix ι ι ℂ) (n n' : ν) : (R' * C * R) n n' = C (pad n) (pad n') := by
  rw [Matrix.mul_apply]
  simp only [Matrix.mul_apply (M := R'), hR, hR', mul_ite, mul_one, mul_zero, ite_mul, one_mul, zero_mul,
    Finset.sum_ite_eq', Finset.mem_univ, if_true]

end entries

/-- **the centred DFT diagonalises the centred circular convolution.**  With `F` = C05's centred DFT matrix of
    length `L` and orthonormal scale (`s² L = 1`), `U` the same with scale 1 and `p = U·q` the unnormalised centred
    DFT of a kernel image `q`, `Fᴴ diag(p) F` is the circulant matrix whose `(a, b)` entry is `q[r]` with
    `r - L/2 ≡ a - b (mod L)`. -/
theorem circulant_diagonalised {ω : ℂ} (hω : IsPrimitiveRoot ω L) (hL : 0 < L) (s : ℝ) (hs : s * s * L = 1)
    (q : Fin L → ℂ) (a b : Fin L) :
    ((C05.dftMatrix ω L true s)ᴴ * Matrix.diagonal ((C05.dftMatrix ω L true 1).mulVec q) *
        C05.dftMatrix ω L true s) a b = q (lagIdx hL a b) := by
  rw [conjTranspose_mul_diagonal_mul_apply]
  simp only [dft_entry hω hL, Complex.ofReal_one, one_mul]
  refine sum_characters_eq_lag (fun k m : Fin L => ω ^ ((((k : ℕ) : ℤ) - (L : ℤ) / 2) * (((m : ℕ) : ℤ) - (L : ℤ) / 2)))
    (lagIdx hL) s L (char_shift hω hL) (fun r m => ?_) (by exact_mod_cast hs) q a b
  have := C05.dft_orthogonality hω true r m
  simpa only [C05.zpow_axisExp hω hL, C05.centre, if_true] using this

end embedding

/-- the position of image sample `n` in the zero-padded array of length `2N` (C09 default shifts): `n - N/2 + N` -/
def padIdx (N : ℕ) (n : Fin N) : Fin (2 * N) := ⟨(n : ℕ) + (N - N / 2), by have := n.2; omega⟩

theorem two_mul_cast_div_two (N : ℕ) : ((2 * N : ℕ) : ℤ) / 2 = N := by
  rw [Nat.cast_mul, Nat.cast_ofNat, Int.mul_ediv_cancel_left _ two_ne_zero]

/-- zero-padding keeps the distance to the centre: `N//2` of the image goes to `N` of the padded array -/
theorem padIdx_centre (N : ℕ) (n : Fin N) :
    (((padIdx N n : Fin (2 * N)) : ℕ) : ℤ) - (N : ℤ) = ((n : ℕ) : ℤ) - (N : ℤ) / 2 := by
  rw [padIdx, Nat.cast_add, Nat.cast_sub (Nat.div_le_self N 2), Int.natCast_div, Nat.cast_ofNat]
  ring

theorem padIdx_iff (N : ℕ) (m : Fin (2 * N)) (n : Fin N) :
    (((n : ℕ) : ℤ) - (N : ℤ) / 2 = ((m : ℕ) : ℤ) - ((2 * N : ℕ) : ℤ) / 2) ↔ m = padIdx N n := by
  rw [two_mul_cast_div_two, ← padIdx_centre, sub_left_inj, Nat.cast_inj, Fin.val_inj, eq_comm]

theorem resizeMat_pad (N : ℕ) (m : Fin (2 * N)) (n : Fin N) :
    resizeMat N (2 * N) m n = if m = padIdx N n then 1 else 0 := by
  simp only [resizeMat_apply, padIdx_iff]

theorem resizeMat_crop (N : ℕ) (n : Fin N) (m : Fin (2 * N)) :
    resizeMat (2 * N) N n m = if m = padIdx N n then 1 else 0 := by
  rw [resizeMat_transpose, transpose_apply, resizeMat_pad]

theorem lagIdx_padIdx (N : ℕ) (hL : 0 < 2 * N) (n n' : Fin N) :
    (((lagIdx hL (padIdx N n) (padIdx N n') : Fin (2 * N)) : ℕ) : ℤ) - (N : ℤ) = ((n : ℕ) : ℤ) - ((n' : ℕ) : ℤ) := by
  have e : (((padIdx N n : Fin (2 * N)) : ℕ) : ℤ) - (((padIdx N n' : Fin (2 * N)) : ℕ) : ℤ) =
      ((n : ℕ) : ℤ) - ((n' : ℕ) : ℤ) := by
    rw [← sub_sub_sub_cancel_right _ _ (N : ℤ), padIdx_centre, padIdx_centre, sub_sub_sub_cancel_right]
  -- `n - n' + N` lies in `[0, 2N)`, so the wrap of `lagIdx` does nothing
  have hmod : (((n : ℕ) : ℤ) - ((n' : ℕ) : ℤ) + N) % ((2 * N : ℕ) : ℤ) = ((n : ℕ) : ℤ) - ((n' : ℕ) : ℤ) + N :=
    Int.emod_eq_of_lt (by omega) (by omega)
  rw [lagIdx_val, e, two_mul_cast_div_two, hmod, add_sub_cancel_right]

/-- **Toeplitz embedding is exact (1-D, sigpy's centred conventions).**  Let `t : ℤ → ℂ` be any kernel and
    `T[n,n'] = t(n - n')` the Toeplitz operator on length `N`.  With `R` = zero-pad `N → 2N` and `Rᴴ` = crop
    (C09's `util.resize` model, default shifts), `F` = the centred orthonormal DFT of length `2N` (C05's matrix,
    scale `s`, `s²·2N = 1`: this is the explicit `1/(2N)`), `psf[m] = t(m - N)` for `0 ≤ m < 2N` and
    `p = (centred unnormalised DFT) psf`,
        `Rᴴ · Fᴴ · diag(p) · F · R = T`
    entry by entry: multiplication by a Toeplitz matrix is crop ∘ circular convolution ∘ zero-pad, and the circular
    convolution is diagonalised by the DFT.  This is the operator `R.H * F.H * P * F * R` of `NUFFT._normal_linop`. -/
theorem toeplitz_embedding_exact (N : ℕ) (hN : 0 < N) {ω : ℂ} (hω : IsPrimitiveRoot ω (2 * N)) (s : ℝ)
    (hs : s * s * ((2 * N : ℕ) : ℝ) = 1) (t : ℤ → ℂ) (n n' : Fin N) :
    (resizeMat (2 * N) N * ((C05.dftMatrix ω (2 * N) true s)ᴴ *
        Matrix.diagonal ((C05.dftMatrix ω (2 * N) true 1).mulVec fun m : Fin (2 * N) => t (((m : ℕ) : ℤ) - N)) *
        C05.dftMatrix ω (2 * N) true s) * resizeMat N (2 * N)) n n' = t (((n : ℕ) : ℤ) - ((n' : ℕ) : ℤ)) := by
  have hL : 0 < 2 * N := by omega
  rw [pad_mul_mul_apply (padIdx N) _ _ (resizeMat_pad N) (resizeMat_crop N), circulant_diagonalised hω hL s hs,
    lagIdx_padIdx]

/-- the same for the exact NUDFT, entry by entry: with `t = gramKernel`, `Rᴴ Fᴴ diag(p) F R` has the entries of
    `AᴴA` (`nudft_gram_toeplitz`) — the Toeplitz normal operator with the EXACT psf equals the exact `AᴴA`. -/
theorem toeplitz_structure {M : ℕ} (N : ℕ) (hN : 0 < N) {ω : ℂ} (hω : IsPrimitiveRoot ω (2 * N)) (s : ℝ)
    (hs : s * s * ((2 * N : ℕ) : ℝ) = 1) (k : Fin M → ℝ) (c : ℂ) (n n' : Fin N) :
    (resizeMat (2 * N) N * ((C05.dftMatrix ω (2 * N) true s)ᴴ *
        Matrix.diagonal ((C05.dftMatrix ω (2 * N) true 1).mulVec
          fun m : Fin (2 * N) => gramKernel (N : ℤ) k c (((m : ℕ) : ℤ) - N)) *
        C05.dftMatrix ω (2 * N) true s) * resizeMat N (2 * N)) n n' =
      ∑ j : Fin M, conj (c * nudftTerm (N : ℤ) (k j) ((n : ℕ) : ℤ)) * (c * nudftTerm (N : ℤ) (k j) ((n' : ℕ) : ℤ)) := by
  rw [toeplitz_embedding_exact N hN hω s hs (gramKernel (N : ℤ) k c) n n', nudft_gram_toeplitz]

-- the hypotheses `hω`, `hs` of `toeplitz_embedding_exact` / `toeplitz_structure` are satisfiable
example (N : ℕ) (hN : 0 < N) : IsPrimitiveRoot (fftRoot (2 * N)) (2 * N) := fftRoot_primitive _ (by omega)
example (N : ℕ) (hN : 0 < N) :
    (1 / Real.sqrt ((2 * N : ℕ) : ℝ)) * (1 / Real.sqrt ((2 * N : ℕ) : ℝ)) * ((2 * N : ℕ) : ℝ) = 1 := by
  have h : (0 : ℝ) < ((2 * N : ℕ) : ℝ) := by exact_mod_cast (show 0 < 2 * N by omega)
  rw [one_div, ← mul_inv, Real.mul_self_sqrt h.le, inv_mul_cancel₀ h.ne']

end SigpyVerif.C06
