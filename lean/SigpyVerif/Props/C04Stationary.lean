import SigpyVerif.Props.C04Gen
import Mathlib.Analysis.Complex.Basic
/-
  C04 — "every solver that works through `A.N` minimises the objective defined by `A` itself".

  For every operator tree over the proved leaf classes (the hypotheses of `normal_denote`): the normal equations
  `A.N x = A.H y` — with `A.N` and `A.H` the trees built by the GENERATED `_normal_linop` / `_adjoint_linop`
  rules — are the stationarity condition of `½‖A x − y‖²`:

  * `objective_expand` (any commutative star ring): `‖A(x+h) − y‖² = ‖Ax − y‖² + ⟨Ah, r⟩ + ⟨r, Ah⟩ + ‖Ah‖²`, `r = Ax − y`;
  * `normal_equations_iff_stationary` (any commutative star ring): `A.N x = A.H y` on the input range ⇔ the first
    variation `⟨A h, A x − y⟩` vanishes for every direction `h`;
  * `normal_equations_minimise` (ℂ): a solution of the normal equations is a global minimiser of `‖A x − y‖²`;
  * `minimiser_solves_normal_equations` (ℂ): and every global minimiser solves them.
  Joined with C14 (`cg_normal_eq`: the system CG is given IS `A.N x = A.H y` for `λ = 0`) this is the property text.
-/
namespace SigpyVerif.C04
open SigpyVerif SigpyVerif.C01

section generic
variable {α : Type} [CommRing α] [StarRing α]

/-- twice the data term: `‖A x − y‖² = ⟨Ax − y, Ax − y⟩` over the output range -/
def objective (s : Sem α) (y x : Nat → α) : α :=
  dotL star (List.range s.osz) (fun o => applyF s.E x o - y o) (fun o => applyF s.E x o - y o)

/-- **second-order expansion**: `‖A(x+h) − y‖² = ‖Ax − y‖² + ⟨Ah, r⟩ + ⟨r, Ah⟩ + ‖Ah‖²` with `r = Ax − y` -/
theorem objective_expand (s : Sem α) (y x h : Nat → α) :
    objective s y (fun i => x i + h i) = objective s y x
      + dotL star (List.range s.osz) (applyF s.E h) (fun o => applyF s.E x o - y o)
      + dotL star (List.range s.osz) (fun o => applyF s.E x o - y o) (applyF s.E h)
      + dotL star (List.range s.osz) (applyF s.E h) (applyF s.E h) := by
  unfold objective
  have e : (fun o => applyF s.E (fun i => x i + h i) o - y o)
      = fun o => (applyF s.E x o - y o) + applyF s.E h o := by
    funext o; rw [applyF_add, add_sub_right_comm]
  rw [e, dotL_add_left, dotL_add_right, dotL_add_right]
  abel

/-- **The normal equations are the stationarity condition.**  `s` is what a tree denotes, `sH` a true adjoint
    (`IsAdj`) and `sN` acts as `x ↦ Aᴴ(A x)` on the input range (the conclusion of `normal_denote`).  Then
    `A.N x = A.H y` on the input range ⇔ the first variation of `‖A x − y‖²` vanishes in every direction:
    `⟨A h, A x − y⟩ = 0` for all `h`. -/
theorem normal_equations_iff_stationary (s sH sN : Sem α) (hadj : IsAdj s.osz s.isz s.E sH.E)
    (hN : ∀ (x : Nat → α) (j : Nat), j < s.isz → applyF sN.E x j = applyF sH.E (applyF s.E x) j)
    (y x : Nat → α) :
    (∀ j, j < s.isz → applyF sN.E x j = applyF sH.E y j) ↔
      ∀ h : Nat → α, dotL star (List.range s.osz) (applyF s.E h) (fun o => applyF s.E x o - y o) = 0 := by
  have hg : ∀ j, applyF sH.E (fun o => applyF s.E x o - y o) j
      = applyF sH.E (applyF s.E x) j - applyF sH.E y j := fun j => applyF_sub _ _ _ j
  constructor
  · intro hne h
    rw [hadj h (fun o => applyF s.E x o - y o)]
    unfold dotL
    apply List.sum_eq_zero
    intro z hz
    obtain ⟨j, hj, rfl⟩ := List.mem_map.mp hz
    rw [hg j, ← hN x j (List.mem_range.mp hj), hne j (List.mem_range.mp hj), sub_self, mul_zero]
  · intro hst j hj
    have := hst (unitVec j)
    rw [hadj (unitVec j) (fun o => applyF s.E x o - y o), dotL_unit _ _ hj, hg j, ← hN x j hj] at this
    exact sub_eq_zero.mp this

/-- the same for every tree over the proved leaf classes, about the trees the GENERATED `.N` / `.H` rules build -/
theorem normal_equations_iff_stationary_tree (ofRat : Rat → α) (hreal : ∀ r, star (ofRat r) = ofRat r) (e : Expr α)
    (he : allLeaves (NormalLeafOK ofRat) e) (s : Sem α) (hs : denote star ofRat e = some s) :
    ∃ sN sH, denote star ofRat (Gen.LinopNormal.normalGen (oshOf ofRat) e) = some sN ∧
      denote star ofRat (Gen.LinopAdjoint.adjGen (oshOf ofRat) e) = some sH ∧
      ∀ y x : Nat → α, (∀ j, j < s.isz → applyF sN.E x j = applyF sH.E y j) ↔
        ∀ h : Nat → α, dotL star (List.range s.osz) (applyF s.E h) (fun o => applyF s.E x o - y o) = 0 := by
  obtain ⟨sN, sH, h1, h2, _, _, hadj, hact⟩ := normal_denote ofRat hreal e he s hs
  exact ⟨sN, sH, h1, h2, fun y x =>
    normal_equations_iff_stationary s sH sN hadj (fun x j hj => (hact x j hj).1) y x⟩

end generic

section complex

theorem dotL_self_re (I : List Nat) (a : Nat → ℂ) :
    (dotL star I a a).re = (I.map fun i => Complex.normSq (a i)).sum := by
  unfold dotL
  induction I with
  | nil => rfl
  | cons i I ih =>
    rw [List.map_cons, List.sum_cons, Complex.add_re, ih, List.map_cons, List.sum_cons, Complex.star_def,
      ← Complex.normSq_eq_conj_mul_self, Complex.ofReal_re]

theorem dotL_self_re_nonneg (I : List Nat) (a : Nat → ℂ) : 0 ≤ (dotL star I a a).re := by
  rw [dotL_self_re]
  apply List.sum_nonneg
  intro t ht
  obtain ⟨i, _, rfl⟩ := List.mem_map.mp ht
  exact Complex.normSq_nonneg _

theorem dotL_self_re_eq_zero (I : List Nat) (a : Nat → ℂ) (h : (dotL star I a a).re = 0) :
    ∀ j ∈ I, a j = 0 := by
  intro j hj
  rw [dotL_self_re] at h
  have hle : Complex.normSq (a j) ≤ 0 := by
    rw [← h]
    refine List.single_le_sum ?_ _ (List.mem_map.mpr ⟨j, hj, rfl⟩)
    intro t ht
    obtain ⟨i, _, rfl⟩ := List.mem_map.mp ht
    exact Complex.normSq_nonneg _
  exact Complex.normSq_eq_zero.mp (le_antisymm hle (Complex.normSq_nonneg _))

/-- **a solution of the normal equations minimises `‖A x − y‖²`** (complex data, any tree operator with a true
    adjoint): if `A.N x = A.H y` on the input range then `‖A x − y‖² ≤ ‖A z − y‖²` for every `z`. -/
theorem normal_equations_minimise (s sH sN : Sem ℂ) (hadj : IsAdj s.osz s.isz s.E sH.E)
    (hN : ∀ (x : Nat → ℂ) (j : Nat), j < s.isz → applyF sN.E x j = applyF sH.E (applyF s.E x) j)
    (y x : Nat → ℂ) (hne : ∀ j, j < s.isz → applyF sN.E x j = applyF sH.E y j) (z : Nat → ℂ) :
    (objective s y x).re ≤ (objective s y z).re := by
  have hst := (normal_equations_iff_stationary s sH sN hadj hN y x).mp hne
  have hz : z = fun i => x i + (z i - x i) := funext fun i => (add_sub_cancel _ _).symm
  rw [hz, objective_expand, hst, dotL_swap, hst, star_zero, add_zero, add_zero, Complex.add_re]
  exact le_add_of_nonneg_right (dotL_self_re_nonneg _ _)

theorem lin_zero_of_quad_nonneg' (b c : ℝ) (h : ∀ t : ℝ, 0 ≤ t * b + t ^ 2 * c) : b = 0 := by
  -- a quadratic without constant term that is nowhere negative has discriminant `b² ≤ 0`
  have hd : discrim c b 0 ≤ 0 := discrim_le_zero fun t => (h t).trans_eq (by ring)
  rw [discrim, mul_zero, sub_zero] at hd
  exact pow_eq_zero_iff two_ne_zero |>.mp (le_antisymm hd (sq_nonneg b))

theorem objective_line (s : Sem ℂ) (y x g : Nat → ℂ) (t : ℝ) :
    (objective s y fun i => x i + (t : ℂ) * g i).re = (objective s y x).re
      + t * (2 * (dotL star (List.range s.osz) (applyF s.E g) (fun o => applyF s.E x o - y o)).re)
      + t ^ 2 * (dotL star (List.range s.osz) (applyF s.E g) (applyF s.E g)).re := by
  have e : applyF s.E (fun i => (t : ℂ) * g i) = fun o => (t : ℂ) * applyF s.E g o :=
    funext (applyF_smul _ _ _)
  rw [objective_expand, e, dotL_smul_left, dotL_smul_right, dotL_smul_left, dotL_smul_right,
    dotL_swap _ (fun o => applyF s.E x o - y o)]
  simp only [Complex.add_re, Complex.mul_re, Complex.star_def, Complex.conj_ofReal, Complex.conj_re,
    Complex.ofReal_re, Complex.ofReal_im, zero_mul, sub_zero]
  ring

/-- **every global minimiser of `‖A x − y‖²` solves the normal equations** `A.N x = A.H y` (complex data). -/
theorem minimiser_solves_normal_equations (s sH sN : Sem ℂ) (hadj : IsAdj s.osz s.isz s.E sH.E)
    (hN : ∀ (x : Nat → ℂ) (j : Nat), j < s.isz → applyF sN.E x j = applyF sH.E (applyF s.E x) j)
    (y x : Nat → ℂ) (hmin : ∀ z, (objective s y x).re ≤ (objective s y z).re) :
    ∀ j, j < s.isz → applyF sN.E x j = applyF sH.E y j := by
  -- move along the gradient `g = Aᴴ(Ax − y)`: the first-order coefficient is `2 ⟨A g, Ax − y⟩ = 2 ‖g‖²`
  set g := applyF sH.E fun o => applyF s.E x o - y o with hg
  have hgg : 2 * (dotL star (List.range s.osz) (applyF s.E g) fun o => applyF s.E x o - y o).re = 0 := by
    refine lin_zero_of_quad_nonneg' _ (dotL star (List.range s.osz) (applyF s.E g) (applyF s.E g)).re fun t => ?_
    have := hmin fun i => x i + (t : ℂ) * g i
    rw [objective_line, add_assoc] at this
    exact (le_add_iff_nonneg_right _).mp this
  rw [hadj, ← hg] at hgg
  intro j hj
  have := dotL_self_re_eq_zero _ g ((mul_eq_zero.mp hgg).resolve_left two_ne_zero) j (List.mem_range.mpr hj)
  rw [hg, applyF_sub, ← hN x j hj] at this
  exact sub_eq_zero.mp this

/-- **the property text, for every tree**: for every operator tree over the proved leaf classes (complex data),
    with `A.N` / `A.H` the trees the generated `_normal_linop` / `_adjoint_linop` rules build: `x` solves the normal
    equations `A.N x = A.H y` ⇔ `x` is a global minimiser of `‖A x − y‖²` — a solver that works through `A.N`
    minimises the objective defined by `A` itself. -/
theorem normal_equations_iff_minimiser_tree (ofRat : Rat → ℂ) (hreal : ∀ r, star (ofRat r) = ofRat r) (e : Expr ℂ)
    (he : allLeaves (NormalLeafOK ofRat) e) (s : Sem ℂ) (hs : denote star ofRat e = some s) :
    ∃ sN sH, denote star ofRat (Gen.LinopNormal.normalGen (oshOf ofRat) e) = some sN ∧
      denote star ofRat (Gen.LinopAdjoint.adjGen (oshOf ofRat) e) = some sH ∧
      ∀ y x : Nat → ℂ, (∀ j, j < s.isz → applyF sN.E x j = applyF sH.E y j) ↔
        ∀ z, (objective s y x).re ≤ (objective s y z).re := by
  obtain ⟨sN, sH, h1, h2, _, _, hadj, hact⟩ := normal_denote ofRat hreal e he s hs
  refine ⟨sN, sH, h1, h2, fun y x => ⟨fun h z => ?_, fun h => ?_⟩⟩
  · exact normal_equations_minimise s sH sN hadj (fun x j hj => (hact x j hj).1) y x h z
  · exact minimiser_solves_normal_equations s sH sN hadj (fun x j hj => (hact x j hj).1) y x h

/-- non-vacuity of `hreal`: `ofRat` = the cast ℚ → ℂ is real (a tree satisfying the leaf hypothesis: Props/C04Gen.lean) -/
example : ∀ r : Rat, star ((r : ℂ)) = (r : ℂ) := fun r => by simp

end complex
end SigpyVerif.C04
