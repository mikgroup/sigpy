import SigpyVerif.Gen.ProxBody
import SigpyVerif.Props.C11
import Mathlib.Algebra.BigOperators.Fin
/-
  C11 — `prox.Stack._prox` with `util.split` / `util.vec` (generated: `Gen.ProxBody.stackProxWith`, `utilSplit`,
  `utilVec`): the layout (blocks are consecutive row-major segments of the flat vector, in order) and the theorem that
  the stacked result is the exact minimiser of the block-separable objective on the flat vector.
-/
namespace SigpyVerif.C11
open SigpyVerif.Gen.ProxBody Finset

/-- one block of a `Stack`: the inner call, its shape, its segment of the input and of the output -/
structure Blk (β S : Type) where
  prox : S → Arr β → Except String (Arr β)
  shape : List Int
  inp : List β
  out : List β

theorem utilSplit_aux {β : Type} (F : List (Arr β) × List β → List Int → List (Arr β) × List β)
    (hF : ∀ acc v sh, F (acc, v) sh = (acc ++ [⟨sh, v.take (shapeProd sh).toNat⟩], v.drop (shapeProd sh).toNat))
    (bs : List (List Int × List β)) (hsz : ∀ b ∈ bs, (shapeProd b.1).toNat = b.2.length)
    (acc : List (Arr β)) (rest : List β) :
    ((bs.map (·.1)).foldl F (acc, (bs.map (·.2)).flatten ++ rest)).1 = acc ++ bs.map fun b => ⟨b.1, b.2⟩ := by
  induction bs generalizing acc with
  | nil => simp
  | cons b t ih =>
    have hb := hsz b List.mem_cons_self
    simp only [List.map_cons, List.foldl_cons, List.flatten_cons, List.append_assoc]
    rw [hF, hb, List.take_left' rfl, List.drop_left' rfl, ih (fun c hc => hsz c (List.mem_cons_of_mem _ hc))]
    simp

/-- **`util.split` layout**: splitting the concatenation of segments whose lengths are the products of the shapes
    returns exactly those segments, in order, each in its shape (consecutive row-major slices, no overlap, no gap). -/
theorem utilSplit_flatten {β : Type} (bs : List (List Int × List β))
    (hsz : ∀ b ∈ bs, (shapeProd b.1).toNat = b.2.length) :
    utilSplit (bs.map (·.2)).flatten (bs.map (·.1)) = bs.map fun b => ⟨b.1, b.2⟩ := by
  have := utilSplit_aux (β := β) (fun st oshape => (st.1 ++ [Arr.reshape (Arr.ofFlat
    (List.take (Int.toNat (shapeProd oshape)) st.2)) oshape], List.drop (Int.toNat (shapeProd oshape)) st.2))
    (fun acc v sh => rfl) bs hsz [] []
  simpa [utilSplit] using this

/-- **`util.vec` layout**: the concatenation of the row-major data of the arrays, in order -/
theorem utilVec_eq {β : Type} (arrs : List (Arr β)) : utilVec arrs = (arrs.map (·.data)).flatten := rfl

/-- **`Stack._prox` acts blockwise on consecutive segments** (generated body): if the `k`-th inner call maps the
    `k`-th segment (in the `k`-th shape) to `out k` (in that shape), the stacked call maps the concatenated input to the
    concatenated outputs, as a 1-D array. -/
theorem stackProxWith_blocks {β S : Type} (blocks : List (Blk β S)) (alpha : S) (ish : List Int)
    (hsz : ∀ b ∈ blocks, (shapeProd b.shape).toNat = b.inp.length)
    (hcall : ∀ b ∈ blocks, b.prox alpha ⟨b.shape, b.inp⟩ = .ok ⟨b.shape, b.out⟩) :
    stackProxWith (blocks.map (·.prox)) (blocks.map (·.shape)) alpha ⟨ish, (blocks.map (·.inp)).flatten⟩
      = .ok (Arr.ofFlat (blocks.map (·.out)).flatten) := by
  unfold stackProxWith
  have hs := utilSplit_flatten (blocks.map fun b => (b.shape, b.inp)) (by
    intro b hb; obtain ⟨c, hc, rfl⟩ := List.mem_map.mp hb; exact hsz c hc)
  simp only [List.map_map, Function.comp_def] at hs
  simp only [hs, List.length_map]
  have hm : ∀ (bl : List (Blk β S)) (k : ℕ), (∀ b ∈ bl, b.prox alpha ⟨b.shape, b.inp⟩ = .ok ⟨b.shape, b.out⟩) →
      bl.length ≤ k →
      List.mapM (fun (t : (S → Arr β → Except String (Arr β)) × Arr β × S) => t.1 t.2.2 t.2.1)
        (List.zip (bl.map (·.prox)) (List.zip (bl.map fun b => (⟨b.shape, b.inp⟩ : Arr β)) (List.replicate k alpha)))
      = .ok (bl.map fun b => (⟨b.shape, b.out⟩ : Arr β)) := by
    intro bl
    induction bl with
    | nil => intro k _ _; rfl
    | cons b t ih =>
      intro k h hk
      cases k with
      | zero => simp at hk
      | succ k =>
        simp only [List.map_cons, List.replicate_succ, List.zip_cons_cons, List.mapM_cons]
        rw [h b List.mem_cons_self, ih k (fun c hc => h c (List.mem_cons_of_mem _ hc)) (by simpa using hk)]
        rfl
  have := hm blocks blocks.length hcall (le_refl _)
  simp only [bind, Except.bind] at this ⊢
  rw [show (fun (x : (S → Arr β → Except String (Arr β)) × Arr β × S) =>
      match x with | (prox, input, alpha) => prox alpha input) = fun t => t.1 t.2.2 t.2.1 from rfl]
  rw [this]
  simp [utilVec_eq, pure, Except.pure, Function.comp_def]

variable {m : ℕ} {nn : Fin m → ℕ}

/-- block `k` of a flat vector whose entries are indexed by (block, offset) in lexicographic = row-major order -/
abbrev blk {𝕂 : Type} (x : Vec (Σ k : Fin m, Fin (nn k)) 𝕂) (k : Fin m) : Vec (Fin (nn k)) 𝕂 := vec fun j => x ⟨k, j⟩

/-- the flat numpy data of such a vector: the blocks' data concatenated in order (`util.vec`) -/
def flatOf {𝕂 : Type} (x : Vec (Σ k : Fin m, Fin (nn k)) 𝕂) : List 𝕂 :=
  (List.ofFn fun k => List.ofFn fun j => x ⟨k, j⟩).flatten

theorem norm_sq_blocks {𝕂 : Type} [NormedAddCommGroup 𝕂] (x : Vec (Σ k : Fin m, Fin (nn k)) 𝕂) :
    ‖x‖ ^ 2 = ∑ k, ‖blk x k‖ ^ 2 := by
  rw [PiLp.norm_sq_eq_of_L2, Fintype.sum_sigma]
  refine Finset.sum_congr rfl fun k _ => ?_
  rw [PiLp.norm_sq_eq_of_L2]

/-- **separable sum on the flat vector** (first principles: the three squared norms split over the blocks and the
    blockwise strong inequalities add up): blockwise minimisers assemble to THE minimiser of `Σ_k F_k(block k of x)`. -/
theorem stack_flat_prox {𝕂 : Type} [NormedAddCommGroup 𝕂] {C : ∀ k, Set (Vec (Fin (nn k)) 𝕂)}
    {F : ∀ k, Vec (Fin (nn k)) 𝕂 → ℝ} (y p : Vec (Σ k : Fin m, Fin (nn k)) 𝕂)
    (h : ∀ k, IsProxOn (C k) (F k) (blk y k) (blk p k)) :
    IsProxOn {x | ∀ k, blk x k ∈ C k} (fun x => ∑ k, F k (blk x k)) y p :=
  isProxOn_of_blocks (E := Vec (Σ k : Fin m, Fin (nn k)) 𝕂) (fun k x => blk x k) (fun _ _ _ => rfl) norm_sq_blocks y p h

/-- **`Stack(proxs)(α, y)` (generated body) returns the exact minimiser of `½‖x - y‖² + α Σ_k g_k(x_k)`** on the flat
    vector, `x_k` the `k`-th consecutive segment reshaped to `shapes k`: if every inner call returns (in its block's shape)
    the minimiser of its own block, the stacked call returns the 1-D array of the minimiser of the separable sum. -/
theorem stack_generated_prox {S : Type} (P : Fin m → S → Arr ℝ → Except String (Arr ℝ)) (shapes : Fin m → List Int)
    (hsz : ∀ k, (shapeProd (shapes k)).toNat = nn k) (alpha : S) (a : ℝ)
    {C : ∀ k, Set (Vec (Fin (nn k)) ℝ)} {g : ∀ k, Vec (Fin (nn k)) ℝ → ℝ} (y p : Vec (Σ k : Fin m, Fin (nn k)) ℝ)
    (hcall : ∀ k, P k alpha ⟨shapes k, List.ofFn fun j => y ⟨k, j⟩⟩ = .ok ⟨shapes k, List.ofFn fun j => p ⟨k, j⟩⟩)
    (hprox : ∀ k, IsProxOn (C k) (fun x => a * g k x) (blk y k) (blk p k)) (ish : List Int) :
    stackProxWith (List.ofFn P) (List.ofFn shapes) alpha ⟨ish, flatOf y⟩ = .ok (Arr.ofFlat (flatOf p)) ∧
    IsProxOn {x | ∀ k, blk x k ∈ C k} (fun x => a * ∑ k, g k (blk x k)) y p := by
  constructor
  · have := stackProxWith_blocks
      (List.ofFn fun k => (⟨P k, shapes k, List.ofFn fun j => y ⟨k, j⟩, List.ofFn fun j => p ⟨k, j⟩⟩ : Blk ℝ S))
      alpha ish
      (by intro b hb; obtain ⟨k, rfl⟩ := (List.mem_ofFn' _ _).mp hb; simp [hsz])
      (by intro b hb; obtain ⟨k, rfl⟩ := (List.mem_ofFn' _ _).mp hb; exact hcall k)
    simpa [List.map_ofFn, Function.comp_def, flatOf] using this
  · exact (stack_flat_prox y p hprox).congr rfl (fun x => by rw [Finset.mul_sum])

end SigpyVerif.C11
