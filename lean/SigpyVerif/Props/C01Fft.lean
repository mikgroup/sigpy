import SigpyVerif.Props.C01Ext
import SigpyVerif.Props.C05Nd
/-
  C01 — FFT / IFFT leaves, imported from C05.

  The entries of an `FFT(shape, axes, center)` leaf are the complex numbers the C05 table denotes
  (`C05.denote (C05.entry (pipeOf inv center) ortho=true axes …)`, the table C05's correspondence compares
  with `sigpy.fft` / `sigpy.ifft` on every run, N-d, any axes subset, centred or not); the adjoint side is
  the table of the class the *generated* `FFT._adjoint_linop` returns (`Gen.LinopAdjoint.adjOpaque`: IFFT
  with the same shape, axes, center).  C05's `ifft_table_eq_conjTranspose` (the inverse table is the
  conjugate transpose of the forward table, entry by entry) makes the leaf satisfy `LeafProved`, so trees
  over ℂ that contain FFT / IFFT leaves are covered by `adj_denote_leaves`.
-/
set_option linter.unusedSectionVars false
namespace SigpyVerif.C01
open SigpyVerif

noncomputable section

/-- entries of `fft` (`inv = false`) / `ifft` (`inv = true`) with `norm='ortho'` on a `shape` array -/
def fftE (inv center : Bool) (sh axes : List Int) : List (Ent ℂ) :=
  (allIdx sh).flatMap fun k => (allIdx sh).flatMap fun j =>
    [((fl sh k, fl sh j, C05.denote (C05.entry (C05.pipeOf inv center) true axes sh sh k j)) : Ent ℂ)]

def fftSem : Opaque ℂ → Option (Sem ℂ)
  | .fft sh axes center => some ⟨sh, sh, fftE false center sh (C05.normAxes center axes sh.length)⟩
  | .ifft sh axes center => some ⟨sh, sh, fftE true center sh (C05.normAxes center axes sh.length)⟩
  | _ => none

/-- the leaf of `FFT(..)` / `IFFT(..)`: its own table and the table of what the generated `_adjoint_linop` returns -/
def fftLeaf (c : Opaque ℂ) : Option (Leaf ℂ) :=
  match fftSem c, fftSem (Gen.LinopAdjoint.adjOpaque c) with
  | some s, some s' => some (.ext 5 s.osh s.ish s.E s'.E)
  | _, _ => none

/-- an in-bounds multi-index, written as the `List.ofFn` of a dependent function into `Fin` -/
theorem idx_ofFn {sh k : List Int} (hk : InB sh k) :
    (sh = List.ofFn fun d : Fin sh.length => (((sh.get d).toNat : ℕ) : ℤ)) ∧
    ∃ K : (d : Fin sh.length) → Fin (sh.get d).toNat, k = List.ofFn fun d => (((K d : ℕ) : ℕ) : ℤ) := by
  obtain ⟨hkl, hkb⟩ := inB_iff_getI.mp hk
  have hb : ∀ d : Fin sh.length, 0 ≤ getI k d ∧ getI k d < sh.get d := by
    intro d
    have := hkb d d.2
    rwa [getI_eq_getElem sh d d.2] at this
  constructor
  · apply List.ext_getElem
    · exact List.length_ofFn.symm
    · intro i h1 h2
      simp only [List.getElem_ofFn, List.get_eq_getElem]
      have := hb ⟨i, h1⟩
      simp only [List.get_eq_getElem] at this
      omega
  · refine ⟨fun d => ⟨(getI k d).toNat, by have := hb d; omega⟩, ?_⟩
    apply List.ext_getElem
    · rw [List.length_ofFn, hkl]
    · intro i h1 h2
      simp only [List.getElem_ofFn]
      have hi : i < sh.length := hkl ▸ h1
      have := hb ⟨i, hi⟩
      rw [getI_eq_getElem k i h1] at this ⊢
      omega

/-- C05, on list multi-indices: the `ifft` entry is the conjugate of the transposed `fft` entry -/
theorem fft_entry_conj (center : Bool) (sh axes : List Int) {k j : List Int} (hk : InB sh k) (hj : InB sh j) :
    C05.denote (C05.entry (C05.pipeOf true center) true axes sh sh k j)
      = star (C05.denote (C05.entry (C05.pipeOf false center) true axes sh sh j k)) := by
  obtain ⟨hsh, K, hK⟩ := idx_ofFn hk
  obtain ⟨_, J, hJ⟩ := idx_ofFn hj
  have key := C05.ifft_table_eq_conjTranspose true center (fun d : Fin sh.length => (sh.get d).toNat) axes
    (fun d => rfl) K J
  rw [← hsh, ← hK, ← hJ] at key
  rw [key]
  rfl

theorem fftE_inv_eq (center : Bool) (sh axes : List Int) :
    fftE true center sh axes = (allIdx sh).flatMap fun k => (allIdx sh).flatMap fun j =>
      [((fl sh k, fl sh j, star (C05.denote (C05.entry (C05.pipeOf false center) true axes sh sh j k))) : Ent ℂ)] := by
  unfold fftE
  apply List.flatMap_congr; intro k hk
  apply List.flatMap_congr; intro j hj
  rw [fft_entry_conj center sh axes (mem_allIdx.mp hk) (mem_allIdx.mp hj)]

/-- the `ifft` table is, as a multiset of entries, the conjugate transpose of the `fft` table -/
theorem ifftE_perm_adj (center : Bool) (sh axes : List Int) :
    (fftE true center sh axes).Perm (adjE star (fftE false center sh axes)) := by
  rw [fftE_inv_eq]
  unfold fftE adjE
  simp only [List.map_flatMap, List.map_cons, List.map_nil]
  exact flatMap_swap_perm _ _ _

/-- **FFT / IFFT:** the leaf built from the C05 table of the class and of the class its generated
    `_adjoint_linop` returns satisfies `LeafProved` — any rank, shape, axes (`None` or a list), centred or
    not: `FFT.H = IFFT` and `IFFT.H = FFT` (same axes, same `center`) are true adjoints. -/
theorem fft_leaf_proved (c : Opaque ℂ) (l : Leaf ℂ) (h : fftLeaf c = some l) : LeafProved l := by
  unfold fftLeaf at h
  cases c with
  | fft sh axes center =>
    simp only [fftSem, Gen.LinopAdjoint.adjOpaque, Option.some.injEq] at h
    subst h
    simp only [LeafProved]
    exact isAdj_clip_of_perm _ _ _ _ (ifftE_perm_adj center sh _)
  | ifft sh axes center =>
    simp only [fftSem, Gen.LinopAdjoint.adjOpaque, Option.some.injEq] at h
    subst h
    simp only [LeafProved]
    exact isAdj_clip_of_perm _ _ _ _ (perm_adjE_symm (ifftE_perm_adj center sh _))
  | _ => cases h

/-- instance of `adj_denote_leaves` over ℂ: `e₁ ∘ FFT ∘ e₂` for subtrees whose leaves satisfy `LeafProved`
    (the shape of a SENSE-like `Resize ∘ FFT ∘ Multiply(maps_c)`) -/
theorem fft_tree_adjoint (c : Opaque ℂ) (l : Leaf ℂ) (h : fftLeaf c = some l) (e₁ e₂ : Expr ℂ)
    (h₁ : allLeaves LeafProved e₁) (h₂ : allLeaves LeafProved e₂) :
    AdjOK (fun r : Rat => (r : ℂ)) (.comp e₁ (.comp (.leaf l) e₂)) :=
  adj_denote_leaves _ (fun r => by simp) _ ⟨h₁, fft_leaf_proved c l h, h₂⟩

/-- non-vacuity: an FFT over the last axis of a `[2, 3]` array is a leaf -/
example : ∃ l, fftLeaf (.fft [2, 3] (some [-1]) true) = some l := ⟨_, rfl⟩

end
end SigpyVerif.C01
