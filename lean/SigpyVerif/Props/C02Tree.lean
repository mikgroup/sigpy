/-
  C02 (trees) — operator trees of the C01 expression language: `C01.Expr` (the leaf classes of `sigpy.linop` + the
  combinators Compose, Add, Conj, Hstack, Vstack, Diag) with the denotation `C01.denote` that the C01
  correspondence check compares with the real operators' matrices on every run.

  A denotation is an entry list, and every entry list acts linearly (`applyF_linear`).  The `denote_*_act` lemmas say
  that the denotation of each combinator acts on a vector exactly as that combinator's `_apply` does with its
  children's outputs (A(B x); A x + B x; conj(A(conj x)); A(x_a) + B(x_b); concatenation of A x and B x;
  block-diagonal).  Determinism over histories is `history_determinism` (Props/C02) instantiated with the tree
  semantics `treeApp`, which has no mutable state.

  Leaves with no entry list in the model (NUFFT; convolutions and wavelets beyond the 1-D cases of
  Props/C02Leaves.lean) are runtime-validated only, in harness/props/c02.py.
-/
import SigpyVerif.Props.C02
import SigpyVerif.Props.C01

set_option linter.unusedSectionVars false
namespace SigpyVerif.C02
open SigpyVerif SigpyVerif.C01

section tree
variable {α : Type} [CommRing α] [StarRing α]

/-- a map on coefficient vectors is additive and homogeneous (stated with one scalar:
    `A (a·x + y) = a·A x + A y`, which gives additivity with `a = 1` and homogeneity with `y = 0`) -/
def Lin (A : (Nat → α) → Nat → α) : Prop :=
  ∀ (a : α) (x y : Nat → α) (o : Nat), A (fun i => a * x i + y i) o = a * A x o + A y o

/-- **Every entry list acts linearly**: `(E x)[o] = Σ_{(o,i,w)∈E} w·x[i]` is additive and homogeneous in
    `x` over any commutative ring. -/
theorem applyF_linear {ι κ : Type} [DecidableEq ι] (E : List (ι × κ × α)) (a : α) (x y : κ → α)
    (o : ι) :
    applyF E (fun i => a * x i + y i) o = a * applyF E x o + applyF E y o := by
  rw [← applyF_smul]
  exact applyF_add E (fun i => a * x i) y o

theorem lin_applyF (E : List (Ent α)) : Lin (fun x o => applyF E x o) :=
  fun a x y o => applyF_linear E a x y o

theorem lin_comp {A B : (Nat → α) → Nat → α} (hA : Lin A) (hB : Lin B) : Lin (fun x => A (B x)) := by
  intro a x y o
  have : B (fun i => a * x i + y i) = fun i => a * B x i + B y i := funext fun i => hB a x y i
  show A (B _) o = _
  rw [this, hA]

theorem lin_add {A B : (Nat → α) → Nat → α} (hA : Lin A) (hB : Lin B) :
    Lin (fun x o => A x o + B x o) := by
  intro a x y o
  simp only [hA a, hB a]
  ring

theorem lin_congr {A B : (Nat → α) → Nat → α} (h : ∀ x o, A x o = B x o) (hB : Lin B) : Lin A := by
  intro a x y o
  rw [h, h, h]; exact hB a x y o

/-- the conjugate sandwich `x ↦ conj (A (conj x))` of a linear map is linear (both conjugates are
    needed: `conj_half_not_linear`) -/
theorem lin_conj {A : (Nat → α) → Nat → α} (hA : Lin A) :
    Lin (fun x o => star (A (fun i => star (x i)) o)) := by
  intro a x y o
  simp only [star_add, star_mul', hA (star a), star_star]

theorem Lin.additive_homogeneous {A : (Nat → α) → Nat → α} (h : Lin A) :
    (∀ x y o, A (fun i => x i + y i) o = A x o + A y o) ∧ (∀ (a : α) x o, A (fun i => a * x i) o = a * A x o) := by
  have h0 : ∀ o, A (fun _ => 0) o = 0 := fun o => by
    have := h 1 (fun _ => 0) (fun _ => 0) o
    simp only [mul_zero, add_zero, one_mul] at this
    exact left_eq_add.mp this
  constructor
  · intro x y o
    have := h 1 x y o
    simp only [one_mul] at this
    exact this
  · intro a x o
    have := h a x (fun _ => 0) o
    simp only [add_zero, h0] at this
    exact this

variable (ofRat : Rat → α)

/-- `Compose([A, B])` : `x ↦ A (B x)` -/
theorem denote_comp_act (a b : Expr α) (s : Sem α) (hs : denote star ofRat (.comp a b) = some s) :
    ∃ sa sb, denote star ofRat a = some sa ∧ denote star ofRat b = some sb ∧
      ∀ x o, applyF s.E x o = applyF sa.E (applyF sb.E x) o := by
  obtain ⟨sa, sb, ha, hb, _, rfl⟩ := denote_comp_some ofRat hs
  exact ⟨sa, sb, ha, hb, fun x o => applyF_compE _ _ x o⟩

/-- `Add([A, B])` : `x ↦ A x + B x` -/
theorem denote_add_act (a b : Expr α) (s : Sem α) (hs : denote star ofRat (.add a b) = some s) :
    ∃ sa sb, denote star ofRat a = some sa ∧ denote star ofRat b = some sb ∧
      ∀ x o, applyF s.E x o = applyF sa.E x o + applyF sb.E x o := by
  obtain ⟨sa, sb, ha, hb, _, rfl⟩ := denote_add_some ofRat hs
  exact ⟨sa, sb, ha, hb, fun x o => applyF_append _ _ x o⟩

/-- `Conj(A)` : `x ↦ conj (A (conj x))` -/
theorem denote_conj_act (a : Expr α) (s : Sem α) (hs : denote star ofRat (.conj a) = some s) :
    ∃ sa, denote star ofRat a = some sa ∧
      ∀ x o, applyF s.E x o = star (applyF sa.E (fun i => star (x i)) o) := by
  obtain ⟨sa, ha, rfl⟩ := denote_conj_some ofRat hs
  exact ⟨sa, ha, fun x o => applyF_conjE _ x o⟩

/-- `Hstack([A, B])` : `x ↦ A (x restricted to part a) + B (x restricted to part b)`; `pa`, `pb` are
    the two selections of the concatenated input (`catParts`) -/
theorem denote_hstack_act (ax : Option Int) (a b : Expr α) (s : Sem α)
    (hs : denote star ofRat (.hstack ax a b) = some s) :
    ∃ sa sb tot pa pb, denote star ofRat a = some sa ∧ denote star ofRat b = some sb ∧
      catParts ax sa.ish sb.ish = some (tot, pa, pb) ∧
      ∀ x o, applyF s.E x o = applyF sa.E (applyF pa x) o + applyF sb.E (applyF pb x) o := by
  obtain ⟨sa, sb, tot, pa, pb, ha, hb, _, hc, rfl⟩ := denote_hstack_some ofRat hs
  refine ⟨sa, sb, tot, pa, pb, ha, hb, hc, fun x o => ?_⟩
  rw [applyF_append, applyF_compE, applyF_compE]

/-- `Vstack([A, B])` : the output is `A x` placed in part a and `B x` placed in part b -/
theorem denote_vstack_act (ax : Option Int) (a b : Expr α) (s : Sem α)
    (hs : denote star ofRat (.vstack ax a b) = some s) :
    ∃ sa sb tot pa pb, denote star ofRat a = some sa ∧ denote star ofRat b = some sb ∧
      catParts ax sa.osh sb.osh = some (tot, pa, pb) ∧
      ∀ x o, applyF s.E x o
        = applyF (swapE pa) (applyF sa.E x) o + applyF (swapE pb) (applyF sb.E x) o := by
  obtain ⟨sa, sb, tot, pa, pb, ha, hb, _, hc, rfl⟩ := denote_vstack_some ofRat hs
  refine ⟨sa, sb, tot, pa, pb, ha, hb, hc, fun x o => ?_⟩
  rw [applyF_append, applyF_compE, applyF_compE]

/-- `Diag([A, B])` : part a of the input goes through `A` into part a of the output, part b through
    `B` into part b -/
theorem denote_diag_act (oax iax : Option Int) (a b : Expr α) (s : Sem α)
    (hs : denote star ofRat (.diag oax iax a b) = some s) :
    ∃ sa sb itot ia ib otot oa ob, denote star ofRat a = some sa ∧ denote star ofRat b = some sb ∧
      catParts iax sa.ish sb.ish = some (itot, ia, ib) ∧
      catParts oax sa.osh sb.osh = some (otot, oa, ob) ∧
      ∀ x o, applyF s.E x o
        = applyF (swapE oa) (applyF sa.E (applyF ia x)) o
          + applyF (swapE ob) (applyF sb.E (applyF ib x)) o := by
  obtain ⟨sa, sb, itot, ia, ib, otot, oa, ob, ha, hb, hci, hco, rfl⟩ := denote_diag_some ofRat hs
  refine ⟨sa, sb, itot, ia, ib, otot, oa, ob, ha, hb, hci, hco, fun x o => ?_⟩
  rw [applyF_append, applyF_compE, applyF_compE, applyF_compE_fun, applyF_compE_fun]

/-- **Tree linearity.**  For every expression tree `e` of the C01 language that denotes an operator
    (`denote e = some s`), the operator's action `x ↦ s.E x` satisfies `A (a·x + y) = a·A x + A y` for
    every scalar `a` and all vectors `x`, `y` — over any commutative star ring, in particular over ℂ
    with complex `a`.  The proof is by structural induction and uses, at each node, only what the
    node's `_apply` computes from its children (`denote_*_act`) and that linear maps are closed under
    composition, sums and the conjugate sandwich; leaves are linear because they are entry lists.  (So is `s.E`
    itself: the conclusion is also `lin_applyF s.E`; the induction adds that it agrees node by node with the
    `_apply` decomposition.) -/
theorem tree_linear (e : Expr α) :
    ∀ s, denote star ofRat e = some s → Lin (fun x o => applyF s.E x o) := by
  induction e with
  | leaf l => intro s _; exact lin_applyF s.E
  | comp a b iha ihb =>
    intro s hs
    obtain ⟨sa, sb, ha, hb, h⟩ := denote_comp_act ofRat a b s hs
    exact lin_congr h (lin_comp (iha sa ha) (ihb sb hb))
  | add a b iha ihb =>
    intro s hs
    obtain ⟨sa, sb, ha, hb, h⟩ := denote_add_act ofRat a b s hs
    exact lin_congr h (lin_add (iha sa ha) (ihb sb hb))
  | conj a iha =>
    intro s hs
    obtain ⟨sa, ha, h⟩ := denote_conj_act ofRat a s hs
    exact lin_congr h (lin_conj (iha sa ha))
  | hstack ax a b iha ihb =>
    intro s hs
    obtain ⟨sa, sb, tot, pa, pb, ha, hb, _, h⟩ := denote_hstack_act ofRat ax a b s hs
    exact lin_congr h (lin_add (lin_comp (iha sa ha) (lin_applyF pa)) (lin_comp (ihb sb hb) (lin_applyF pb)))
  | vstack ax a b iha ihb =>
    intro s hs
    obtain ⟨sa, sb, tot, pa, pb, ha, hb, _, h⟩ := denote_vstack_act ofRat ax a b s hs
    exact lin_congr h (lin_add (lin_comp (lin_applyF (swapE pa)) (iha sa ha))
      (lin_comp (lin_applyF (swapE pb)) (ihb sb hb)))
  | diag oax iax a b iha ihb =>
    intro s hs
    obtain ⟨sa, sb, itot, ia, ib, otot, oa, ob, ha, hb, _, _, h⟩ := denote_diag_act ofRat oax iax a b s hs
    exact lin_congr h (lin_add
      (lin_comp (lin_applyF (swapE oa)) (lin_comp (iha sa ha) (lin_applyF ia)))
      (lin_comp (lin_applyF (swapE ob)) (lin_comp (ihb sb hb) (lin_applyF ib))))

/-- additivity and homogeneity separately (the form of the property statement) -/
theorem tree_additive_homogeneous (e : Expr α) (s : Sem α) (hs : denote star ofRat e = some s) :
    (∀ x y o, applyF s.E (fun i => x i + y i) o = applyF s.E x o + applyF s.E y o) ∧
    (∀ (a : α) x o, applyF s.E (fun i => a * x i) o = a * applyF s.E x o) :=
  (tree_linear ofRat e s hs).additive_homogeneous

/-- **The denotation is a function.**  Two evaluations of the same tree on pointwise equal inputs give
    equal outputs (whatever `s`, `s'` the two evaluations produced). -/
theorem tree_deterministic (e : Expr α) (s s' : Sem α) (hs : denote star ofRat e = some s)
    (hs' : denote star ofRat e = some s') (x x' : Nat → α) (hx : ∀ i, x i = x' i) (o : Nat) :
    applyF s.E x o = applyF s'.E x' o := by
  have : s = s' := Option.some.inj (hs.symm.trans hs')
  have hxx : x = x' := funext hx
  rw [this, hxx]

/-- the operator object of a tree: parameters = the tree, `_apply` = the denotation's action (the
    zero map for an ill-formed tree); it never touches the object state -/
def treeApp {C : Type} (s : OpState (Expr α) C) (x : Nat → α) : (Nat → α) × OpState (Expr α) C :=
  (match denote star ofRat s.params with
    | some sem => fun o => applyF sem.E x o
    | none => fun _ => 0, s)

/-- the tree semantics satisfies the hypotheses of `history_determinism` -/
theorem treeApp_wellBehaved {C : Type} : WellBehaved (treeApp (C := C) ofRat) :=
  ⟨fun _ _ => rfl, fun s s' x h => by simp only [treeApp, h]⟩

/-- **Determinism over histories for trees.**  In every interleaving of `apply` / `.H` / `.N` events on
    one operator object built from a tree, each `apply x` returns what a freshly constructed object
    returns on `x`. -/
theorem tree_history_deterministic {C : Type} (mkH mkN : Expr α → C) (evs : List (Event (Nat → α)))
    (s : OpState (Expr α) C) (i : Nat) (x : Nat → α) (h : evs[i]? = some (.apply x)) :
    (runOp (treeApp ofRat) mkH mkN s evs).1[i]? = some (some (treeApp ofRat s x).1) :=
  history_determinism (treeApp ofRat) (treeApp_wellBehaved ofRat) mkH mkN evs s i x h

end tree

/-- For trees over ℂ: the action of `Conj(A)` is `star ∘ A ∘ star` and is ℂ-linear with complex
    scalars, obtained from `conj_sandwich_linear` and the linearity of the child tree. -/
theorem tree_conj_linear_complex (ofRat : Rat → ℂ) (e : Expr ℂ) (s : Sem ℂ)
    (hs : denote star ofRat (.conj e) = some s) (a : ℂ) (x y : Nat → ℂ) :
    (fun o => applyF s.E (a • x + y) o) = a • (fun o => applyF s.E x o) + fun o => applyF s.E y o := by
  obtain ⟨sa, ha, h⟩ := denote_conj_act ofRat e s hs
  obtain ⟨hadd, hsmul⟩ := tree_additive_homogeneous ofRat e sa ha
  have key := conj_sandwich_linear (fun x o => applyF sa.E x o)
    (fun x y => funext fun o => hadd x y o) (fun c x => funext fun o => hsmul c x o) a x y
  have e1 : ∀ z : Nat → ℂ, (fun o => applyF s.E z o) = star ((fun x o => applyF sa.E x o) (star z)) :=
    fun z => funext fun o => h z o
  rw [e1, e1, e1]
  exact key

/-- a concrete tree over ℂ that denotes an operator: `Conj(Identity[2]) + Identity[2]` -/
example : ∃ s, denote (α := ℂ) star (fun r => (r : ℂ))
    (.add (.conj (.leaf (.identity [2]))) (.leaf (.identity [2]))) = some s :=
  ⟨_, rfl⟩

end SigpyVerif.C02
