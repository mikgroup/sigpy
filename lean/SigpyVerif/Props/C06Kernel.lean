import SigpyVerif.Props.C06Batch
import Mathlib.NumberTheory.Padics.PadicVal.Basic
import Mathlib.Data.Rat.Encodable
/-
  C06 — the `(K, wt)` parametrisation of the interpolation weights covers separable REAL kernels (Kaiser–Bessel)
  in two and three dimensions.

  The generated loop nests `Gen.interp2/3` are lists over `Rat`: their weight slot holds the PRODUCT
  `K(u_y, p_y) · K(u_x, p_x)` of rational kernel values, and the concrete adjoint theorems send that product through
  one real function `wt` (`cw wt`).  For a kernel with irrational values (Kaiser–Bessel: `kb_β(u_y)·kb_β(u_x)`) it is
  not obvious that such a pair `(K, wt)` exists — the product of two rational stand-ins has to remember both
  arguments.  It does: tag the axes through `param` (`param(-d) = d`), let `K(u, d) = p_d ^ enc(u)` with the primes
  `p_1 = 2, p_2 = 3, p_3 = 5` and an injective `enc : ℚ → ℕ`, and let `wt` read the arguments back from the
  `p_d`-adic valuations of the product.  Then `wt(K(u_y,2)·K(u_x,1)) = f₂(u_y)·f₁(u_x)` for ARBITRARY real functions
  `f_d` (`sep_encoding2`, `sep_encoding3`), so the update lists of the theorems have exactly the weights of the
  separable real kernel (`interp2_weights_separable`, `interp3_weights_separable`) and
  `nufft_adjoint_is_adjoint_2d/_3d(_batch)` — stated for all `K`, `wt`, `param` — include Kaiser–Bessel.
-/
namespace SigpyVerif.C06
open SigpyVerif

instance fact_prime_five : Fact (Nat.Prime 5) := ⟨Nat.prime_five⟩

/-- the rational argument stored in an exponent -/
noncomputable def decQ (n : ℕ) : ℚ := (Encodable.decode (α := ℚ) n).getD 0

theorem decQ_encode (u : ℚ) : decQ (Encodable.encode u) = u := by
  unfold decQ
  rw [Encodable.encodek]
  rfl

/-- the rational stand-in: axis tag `d = 1, 2, 3` (passed through `param`) selects the prime `2, 3, 5` -/
noncomputable def Kenc (u d : ℚ) : ℚ :=
  if d = 1 then ((2 ^ Encodable.encode u : ℕ) : ℚ) else if d = 2 then ((3 ^ Encodable.encode u : ℕ) : ℚ)
  else ((5 ^ Encodable.encode u : ℕ) : ℚ)

/-- the axis tags: `param(-d) = d` -/
def tagParam : ℤ → ℚ := fun k => ((-k : ℤ) : ℚ)

/-- reading the arguments back -/
noncomputable def wtEnc2 (f1 f2 : ℚ → ℝ) (q : ℚ) : ℝ :=
  f2 (decQ (padicValNat 3 q.num.natAbs)) * f1 (decQ (padicValNat 2 q.num.natAbs))

noncomputable def wtEnc3 (f1 f2 f3 : ℚ → ℝ) (q : ℚ) : ℝ :=
  f3 (decQ (padicValNat 5 q.num.natAbs)) * f2 (decQ (padicValNat 3 q.num.natAbs)) *
    f1 (decQ (padicValNat 2 q.num.natAbs))

theorem Kenc_tag1 (u : ℚ) : Kenc u (tagParam (-1)) = ((2 ^ Encodable.encode u : ℕ) : ℚ) := by
  have t : tagParam (-1) = 1 := by norm_num [tagParam]
  rw [t, Kenc, if_pos rfl]

theorem Kenc_tag2 (u : ℚ) : Kenc u (tagParam (-2)) = ((3 ^ Encodable.encode u : ℕ) : ℚ) := by
  have t : tagParam (-2) = 2 := by norm_num [tagParam]
  rw [t, Kenc, if_neg (by norm_num), if_pos rfl]

theorem Kenc_tag3 (u : ℚ) : Kenc u (tagParam (-3)) = ((5 ^ Encodable.encode u : ℕ) : ℚ) := by
  have t : tagParam (-3) = 3 := by norm_num [tagParam]
  rw [t, Kenc, if_neg (by norm_num), if_neg (by norm_num)]

theorem padicValNat_235 (p : ℕ) [Fact p.Prime] (x y z : ℕ) :
    padicValNat p (5 ^ z * 3 ^ y * 2 ^ x) = z * padicValNat p 5 + y * padicValNat p 3 + x * padicValNat p 2 := by
  have h2 : (2 : ℕ) ^ x ≠ 0 := by positivity
  have h3 : (3 : ℕ) ^ y ≠ 0 := by positivity
  have h5 : (5 : ℕ) ^ z ≠ 0 := by positivity
  rw [padicValNat.mul (mul_ne_zero h5 h3) h2, padicValNat.mul h5 h3, padicValNat.pow, padicValNat.pow,
    padicValNat.pow]

theorem val235 (x y z : ℕ) :
    padicValNat 2 (5 ^ z * 3 ^ y * 2 ^ x) = x ∧ padicValNat 3 (5 ^ z * 3 ^ y * 2 ^ x) = y ∧
      padicValNat 5 (5 ^ z * 3 ^ y * 2 ^ x) = z := by
  have h25 : padicValNat 2 5 = 0 := padicValNat_primes (by norm_num)
  have h23 : padicValNat 2 3 = 0 := padicValNat_primes (by norm_num)
  have h35 : padicValNat 3 5 = 0 := padicValNat_primes (by norm_num)
  have h32 : padicValNat 3 2 = 0 := padicValNat_primes (by norm_num)
  have h53 : padicValNat 5 3 = 0 := padicValNat_primes (by norm_num)
  have h52 : padicValNat 5 2 = 0 := padicValNat_primes (by norm_num)
  simp only [padicValNat_235, padicValNat_self, h25, h23, h35, h32, h53, h52, mul_zero, mul_one, zero_add, add_zero,
    and_self]

theorem natAbs_num_natCast (n : ℕ) : ((n : ℚ)).num.natAbs = n := by
  rw [Rat.num_natCast, Int.natAbs_natCast]

/-- **two axes**: the product of the stand-ins determines both arguments -/
theorem sep_encoding2 (f1 f2 : ℚ → ℝ) (uy ux : ℚ) :
    wtEnc2 f1 f2 (Kenc uy (tagParam (-2)) * Kenc ux (tagParam (-1))) = f2 uy * f1 ux := by
  have e : Kenc uy (tagParam (-2)) * Kenc ux (tagParam (-1)) =
      ((5 ^ 0 * 3 ^ Encodable.encode uy * 2 ^ Encodable.encode ux : ℕ) : ℚ) := by
    rw [Kenc_tag2, Kenc_tag1, pow_zero, one_mul, Nat.cast_mul]
  obtain ⟨v2, v3, _⟩ := val235 (Encodable.encode ux) (Encodable.encode uy) 0
  unfold wtEnc2
  rw [e, natAbs_num_natCast, v2, v3, decQ_encode, decQ_encode]

theorem sep_encoding3 (f1 f2 f3 : ℚ → ℝ) (uz uy ux : ℚ) :
    wtEnc3 f1 f2 f3 (Kenc uz (tagParam (-3)) * Kenc uy (tagParam (-2)) * Kenc ux (tagParam (-1))) =
      f3 uz * f2 uy * f1 ux := by
  have e : Kenc uz (tagParam (-3)) * Kenc uy (tagParam (-2)) * Kenc ux (tagParam (-1)) =
      ((5 ^ Encodable.encode uz * 3 ^ Encodable.encode uy * 2 ^ Encodable.encode ux : ℕ) : ℚ) := by
    rw [Kenc_tag3, Kenc_tag2, Kenc_tag1, Nat.cast_mul, Nat.cast_mul]
  obtain ⟨v2, v3, v5⟩ := val235 (Encodable.encode ux) (Encodable.encode uy) (Encodable.encode uz)
  unfold wtEnc3
  rw [e, natAbs_num_natCast, v2, v3, v5, decQ_encode, decQ_encode, decQ_encode]

/-- **the 2-D update list of the adjoint theorems with a separable real kernel**: with the stand-ins above, the list
    `cw wt (Gen.interp2 K …)` that `interpLin2 / gridLin2 / nufft2 / nufft2B` run has exactly the members
    `y[b,j] += f₂((i_y - c_y)/(W_y/2)) · f₁((i_x - c_x)/(W_x/2)) · x[b, i_y mod n_y, i_x mod n_x]` over the documented
    windows — for arbitrary real `f₁, f₂` (Kaiser–Bessel: `f₁ = f₂ = kb_β`). -/
theorem interp2_weights_separable (f1 f2 : ℚ → ℝ) (osh ish csh : Int → Int) (coord : Int → Int → Rat)
    (width : Int → Rat) (u : Upd ℂ) :
    u ∈ cw (wtEnc2 f1 f2) (Gen.interp2 Kenc osh ish csh coord width tagParam) ↔
      ∃ j iy ix b : Int, 0 ≤ j ∧ j < csh 0 ∧
        |(iy : Rat) - coord j (-2)| ≤ width (-2) / 2 ∧ |(ix : Rat) - coord j (-1)| ≤ width (-1) / 2 ∧
        0 ≤ b ∧ b < ish 0 ∧
        u = ([b, j], [b, pyMod iy (ish 1), pyMod ix (ish 2)],
             (((f2 (((iy : Rat) - coord j (-2)) / (width (-2) / 2)) *
                f1 (((ix : Rat) - coord j (-1)) / (width (-1) / 2)) : ℝ)) : ℂ)) := by
  unfold cw
  simp only [List.mem_map, C07.interp2_mem]
  constructor
  · rintro ⟨v, ⟨j, iy, ix, b, h1, h2, h3, h4, h5, h6, rfl⟩, rfl⟩
    exact ⟨j, iy, ix, b, h1, h2, h3, h4, h5, h6, by simp only [sep_encoding2]⟩
  · rintro ⟨j, iy, ix, b, h1, h2, h3, h4, h5, h6, rfl⟩
    exact ⟨_, ⟨j, iy, ix, b, h1, h2, h3, h4, h5, h6, rfl⟩, by simp only [sep_encoding2]⟩

theorem interp3_weights_separable (f1 f2 f3 : ℚ → ℝ) (osh ish csh : Int → Int) (coord : Int → Int → Rat)
    (width : Int → Rat) (u : Upd ℂ) :
    u ∈ cw (wtEnc3 f1 f2 f3) (Gen.interp3 Kenc osh ish csh coord width tagParam) ↔
      ∃ j iz iy ix b : Int, 0 ≤ j ∧ j < csh 0 ∧
        |(iz : Rat) - coord j (-3)| ≤ width (-3) / 2 ∧
        |(iy : Rat) - coord j (-2)| ≤ width (-2) / 2 ∧ |(ix : Rat) - coord j (-1)| ≤ width (-1) / 2 ∧
        0 ≤ b ∧ b < ish 0 ∧
        u = ([b, j], [b, pyMod iz (ish 1), pyMod iy (ish 2), pyMod ix (ish 3)],
             (((f3 (((iz : Rat) - coord j (-3)) / (width (-3) / 2)) *
                f2 (((iy : Rat) - coord j (-2)) / (width (-2) / 2)) *
                f1 (((ix : Rat) - coord j (-1)) / (width (-1) / 2)) : ℝ)) : ℂ)) := by
  unfold cw
  simp only [List.mem_map, C07.interp3_mem]
  constructor
  · rintro ⟨v, ⟨j, iz, iy, ix, b, h1, h2, h3, h4, h5, h6, h7, rfl⟩, rfl⟩
    exact ⟨j, iz, iy, ix, b, h1, h2, h3, h4, h5, h6, h7, by simp only [sep_encoding3]⟩
  · rintro ⟨j, iz, iy, ix, b, h1, h2, h3, h4, h5, h6, h7, rfl⟩
    exact ⟨_, ⟨j, iz, iy, ix, b, h1, h2, h3, h4, h5, h6, h7, rfl⟩, by simp only [sep_encoding3]⟩

/-- **`nufft_adjoint` is the exact adjoint of `nufft` in 3-D with batch, for a separable REAL kernel `f` per axis**
    (e.g. Kaiser–Bessel with any beta): `nufft_adjoint_is_adjoint_3d_batch` at `Kenc`, `wtEnc3 f₁ f₂ f₃`, `tagParam`.
    That the update list of this instance has the weights `f₃(u_z) f₂(u_y) f₁(u_x)` is `interp3_weights_separable`. -/
theorem nufft_adjoint_is_adjoint_3d_batch_separable (f1 f2 f3 : ℚ → ℝ) (os : Rat) (B N1 N2 N3 L1 L2 L3 M : ℕ)
    (h1 : 0 < L1) (h2 : 0 < L2) (h3 : 0 < L3) (a : Fin B × Fin N1 × Fin N2 × Fin N3 → ℝ) (c : Int → Int → Rat) (W : Rat)
    (x : EuclideanSpace ℂ (Fin B × Fin N1 × Fin N2 × Fin N3)) (y : EuclideanSpace ℂ (Fin B × Fin M)) :
    inner ℂ (nufft3B os B N1 N2 N3 L1 L2 L3 M a Kenc (wtEnc3 f1 f2 f3) c W tagParam x) y =
      inner ℂ x (nufftAdjoint3B os B N1 N2 N3 L1 L2 L3 M a Kenc (wtEnc3 f1 f2 f3) c W tagParam y) :=
  nufft_adjoint_is_adjoint_3d_batch os B N1 N2 N3 L1 L2 L3 M h1 h2 h3 a Kenc (wtEnc3 f1 f2 f3) c W tagParam x y

end SigpyVerif.C06
