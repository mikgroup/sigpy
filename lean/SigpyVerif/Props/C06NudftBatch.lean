import SigpyVerif.Props.C06Nudft
import SigpyVerif.Props.C06Batch
/-
  C06 — the batched 1-D pipeline entry by entry: the SAME linear map on every batch item.

  `nufft1B_eq_nudft_times_kernel`: for the batched pipeline `nufft1B` (composed in Props/C06Batch.lean: C09's N-d resize
  on `[B, N] → [B, L]`, `1_B ⊗ U_L`, C07's `Gen.interp1` with `batch_size = B`, generated scalings),
      nufft(x)[b, j] = Σ_n x[b, n] · N^{-1/2} · exp(-2πi k_j (n - N//2)/N) · a[b, n] · S(κ_j, n - N//2)
  — output item `b` depends on input item `b` only, and with a batch-independent apodisation (what `_apodize`
  computes) through the same coefficients for every `b`: `nufft1B_per_item` says the batched transform restricted to
  item `b` IS the unbatched `nufft1` of that item.  This is the per-item statement the oracle checks as `C06:batch`,
  proved here for one transform axis and in Props/C06Nudft3d.lean for three (two axes: oracle + identity stream).
-/
namespace SigpyVerif.C06
open SigpyVerif Matrix ComplexConjugate Finset
open scoped InnerProductSpace

/-- the generated interpolation with `batch_size = B`, explicitly: item `b`, point `j` reads item `b` only -/
theorem interpLin1B_apply (K : Rat → Rat → Rat) (wt : Rat → ℝ) (B L M : ℕ) (hL : 0 < L) (coord : Int → Int → Rat)
    (width param : Int → Rat) (g : EuclideanSpace ℂ (Fin B × Fin L)) (b : Fin B) (j : Fin M) :
    WithLp.ofLp (interpLin1B K wt B L M coord width param g) (b, j) =
      ((pyRange (Rat.ceil (coord ((j : ℕ) : ℤ) (-1) - width (-1) / 2))
          (Rat.floor (coord ((j : ℕ) : ℤ) (-1) + width (-1) / 2) + 1) 1).map
        fun i : ℤ => ((wt (K (((i : Rat) - coord ((j : ℕ) : ℤ) (-1)) / (width (-1) / 2)) (param (-1))) : ℝ) : ℂ) *
          WithLp.ofLp g (b, wrapIdx L hL i)).sum := by
  have e1 : shape2 (B : ℤ) (L : ℤ) 1 = L := rfl
  unfold interpLin1B
  rw [updLinG_cw_apply, show bx1 B M (b, j) = [((b : ℕ) : ℤ), ((j : ℕ) : ℤ)] from rfl,
    C07.interp1_filter_dst K _ _ _ coord width param ((b : ℕ) : ℤ) ((j : ℕ) : ℤ)
      ⟨Int.natCast_nonneg _, Int.ofNat_lt.mpr b.2⟩ ⟨Int.natCast_nonneg _, Int.ofNat_lt.mpr j.2⟩, List.map_map]
  refine congrArg List.sum (List.map_congr_left fun i _ => ?_)
  rw [← embG_apply (bx1_inj B L) (WithLp.ofLp g) (b, wrapIdx L hL i)]
  simp only [Function.comp, bx1, wrapIdx_val, e1]

/-- zero-pad `[B, N] → [B, L]` then FFT over the last axis, explicitly: item `b` only -/
theorem ufft_resize1B_apply (B N L : ℕ) (hL : 0 < L) (hNL : N ≤ L) (u : EuclideanSpace ℂ (Fin B × Fin N)) (b : Fin B)
    (s : Fin L) :
    WithLp.ofLp (ufftLin1B B L (resizeLin1B B N L u)) (b, s) =
      ∑ n : Fin N, fftRoot L ^ ((((s : ℕ) : ℤ) - (L : ℤ) / 2) * (((n : ℕ) : ℤ) - (N : ℤ) / 2)) * WithLp.ofLp u (b, n) := by
  have hR : resizeMatNd [(B : ℤ), (N : ℤ)] [(B : ℤ), (L : ℤ)] (bx1 B N) (bx1 B L) =
      kroneckerMap (· * ·) (1 : Matrix (Fin B) (Fin B) ℂ) (resizeMat N L) := by
    rw [← resizeMat_self, ← resizeMatNd_single N L, ← resizeMatNd_cons]
    rfl
  unfold ufftLin1B resizeLin1B
  rw [toEuclideanLin_mul_apply, hR, ← mul_kronecker_mul, one_mul, sum_one_kronecker]
  simp only [dft_mul_resizeMat_apply N L hL hNL]

/-- **batched `nufft`, entry by entry**: item `b` of the output is the NUDFT-times-kernel sum of item `b` of the input -/
theorem nufft1B_eq_nudft_times_kernel (os : Rat) (B N L M : ℕ) (hN : 0 < N) (hos : 1 ≤ os)
    (hLen : (L : ℤ) = Gen.oversampLen os N) (a : Fin B × Fin N → ℝ) (K : Rat → Rat → Rat) (wt : Rat → ℝ)
    (c : Int → Int → Rat) (W : Rat) (param : Int → Rat) (x : EuclideanSpace ℂ (Fin B × Fin N)) (b : Fin B) (j : Fin M) :
    WithLp.ofLp (nufft1B os B N L M a K wt c W param x) (b, j) =
      ∑ n : Fin N, WithLp.ofLp x (b, n) * ((Real.sqrt N : ℝ) : ℂ)⁻¹ *
        nudftTerm N (((c ((j : ℕ) : ℤ) (-1) : Rat)) : ℝ) ((n : ℕ) : ℤ) *
        (((a (b, n) : ℝ) : ℂ) * kernelSum K wt W (param (-1)) L (Gen.scaleCoord os N (c ((j : ℕ) : ℤ) (-1)))
          (((n : ℕ) : ℤ) - (N : ℤ) / 2)) := by
  have hNL := le_of_oversampLen os N L hos hLen
  have hL : 0 < L := hN.trans_le hNL
  unfold nufft1B fwd
  rw [WithLp.ofLp_smul, Pi.smul_apply, smul_eq_mul, interpLin1B_apply K wt B L M hL]
  simp only [ufft_resize1B_apply B N L hL hNL, phase_wrap os N L hN hL hLen (c ((j : ℕ) : ℤ) (-1)), WithLp.ofLp_smul,
    Pi.smul_apply, smul_eq_mul, apodLinG, toEuclideanLin_diagonal_apply, Finset.mul_sum, sum_list_comm]
  refine Finset.sum_congr rfl fun n _ => ?_
  rw [list_sum_factor, kernelSum]
  unfold Gen.nufftFwdDiv Gen.nufftFwdWidthDiv
  rw [Complex.ofReal_pow, Int.cast_natCast]
  ring

/-- **the same linear map on every batch item**: with a batch-independent apodisation `a'` (what `_apodize` computes),
    item `b` of the batched transform is the unbatched transform `nufft1` of item `b` -/
theorem nufft1B_per_item (os : Rat) (B N L M : ℕ) (hN : 0 < N) (hos : 1 ≤ os)
    (hLen : (L : ℤ) = Gen.oversampLen os N) (a' : Fin N → ℝ) (K : Rat → Rat → Rat) (wt : Rat → ℝ)
    (c : Int → Int → Rat) (W : Rat) (param : Int → Rat) (x : EuclideanSpace ℂ (Fin B × Fin N)) (b : Fin B) (j : Fin M) :
    WithLp.ofLp (nufft1B os B N L M (fun p => a' p.2) K wt c W param x) (b, j) =
      WithLp.ofLp (nufft1 os N L M a' K wt c W param (WithLp.toLp 2 fun n => WithLp.ofLp x (b, n))) j := by
  rw [nufft1B_eq_nudft_times_kernel os B N L M hN hos hLen, nufft1_eq_nudft_times_kernel os N L M hN hos hLen]

end SigpyVerif.C06
