import SigpyVerif.Props.C01LeavesGen
import SigpyVerif.Gen.LinopAdjoint
/-
  C01 — the model's adjoint rules ARE the ones written in sigpy/linop.py.

  `Gen/LinopAdjoint.lean` is regenerated on every run from the bodies of every `_adjoint_linop`
  (harness/translate/gen_c01.py).  This file proves, for every leaf class and every tree node, that the
  hand-written `adjLeaf` / `adj` of Model/C01.lean — the definitions all C01 / C04 theorems are about —
  coincide with the generated `adjLeafGen` / `adjGen`, so that `adj_denote_leaves` is a theorem about the
  translation of the source (`adj_denote_gen`).  An edit of an `_adjoint_linop` (swapped arguments, a
  dropped negation or `not`, a different class, a different sum-axes helper or argument order, a changed
  `if` in the helpers) changes the generated definition and one of these proofs stops compiling.
  Also: the tree `FiniteDifference` builds, generated from the factory, consists of proved leaves only.
-/
set_option linter.unusedSectionVars false
set_option linter.unusedVariables false
set_option linter.unusedSimpArgs false
namespace SigpyVerif.C01
open SigpyVerif

section
variable {α : Type} [CommRing α] [StarRing α] (ofRat : Rat → α)

/-- the `oshape` attribute of an operator object: the output shape of what it denotes -/
def oshOf (l : Leaf α) : List Int := ((leafSem0 star ofRat l).map Sem.osh).getD []

/-- the generated `if` test of `_get_multiply_adjoint_sum_axes`, on the output extents that occur
    (`o = max(i, m)`, the broadcast of input and multiplier), is `i == 1 and (m != 1 or o != 1)` — proved by
    cases on the comparisons, so every spelling of the test that is equivalent on broadcast shapes is
    accepted (e.g. `i == 1 and m != 1`, reordered conjuncts, De Morgan forms) -/
theorem multiplySumTest_spec (i m d : Int) :
    Gen.LinopAdjoint.multiplySumTest i m (max i m) d = decide (i = 1 ∧ (m ≠ 1 ∨ max i m ≠ 1)) := by
  unfold Gen.LinopAdjoint.multiplySumTest
  by_cases h1 : i = 1 <;> by_cases h2 : m = 1 <;> simp [h1, h2]

theorem matmulSumTest_spec (i m d : Int) :
    Gen.LinopAdjoint.matmulSumTest i m (max i m) d = decide (i = 1 ∧ (m ≠ 1 ∨ max i m ≠ 1)) := by
  unfold Gen.LinopAdjoint.matmulSumTest
  by_cases h1 : i = 1 <;> by_cases h2 : m = 1 <;> simp [h1, h2]

/-- `_get_multiply_adjoint_sum_axes` as generated (test, zip ranges) = as modelled, on broadcast output shapes -/
theorem multiplySumAxes_gen (osh ish msh : List Int)
    (hmax : ∀ d, d < (C09.expandShapes ish msh).1.length →
      getI osh d = max (getI (C09.expandShapes ish msh).1 d) (getI (C09.expandShapes ish msh).2 d)) :
    Gen.LinopAdjoint.multiplySumAxes osh ish msh = multiplySumAxes osh ish msh := by
  unfold multiplySumAxes Gen.LinopAdjoint.multiplySumAxes Gen.LinopAdjoint.multiplySumDrop
  simp only [Nat.sub_zero]
  apply List.filterMap_congr
  intro d hd
  rw [hmax d (List.mem_range.mp hd), multiplySumTest_spec]
  simp only [decide_eq_true_eq]

/-- `_get_matmul_adjoint_sum_axes` as generated (test, the two trailing axes skipped) = as modelled -/
theorem matmulSumAxes_gen (osh ish msh : List Int)
    (hmax : ∀ d, d < (C09.expandShapes ish msh).1.length - 2 →
      getI osh d = max (getI (C09.expandShapes ish msh).1 d) (getI (C09.expandShapes ish msh).2 d)) :
    Gen.LinopAdjoint.matmulSumAxes osh ish msh = matmulSumAxes osh ish msh := by
  unfold matmulSumAxes Gen.LinopAdjoint.matmulSumAxes Gen.LinopAdjoint.matmulSumDrop
  apply List.filterMap_congr
  intro d hd
  rw [hmax d (List.mem_range.mp hd), matmulSumTest_spec]
  simp only [decide_eq_true_eq]
  rfl

theorem oshOf_sum (ish axes : List Int) (h : normAxes axes ish.length = axes) :
    oshOf ofRat (.sum ish axes : Leaf α) = removeAxes axes ish := by
  simp only [oshOf, leafSem0, sumSem, Option.map_some, Option.getD_some, h]

/-- **Multiply**: the generated plumbing is the modelled one -/
theorem adjLeaf_multiply_gen (ish msh : List Int) (mult : List α) (cj : Bool) (hv : MulValid ish msh)
    (hs : (leafSem0 star ofRat (.multiply ish msh mult cj : Leaf α)).isSome) :
    adjLeaf star (.multiply ish msh mult cj : Leaf α)
      = Gen.LinopAdjoint.adjLeafGen (oshOf ofRat) (.multiply ish msh mult cj) := by
  obtain ⟨s0, hm⟩ := Option.isSome_iff_exists.mp hs
  simp only [leafSem0] at hm
  obtain ⟨osh, hb, hlen, rfl⟩ := (multiplySem_iff ish msh mult cj s0).mp hm
  have hlie : (C09.expandShapes ish msh).1.length = (C09.expandShapes ish msh).2.length := by
    rw [(expand_len ish msh).1, (expand_len ish msh).2]
  obtain ⟨hol, hax⟩ := bshape_spec hb hlie
  have hgen := multiplySumAxes_gen osh ish msh (fun d hd => (hax d hd).2)
  have hosh : ((C09.expandShapes ish msh).1.zip (C09.expandShapes ish msh).2).map (fun (i, m) => max i m) = osh :=
    (bshape_eq_zip hb).symm
  have hM := multiplySem_osh (!cj) hb hlen
  have hself : oshOf ofRat (.multiply ish msh mult cj : Leaf α) = osh := by
    simp only [oshOf, leafSem0, hm, Option.map_some, Option.getD_some]
  have hMo : oshOf ofRat (.multiply osh msh mult (!cj) : Leaf α) = osh := by
    simp only [oshOf, leafSem0, hM, Option.map_some, Option.getD_some]
  have hnorm := saOf_norm (C09.expandShapes ish msh).1 (C09.expandShapes ish msh).2 osh osh.length hol.symm
  have hS : oshOf ofRat (.sum osh (multiplySumAxes osh ish msh) : Leaf α)
      = removeAxes (multiplySumAxes osh ish msh) osh :=
    oshOf_sum ofRat osh (multiplySumAxes osh ish msh) (by rw [multiplySumAxes_eq]; exact hnorm)
  simp only [adjLeaf, Gen.LinopAdjoint.adjLeafGen, hosh, hself, hMo, hgen, hS]

theorem adjLeaf_matmul_gen (ish msh : List Int) (mat : List α) (adjoint : Bool) (hv : MulValid ish msh)
    (hs : (leafSem0 star ofRat (.matmul ish msh mat adjoint : Leaf α)).isSome) :
    adjLeaf star (.matmul ish msh mat adjoint : Leaf α)
      = Gen.LinopAdjoint.adjLeafGen (oshOf ofRat) (.matmul ish msh mat adjoint) := by
  obtain ⟨s0, hm⟩ := Option.isSome_iff_exists.mp hs
  simp only [leafSem0] at hm
  obtain ⟨m, hM, _, hnorm, _, _, _, _, _, _, hmax⟩ := matmul_core false adjoint ish msh mat hv s0 hm
  have hgen := matmulSumAxes_gen s0.osh ish msh hmax
  have hself : oshOf ofRat (.matmul ish msh mat adjoint : Leaf α) = s0.osh := by
    simp only [oshOf, leafSem0, hm, Option.map_some, Option.getD_some]
  have hMo : oshOf ofRat (.matmul s0.osh msh mat (!adjoint) : Leaf α) = m.osh := by
    simp only [oshOf, leafSem0, hM, Option.map_some, Option.getD_some]
  have hS := oshOf_sum ofRat m.osh (matmulSumAxes s0.osh ish msh) hnorm
  simp only [adjLeaf, Gen.LinopAdjoint.adjLeafGen, hm, hM, hself, hMo, hgen, hS]

theorem adjLeaf_rmatmul_gen (ish msh : List Int) (mat : List α) (adjoint : Bool) (hv : MulValid ish msh)
    (hs : (leafSem0 star ofRat (.rmatmul ish msh mat adjoint : Leaf α)).isSome) :
    adjLeaf star (.rmatmul ish msh mat adjoint : Leaf α)
      = Gen.LinopAdjoint.adjLeafGen (oshOf ofRat) (.rmatmul ish msh mat adjoint) := by
  obtain ⟨s0, hm⟩ := Option.isSome_iff_exists.mp hs
  simp only [leafSem0] at hm
  obtain ⟨m, hM, _, hnorm, _, _, _, _, _, _, hmax⟩ := matmul_core true adjoint ish msh mat hv s0 hm
  have hgen := matmulSumAxes_gen s0.osh ish msh hmax
  have hself : oshOf ofRat (.rmatmul ish msh mat adjoint : Leaf α) = s0.osh := by
    simp only [oshOf, leafSem0, hm, Option.map_some, Option.getD_some]
  have hMo : oshOf ofRat (.rmatmul s0.osh msh mat (!adjoint) : Leaf α) = m.osh := by
    simp only [oshOf, leafSem0, hM, Option.map_some, Option.getD_some]
  have hS := oshOf_sum ofRat m.osh (matmulSumAxes s0.osh ish msh) hnorm
  simp only [adjLeaf, Gen.LinopAdjoint.adjLeafGen, hm, hM, hself, hMo, hgen, hS]

/-- **Every leaf class**: for valid parameters, the operator the model's `adjLeaf` builds is the one
    the translation of the class's `_adjoint_linop` builds (same class, same arguments). -/
theorem adjLeaf_eq_gen (l : Leaf α) (hl : LeafProved l) (hs : (leafSem0 star ofRat l).isSome) :
    adjLeaf star l = Gen.LinopAdjoint.adjLeafGen (oshOf ofRat) l := by
  cases l with
  | transpose ish axes => cases axes <;> rfl
  | multiply ish msh mult cj => exact adjLeaf_multiply_gen ofRat _ _ _ _ hl hs
  | matmul ish msh mat a => exact adjLeaf_matmul_gen ofRat _ _ _ _ hl hs
  | rmatmul ish msh mat a => exact adjLeaf_rmatmul_gen ofRat _ _ _ _ hl hs
  | _ => rfl

/-- for the classes other than Multiply / MatMul / RightMatMul the generated `_adjoint_linop` does not read
    `oshape`: no validity condition is needed -/
theorem adjLeaf_eq_gen_simple (osh : Leaf α → List Int) (l : Leaf α)
    (h : match l with | .multiply .. => False | .matmul .. => False | .rmatmul .. => False | _ => True) :
    adjLeaf star l = Gen.LinopAdjoint.adjLeafGen osh l := by
  cases l with
  | transpose ish axes => cases axes <;> rfl
  | multiply ish msh mult cj => exact absurd h id
  | matmul ish msh mat a => exact absurd h id
  | rmatmul ish msh mat a => exact absurd h id
  | _ => rfl

/-- **Every tree node**: Conj / Add / Compose (reversed) / Hstack↔Vstack (same axis) / Diag (axes swapped)
    as generated = as modelled -/
theorem adj_eq_gen (osh : Leaf α → List Int) (e : Expr α)
    (h : allLeaves (fun l => adjLeaf star l = Gen.LinopAdjoint.adjLeafGen osh l) e) :
    adj star e = Gen.LinopAdjoint.adjGen osh e := by
  induction e with
  | leaf l => exact h
  | comp a b iha ihb => simp only [adj, Gen.LinopAdjoint.adjGen, iha h.1, ihb h.2]
  | add a b iha ihb => simp only [adj, Gen.LinopAdjoint.adjGen, iha h.1, ihb h.2]
  | conj a iha => simp only [adj, Gen.LinopAdjoint.adjGen, iha h]
  | hstack ax a b iha ihb => simp only [adj, Gen.LinopAdjoint.adjGen, iha h.1, ihb h.2]
  | vstack ax a b iha ihb => simp only [adj, Gen.LinopAdjoint.adjGen, iha h.1, ihb h.2]
  | diag oax iax a b iha ihb => simp only [adj, Gen.LinopAdjoint.adjGen, iha h.1, ihb h.2]

theorem allLeaves_imp {P Q : Leaf α → Prop} (hPQ : ∀ l, P l → Q l) (e : Expr α) (h : allLeaves P e) :
    allLeaves Q e := by
  induction e with
  | leaf l => exact hPQ l h
  | comp a b iha ihb => exact ⟨iha h.1, ihb h.2⟩
  | add a b iha ihb => exact ⟨iha h.1, ihb h.2⟩
  | conj a iha => exact iha h
  | hstack ax a b iha ihb => exact ⟨iha h.1, ihb h.2⟩
  | vstack ax a b iha ihb => exact ⟨iha h.1, ihb h.2⟩
  | diag oax iax a b iha ihb => exact ⟨iha h.1, ihb h.2⟩

/-- leaves with valid parameters that denote an operator -/
def LeafOK (l : Leaf α) : Prop := LeafProved l ∧ (leafSem0 star ofRat l).isSome

/-- **`adj_denote_leaves` about the translated source.**  For every tree over the proved leaf classes
    (MatMul / RightMatMul and imported `ext` leaves included), the tree obtained by running the
    *generated* `_adjoint_linop` rules (`Gen.LinopAdjoint.adjGen`, regenerated from sigpy/linop.py on every
    run) denotes an operator with swapped shapes and `⟨A x, y⟩ = ⟨x, A.H y⟩` for all `x`, `y`. -/
theorem adj_denote_gen (hreal : ∀ r, star (ofRat r) = ofRat r) (e : Expr α)
    (he : allLeaves (LeafOK ofRat) e) (s : Sem α) (hs : denote star ofRat e = some s) :
    ∃ s', denote star ofRat (Gen.LinopAdjoint.adjGen (oshOf ofRat) e) = some s' ∧ s'.osh = s.ish ∧
      s'.ish = s.osh ∧ IsAdj s.osz s.isz s.E s'.E := by
  rw [← adj_eq_gen (oshOf ofRat) e (allLeaves_imp (fun l hl => adjLeaf_eq_gen ofRat l hl.1 hl.2) e he)]
  exact adj_denote_leaves ofRat hreal e (allLeaves_imp (fun l hl => hl.1) e he) s hs

theorem transposeSem_norm (ish : List Int) (axes : Option (List Int)) :
    (transposeSem ish (axes.map fun a => normAxes a ish.length) : Option (Sem α)) = transposeSem ish axes := by
  cases axes with
  | none => rfl
  | some a => simp only [Option.map_some, transposeSem, normAxes_idem]

theorem sumSem_norm (ish axes : List Int) : (sumSem ish (normAxes axes ish.length) : Sem α) = sumSem ish axes := by
  simp only [sumSem, normAxes_idem]

/-- **The entry model of seventeen classes is the translation of their `_apply`.**  For Identity, Reshape,
    Transpose, Resize, Flip, Circshift, Downsample, Upsample, Sum, Slice, Embed, ArrayToBlocks, BlocksToArray,
    Interpolate, Gridding, MatMul, RightMatMul (operand order, `conj(mat).swapaxes(-1,-2)` under `adjoint`): what the
    leaf denotes in the model (`leafSem0`, the object of every C01 / C02 / C04 theorem) is the primitive the
    generated table `applyGen` reads off the class's `_apply` body — same numpy / util / block / interp
    function, same attributes in the same argument positions — applied to an array of shape `self.ishape`.
    (The semantics of the primitives themselves stay the model's numpy contracts, tied by the correspondence.) -/
theorem leafSem0_eq_prim (l : Leaf α) (ish : List Int) (p : Prim α) (h1 : ishOf l = some ish)
    (h2 : Gen.LinopAdjoint.applyGen l = some p) : leafSem0 star ofRat l = primSem star ofRat ish p := by
  cases l <;> simp only [ishOf, Gen.LinopAdjoint.applyGen, Option.some.injEq, reduceCtorEq] at h1 h2 <;>
    (try subst h1) <;> subst h2 <;>
    first
      | rfl
      | simp only [leafSem0, primSem, transposeSem_norm, sumSem_norm]

/-- the table covers every exactly-representable class except Tile and Multiply (reshape + tile with derived
    attributes; scalar / array branches) -/
theorem applyGen_covers (l : Leaf α) :
    (Gen.LinopAdjoint.applyGen l).isSome =
      (match l with
       | .tile .. => false | .multiply .. => false | .ext .. => false
       | _ => true) := by
  cases l <;> rfl

theorem allLeaves_vstackList (P : Leaf α → Prop) (ax : Option Int) (es : List (Expr α)) (e : Expr α)
    (h : vstackList ax es = some e) (hes : ∀ x ∈ es, allLeaves P x) : allLeaves P e := by
  cases es with
  | nil => simp [vstackList] at h
  | cons e0 es =>
    simp only [vstackList, Option.some.injEq] at h
    subst h
    have h0 := hes e0 (List.mem_cons_self ..)
    have hr : ∀ x ∈ es, allLeaves P x := fun x hx => hes x (List.mem_cons_of_mem _ hx)
    clear hes
    induction es generalizing e0 with
    | nil => exact h0
    | cons x xs ih =>
      simp only [List.foldl_cons]
      exact ih (.vstack ax e0 x) ⟨h0, hr x (List.mem_cons_self ..)⟩
        (fun y hy => hr y (List.mem_cons_of_mem _ hy))

/-- **`FiniteDifference(ishape, axes)`** — the tree generated from the factory's source (per axis:
    `Reshape([1]+ishape) * (Identity - Circshift(ishape, [1], axes=[i]))`, stacked with `Vstack(axis=0)`) —
    has only leaves whose adjoint pairing is proved, for every shape with positive extents and every axes
    list: `adj_denote_leaves` applies to it (`finiteDifference_adjoint`). -/
theorem finiteDifference_leaves (ishape axes : List Int) (hsh : ∀ n ∈ ishape, 0 < n) (e : Expr α)
    (h : Gen.LinopAdjoint.finiteDifference (-1 : α) ishape axes = some e) : allLeaves LeafProved e := by
  unfold Gen.LinopAdjoint.finiteDifference at h
  refine allLeaves_vstackList LeafProved _ _ e h ?_
  intro x hx
  obtain ⟨i, _, rfl⟩ := List.mem_map.mp hx
  simp only [allLeaves, LeafProved, MulValid, true_and, and_true]
  refine ⟨⟨hsh, by simp⟩, fun n hn => le_of_lt (hsh n hn)⟩

/-- hence `FiniteDifference.H` is the true adjoint -/
theorem finiteDifference_adjoint (hreal : ∀ r, star (ofRat r) = ofRat r) (ishape axes : List Int)
    (hsh : ∀ n ∈ ishape, 0 < n) (e : Expr α)
    (h : Gen.LinopAdjoint.finiteDifference (-1 : α) ishape axes = some e) : AdjOK ofRat e :=
  adj_denote_leaves ofRat hreal e (finiteDifference_leaves ishape axes hsh e h)

/-- non-vacuity: the generated tree for a 2-D shape, both axes, denotes a `[2,2,3] × [2,3]` operator whose
    generated adjoint denotes too -/
example : ((Gen.LinopAdjoint.finiteDifference (-1 : ℤ) [2, 3] [0, 1]).bind fun e =>
    (denote star (fun r => r.num) e).map fun s => (s.osh, s.ish, s.E.length)) = some ([2, 2, 3], [2, 3], 24) := by
  decide +kernel
example : ((Gen.LinopAdjoint.finiteDifference (-1 : ℤ) [2, 3] [0, 1]).bind fun e =>
    (denote star (fun r => r.num) (Gen.LinopAdjoint.adjGen (oshOf (fun r => r.num)) e)).map
      fun s => (s.osh, s.ish)) = some ([2, 3], [2, 2, 3]) := by
  decide +kernel

end
end SigpyVerif.C01
