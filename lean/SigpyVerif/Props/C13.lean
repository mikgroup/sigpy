import SigpyVerif.Model.C13
import SigpyVerif.Lemmas.C13
/-
  C13 — Proximal-gradient and primal-dual solvers converge as their theory guarantees.

  All theorems are about the SAME definitions the driver executes (`gmStep`, `gmRun`, `pdStep`,
  `pdRescale` of Model/C13.lean, which only sequence the `Gen.C13.*` formulas regenerated from
  sigpy/alg.py on every run), instantiated at `S = P = D = ℝ`, `V = E`, `W = F` real inner-product
  spaces (a complex space is a real inner-product space with `Re⟨·,·⟩`, which is what the objective,
  the norms and the prox characterisation use), `sqrt = Real.sqrt`.
  Prox maps are abstract, given by their variational characterisation `IsProx`.

  Here: the step inequality, descent and rates of ISTA and FISTA; for PDHG the fixed points, the Fejér inequality of the
  coupled distance and the `1/N` bound on the update sizes, for scalar steps and for ARRAY-valued positive steps (a step is
  the operator it acts as, `StepOp`; prox in the `T⁻¹`-weighted inner product, `IsProxW`; step condition = the metric is
  PSD, `MetricPSD`, which `metricPSD_scalar` reduces to `tau*sigma*||A||^2 <= 1` and `metricPSD_pock_chambolle` proves for the
  diagonal-preconditioning rule the harness instances use); the rescaling of the accelerated steps.
  On top of this file, Props/C13Conv.lean: convergence of the ISTA and PDHG iterates in finite dimension (also for
  `tau*sigma*||A||^2 = 1`) and the ergodic primal-dual gap; Props/C13Accel.lean: the O(1/N^2) rates of the accelerated variant with
  scalar steps and `tau_0*sigma_0*||A||^2 <= 1`: for `gamma_primal > 0` of `||x_N - x*||^2`, for `gamma_dual > 0` of
  `(1 - tau_0*sigma_0*||A||^2) ||u_N - u*||^2`, which says something only when the step condition is strict.
  NOT proved: a rate of the dual iterate at `tau_0*sigma_0*||A||^2 = 1`; and (validated only by the search oracle on the real
  code) the accelerated rate for array-valued steps, convergence of the FISTA iterates.
  Only by correspondence: that the real classes compute what `gmStep`/`pdStep` compute (statement
  order, branch conditions, in-place updates of the caller's arrays, floating point).
-/
namespace SigpyVerif.C13
open RealInnerProductSpace

variable {E F : Type} [NormedAddCommGroup E] [InnerProductSpace ℝ E] [NormedAddCommGroup F] [InnerProductSpace ℝ F]

/-- `prox` computes the proximal map of `g` (variational characterisation) for every positive step -/
def ProxOf {E : Type} [NormedAddCommGroup E] [InnerProductSpace ℝ E] (g : E → ℝ) (prox : ℝ → E → E) : Prop := ∀ α v, 0 < α → IsProx g α v (prox α v)

/-- what `proxg=None` / `proxg=<Prox>` means for `GradientMethod`: no `g` at all, or its prox map -/
def ProxOpt (g : E → ℝ) : Option (ℝ → E → E) → Prop
  | some p => ProxOf g p
  | none => ∀ x, g x = 0

/-- `f` is convex with gradient `gf` -/
def ConvexGrad (f : E → ℝ) (gf : E → E) : Prop := ∀ y w, f y + ⟪gf y, w - y⟫ ≤ f w

/-- descent lemma for an `L`-smooth `f` -/
def Descent (f : E → ℝ) (gf : E → E) (L : ℝ) : Prop :=
  ∀ y p, f p ≤ f y + ⟪gf y, p - y⟫ + L / 2 * ‖p - y‖ ^ 2

/-- the new iterate of `GradientMethod._update` is the prox-gradient point of the base point
    (`x` when not accelerating, `z` when accelerating) -/
theorem gmStep_x_isProx (sq : ℝ → ℝ) (g : E → ℝ) (gf : E → E) (proxg : Option (ℝ → E → E)) (α : ℝ) (hα : 0 < α)
    (hg : ProxOpt g proxg) (acc : Bool) (s : GMState ℝ E) :
    IsProx g α ((if acc then s.z else s.x) - α • gf (if acc then s.z else s.x))
      (gmStep sq gf proxg α acc s).x := by
  have hx : (gmStep sq gf proxg α acc s).x =
      (match proxg with
        | some p => p α ((if acc then s.z else s.x) + (-α) • gf (if acc then s.z else s.x))
        | none => (if acc then s.z else s.x) + (-α) • gf (if acc then s.z else s.x)) := by
    cases acc <;> cases proxg <;> rfl
  rw [hx]
  have e : ∀ y : E, y + (-α) • gf y = y - α • gf y := by
    intro y; rw [neg_smul, sub_eq_add_neg]
  cases proxg with
  | some p => simp only [e]; exact hg α _ hα
  | none =>
    simp only [e]
    intro w
    rw [hg w, hg _]; simp

section gm
variable (sq : ℝ → ℝ) (f g : E → ℝ) (gf : E → E) (proxg : Option (ℝ → E → E)) (α L : ℝ)

/-- convexity of `f` is needed only between the base point of the update and `w` -/
theorem gmStep_ineq (hα : 0 < α) (hL : α * L ≤ 1) (hd : Descent f gf L) (hg : ProxOpt g proxg) (acc : Bool)
    (s : GMState ℝ E) (w : E)
    (hc : f (if acc then s.z else s.x) + ⟪gf (if acc then s.z else s.x), w - (if acc then s.z else s.x)⟫ ≤ f w) :
    2 * α * ((f (gmStep sq gf proxg α acc s).x + g (gmStep sq gf proxg α acc s).x) - (f w + g w))
      ≤ ‖(if acc then s.z else s.x) - w‖ ^ 2 - ‖(gmStep sq gf proxg α acc s).x - w‖ ^ 2 :=
  step_ineq f g gf α L hα hL _ w _ hc (hd _ _) (gmStep_x_isProx sq g gf proxg α hα hg acc s)

/-- `ista_step_ineq` — the fundamental prox-gradient inequality for one non-accelerated
    `GradientMethod.update()` with `α ≤ 1/L`: `F(x⁺) ≤ F(w) + (‖x-w‖² - ‖x⁺-w‖²)/(2α)` for EVERY comparison point `w`
    (`F = f + g`, `g = 0` when `proxg=None`). -/
theorem ista_step_ineq (hα : 0 < α) (hL : α * L ≤ 1) (hf : ConvexGrad f gf) (hd : Descent f gf L)
    (hg : ProxOpt g proxg) (s : GMState ℝ E) (w : E) :
    (f (gmStep sq gf proxg α false s).x + g (gmStep sq gf proxg α false s).x)
      ≤ (f w + g w) + 1 / (2 * α) * (‖s.x - w‖ ^ 2 - ‖(gmStep sq gf proxg α false s).x - w‖ ^ 2) := by
  have h : _ ≤ ‖s.x - w‖ ^ 2 - _ := gmStep_ineq sq f g gf proxg α L hα hL hd hg false s w (hf _ _)
  rw [← sub_le_iff_le_add', one_div, inv_mul_eq_div, le_div_iff₀ (by positivity)]
  linarith

/-- a non-accelerated update with ANY step `α > 0`: `(2 - αL) ‖x⁺ - x‖² ≤ 2α (F(x) - F(x⁺))` -/
theorem ista_decrease (hα : 0 < α) (hd : Descent f gf L) (hg : ProxOpt g proxg) (s : GMState ℝ E) :
    (2 - α * L) * ‖(gmStep sq gf proxg α false s).x - s.x‖ ^ 2
      ≤ 2 * α * ((f s.x + g s.x) - (f (gmStep sq gf proxg α false s).x + g (gmStep sq gf proxg α false s).x)) :=
  prox_grad_decrease f g gf α L hα _ _ (hd _ _) (gmStep_x_isProx sq g gf proxg α hα hg false s)

/-- with `α ≤ 1/L` the objective decreases by at least `‖x⁺ - x‖²/(2α)` -/
theorem ista_sufficient_decrease (hα : 0 < α) (hL : α * L ≤ 1) (hd : Descent f gf L)
    (hg : ProxOpt g proxg) (s : GMState ℝ E) :
    ‖(gmStep sq gf proxg α false s).x - s.x‖ ^ 2
      ≤ 2 * α * ((f s.x + g s.x) - (f (gmStep sq gf proxg α false s).x + g (gmStep sq gf proxg α false s).x)) := by
  linear_combination ista_decrease sq f g gf proxg α L hα hd hg s + ‖(gmStep sq gf proxg α false s).x - s.x‖ ^ 2 * hL

/-- `ista_descent` — with a step `α ≤ 1/L` a non-accelerated update never increases the composite objective
    (needs only the descent lemma, not convexity of `f`). -/
theorem ista_descent (hα : 0 < α) (hL : α * L ≤ 1) (hd : Descent f gf L)
    (hg : ProxOpt g proxg) (s : GMState ℝ E) :
    (f (gmStep sq gf proxg α false s).x + g (gmStep sq gf proxg α false s).x) ≤ f s.x + g s.x :=
  sub_nonneg.mp (nonneg_of_mul_nonneg_right
    ((sq_nonneg _).trans (ista_sufficient_decrease sq f g gf proxg α L hα hL hd hg s)) (by positivity))

/-- `ista_rate` — after `k ≥ 1` non-accelerated updates `F(x_k) - F(w) ≤ ‖x₀-w‖²/(2αk)` for every `w`
    (with `w = x*` and `α = 1/L` this is `L‖x₀-x*‖²/(2k)`). -/
theorem ista_rate (hα : 0 < α) (hL : α * L ≤ 1) (hf : ConvexGrad f gf) (hd : Descent f gf L)
    (hg : ProxOpt g proxg) (x0 w : E) (k : ℕ) (hk : 0 < k) :
    (f (gmRun sq gf proxg α false x0 k).x + g (gmRun sq gf proxg α false x0 k).x) - (f w + g w)
      ≤ ‖x0 - w‖ ^ 2 / (2 * α * k) :=
  descent_rate hα
    (fun n => (f (gmRun sq gf proxg α false x0 n).x + g (gmRun sq gf proxg α false x0 n).x) - (f w + g w))
    (fun n => ‖(gmRun sq gf proxg α false x0 n).x - w‖ ^ 2)
    (fun _ => gmStep_ineq sq f g gf proxg α L hα hL hd hg false _ w (hf _ _))
    (fun _ => sub_le_sub_right (ista_descent sq f g gf proxg α L hα hL hd hg _) _)
    (fun _ => sq_nonneg _) k hk
end gm


set_option linter.unusedTactic false in
set_option linter.unreachableTactic false in
set_option linter.unnecessarySeqFocus false in
/-- the generated momentum rule, up to ring normalisation of the radicand (so that a commuted or re-associated sum in
    the source does not alarm) -/
theorem gmT_real (t : ℝ) : Gen.C13.gmT Real.sqrt t = (1 + Real.sqrt (1 + 4 * (t * t))) / 2 := by
  simp only [Gen.C13.gmT, Nat.cast_one, Nat.cast_ofNat] <;> ring_nf

/-- `t_rule_ok` — the code's rule `t ← (1+√(1+4t²))/2` satisfies `t_{k+1}² - t_{k+1} = t_k²` over ℝ. -/
theorem t_rule_ok (t : ℝ) : (Gen.C13.gmT Real.sqrt t) ^ 2 - Gen.C13.gmT Real.sqrt t = t ^ 2 := by
  rw [gmT_real]; exact tnext_sq t

/-- the momentum scalar grows by at least 1/2 per update (so `t_k ≥ (k+1)/2`) -/
theorem t_rule_growth (t : ℝ) : t + 1 / 2 ≤ Gen.C13.gmT Real.sqrt t := by
  rw [gmT_real]; exact tnext_ge t

section fista
variable (f g : E → ℝ) (gf : E → E) (proxg : Option (ℝ → E → E)) (α L : ℝ)

/-- Lyapunov function of the accelerated method in terms of the state `(x, z, t)` the code keeps:
    with `t = t_{k+1}`, `t² - t = t_k²` and `t z - (t-1) x = t_k x_k - (t_k - 1) x_{k-1}`. -/
def fistaEnergy (w : E) (s : GMState ℝ E) : ℝ :=
  2 * α * (s.t ^ 2 - s.t) * ((f s.x + g s.x) - (f w + g w)) + ‖s.t • s.z - (s.t - 1) • s.x - w‖ ^ 2

/-- the `t` component of an accelerated update -/
theorem gmStep_acc_t (s : GMState ℝ E) :
    (gmStep Real.sqrt gf proxg α true s).t = Gen.C13.gmT Real.sqrt s.t := by
  cases proxg <;> rfl

/-- the `z` component of an accelerated update: extrapolation from the NEW iterate along `x⁺ - x` with
    coefficient `(t_old - 1)/t_new` -/
theorem gmStep_acc_z (s : GMState ℝ E) :
    (gmStep Real.sqrt gf proxg α true s).z =
      (gmStep Real.sqrt gf proxg α true s).x +
        ((s.t - 1) / Gen.C13.gmT Real.sqrt s.t) • ((gmStep Real.sqrt gf proxg α true s).x - s.x) := by
  cases proxg <;> simp [gmStep, Gen.C13.gmZ, Gen.C13.gmXOld]

/-- `fista_lyapunov` — one accelerated update does not increase the Lyapunov function
    `2α t_k² (F(x_k) - F(w)) + ‖t_k x_k - (t_k-1) x_{k-1} - w‖²` (for every `w`), and `t` grows by ≥ 1/2.
    Uses the generated momentum rule, extrapolation formula and prox call. -/
theorem fista_lyapunov (hα : 0 < α) (hL : α * L ≤ 1) (hf : ConvexGrad f gf) (hd : Descent f gf L)
    (hg : ProxOpt g proxg) (w : E) (s : GMState ℝ E) (ht : 1 ≤ s.t) :
    fistaEnergy f g α w (gmStep Real.sqrt gf proxg α true s) ≤ fistaEnergy f g α w s
      ∧ s.t + 1 / 2 ≤ (gmStep Real.sqrt gf proxg α true s).t := by
  have ht0 : 0 ≤ s.t := zero_le_one.trans ht
  have hgrow := t_rule_growth s.t
  have ht' : Gen.C13.gmT Real.sqrt s.t ≠ 0 := ((add_pos_of_nonneg_of_pos ht0 one_half_pos).trans_le hgrow).ne'
  refine ⟨?_, (gmStep_acc_t gf proxg α s).symm ▸ hgrow⟩
  have hvec : Gen.C13.gmT Real.sqrt s.t • (gmStep Real.sqrt gf proxg α true s).z
      - (Gen.C13.gmT Real.sqrt s.t - 1) • (gmStep Real.sqrt gf proxg α true s).x
      = s.t • (gmStep Real.sqrt gf proxg α true s).x - (s.t - 1) • s.x := by
    rw [gmStep_acc_z, smul_add, smul_smul, mul_div_cancel₀ _ ht']
    simp only [sub_smul, smul_sub, one_smul]; abel
  unfold fistaEnergy
  rw [gmStep_acc_t, hvec, t_rule_ok, norm_comb, norm_comb]
  -- `t (t - 1)` times the step inequality against `x` plus `t` times the one against `w`
  have hA : _ ≤ ‖s.z - s.x‖ ^ 2 - _ := gmStep_ineq Real.sqrt f g gf proxg α L hα hL hd hg true s s.x (hf _ _)
  have hB : _ ≤ ‖s.z - w‖ ^ 2 - _ := gmStep_ineq Real.sqrt f g gf proxg α L hα hL hd hg true s w (hf _ _)
  linear_combination mul_le_mul_of_nonneg_left hA (mul_nonneg ht0 (sub_nonneg.mpr ht))
    + mul_le_mul_of_nonneg_left hB ht0
/-- invariants of the accelerated run: `t ≥ (n+2)/2` after `n` updates and the Lyapunov function stays below
    its initial value `‖x₀ - w‖²` -/
theorem fista_invariants (hα : 0 < α) (hL : α * L ≤ 1) (hf : ConvexGrad f gf) (hd : Descent f gf L)
    (hg : ProxOpt g proxg) (x0 w : E) (n : ℕ) :
    ((n : ℝ) + 2) / 2 ≤ (gmRun Real.sqrt gf proxg α true x0 n).t ∧
      fistaEnergy f g α w (gmRun Real.sqrt gf proxg α true x0 n) ≤ ‖x0 - w‖ ^ 2 := by
  induction n with
  | zero =>
    constructor
    · simp [gmRun, gmInit]
    · simp [gmRun, gmInit, fistaEnergy]
  | succ n ih =>
    rw [gmRun]
    have hn : (0 : ℝ) ≤ n := Nat.cast_nonneg n
    have h := fista_lyapunov f g gf proxg α L hα hL hf hd hg w _ (le_trans (by linarith only [hn]) ih.1)
    have e : (((n + 1 : ℕ) : ℝ) + 2) / 2 = ((n : ℝ) + 2) / 2 + 1 / 2 := by push_cast; ring
    exact ⟨e ▸ (add_le_add_left ih.1 _).trans h.2, h.1.trans ih.2⟩

/-- `fista_rate` — after `k+1` accelerated updates `F(x_{k+1}) - F(w) ≤ 2‖x₀-w‖²/(α (k+2)²)` for every `w`
    (the statement's `2L‖x₀-x*‖²/(k+1)²` with `k+1` updates, `L := 1/α`). -/
theorem fista_rate (hα : 0 < α) (hL : α * L ≤ 1) (hf : ConvexGrad f gf) (hd : Descent f gf L)
    (hg : ProxOpt g proxg) (x0 w : E) (k : ℕ) :
    (f (gmRun Real.sqrt gf proxg α true x0 (k + 1)).x + g (gmRun Real.sqrt gf proxg α true x0 (k + 1)).x)
        - (f w + g w)
      ≤ 2 * ‖x0 - w‖ ^ 2 / (α * ((k : ℝ) + 2) ^ 2) := by
  have h0 := fista_invariants f g gf proxg α L hα hL hf hd hg x0 w k
  have h1 := fista_invariants f g gf proxg α L hα hL hf hd hg x0 w (k + 1)
  have hE := h1.2
  unfold fistaEnergy at hE
  rw [gmRun, gmStep_acc_t, t_rule_ok] at hE
  exact rate_of_energy hα (Nat.cast_nonneg k) h0.1 (sq_nonneg _) (sq_nonneg _) hE
end fista


section pd
variable (g : E → ℝ) (fc : F → ℝ) (proxg : ℝ → E → E) (proxfc : ℝ → F → F)

/-- dual half of `PrimalDualHybridGradient._update`: `u⁺ = proxfc(σ, u + σ A x_ext)` -/
theorem pdStep_u (A : E → F) (AH : F → E) (γp γd θ0 : ℝ) (s : PDState ℝ E F ℝ ℝ) :
    (pdStep Real.sqrt A AH proxfc proxg γp γd θ0 s).u = proxfc s.sigma (s.u + s.sigma • A s.x_ext) := rfl

/-- primal half: `x⁺ = proxg(τ, x - τ Aᴴ u⁺)` (with the NEW dual variable) -/
theorem pdStep_x (A : E → F) (AH : F → E) (γp γd θ0 : ℝ) (s : PDState ℝ E F ℝ ℝ) :
    (pdStep Real.sqrt A AH proxfc proxg γp γd θ0 s).x
      = proxg s.tau (s.x + s.tau • (-(AH (pdStep Real.sqrt A AH proxfc proxg γp γd θ0 s).u))) := by
  show proxg s.tau (s.x + (-s.tau) • _) = _
  rw [neg_smul, smul_neg]; rfl

/-- extrapolation: `x_ext⁺ = x⁺ + θ (x⁺ - x)` -/
theorem pdStep_x_ext (A : E → F) (AH : F → E) (γp γd θ0 : ℝ) (s : PDState ℝ E F ℝ ℝ) :
    (pdStep Real.sqrt A AH proxfc proxg γp γd θ0 s).x_ext
      = (pdStep Real.sqrt A AH proxfc proxg γp γd θ0 s).x
        + (pdRescale Real.sqrt γp γd θ0 s.tau s.sigma s.tau_min s.sigma_min).theta
          • ((pdStep Real.sqrt A AH proxfc proxg γp γd θ0 s).x - s.x) := rfl

theorem pdStep_u_isProx (hfc : ProxOf fc proxfc) (A : E → F) (AH : F → E) (γp γd θ0 : ℝ) (s : PDState ℝ E F ℝ ℝ)
    (hσ : 0 < s.sigma) :
    IsProx fc s.sigma (s.u + s.sigma • A s.x_ext) (pdStep Real.sqrt A AH proxfc proxg γp γd θ0 s).u :=
  pdStep_u proxg proxfc A AH γp γd θ0 s ▸ hfc s.sigma _ hσ

theorem pdStep_x_isProx (hg : ProxOf g proxg) (A : E → F) (AH : F → E) (γp γd θ0 : ℝ) (s : PDState ℝ E F ℝ ℝ)
    (hτ : 0 < s.tau) :
    IsProx g s.tau (s.x + s.tau • (-(AH (pdStep Real.sqrt A AH proxfc proxg γp γd θ0 s).u)))
      (pdStep Real.sqrt A AH proxfc proxg γp γd θ0 s).x :=
  pdStep_x proxg proxfc A AH γp γd θ0 s ▸ hg s.tau _ hτ

/-- saddle point in subgradient form: `-Aᴴu ∈ ∂g(x)` and `A x ∈ ∂f*(u)` -/
def IsSaddle (A : E → F) (AH : F → E) (x : E) (u : F) : Prop :=
  (∀ w, g x + ⟪-(AH u), w - x⟫ ≤ g w) ∧ (∀ v, fc u + ⟪A x, v - u⟫ ≤ fc v)

/-- `pdhg_fixed_point_iff_saddle` — for any `τ, σ > 0` and any acceleration setting, a state with `x_ext = x` is
    left unchanged (in `x`, `u`, `x_ext`) by `update()` iff `(x, u)` is a saddle point:
    `-Aᴴu ∈ ∂g(x)` and `A x ∈ ∂f*(u)`. -/
theorem pdhg_fixed_point_iff_saddle (A : E → F) (AH : F → E) (hg : ProxOf g proxg) (hfc : ProxOf fc proxfc)
    (γp γd θ0 : ℝ) (s : PDState ℝ E F ℝ ℝ) (hτ : 0 < s.tau) (hσ : 0 < s.sigma) (hext : s.x_ext = s.x) :
    ((pdStep Real.sqrt A AH proxfc proxg γp γd θ0 s).x = s.x ∧
      (pdStep Real.sqrt A AH proxfc proxg γp γd θ0 s).u = s.u ∧
      (pdStep Real.sqrt A AH proxfc proxg γp γd θ0 s).x_ext = s.x_ext)
      ↔ IsSaddle g fc A AH s.x s.u := by
  have hU := pdStep_u_isProx fc proxg proxfc hfc A AH γp γd θ0 s hσ
  have hX := pdStep_x_isProx g proxg proxfc hg A AH γp γd θ0 s hτ
  rw [hext] at hU ⊢
  exact pd_fixed_iff_saddleW (StepOp.scalar_pos hτ) (StepOp.scalar_pos hσ) ((isProxW_scalar _ _ _ _).mpr hU)
    ((isProxW_scalar _ _ _ _).mpr hX) (pdStep_x_ext proxg proxfc A AH γp γd θ0 s)
end pd

section fejer
variable (g : E → ℝ) (fc : F → ℝ) (proxg : ℝ → E → E) (proxfc : ℝ → F → F)

/-- `gamma_primal = gamma_dual = 0`: the step-size block leaves the steps alone and uses `self.theta` -/
theorem pdRescale_const (θ0 τ σ tm sm : ℝ) :
    (pdRescale Real.sqrt 0 0 θ0 τ σ tm sm : Rescale ℝ ℝ ℝ) = ⟨θ0, τ, σ, tm, sm⟩ := by
  simp [pdRescale, Gen.C13.pdThetaElse]

/-- constant steps when not accelerating -/
theorem pdStep_const_steps (A : E → F) (AH : F → E) (θ0 : ℝ) (s : PDState ℝ E F ℝ ℝ) :
    (pdStep Real.sqrt A AH proxfc proxg 0 0 θ0 s).tau = s.tau ∧
    (pdStep Real.sqrt A AH proxfc proxg 0 0 θ0 s).sigma = s.sigma := by
  constructor <;> simp [pdStep, pdRescale_const]

/-- `pdhg_fejer` — constant scalar steps, `θ = 1`: for two consecutive updates `s → s₁ → s₂` and any saddle point
    `(x*, u*)`, the coupled distance `D(a,b) = ‖a‖²/τ - 2⟨A a, b⟩ + ‖b‖²/σ` evaluated on the pair the algorithm couples
    (`x` before the primal step, `u` after the dual step) satisfies
    `D(x₁-x*, u₂-u*) + D(x₁-x, u₂-u₁) ≤ D(x-x*, u₁-u*)` (proximal-point form; no step condition needed). -/
theorem pdhg_fejer (A : E →ₗ[ℝ] F) (AH : F → E) (hadj : ∀ x u, ⟪A x, u⟫ = ⟪x, AH u⟫)
    (hg : ProxOf g proxg) (hfc : ProxOf fc proxfc)
    (s : PDState ℝ E F ℝ ℝ) (hτ : 0 < s.tau) (hσ : 0 < s.sigma) (xs : E) (us : F)
    (hs : IsSaddle g fc A AH xs us) :
    coupled A s.tau s.sigma
        ((pdStep Real.sqrt A AH proxfc proxg 0 0 1 s).x - xs)
        ((pdStep Real.sqrt A AH proxfc proxg 0 0 1 (pdStep Real.sqrt A AH proxfc proxg 0 0 1 s)).u - us)
      + coupled A s.tau s.sigma
        ((pdStep Real.sqrt A AH proxfc proxg 0 0 1 s).x - s.x)
        ((pdStep Real.sqrt A AH proxfc proxg 0 0 1 (pdStep Real.sqrt A AH proxfc proxg 0 0 1 s)).u
          - (pdStep Real.sqrt A AH proxfc proxg 0 0 1 s).u)
      ≤ coupled A s.tau s.sigma (s.x - xs) ((pdStep Real.sqrt A AH proxfc proxg 0 0 1 s).u - us) := by
  have hc := pdStep_const_steps proxg proxfc A AH 1 s
  have hX := pdStep_x_isProx g proxg proxfc hg A AH 0 0 1 s hτ
  have hU := pdStep_u_isProx fc proxg proxfc hfc A AH 0 0 1 _ (lt_of_lt_of_eq hσ hc.2.symm)
  rw [hc.2, pdStep_x_ext, pdRescale_const, one_smul] at hU
  have h := fejer_stepW A AH hadj (StepOp.scalar_pos hτ) (StepOp.scalar_pos hσ) ((isProxW_scalar _ _ _ _).mpr hX)
    ((isProxW_scalar _ _ _ _).mpr hU) hs.1 hs.2
  rwa [coupledW_scalar, coupledW_scalar, coupledW_scalar] at h

/-- with `τ σ ‖A‖² ≤ 1` the metric is positive semidefinite, so the coupled distance to a saddle point never
    increases -/
theorem pdhg_fejer_monotone (A : E →ₗ[ℝ] F) (AH : F → E) (hadj : ∀ x u, ⟪A x, u⟫ = ⟪x, AH u⟫)
    (hg : ProxOf g proxg) (hfc : ProxOf fc proxfc) (Lop : ℝ) (hA : ∀ x, ‖A x‖ ≤ Lop * ‖x‖)
    (s : PDState ℝ E F ℝ ℝ) (hτ : 0 < s.tau) (hσ : 0 < s.sigma) (hstep : s.tau * s.sigma * Lop ^ 2 ≤ 1)
    (xs : E) (us : F) (hs : IsSaddle g fc A AH xs us) :
    coupled A s.tau s.sigma
        ((pdStep Real.sqrt A AH proxfc proxg 0 0 1 s).x - xs)
        ((pdStep Real.sqrt A AH proxfc proxg 0 0 1 (pdStep Real.sqrt A AH proxfc proxg 0 0 1 s)).u - us)
      ≤ coupled A s.tau s.sigma (s.x - xs) ((pdStep Real.sqrt A AH proxfc proxg 0 0 1 s).u - us) :=
  (le_add_of_nonneg_right (coupled_nonneg s.tau s.sigma Lop hτ hσ hstep A hA _ _)).trans
    (pdhg_fejer g fc proxg proxfc A AH hadj hg hfc s hτ hσ xs us hs)
end fejer

/-! ## array-valued (diagonal) steps

`tau` / `sigma` may be arrays: `util.axpy(self.x, -self.tau, ·)` multiplies elementwise and the prox is
called with the array.  The SAME `pdStep` is instantiated at `P = StepOp E`, `D = StepOp F` (a step is
the operator it acts as, `Lemmas/C13.lean`); `StepOp.Pos` says "every entry is positive"; the prox is
characterised in the `T⁻¹`-weighted inner product (`IsProxW`).  A scalar step is `StepOp.scalar τ`. -/
section diag
variable (g : E → ℝ) (fc : F → ℝ) (proxg : StepOp E → E → E) (proxfc : StepOp F → F → F)

/-- `prox` computes the proximal map of `g` in the metric of every positive (array) step -/
def ProxOfW {E : Type} [NormedAddCommGroup E] [InnerProductSpace ℝ E] (g : E → ℝ) (prox : StepOp E → E → E) : Prop :=
  ∀ T v, T.Pos → IsProxW g T v (prox T v)

/-- the metric of the steps is positive semidefinite: `2|⟨A x, u⟩| ≤ ⟨T⁻¹x, x⟩ + ⟨Σ⁻¹u, u⟩` for all `x, u`
    (equivalently `‖Σ^{1/2} A T^{1/2}‖ ≤ 1`; for scalar steps `τσ‖A‖² ≤ 1`, see `metricPSD_scalar`) -/
def MetricPSD (A : E → F) (T : StepOp E) (Sg : StepOp F) : Prop :=
  ∀ x u, 2 * |⟪A x, u⟫| ≤ ⟪T.inv x, x⟫ + ⟪Sg.inv u, u⟫

theorem MetricPSD.coupled_nonneg {A : E → F} {T : StepOp E} {Sg : StepOp F} (h : MetricPSD A T Sg) (a : E) (b : F) :
    0 ≤ coupledW A T Sg a b :=
  coupledW_nonneg (h a b)

/-- for scalar steps `MetricPSD` is the familiar condition `τ σ ‖A‖² ≤ 1` -/
theorem metricPSD_scalar (A : E → F) (τ σ Lop : ℝ) (hτ : 0 < τ) (hσ : 0 < σ) (hstep : τ * σ * Lop ^ 2 ≤ 1)
    (hA : ∀ x, ‖A x‖ ≤ Lop * ‖x‖) : MetricPSD A (StepOp.scalar τ) (StepOp.scalar σ) := by
  intro x u
  rw [scalar_inv_inner, scalar_inv_inner]
  exact metric_psd τ σ Lop hτ hσ hstep x u (A x) (hA x)

theorem pdStepW_u (A : E → F) (AH : F → E) (γp γd θ0 : ℝ) (s : PDState ℝ E F (StepOp E) (StepOp F)) :
    (pdStep Real.sqrt A AH proxfc proxg γp γd θ0 s).u = proxfc s.sigma (s.u + s.sigma.op (A s.x_ext)) := rfl

theorem pdStepW_x (A : E → F) (AH : F → E) (γp γd θ0 : ℝ) (s : PDState ℝ E F (StepOp E) (StepOp F)) :
    (pdStep Real.sqrt A AH proxfc proxg γp γd θ0 s).x
      = proxg s.tau (s.x + s.tau.op (-(AH (pdStep Real.sqrt A AH proxfc proxg γp γd θ0 s).u))) := by
  show proxg s.tau (s.x + (-s.tau) • _) = _
  rw [StepOp.neg_act, LinearMap.map_neg]; rfl

theorem pdStepW_x_ext (A : E → F) (AH : F → E) (γp γd θ0 : ℝ) (s : PDState ℝ E F (StepOp E) (StepOp F)) :
    (pdStep Real.sqrt A AH proxfc proxg γp γd θ0 s).x_ext
      = (pdStep Real.sqrt A AH proxfc proxg γp γd θ0 s).x
        + (pdRescale Real.sqrt γp γd θ0 s.tau s.sigma s.tau_min s.sigma_min).theta
          • ((pdStep Real.sqrt A AH proxfc proxg γp γd θ0 s).x - s.x) := rfl

theorem pdStepW_u_isProxW (hfc : ProxOfW fc proxfc) (A : E → F) (AH : F → E) (γp γd θ0 : ℝ)
    (s : PDState ℝ E F (StepOp E) (StepOp F)) (hσ : s.sigma.Pos) :
    IsProxW fc s.sigma (s.u + s.sigma.op (A s.x_ext)) (pdStep Real.sqrt A AH proxfc proxg γp γd θ0 s).u :=
  pdStepW_u proxg proxfc A AH γp γd θ0 s ▸ hfc s.sigma _ hσ

theorem pdStepW_x_isProxW (hg : ProxOfW g proxg) (A : E → F) (AH : F → E) (γp γd θ0 : ℝ)
    (s : PDState ℝ E F (StepOp E) (StepOp F)) (hτ : s.tau.Pos) :
    IsProxW g s.tau (s.x + s.tau.op (-(AH (pdStep Real.sqrt A AH proxfc proxg γp γd θ0 s).u)))
      (pdStep Real.sqrt A AH proxfc proxg γp γd θ0 s).x :=
  pdStepW_x proxg proxfc A AH γp γd θ0 s ▸ hg s.tau _ hτ

/-- `pdhg_fixed_point_iff_saddle_diag` — array-valued positive steps, any acceleration setting: a state with
    `x_ext = x` is left unchanged (in `x`, `u`, `x_ext`) by `update()` iff `(x, u)` is a saddle point. -/
theorem pdhg_fixed_point_iff_saddle_diag (A : E → F) (AH : F → E) (hg : ProxOfW g proxg) (hfc : ProxOfW fc proxfc)
    (γp γd θ0 : ℝ) (s : PDState ℝ E F (StepOp E) (StepOp F)) (hτ : s.tau.Pos) (hσ : s.sigma.Pos)
    (hext : s.x_ext = s.x) :
    ((pdStep Real.sqrt A AH proxfc proxg γp γd θ0 s).x = s.x ∧
      (pdStep Real.sqrt A AH proxfc proxg γp γd θ0 s).u = s.u ∧
      (pdStep Real.sqrt A AH proxfc proxg γp γd θ0 s).x_ext = s.x_ext)
      ↔ IsSaddle g fc A AH s.x s.u := by
  have hU := pdStepW_u_isProxW fc proxg proxfc hfc A AH γp γd θ0 s hσ
  have hX := pdStepW_x_isProxW g proxg proxfc hg A AH γp γd θ0 s hτ
  rw [hext] at hU ⊢
  exact pd_fixed_iff_saddleW hτ hσ hU hX (pdStepW_x_ext proxg proxfc A AH γp γd θ0 s)

theorem pdRescaleW_const (θ0 : ℝ) (τ : StepOp E) (σ : StepOp F) (tm sm : ℝ) :
    (pdRescale Real.sqrt 0 0 θ0 τ σ tm sm : Rescale ℝ (StepOp E) (StepOp F)) = ⟨θ0, τ, σ, tm, sm⟩ := by
  simp [pdRescale, Gen.C13.pdThetaElse]

theorem pdStepW_const_steps (A : E → F) (AH : F → E) (θ0 : ℝ) (s : PDState ℝ E F (StepOp E) (StepOp F)) :
    (pdStep Real.sqrt A AH proxfc proxg 0 0 θ0 s).tau = s.tau ∧
    (pdStep Real.sqrt A AH proxfc proxg 0 0 θ0 s).sigma = s.sigma := by
  constructor <;> simp [pdStep, pdRescaleW_const]

theorem pdStepW_x_ext_one (A : E → F) (AH : F → E) (s : PDState ℝ E F (StepOp E) (StepOp F)) :
    (pdStep Real.sqrt A AH proxfc proxg 0 0 1 s).x_ext
      = (pdStep Real.sqrt A AH proxfc proxg 0 0 1 s).x + ((pdStep Real.sqrt A AH proxfc proxg 0 0 1 s).x - s.x) := by
  rw [pdStepW_x_ext, pdRescaleW_const, one_smul]

/-- `pdhg_fejer_diag` — constant ARRAY-valued positive steps `T = diag(τ_i)`, `Σ = diag(σ_j)`, `θ = 1`: for two
    consecutive updates `s → s₁ → s₂` and any saddle point `(x*, u*)`, with
    `D(a,b) = ⟨T⁻¹a, a⟩ - 2⟨A a, b⟩ + ⟨Σ⁻¹b, b⟩`:
    `D(x₁-x*, u₂-u*) + D(x₁-x, u₂-u₁) ≤ D(x-x*, u₁-u*)`. -/
theorem pdhg_fejer_diag (A : E →ₗ[ℝ] F) (AH : F → E) (hadj : ∀ x u, ⟪A x, u⟫ = ⟪x, AH u⟫)
    (hg : ProxOfW g proxg) (hfc : ProxOfW fc proxfc)
    (s : PDState ℝ E F (StepOp E) (StepOp F)) (hτ : s.tau.Pos) (hσ : s.sigma.Pos) (xs : E) (us : F)
    (hs : IsSaddle g fc A AH xs us) :
    coupledW A s.tau s.sigma
        ((pdStep Real.sqrt A AH proxfc proxg 0 0 1 s).x - xs)
        ((pdStep Real.sqrt A AH proxfc proxg 0 0 1 (pdStep Real.sqrt A AH proxfc proxg 0 0 1 s)).u - us)
      + coupledW A s.tau s.sigma
        ((pdStep Real.sqrt A AH proxfc proxg 0 0 1 s).x - s.x)
        ((pdStep Real.sqrt A AH proxfc proxg 0 0 1 (pdStep Real.sqrt A AH proxfc proxg 0 0 1 s)).u
          - (pdStep Real.sqrt A AH proxfc proxg 0 0 1 s).u)
      ≤ coupledW A s.tau s.sigma (s.x - xs) ((pdStep Real.sqrt A AH proxfc proxg 0 0 1 s).u - us) := by
  have hc := pdStepW_const_steps proxg proxfc A AH 1 s
  have hX := pdStepW_x_isProxW g proxg proxfc hg A AH 0 0 1 s hτ
  have hU := pdStepW_u_isProxW fc proxg proxfc hfc A AH 0 0 1 _ ((congrArg StepOp.Pos hc.2).mpr hσ)
  rw [hc.2, pdStepW_x_ext_one] at hU
  exact fejer_stepW A AH hadj hτ hσ hX hU hs.1 hs.2

/-- `pdhg_fejer_diag_monotone` — if moreover the metric of the steps is positive semidefinite
    (`‖Σ^{1/2} A T^{1/2}‖ ≤ 1`), the coupled distance to every saddle point never increases. -/
theorem pdhg_fejer_diag_monotone (A : E →ₗ[ℝ] F) (AH : F → E) (hadj : ∀ x u, ⟪A x, u⟫ = ⟪x, AH u⟫)
    (hg : ProxOfW g proxg) (hfc : ProxOfW fc proxfc)
    (s : PDState ℝ E F (StepOp E) (StepOp F)) (hτ : s.tau.Pos) (hσ : s.sigma.Pos)
    (hM : MetricPSD A s.tau s.sigma) (xs : E) (us : F) (hs : IsSaddle g fc A AH xs us) :
    coupledW A s.tau s.sigma
        ((pdStep Real.sqrt A AH proxfc proxg 0 0 1 s).x - xs)
        ((pdStep Real.sqrt A AH proxfc proxg 0 0 1 (pdStep Real.sqrt A AH proxfc proxg 0 0 1 s)).u - us)
      ≤ coupledW A s.tau s.sigma (s.x - xs) ((pdStep Real.sqrt A AH proxfc proxg 0 0 1 s).u - us) :=
  (le_add_of_nonneg_right (hM.coupled_nonneg _ _)).trans
    (pdhg_fejer_diag g fc proxg proxfc A AH hadj hg hfc s hτ hσ xs us hs)

/-- the steps stay what they were along a non-accelerated run -/
theorem pdRunW_const_steps (A : E → F) (AH : F → E) (θ0 : ℝ) (s0 : PDState ℝ E F (StepOp E) (StepOp F)) (k : ℕ) :
    (pdRun Real.sqrt A AH proxfc proxg 0 0 θ0 s0 k).tau = s0.tau ∧
    (pdRun Real.sqrt A AH proxfc proxg 0 0 θ0 s0 k).sigma = s0.sigma := by
  induction k with
  | zero => exact ⟨rfl, rfl⟩
  | succ k ih =>
    exact ⟨(pdStepW_const_steps proxg proxfc A AH θ0 _).1.trans ih.1,
      (pdStepW_const_steps proxg proxfc A AH θ0 _).2.trans ih.2⟩

/-- Fejér distance of the run after `k` updates to the saddle point `(x*, u*)`:
    `D_k = D(x_k - x*, u_{k+1} - u*)` -/
noncomputable def fejerDist (A : E → F) (AH : F → E) (s0 : PDState ℝ E F (StepOp E) (StepOp F)) (xs : E) (us : F) (k : ℕ) : ℝ :=
  coupledW A s0.tau s0.sigma ((pdRun Real.sqrt A AH proxfc proxg 0 0 1 s0 k).x - xs)
    ((pdRun Real.sqrt A AH proxfc proxg 0 0 1 s0 (k + 1)).u - us)

/-- size of update `k+1` in the metric of the steps: `R_k = D(x_{k+1} - x_k, u_{k+2} - u_{k+1})`; it is `0` iff
    (for a positive definite metric) the update did not move the iterate, i.e. iff the iterate is a saddle point -/
noncomputable def fejerMove (A : E → F) (AH : F → E) (s0 : PDState ℝ E F (StepOp E) (StepOp F)) (k : ℕ) : ℝ :=
  coupledW A s0.tau s0.sigma
    ((pdRun Real.sqrt A AH proxfc proxg 0 0 1 s0 (k + 1)).x - (pdRun Real.sqrt A AH proxfc proxg 0 0 1 s0 k).x)
    ((pdRun Real.sqrt A AH proxfc proxg 0 0 1 s0 (k + 2)).u - (pdRun Real.sqrt A AH proxfc proxg 0 0 1 s0 (k + 1)).u)

/-- `pdhg_fejer_run_diag` — the one-step inequality along the whole run: `D_{k+1} + R_k ≤ D_k`. -/
theorem pdhg_fejer_run_diag (A : E →ₗ[ℝ] F) (AH : F → E) (hadj : ∀ x u, ⟪A x, u⟫ = ⟪x, AH u⟫)
    (hg : ProxOfW g proxg) (hfc : ProxOfW fc proxfc)
    (s0 : PDState ℝ E F (StepOp E) (StepOp F)) (hτ : s0.tau.Pos) (hσ : s0.sigma.Pos) (xs : E) (us : F)
    (hs : IsSaddle g fc A AH xs us) (k : ℕ) :
    fejerDist proxg proxfc A AH s0 xs us (k + 1) + fejerMove proxg proxfc A AH s0 k
      ≤ fejerDist proxg proxfc A AH s0 xs us k := by
  have hc := pdRunW_const_steps proxg proxfc A AH 1 s0 k
  have h := pdhg_fejer_diag g fc proxg proxfc A AH hadj hg hfc _ ((congrArg StepOp.Pos hc.1).mpr hτ)
    ((congrArg StepOp.Pos hc.2).mpr hσ) xs us hs
  rw [hc.1, hc.2] at h
  exact h

/-- `pdhg_residual_rate_partial` — constant array-valued (or scalar) positive steps with a positive semidefinite
    metric, `θ = 1`, any saddle point `(x*, u*)`: the Fejér distances are non-negative and non-increasing, the
    squared update sizes are summable with `D_N + Σ_{k<N} R_k ≤ D_0`, and hence among the first `N` updates there
    is one with `R_j ≤ D_0/N`: the residual of the saddle-point inclusion (the very quantity `resid` measures) goes
    to zero at rate `O(1/N)`.
    This is asymptotic regularity; that the iterates converge to a saddle point (finite dimension, Opial's compactness
    argument on top of this) is `pdhg_iterates_converge` of Props/C13Conv.lean. -/
theorem pdhg_residual_rate_partial (A : E →ₗ[ℝ] F) (AH : F → E) (hadj : ∀ x u, ⟪A x, u⟫ = ⟪x, AH u⟫)
    (hg : ProxOfW g proxg) (hfc : ProxOfW fc proxfc)
    (s0 : PDState ℝ E F (StepOp E) (StepOp F)) (hτ : s0.tau.Pos) (hσ : s0.sigma.Pos)
    (hM : MetricPSD A s0.tau s0.sigma) (xs : E) (us : F) (hs : IsSaddle g fc A AH xs us) (N : ℕ) :
    (∀ k, 0 ≤ fejerMove proxg proxfc A AH s0 k) ∧
    (∀ k, fejerDist proxg proxfc A AH s0 xs us (k + 1) ≤ fejerDist proxg proxfc A AH s0 xs us k) ∧
    fejerDist proxg proxfc A AH s0 xs us N + ∑ k ∈ Finset.range N, fejerMove proxg proxfc A AH s0 k
      ≤ fejerDist proxg proxfc A AH s0 xs us 0 ∧
    (0 < N → ∃ j, j < N ∧ fejerMove proxg proxfc A AH s0 j ≤ fejerDist proxg proxfc A AH s0 xs us 0 / N) := by
  have hstep := pdhg_fejer_run_diag g fc proxg proxfc A AH hadj hg hfc s0 hτ hσ xs us hs
  have hR : ∀ k, 0 ≤ fejerMove proxg proxfc A AH s0 k := fun k => hM.coupled_nonneg _ _
  have hD : ∀ k, 0 ≤ fejerDist proxg proxfc A AH s0 xs us k := fun k => hM.coupled_nonneg _ _
  refine ⟨hR, fun k => by linarith [hstep k, hR k], fejer_sum_le _ _ hstep N, fun hN => fejer_min_le _ _ hstep hD N hN⟩
end diag

/-- `metricPSD_pock_chambolle` — the metric condition for the array steps the harness (and Pock–Chambolle 2011,
    Lemma 2) uses on a real matrix `M`: if `M_ij² ≤ p_ij q_ij` with `p, q ≥ 0` (`p = |M|^{2-α}`, `q = |M|^α`),
    `τ_j Σ_i p_ij ≤ 1` and `σ_i Σ_j q_ij ≤ 1`, then `2|⟨M x, u⟩| ≤ Σ_j x_j²/τ_j + Σ_i u_i²/σ_i`. -/
theorem metricPSD_pock_chambolle {m n : ℕ} (M : Fin m → Fin n → ℝ) (τ : Fin n → ℝ) (σ : Fin m → ℝ)
    (hτ : ∀ j, 0 < τ j) (hσ : ∀ i, 0 < σ i)
    (p q : Fin m → Fin n → ℝ) (hp : ∀ i j, 0 ≤ p i j) (hq : ∀ i j, 0 ≤ q i j)
    (hpq : ∀ i j, (M i j) ^ 2 ≤ p i j * q i j)
    (hcol : ∀ j, τ j * ∑ i, p i j ≤ 1) (hrow : ∀ i, σ i * ∑ j, q i j ≤ 1) :
    MetricPSD (matOp M) (StepOp.diag τ) (StepOp.diag σ) := by
  intro x u
  rw [diag_inv_inner, diag_inv_inner, matOp_inner]
  apply pock_chambolle_sum M (fun j => (τ j)⁻¹) (fun i => (σ i)⁻¹) p q hp hq hpq
  · intro j
    rw [← one_div, le_div_iff₀ (hτ j), mul_comm]; exact hcol j
  · intro i
    rw [← one_div, le_div_iff₀ (hσ i), mul_comm]; exact hrow i

/-- the rule with `α = 1`: `τ_j = 1/Σ_i |M_ij|`, `σ_i = 1/Σ_j |M_ij|` (the steps of the exact correspondence stream) -/
theorem metricPSD_abs_sums {m n : ℕ} (M : Fin m → Fin n → ℝ) (τ : Fin n → ℝ) (σ : Fin m → ℝ)
    (hτ : ∀ j, 0 < τ j) (hσ : ∀ i, 0 < σ i)
    (hcol : ∀ j, τ j * ∑ i, |M i j| ≤ 1) (hrow : ∀ i, σ i * ∑ j, |M i j| ≤ 1) :
    MetricPSD (matOp M) (StepOp.diag τ) (StepOp.diag σ) :=
  metricPSD_pock_chambolle M τ σ hτ hσ (fun i j => |M i j|) (fun i j => |M i j|) (fun _ _ => abs_nonneg _)
    (fun _ _ => abs_nonneg _) (fun i j => by rw [abs_mul_abs_self, sq]) hcol hrow

section accel

set_option linter.unusedTactic false in
set_option linter.unreachableTactic false in
set_option linter.unnecessarySeqFocus false in
/-- the generated `theta` of the `gamma_primal > 0` branch, up to ring normalisation of the radicand (so that a
    commuted or re-associated sum in the source does not alarm) -/
theorem pdThetaP_eq (γ τ : ℝ) : Gen.C13.pdThetaP Real.sqrt γ τ = 1 / Real.sqrt (1 + 2 * γ * τ) := by
  simp only [Gen.C13.pdThetaP, Nat.cast_one, Nat.cast_ofNat] <;> ring_nf

set_option linter.unusedTactic false in
set_option linter.unreachableTactic false in
set_option linter.unnecessarySeqFocus false in
/-- the same for the `gamma_dual > 0` branch -/
theorem pdThetaD_eq (γ σ : ℝ) : Gen.C13.pdThetaD Real.sqrt γ σ = 1 / Real.sqrt (1 + 2 * γ * σ) := by
  simp only [Gen.C13.pdThetaD, Nat.cast_one, Nat.cast_ofNat] <;> ring_nf

/-- the step-size block for `gamma_primal = γ > 0`, `gamma_dual = 0` and `tau_min = tau` (a scalar `tau`), as one record:
    `θ = 1/√(1+2γτ)`, `tau *= θ`, `sigma /= θ`, `tau_min` follows `tau` -/
theorem pdRescale_primal (γ θ0 τ σ sm : ℝ) (hγ : 0 < γ) :
    (pdRescale Real.sqrt γ 0 θ0 τ σ τ sm : Rescale ℝ ℝ ℝ)
      = ⟨1 / Real.sqrt (1 + 2 * γ * τ), (1 / Real.sqrt (1 + 2 * γ * τ)) * τ, σ / (1 / Real.sqrt (1 + 2 * γ * τ)),
          τ * (1 / Real.sqrt (1 + 2 * γ * τ)), sm⟩ := by
  simp [pdRescale, hγ, pdThetaP_eq, Gen.C13.pdTauP, Gen.C13.pdSigmaP, Gen.C13.pdTauMinP]

/-- the mirrored block for `gamma_primal = 0`, `gamma_dual = γ > 0`, `sigma_min = sigma` -/
theorem pdRescale_dual (γ θ0 τ σ tm : ℝ) (hγ : 0 < γ) :
    (pdRescale Real.sqrt 0 γ θ0 τ σ tm σ : Rescale ℝ ℝ ℝ)
      = ⟨1 / Real.sqrt (1 + 2 * γ * σ), τ / (1 / Real.sqrt (1 + 2 * γ * σ)), (1 / Real.sqrt (1 + 2 * γ * σ)) * σ,
          tm, σ * (1 / Real.sqrt (1 + 2 * γ * σ))⟩ := by
  simp [pdRescale, hγ, hγ.ne', pdThetaD_eq, Gen.C13.pdTauD, Gen.C13.pdSigmaD, Gen.C13.pdSigmaMinD]

/-- `gamma_primal > 0, gamma_dual = 0`: Chambolle–Pock Alg. 2 -/
theorem pdhg_accel_steps_primal (γ θ0 τ σ sm : ℝ) (hγ : 0 < γ) (hτ : 0 < τ) :
    (pdRescale Real.sqrt γ 0 θ0 τ σ τ sm : Rescale ℝ ℝ ℝ).theta = 1 / Real.sqrt (1 + 2 * γ * τ) ∧
    0 < (pdRescale Real.sqrt γ 0 θ0 τ σ τ sm : Rescale ℝ ℝ ℝ).theta ∧
    (pdRescale Real.sqrt γ 0 θ0 τ σ τ sm : Rescale ℝ ℝ ℝ).theta < 1 ∧
    (pdRescale Real.sqrt γ 0 θ0 τ σ τ sm : Rescale ℝ ℝ ℝ).tau
      = (pdRescale Real.sqrt γ 0 θ0 τ σ τ sm : Rescale ℝ ℝ ℝ).theta * τ ∧
    (pdRescale Real.sqrt γ 0 θ0 τ σ τ sm : Rescale ℝ ℝ ℝ).sigma
      = σ / (pdRescale Real.sqrt γ 0 θ0 τ σ τ sm : Rescale ℝ ℝ ℝ).theta ∧
    (pdRescale Real.sqrt γ 0 θ0 τ σ τ sm : Rescale ℝ ℝ ℝ).tau
      * (pdRescale Real.sqrt γ 0 θ0 τ σ τ sm : Rescale ℝ ℝ ℝ).sigma = τ * σ ∧
    (pdRescale Real.sqrt γ 0 θ0 τ σ τ sm : Rescale ℝ ℝ ℝ).tau_min
      = (pdRescale Real.sqrt γ 0 θ0 τ σ τ sm : Rescale ℝ ℝ ℝ).tau ∧
    (pdRescale Real.sqrt γ 0 θ0 τ σ τ sm : Rescale ℝ ℝ ℝ).sigma_min = sm := by
  rw [pdRescale_primal γ θ0 τ σ sm hγ]
  obtain ⟨h0, h1⟩ := theta_pos_lt_one (2 * γ * τ) (by positivity)
  exact ⟨rfl, h0, h1, rfl, rfl, rescale_prod h0.ne' τ σ, mul_comm _ _, rfl⟩

/-- `gamma_primal = 0, gamma_dual > 0`: the mirrored rescaling -/
theorem pdhg_accel_steps_dual (γ θ0 τ σ tm : ℝ) (hγ : 0 < γ) (hσ : 0 < σ) :
    (pdRescale Real.sqrt 0 γ θ0 τ σ tm σ : Rescale ℝ ℝ ℝ).theta = 1 / Real.sqrt (1 + 2 * γ * σ) ∧
    0 < (pdRescale Real.sqrt 0 γ θ0 τ σ tm σ : Rescale ℝ ℝ ℝ).theta ∧
    (pdRescale Real.sqrt 0 γ θ0 τ σ tm σ : Rescale ℝ ℝ ℝ).theta < 1 ∧
    (pdRescale Real.sqrt 0 γ θ0 τ σ tm σ : Rescale ℝ ℝ ℝ).sigma
      = (pdRescale Real.sqrt 0 γ θ0 τ σ tm σ : Rescale ℝ ℝ ℝ).theta * σ ∧
    (pdRescale Real.sqrt 0 γ θ0 τ σ tm σ : Rescale ℝ ℝ ℝ).tau
      = τ / (pdRescale Real.sqrt 0 γ θ0 τ σ tm σ : Rescale ℝ ℝ ℝ).theta ∧
    (pdRescale Real.sqrt 0 γ θ0 τ σ tm σ : Rescale ℝ ℝ ℝ).tau
      * (pdRescale Real.sqrt 0 γ θ0 τ σ tm σ : Rescale ℝ ℝ ℝ).sigma = τ * σ ∧
    (pdRescale Real.sqrt 0 γ θ0 τ σ tm σ : Rescale ℝ ℝ ℝ).sigma_min
      = (pdRescale Real.sqrt 0 γ θ0 τ σ tm σ : Rescale ℝ ℝ ℝ).sigma ∧
    (pdRescale Real.sqrt 0 γ θ0 τ σ tm σ : Rescale ℝ ℝ ℝ).tau_min = tm := by
  rw [pdRescale_dual γ θ0 τ σ tm hγ]
  obtain ⟨h0, h1⟩ := theta_pos_lt_one (2 * γ * σ) (by positivity)
  exact ⟨rfl, h0, h1, rfl, rfl, (mul_comm _ _).trans ((rescale_prod h0.ne' σ τ).trans (mul_comm σ τ)),
    mul_comm _ _, rfl⟩

/-- Along the whole run with `gamma_primal > 0`, `gamma_dual = 0` and a scalar `tau` (so that
    `tau_min = tau`): the product `tau * sigma` never changes (the step condition
    `tau*sigma*||A||^2 <= 1` is preserved), `tau_min` keeps tracking `tau`, and both steps stay positive. -/
theorem pdhg_accel_run_primal (A : E → F) (AH : F → E) (proxg : ℝ → E → E) (proxfc : ℝ → F → F)
    (γ θ0 : ℝ) (hγ : 0 < γ) (s0 : PDState ℝ E F ℝ ℝ) (hτ : 0 < s0.tau) (hmin : s0.tau_min = s0.tau) (k : ℕ) :
    (pdRun Real.sqrt A AH proxfc proxg γ 0 θ0 s0 k).tau * (pdRun Real.sqrt A AH proxfc proxg γ 0 θ0 s0 k).sigma
        = s0.tau * s0.sigma ∧
      (pdRun Real.sqrt A AH proxfc proxg γ 0 θ0 s0 k).tau_min = (pdRun Real.sqrt A AH proxfc proxg γ 0 θ0 s0 k).tau ∧
      0 < (pdRun Real.sqrt A AH proxfc proxg γ 0 θ0 s0 k).tau := by
  induction k with
  | zero => exact ⟨rfl, hmin, hτ⟩
  | succ k ih =>
    rw [pdRun]
    generalize pdRun Real.sqrt A AH proxfc proxg γ 0 θ0 s0 k = s at ih ⊢
    obtain ⟨x, u, xe, τ, σ, tm, sm⟩ := s
    obtain ⟨h1, h2, h3⟩ := ih
    dsimp only at h1 h2 h3
    subst h2
    obtain ⟨_, a2, _, a4, _, a6, a7, _⟩ := pdhg_accel_steps_primal γ θ0 tm σ sm hγ h3
    exact ⟨a6.trans h1, a7, lt_of_lt_of_eq (mul_pos a2 h3) a4.symm⟩
end accel

section examples

theorem convexGrad_sq_half : ConvexGrad (fun x : ℝ => x ^ 2 / 2) id := by
  intro y w; simp only [id, RCLike.inner_apply, conj_trivial]; linear_combination (1 / 2) * sq_nonneg (w - y)

theorem descent_sq_half : Descent (fun x : ℝ => x ^ 2 / 2) id 1 := by
  intro y p; simp only [id, RCLike.inner_apply, conj_trivial, Real.norm_eq_abs, sq_abs]; exact le_of_eq (by ring)

/-- `f(x) = x²/2` on `ℝ` with gradient `id` is convex and 1-smooth -/
example : ConvexGrad (fun x : ℝ => x ^ 2 / 2) id ∧ Descent (fun x : ℝ => x ^ 2 / 2) id 1 :=
  ⟨convexGrad_sq_half, descent_sq_half⟩

theorem proxOf_zero : ProxOf (fun _ : ℝ => (0 : ℝ)) (fun _ v => v) := by
  intro α v _ w; simp

/-- `g = 0` with the identity as prox map -/
example : ProxOf (fun _ : ℝ => (0 : ℝ)) (fun _ v => v) := proxOf_zero

/-- `proxg = None` -/
example : ProxOpt (fun _ : ℝ => (0 : ℝ)) none := fun _ => rfl

/-- `(0, 0)` is a saddle point of `g = 0`, `f* = 0`, `A = id` -/
example : IsSaddle (fun _ : ℝ => (0 : ℝ)) (fun _ : ℝ => (0 : ℝ)) id id 0 0 := by
  constructor <;> intro w <;> simp

/-- a concrete accelerated run really moves: one FISTA update of `f = x²/2`, `α = 1/2`, from `x = 1` -/
example : (gmRun Real.sqrt (id : ℝ → ℝ) none (1 / 2) true 1 1).x = 1 / 2 := by
  simp [gmRun, gmStep, gmInit, Gen.C13.gmGrad]; norm_num

/-- a positive array step on `ℝ²` that is NOT a scalar: `τ = (1, 1/2)` -/
example : (StepOp.diag ![1, 1 / 2] : StepOp (EuclideanSpace ℝ (Fin 2))).Pos :=
  StepOp.diag_pos _ (fun i => by fin_cases i <;> simp)

/-- `g = 0` with the identity as prox map, for every array step -/
example : ProxOfW (fun _ : EuclideanSpace ℝ (Fin 2) => (0 : ℝ)) (fun _ v => v) := by
  intro T v _ w; simp

/-- hypotheses of `pdhg_fejer_diag_monotone` / `pdhg_residual_rate_partial` on a concrete 2×2 problem with genuinely
    array-valued steps: `M = [[1, 1], [0, 2]]`, `τ = (1, 1/3)`, `σ = (1/2, 1/2)` (Pock–Chambolle, `α = 1`) -/
example : ∃ (M : Fin 2 → Fin 2 → ℝ) (τ σ : Fin 2 → ℝ),
    (StepOp.diag τ).Pos ∧ (StepOp.diag σ).Pos ∧ MetricPSD (matOp M) (StepOp.diag τ) (StepOp.diag σ) ∧
    (∀ x u, ⟪matOp M x, u⟫ = ⟪x, matOp (fun j i => M i j) u⟫) ∧ τ 0 ≠ τ 1 := by
  refine ⟨![![1, 1], ![0, 2]], ![1, 1 / 3], ![1 / 2, 1 / 2], StepOp.diag_pos _ ?_, StepOp.diag_pos _ ?_, ?_,
    matOp_adjoint _, by norm_num⟩
  · intro i; fin_cases i <;> simp
  · intro i; fin_cases i <;> simp
  · apply metricPSD_abs_sums
    · intro i; fin_cases i <;> simp
    · intro i; fin_cases i <;> simp
    · intro j; fin_cases j <;> norm_num [Fin.sum_univ_two]
    · intro i; fin_cases i <;> norm_num [Fin.sum_univ_two]
end examples

end SigpyVerif.C13
