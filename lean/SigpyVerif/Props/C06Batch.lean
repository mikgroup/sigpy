import SigpyVerif.Props.C06Nd
set_option linter.unusedSectionVars false
/-
  C06 with leading batch axes and three transform axes.

  `nufft_adjoint` is exactly the adjoint of `nufft` for ANY oversamp / width, ndim ∈ {1, 2, 3} and any batch size `B`
  (sigpy flattens the leading batch axes of the input into one axis of length `B = Π batch` before it calls the
  numba kernels — `Gen.InterpWrappers`, C07's `ravel_batch_flatten` — and `_apodize`, `util.resize`, `fft(axes=range(-ndim,0))`
  leave the leading axes alone).  Zero-pad / crop is C09's N-d `resizeSrc` on the FULL shapes `[B, N…] ↔ [B, L…]`;
  FFT / IFFT is `1_B ⊗ U_{L₁} ⊗ … ⊗ U_{L_d}` with C05's centred DFT matrices; the scalings take `prodN = ΠN`,
  `prodOs = ΠL` over the TRANSFORM axes only (`util.prod(shape[-ndim:])`).  For two and three axes "real-valued
  kernel `wt`" means a real function of the PRODUCT rational weight (Props/C06Kernel.lean).
-/
namespace SigpyVerif.C06
open SigpyVerif Matrix ComplexConjugate
open scoped InnerProductSpace

section kron
variable {ι κ : Type} [Fintype ι] [Fintype κ] [DecidableEq ι] [DecidableEq κ]

def AdjScaled (A A' : Matrix ι ι ℂ) (c : ℂ) : Prop := Aᴴ = c • A'

theorem adjScaled_one : AdjScaled (1 : Matrix ι ι ℂ) 1 1 := by
  unfold AdjScaled; simp

theorem adjScaled_kron {A A' : Matrix ι ι ℂ} {B B' : Matrix κ κ ℂ} {a b : ℂ}
    (h1 : AdjScaled A A' a) (h2 : AdjScaled B B' b) :
    AdjScaled (kroneckerMap (· * ·) A B) (kroneckerMap (· * ·) A' B') (a * b) :=
  conjTranspose_kronecker_smul h1 h2

/-- `L · uIFFT = uFFTᴴ` on one axis (C05: `idftMatrix_eq_conjTranspose`) -/
theorem adjScaled_dft (L : ℕ) (hL : 0 < L) :
    AdjScaled (C05.dftMatrix (fftRoot L) L true 1) (C05.dftMatrix (fftRoot L)⁻¹ L true (1 / L)) (L : ℂ) :=
  dftMatrix_conjTranspose_one (fftRoot_primitive L hL) true

theorem inner_of_adjScaled {A A' : Matrix ι ι ℂ} {c : ℂ} (h : AdjScaled A A' c) (z : ℤ) (hc : c = (((z : ℤ) : ℝ) : ℂ))
    (u v : EuclideanSpace ℂ ι) :
    ⟪Matrix.toEuclideanLin A u, v⟫_ℂ = ⟪u, (((z : ℤ) : ℝ) : ℂ) • Matrix.toEuclideanLin A' v⟫_ℂ := by
  subst hc
  exact inner_toEuclideanLin_of_conjTranspose_smul h u v

end kron

def bx1 (B L : ℕ) : Fin B × Fin L → List Int := fun p => [((p.1 : ℕ) : ℤ), ((p.2 : ℕ) : ℤ)]
def bx2 (B L1 L2 : ℕ) : Fin B × Fin L1 × Fin L2 → List Int :=
  fun p => [((p.1 : ℕ) : ℤ), ((p.2.1 : ℕ) : ℤ), ((p.2.2 : ℕ) : ℤ)]
def bx3 (B L1 L2 L3 : ℕ) : Fin B × Fin L1 × Fin L2 × Fin L3 → List Int :=
  fun p => [((p.1 : ℕ) : ℤ), ((p.2.1 : ℕ) : ℤ), ((p.2.2.1 : ℕ) : ℤ), ((p.2.2.2 : ℕ) : ℤ)]

theorem bx1_inj (B L : ℕ) : Function.Injective (bx1 B L) := by
  intro p q h
  simpa only [bx1, List.cons.injEq, and_true, Int.natCast_inj, ← Fin.ext_iff, ← Prod.ext_iff] using h

theorem bx2_inj (B L1 L2 : ℕ) : Function.Injective (bx2 B L1 L2) := by
  intro p q h
  simpa only [bx2, List.cons.injEq, and_true, Int.natCast_inj, ← Fin.ext_iff, ← Prod.ext_iff] using h

theorem bx3_inj (B L1 L2 L3 : ℕ) : Function.Injective (bx3 B L1 L2 L3) := by
  intro p q h
  simpa only [bx3, List.cons.injEq, and_true, Int.natCast_inj, ← Fin.ext_iff, ← Prod.ext_iff] using h

def shape4 (a b c d : ℤ) : ℤ → ℤ := fun k => if k = 0 then a else if k = 1 then b else if k = 2 then c else d

/-- image axis lengths as `shape[-3]`, `shape[-2]`, `shape[-1]` -/
def imgShape3 (N1 N2 N3 : ℤ) : ℤ → ℤ := fun k => if k = -3 then N1 else if k = -2 then N2 else N3

section batch1

noncomputable def resizeLin1B (B i o : ℕ) : EuclideanSpace ℂ (Fin B × Fin i) →ₗ[ℂ] EuclideanSpace ℂ (Fin B × Fin o) :=
  Matrix.toEuclideanLin (resizeMatNd [(B : ℤ), (i : ℤ)] [(B : ℤ), (o : ℤ)] (bx1 B i) (bx1 B o))

theorem resize1B_adjoint (B i o : ℕ) (u : EuclideanSpace ℂ (Fin B × Fin i)) (v : EuclideanSpace ℂ (Fin B × Fin o)) :
    ⟪resizeLin1B B i o u, v⟫_ℂ = ⟪u, resizeLin1B B o i v⟫_ℂ :=
  inner_toEuclideanLin_of_conjTranspose (resizeMatNd_conjTranspose _ _ _ _) u v

/-- `fft(·, axes=(-1,), norm=None)` on `[B, L]`: identity on the batch axis ⊗ centred DFT -/
noncomputable def ufftLin1B (B L : ℕ) : EuclideanSpace ℂ (Fin B × Fin L) →ₗ[ℂ] EuclideanSpace ℂ (Fin B × Fin L) :=
  Matrix.toEuclideanLin (kroneckerMap (· * ·) (1 : Matrix (Fin B) (Fin B) ℂ) (C05.dftMatrix (fftRoot L) L true 1))

noncomputable def uifftLin1B (B L : ℕ) : EuclideanSpace ℂ (Fin B × Fin L) →ₗ[ℂ] EuclideanSpace ℂ (Fin B × Fin L) :=
  Matrix.toEuclideanLin (kroneckerMap (· * ·) (1 : Matrix (Fin B) (Fin B) ℂ)
    (C05.dftMatrix (fftRoot L)⁻¹ L true (1 / L)))

theorem ufft1B_adjoint (B L : ℕ) (hL : 0 < L) (u v : EuclideanSpace ℂ (Fin B × Fin L)) :
    ⟪ufftLin1B B L u, v⟫_ℂ = ⟪u, ((((L : ℤ) : ℤ) : ℝ) : ℂ) • uifftLin1B B L v⟫_ℂ :=
  inner_of_adjScaled (adjScaled_kron adjScaled_one (adjScaled_dft L hL)) (L : ℤ)
    (by simp only [Int.cast_natCast, Complex.ofReal_natCast, one_mul]) u v

noncomputable def interpLin1B (K : Rat → Rat → Rat) (wt : Rat → ℝ) (B L M : ℕ) (coord : Int → Int → Rat)
    (width param : Int → Rat) : EuclideanSpace ℂ (Fin B × Fin L) →ₗ[ℂ] EuclideanSpace ℂ (Fin B × Fin M) :=
  updLinG (cw wt (Gen.interp1 K (shape2 B M) (shape2 B L) (shape2 M 1) coord width param)) (bx1 B L) (bx1 B M)

noncomputable def gridLin1B (K : Rat → Rat → Rat) (wt : Rat → ℝ) (B L M : ℕ) (coord : Int → Int → Rat)
    (width param : Int → Rat) : EuclideanSpace ℂ (Fin B × Fin M) →ₗ[ℂ] EuclideanSpace ℂ (Fin B × Fin L) :=
  updLinG (cw wt (Gen.grid1 K (shape2 B L) (shape2 B M) (shape2 M 1) coord width param)) (bx1 B M) (bx1 B L)

theorem interp1B_adjoint (K : Rat → Rat → Rat) (wt : Rat → ℝ) (B L M : ℕ) (hL : 0 < L) (coord : Int → Int → Rat)
    (width param : Int → Rat) (u : EuclideanSpace ℂ (Fin B × Fin L)) (v : EuclideanSpace ℂ (Fin B × Fin M)) :
    ⟪interpLin1B K wt B L M coord width param u, v⟫_ℂ = ⟪u, gridLin1B K wt B L M coord width param v⟫_ℂ := by
  unfold interpLin1B gridLin1B
  rw [C07.grid1_eq_transpose_interp1]
  refine updLinG_cw_adjoint wt _ (bx1_inj B L) (bx1_inj B M) (fun w hw => ?_) u v
  obtain ⟨j, i, b, hj0, hj1, -, hb0, hb1, rfl⟩ := (C07.interp1_mem ..).mp hw
  obtain ⟨sb, rfl⟩ := exists_fin_cast (n := B) hb0 hb1
  obtain ⟨sj, rfl⟩ := exists_fin_cast (n := M) hj0 hj1
  obtain ⟨si, hi⟩ := exists_fin_pyMod hL i
  exact ⟨⟨(sb, sj), rfl⟩, ⟨(sb, si), by simp only [bx1, hi]; rfl⟩⟩

/-- `nufft` on one transform axis with batch size `B` -/
noncomputable def nufft1B (os : Rat) (B N L M : ℕ) (a : Fin B × Fin N → ℝ) (K : Rat → Rat → Rat) (wt : Rat → ℝ)
    (c : Int → Int → Rat) (W : Rat) (param : Int → Rat) (x : EuclideanSpace ℂ (Fin B × Fin N)) :
    EuclideanSpace ℂ (Fin B × Fin M) :=
  fwd (apodLinG a) (resizeLin1B B N L) (ufftLin1B B L)
    (interpLin1B K wt B L M (fun j k => Gen.scaleCoord os N (c j k)) (fun _ => W) param)
    (Gen.nufftFwdDiv Real.sqrt (N : ℤ)) (Gen.nufftFwdWidthDiv Real.sqrt (W : ℝ) 1) x

noncomputable def nufftAdjoint1B (os : Rat) (B N L M : ℕ) (a : Fin B × Fin N → ℝ) (K : Rat → Rat → Rat)
    (wt : Rat → ℝ) (c : Int → Int → Rat) (W : Rat) (param : Int → Rat) (y : EuclideanSpace ℂ (Fin B × Fin M)) :
    EuclideanSpace ℂ (Fin B × Fin N) :=
  adj (apodLinG a) (resizeLin1B B L N) (uifftLin1B B L)
    (gridLin1B K wt B L M (fun j k => Gen.scaleCoord os N (c j k)) (fun _ => W) param)
    (Gen.nufftAdjMul Real.sqrt (L : ℤ) (N : ℤ)) (Gen.nufftAdjWidthDiv Real.sqrt (W : ℝ) 1) y

/-- **batched 1-D: `nufft_adjoint` is exactly the adjoint of `nufft`**, no stage fact assumed -/
theorem nufft_adjoint_is_adjoint_1d_batch (os : Rat) (B N L M : ℕ) (hL : 0 < L) (a : Fin B × Fin N → ℝ)
    (K : Rat → Rat → Rat) (wt : Rat → ℝ) (c : Int → Int → Rat) (W : Rat) (param : Int → Rat)
    (x : EuclideanSpace ℂ (Fin B × Fin N)) (y : EuclideanSpace ℂ (Fin B × Fin M)) :
    ⟪nufft1B os B N L M a K wt c W param x, y⟫_ℂ = ⟪x, nufftAdjoint1B os B N L M a K wt c W param y⟫_ℂ :=
  nufft_adjoint_is_adjoint_euclidean _ _ _ _ _ _ _ (L : ℤ) (N : ℤ) (W : ℝ) 1 (apodG_selfadjoint a)
    (resize1B_adjoint B N L) (ufft1B_adjoint B L hL) (interp1B_adjoint K wt B L M hL _ _ _) x y

end batch1

section batch2

noncomputable def resizeLin2B (B i1 i2 o1 o2 : ℕ) :
    EuclideanSpace ℂ (Fin B × Fin i1 × Fin i2) →ₗ[ℂ] EuclideanSpace ℂ (Fin B × Fin o1 × Fin o2) :=
  Matrix.toEuclideanLin (resizeMatNd [(B : ℤ), (i1 : ℤ), (i2 : ℤ)] [(B : ℤ), (o1 : ℤ), (o2 : ℤ)]
    (bx2 B i1 i2) (bx2 B o1 o2))

theorem resize2B_adjoint (B i1 i2 o1 o2 : ℕ) (u : EuclideanSpace ℂ (Fin B × Fin i1 × Fin i2))
    (v : EuclideanSpace ℂ (Fin B × Fin o1 × Fin o2)) :
    ⟪resizeLin2B B i1 i2 o1 o2 u, v⟫_ℂ = ⟪u, resizeLin2B B o1 o2 i1 i2 v⟫_ℂ :=
  inner_toEuclideanLin_of_conjTranspose (resizeMatNd_conjTranspose _ _ _ _) u v

noncomputable def ufftLin2B (B L1 L2 : ℕ) :
    EuclideanSpace ℂ (Fin B × Fin L1 × Fin L2) →ₗ[ℂ] EuclideanSpace ℂ (Fin B × Fin L1 × Fin L2) :=
  Matrix.toEuclideanLin (kroneckerMap (· * ·) (1 : Matrix (Fin B) (Fin B) ℂ)
    (kroneckerMap (· * ·) (C05.dftMatrix (fftRoot L1) L1 true 1) (C05.dftMatrix (fftRoot L2) L2 true 1)))

noncomputable def uifftLin2B (B L1 L2 : ℕ) :
    EuclideanSpace ℂ (Fin B × Fin L1 × Fin L2) →ₗ[ℂ] EuclideanSpace ℂ (Fin B × Fin L1 × Fin L2) :=
  Matrix.toEuclideanLin (kroneckerMap (· * ·) (1 : Matrix (Fin B) (Fin B) ℂ)
    (kroneckerMap (· * ·) (C05.dftMatrix (fftRoot L1)⁻¹ L1 true (1 / L1)) (C05.dftMatrix (fftRoot L2)⁻¹ L2 true (1 / L2))))

theorem ufft2B_adjoint (B L1 L2 : ℕ) (h1 : 0 < L1) (h2 : 0 < L2) (u v : EuclideanSpace ℂ (Fin B × Fin L1 × Fin L2)) :
    ⟪ufftLin2B B L1 L2 u, v⟫_ℂ = ⟪u, ((((L1 : ℤ) * (L2 : ℤ) : ℤ) : ℝ) : ℂ) • uifftLin2B B L1 L2 v⟫_ℂ :=
  inner_of_adjScaled (adjScaled_kron adjScaled_one (adjScaled_kron (adjScaled_dft L1 h1) (adjScaled_dft L2 h2)))
    ((L1 : ℤ) * (L2 : ℤ))
    (by simp only [Int.cast_mul, Int.cast_natCast, Complex.ofReal_mul, Complex.ofReal_natCast, one_mul]) u v

noncomputable def interpLin2B (K : Rat → Rat → Rat) (wt : Rat → ℝ) (B L1 L2 M : ℕ) (coord : Int → Int → Rat)
    (width param : Int → Rat) : EuclideanSpace ℂ (Fin B × Fin L1 × Fin L2) →ₗ[ℂ] EuclideanSpace ℂ (Fin B × Fin M) :=
  updLinG (cw wt (Gen.interp2 K (shape2 B M) (shape3 B L1 L2) (shape2 M 2) coord width param)) (bx2 B L1 L2) (bx1 B M)

noncomputable def gridLin2B (K : Rat → Rat → Rat) (wt : Rat → ℝ) (B L1 L2 M : ℕ) (coord : Int → Int → Rat)
    (width param : Int → Rat) : EuclideanSpace ℂ (Fin B × Fin M) →ₗ[ℂ] EuclideanSpace ℂ (Fin B × Fin L1 × Fin L2) :=
  updLinG (cw wt (Gen.grid2 K (shape3 B L1 L2) (shape2 B M) (shape2 M 2) coord width param)) (bx1 B M) (bx2 B L1 L2)

theorem interp2B_adjoint (K : Rat → Rat → Rat) (wt : Rat → ℝ) (B L1 L2 M : ℕ) (h1 : 0 < L1) (h2 : 0 < L2)
    (coord : Int → Int → Rat) (width param : Int → Rat) (u : EuclideanSpace ℂ (Fin B × Fin L1 × Fin L2))
    (v : EuclideanSpace ℂ (Fin B × Fin M)) :
    ⟪interpLin2B K wt B L1 L2 M coord width param u, v⟫_ℂ = ⟪u, gridLin2B K wt B L1 L2 M coord width param v⟫_ℂ := by
  unfold interpLin2B gridLin2B
  rw [C07.grid2_eq_transpose_interp2]
  refine updLinG_cw_adjoint wt _ (bx2_inj B L1 L2) (bx1_inj B M) (fun w hw => ?_) u v
  obtain ⟨j, iy, ix, b, hj0, hj1, -, -, hb0, hb1, rfl⟩ := (C07.interp2_mem ..).mp hw
  obtain ⟨sb, rfl⟩ := exists_fin_cast (n := B) hb0 hb1
  obtain ⟨sj, rfl⟩ := exists_fin_cast (n := M) hj0 hj1
  obtain ⟨sy, hy⟩ := exists_fin_pyMod h1 iy
  obtain ⟨sx, hx⟩ := exists_fin_pyMod h2 ix
  exact ⟨⟨(sb, sj), rfl⟩, ⟨(sb, sy, sx), by simp only [bx2, hy, hx]; rfl⟩⟩

noncomputable def nufft2B (os : Rat) (B N1 N2 L1 L2 M : ℕ) (a : Fin B × Fin N1 × Fin N2 → ℝ) (K : Rat → Rat → Rat)
    (wt : Rat → ℝ) (c : Int → Int → Rat) (W : Rat) (param : Int → Rat)
    (x : EuclideanSpace ℂ (Fin B × Fin N1 × Fin N2)) : EuclideanSpace ℂ (Fin B × Fin M) :=
  fwd (apodLinG a) (resizeLin2B B N1 N2 L1 L2) (ufftLin2B B L1 L2)
    (interpLin2B K wt B L1 L2 M (fun j k => Gen.scaleCoord os (imgShape2 N1 N2 k) (c j k)) (fun _ => W) param)
    (Gen.nufftFwdDiv Real.sqrt ((N1 : ℤ) * (N2 : ℤ))) (Gen.nufftFwdWidthDiv Real.sqrt (W : ℝ) 2) x

noncomputable def nufftAdjoint2B (os : Rat) (B N1 N2 L1 L2 M : ℕ) (a : Fin B × Fin N1 × Fin N2 → ℝ)
    (K : Rat → Rat → Rat) (wt : Rat → ℝ) (c : Int → Int → Rat) (W : Rat) (param : Int → Rat)
    (y : EuclideanSpace ℂ (Fin B × Fin M)) : EuclideanSpace ℂ (Fin B × Fin N1 × Fin N2) :=
  adj (apodLinG a) (resizeLin2B B L1 L2 N1 N2) (uifftLin2B B L1 L2)
    (gridLin2B K wt B L1 L2 M (fun j k => Gen.scaleCoord os (imgShape2 N1 N2 k) (c j k)) (fun _ => W) param)
    (Gen.nufftAdjMul Real.sqrt ((L1 : ℤ) * (L2 : ℤ)) ((N1 : ℤ) * (N2 : ℤ))) (Gen.nufftAdjWidthDiv Real.sqrt (W : ℝ) 2) y

/-- **batched 2-D: `nufft_adjoint` is exactly the adjoint of `nufft`**, no stage fact assumed -/
theorem nufft_adjoint_is_adjoint_2d_batch (os : Rat) (B N1 N2 L1 L2 M : ℕ) (h1 : 0 < L1) (h2 : 0 < L2)
    (a : Fin B × Fin N1 × Fin N2 → ℝ) (K : Rat → Rat → Rat) (wt : Rat → ℝ) (c : Int → Int → Rat) (W : Rat)
    (param : Int → Rat) (x : EuclideanSpace ℂ (Fin B × Fin N1 × Fin N2)) (y : EuclideanSpace ℂ (Fin B × Fin M)) :
    ⟪nufft2B os B N1 N2 L1 L2 M a K wt c W param x, y⟫_ℂ =
      ⟪x, nufftAdjoint2B os B N1 N2 L1 L2 M a K wt c W param y⟫_ℂ :=
  nufft_adjoint_is_adjoint_euclidean _ _ _ _ _ _ _ ((L1 : ℤ) * (L2 : ℤ)) ((N1 : ℤ) * (N2 : ℤ)) (W : ℝ) 2
    (apodG_selfadjoint a) (resize2B_adjoint B N1 N2 L1 L2) (ufft2B_adjoint B L1 L2 h1 h2)
    (interp2B_adjoint K wt B L1 L2 M h1 h2 _ _ _) x y

end batch2

section batch3

noncomputable def resizeLin3B (B i1 i2 i3 o1 o2 o3 : ℕ) :
    EuclideanSpace ℂ (Fin B × Fin i1 × Fin i2 × Fin i3) →ₗ[ℂ] EuclideanSpace ℂ (Fin B × Fin o1 × Fin o2 × Fin o3) :=
  Matrix.toEuclideanLin (resizeMatNd [(B : ℤ), (i1 : ℤ), (i2 : ℤ), (i3 : ℤ)] [(B : ℤ), (o1 : ℤ), (o2 : ℤ), (o3 : ℤ)]
    (bx3 B i1 i2 i3) (bx3 B o1 o2 o3))

theorem resize3B_adjoint (B i1 i2 i3 o1 o2 o3 : ℕ) (u : EuclideanSpace ℂ (Fin B × Fin i1 × Fin i2 × Fin i3))
    (v : EuclideanSpace ℂ (Fin B × Fin o1 × Fin o2 × Fin o3)) :
    ⟪resizeLin3B B i1 i2 i3 o1 o2 o3 u, v⟫_ℂ = ⟪u, resizeLin3B B o1 o2 o3 i1 i2 i3 v⟫_ℂ :=
  inner_toEuclideanLin_of_conjTranspose (resizeMatNd_conjTranspose _ _ _ _) u v

-- non-vacuity of the batched N-d resize matrix: [2, 2, 3, 1] → [2, 3, 4, 2]: batch item 1, sample (1,1,0) lands on (1,2,1)
example : resizeMatNd [2, 2, 3, 1] [2, 3, 4, 2] (bx3 2 2 3 1) (bx3 2 3 4 2) (1, 1, 2, 1) (1, 1, 1, 0) = 1 := by
  unfold resizeMatNd
  simp only [of_apply]
  rw [if_pos]
  decide

noncomputable def ufftLin3B (B L1 L2 L3 : ℕ) :
    EuclideanSpace ℂ (Fin B × Fin L1 × Fin L2 × Fin L3) →ₗ[ℂ] EuclideanSpace ℂ (Fin B × Fin L1 × Fin L2 × Fin L3) :=
  Matrix.toEuclideanLin (kroneckerMap (· * ·) (1 : Matrix (Fin B) (Fin B) ℂ)
    (kroneckerMap (· * ·) (C05.dftMatrix (fftRoot L1) L1 true 1)
      (kroneckerMap (· * ·) (C05.dftMatrix (fftRoot L2) L2 true 1) (C05.dftMatrix (fftRoot L3) L3 true 1))))

noncomputable def uifftLin3B (B L1 L2 L3 : ℕ) :
    EuclideanSpace ℂ (Fin B × Fin L1 × Fin L2 × Fin L3) →ₗ[ℂ] EuclideanSpace ℂ (Fin B × Fin L1 × Fin L2 × Fin L3) :=
  Matrix.toEuclideanLin (kroneckerMap (· * ·) (1 : Matrix (Fin B) (Fin B) ℂ)
    (kroneckerMap (· * ·) (C05.dftMatrix (fftRoot L1)⁻¹ L1 true (1 / L1))
      (kroneckerMap (· * ·) (C05.dftMatrix (fftRoot L2)⁻¹ L2 true (1 / L2)) (C05.dftMatrix (fftRoot L3)⁻¹ L3 true (1 / L3)))))

theorem ufft3B_adjoint (B L1 L2 L3 : ℕ) (h1 : 0 < L1) (h2 : 0 < L2) (h3 : 0 < L3)
    (u v : EuclideanSpace ℂ (Fin B × Fin L1 × Fin L2 × Fin L3)) :
    ⟪ufftLin3B B L1 L2 L3 u, v⟫_ℂ =
      ⟪u, ((((L1 : ℤ) * (L2 : ℤ) * (L3 : ℤ) : ℤ) : ℝ) : ℂ) • uifftLin3B B L1 L2 L3 v⟫_ℂ :=
  inner_of_adjScaled (adjScaled_kron adjScaled_one (adjScaled_kron (adjScaled_dft L1 h1)
    (adjScaled_kron (adjScaled_dft L2 h2) (adjScaled_dft L3 h3))))
    ((L1 : ℤ) * (L2 : ℤ) * (L3 : ℤ))
    (by simp only [Int.cast_mul, Int.cast_natCast, Complex.ofReal_mul, Complex.ofReal_natCast, one_mul, mul_assoc]) u v

noncomputable def interpLin3B (K : Rat → Rat → Rat) (wt : Rat → ℝ) (B L1 L2 L3 M : ℕ) (coord : Int → Int → Rat)
    (width param : Int → Rat) :
    EuclideanSpace ℂ (Fin B × Fin L1 × Fin L2 × Fin L3) →ₗ[ℂ] EuclideanSpace ℂ (Fin B × Fin M) :=
  updLinG (cw wt (Gen.interp3 K (shape2 B M) (shape4 B L1 L2 L3) (shape2 M 3) coord width param))
    (bx3 B L1 L2 L3) (bx1 B M)

noncomputable def gridLin3B (K : Rat → Rat → Rat) (wt : Rat → ℝ) (B L1 L2 L3 M : ℕ) (coord : Int → Int → Rat)
    (width param : Int → Rat) :
    EuclideanSpace ℂ (Fin B × Fin M) →ₗ[ℂ] EuclideanSpace ℂ (Fin B × Fin L1 × Fin L2 × Fin L3) :=
  updLinG (cw wt (Gen.grid3 K (shape4 B L1 L2 L3) (shape2 B M) (shape2 M 3) coord width param))
    (bx1 B M) (bx3 B L1 L2 L3)

/-- gridding = interpolationᴴ, three axes, batch size `B` (C07: `grid3_eq_transpose_interp3`, `interp3_mem`,
    `transpose_pairing`) -/
theorem interp3B_adjoint (K : Rat → Rat → Rat) (wt : Rat → ℝ) (B L1 L2 L3 M : ℕ) (h1 : 0 < L1) (h2 : 0 < L2)
    (h3 : 0 < L3) (coord : Int → Int → Rat) (width param : Int → Rat)
    (u : EuclideanSpace ℂ (Fin B × Fin L1 × Fin L2 × Fin L3)) (v : EuclideanSpace ℂ (Fin B × Fin M)) :
    ⟪interpLin3B K wt B L1 L2 L3 M coord width param u, v⟫_ℂ =
      ⟪u, gridLin3B K wt B L1 L2 L3 M coord width param v⟫_ℂ := by
  unfold interpLin3B gridLin3B
  rw [C07.grid3_eq_transpose_interp3]
  refine updLinG_cw_adjoint wt _ (bx3_inj B L1 L2 L3) (bx1_inj B M) (fun w hw => ?_) u v
  obtain ⟨j, iz, iy, ix, b, hj0, hj1, -, -, -, hb0, hb1, rfl⟩ := (C07.interp3_mem ..).mp hw
  obtain ⟨sb, rfl⟩ := exists_fin_cast (n := B) hb0 hb1
  obtain ⟨sj, rfl⟩ := exists_fin_cast (n := M) hj0 hj1
  obtain ⟨sz, hz⟩ := exists_fin_pyMod h1 iz
  obtain ⟨sy, hy⟩ := exists_fin_pyMod h2 iy
  obtain ⟨sx, hx⟩ := exists_fin_pyMod h3 ix
  exact ⟨⟨(sb, sj), rfl⟩, ⟨(sb, sz, sy, sx), by simp only [bx3, hz, hy, hx]; rfl⟩⟩

/-- `nufft` on three transform axes (`ndim = 3`), batch size `B`, from the concrete stages with the code's constants -/
noncomputable def nufft3B (os : Rat) (B N1 N2 N3 L1 L2 L3 M : ℕ) (a : Fin B × Fin N1 × Fin N2 × Fin N3 → ℝ)
    (K : Rat → Rat → Rat) (wt : Rat → ℝ) (c : Int → Int → Rat) (W : Rat) (param : Int → Rat)
    (x : EuclideanSpace ℂ (Fin B × Fin N1 × Fin N2 × Fin N3)) : EuclideanSpace ℂ (Fin B × Fin M) :=
  fwd (apodLinG a) (resizeLin3B B N1 N2 N3 L1 L2 L3) (ufftLin3B B L1 L2 L3)
    (interpLin3B K wt B L1 L2 L3 M (fun j k => Gen.scaleCoord os (imgShape3 N1 N2 N3 k) (c j k)) (fun _ => W) param)
    (Gen.nufftFwdDiv Real.sqrt ((N1 : ℤ) * (N2 : ℤ) * (N3 : ℤ))) (Gen.nufftFwdWidthDiv Real.sqrt (W : ℝ) 3) x

noncomputable def nufftAdjoint3B (os : Rat) (B N1 N2 N3 L1 L2 L3 M : ℕ) (a : Fin B × Fin N1 × Fin N2 × Fin N3 → ℝ)
    (K : Rat → Rat → Rat) (wt : Rat → ℝ) (c : Int → Int → Rat) (W : Rat) (param : Int → Rat)
    (y : EuclideanSpace ℂ (Fin B × Fin M)) : EuclideanSpace ℂ (Fin B × Fin N1 × Fin N2 × Fin N3) :=
  adj (apodLinG a) (resizeLin3B B L1 L2 L3 N1 N2 N3) (uifftLin3B B L1 L2 L3)
    (gridLin3B K wt B L1 L2 L3 M (fun j k => Gen.scaleCoord os (imgShape3 N1 N2 N3 k) (c j k)) (fun _ => W) param)
    (Gen.nufftAdjMul Real.sqrt ((L1 : ℤ) * (L2 : ℤ) * (L3 : ℤ)) ((N1 : ℤ) * (N2 : ℤ) * (N3 : ℤ)))
    (Gen.nufftAdjWidthDiv Real.sqrt (W : ℝ) 3) y

/-- **batched 3-D: `nufft_adjoint` is exactly the adjoint of `nufft`** for any oversamp, width, kernel, coordinates,
    batch size and grid lengths `L_d > 0`; no stage fact assumed (only: real apodisation weights, real-valued kernel). -/
theorem nufft_adjoint_is_adjoint_3d_batch (os : Rat) (B N1 N2 N3 L1 L2 L3 M : ℕ) (h1 : 0 < L1) (h2 : 0 < L2)
    (h3 : 0 < L3) (a : Fin B × Fin N1 × Fin N2 × Fin N3 → ℝ) (K : Rat → Rat → Rat) (wt : Rat → ℝ)
    (c : Int → Int → Rat) (W : Rat) (param : Int → Rat) (x : EuclideanSpace ℂ (Fin B × Fin N1 × Fin N2 × Fin N3))
    (y : EuclideanSpace ℂ (Fin B × Fin M)) :
    ⟪nufft3B os B N1 N2 N3 L1 L2 L3 M a K wt c W param x, y⟫_ℂ =
      ⟪x, nufftAdjoint3B os B N1 N2 N3 L1 L2 L3 M a K wt c W param y⟫_ℂ :=
  nufft_adjoint_is_adjoint_euclidean _ _ _ _ _ _ _ ((L1 : ℤ) * (L2 : ℤ) * (L3 : ℤ)) ((N1 : ℤ) * (N2 : ℤ) * (N3 : ℤ))
    (W : ℝ) 3 (apodG_selfadjoint a) (resize3B_adjoint B N1 N2 N3 L1 L2 L3) (ufft3B_adjoint B L1 L2 L3 h1 h2 h3)
    (interp3B_adjoint K wt B L1 L2 L3 M h1 h2 h3 _ _ _) x y

/-- the unbatched 3-D transform is the case `B = 1` -/
theorem nufft_adjoint_is_adjoint_3d (os : Rat) (N1 N2 N3 L1 L2 L3 M : ℕ) (h1 : 0 < L1) (h2 : 0 < L2) (h3 : 0 < L3)
    (a : Fin 1 × Fin N1 × Fin N2 × Fin N3 → ℝ) (K : Rat → Rat → Rat) (wt : Rat → ℝ) (c : Int → Int → Rat) (W : Rat)
    (param : Int → Rat) (x : EuclideanSpace ℂ (Fin 1 × Fin N1 × Fin N2 × Fin N3)) (y : EuclideanSpace ℂ (Fin 1 × Fin M)) :
    ⟪nufft3B os 1 N1 N2 N3 L1 L2 L3 M a K wt c W param x, y⟫_ℂ =
      ⟪x, nufftAdjoint3B os 1 N1 N2 N3 L1 L2 L3 M a K wt c W param y⟫_ℂ :=
  nufft_adjoint_is_adjoint_3d_batch os 1 N1 N2 N3 L1 L2 L3 M h1 h2 h3 a K wt c W param x y

/-- with sigpy's grid lengths `L_d = ceil(os · N_d)` (`Gen.oversampLen`), any batch size -/
theorem nufft_adjoint_is_adjoint_3d_code (os : Rat) (B N1 N2 N3 M : ℕ) (hN1 : 0 < N1) (hN2 : 0 < N2) (hN3 : 0 < N3)
    (hos : 1 ≤ os) (a : Fin B × Fin N1 × Fin N2 × Fin N3 → ℝ) (K : Rat → Rat → Rat) (wt : Rat → ℝ)
    (c : Int → Int → Rat) (W : Rat) (param : Int → Rat) (x : EuclideanSpace ℂ (Fin B × Fin N1 × Fin N2 × Fin N3))
    (y : EuclideanSpace ℂ (Fin B × Fin M)) :
    ⟪nufft3B os B N1 N2 N3 (Gen.oversampLen os N1).toNat (Gen.oversampLen os N2).toNat (Gen.oversampLen os N3).toNat M
        a K wt c W param x, y⟫_ℂ =
      ⟪x, nufftAdjoint3B os B N1 N2 N3 (Gen.oversampLen os N1).toNat (Gen.oversampLen os N2).toNat
        (Gen.oversampLen os N3).toNat M a K wt c W param y⟫_ℂ :=
  nufft_adjoint_is_adjoint_3d_batch os B N1 N2 N3 _ _ _ M (oversampLen_pos os N1 hN1 hos) (oversampLen_pos os N2 hN2 hos)
    (oversampLen_pos os N3 hN3 hos) a K wt c W param x y

end batch3

/-- every update of the batched interpolation list keeps the batch index: destination `[b, j]` reads sources
    `[b, …]` of the SAME `b` (1-D; 2-D / 3-D: `C07.interp2_mem` / `interp3_mem` show the same shape) -/
theorem interp1_batch_diagonal (K : Rat → Rat → Rat) (osh ish csh : Int → Int) (coord : Int → Int → Rat)
    (width param : Int → Rat) (u : Upd Rat) (hu : u ∈ Gen.interp1 K osh ish csh coord width param) :
    u.1.head? = u.2.1.head? := by
  obtain ⟨j, i, b, _, _, _, _, _, rfl⟩ := (C07.interp1_mem ..).mp hu
  rfl

theorem interp2_batch_diagonal (K : Rat → Rat → Rat) (osh ish csh : Int → Int) (coord : Int → Int → Rat)
    (width param : Int → Rat) (u : Upd Rat) (hu : u ∈ Gen.interp2 K osh ish csh coord width param) :
    u.1.head? = u.2.1.head? := by
  obtain ⟨j, iy, ix, b, _, _, _, _, _, _, rfl⟩ := (C07.interp2_mem ..).mp hu
  rfl

theorem interp3_batch_diagonal (K : Rat → Rat → Rat) (osh ish csh : Int → Int) (coord : Int → Int → Rat)
    (width param : Int → Rat) (u : Upd Rat) (hu : u ∈ Gen.interp3 K osh ish csh coord width param) :
    u.1.head? = u.2.1.head? := by
  obtain ⟨j, iz, iy, ix, b, _, _, _, _, _, _, _, rfl⟩ := (C07.interp3_mem ..).mp hu
  rfl

/-- numpy's `z ** 0.5` on a complex array holding the real number `r`: the principal square root -/
noncomputable def csqrtReal (r : ℝ) : ℂ := (r : ℂ) ^ (((1 / 2 : ℝ)) : ℂ)

/-- for every real `r`, `√r / sinh √r` (principal complex square root) is a real number: for `r ≥ 0` it is
    `s / sinh s` with `s = √r`, for `r < 0` it is `s / sin s` with `s = √(-r)` (`sinh(i s) = i sin s`) -/
theorem csqrt_div_sinh_real (r : ℝ) : (csqrtReal r / Complex.sinh (csqrtReal r)).im = 0 := by
  unfold csqrtReal
  by_cases hr : 0 ≤ r
  · rw [← Complex.ofReal_cpow hr, ← Complex.ofReal_sinh, ← Complex.ofReal_div, Complex.ofReal_im]
  · have hr' : r ≤ 0 := le_of_lt (not_le.mp hr)
    have hI : Complex.exp ((Real.pi : ℂ) * Complex.I * (((1 / 2 : ℝ)) : ℂ)) = Complex.I := by
      have : (Real.pi : ℂ) * Complex.I * (((1 / 2 : ℝ)) : ℂ) = ((Real.pi / 2 : ℝ) : ℂ) * Complex.I := by
        push_cast; ring
      rw [this, Complex.exp_mul_I, ← Complex.ofReal_cos, ← Complex.ofReal_sin, Real.cos_pi_div_two,
        Real.sin_pi_div_two]
      simp
    rw [Complex.ofReal_cpow_of_nonpos hr', hI, ← Complex.ofReal_neg, ← Complex.ofReal_cpow (by linarith),
      Complex.sinh_mul_I, ← Complex.ofReal_sin, mul_div_mul_right _ _ Complex.I_ne_zero, ← Complex.ofReal_div,
      Complex.ofReal_im]

/-- the factor `_apodize` multiplies sample `n` of an axis of length `N` with (the formula whose shape the translator
    checks, `Gen.apodFormulaChecked`; centre `Gen.apodCentre`, oversampled length `Gen.apodOsLen` generated):
    `a / sinh a`, `a = (β² - (π W (n - N//2) / os_N)²) ** 0.5` -/
noncomputable def apodWeight (beta W : ℝ) (os : Rat) (N n : ℤ) : ℂ :=
  csqrtReal (beta ^ 2 - (Real.pi * W * ((n - Gen.apodCentre N : ℤ) : ℝ) / ((Gen.apodOsLen os N : ℤ) : ℝ)) ^ 2) /
    Complex.sinh (csqrtReal (beta ^ 2 -
      (Real.pi * W * ((n - Gen.apodCentre N : ℤ) : ℝ) / ((Gen.apodOsLen os N : ℤ) : ℝ)) ^ 2))

/-- **`_apodize` multiplies by real numbers** (any beta, width, oversamp, axis length, index — also where the
    square root is imaginary): the hypothesis "real apodisation weights" of the adjoint theorems holds for the code's
    formula.  Where the radicand is exactly 0, `apodWeight` is `0 / sinh 0 = 0` while numpy gives `nan`. -/
theorem apodWeight_real (beta W : ℝ) (os : Rat) (N n : ℤ) : (apodWeight beta W os N n).im = 0 :=
  csqrt_div_sinh_real _

theorem apodWeight_eq_re (beta W : ℝ) (os : Rat) (N n : ℤ) :
    apodWeight beta W os N n = (((apodWeight beta W os N n).re : ℝ) : ℂ) := by
  apply Complex.ext
  · simp
  · simp [apodWeight_real]

/-- `_apodize` over three transform axes of a batched array multiplies sample `(b, n₁, n₂, n₃)` by the product of the
    three per-axis factors (one `output *= apod.reshape(...)` per axis, independent of `b`): that diagonal operator is
    `apodLinG` of a REAL weight vector, so `nufft_adjoint_is_adjoint_3d_batch` applies to the code's apodisation -/
theorem apodize3_is_real_diagonal (beta W : ℝ) (os : Rat) (B N1 N2 N3 : ℕ) :
    Matrix.toEuclideanLin (Matrix.diagonal fun p : Fin B × Fin N1 × Fin N2 × Fin N3 =>
        apodWeight beta W os N1 ((p.2.1 : ℕ) : ℤ) * apodWeight beta W os N2 ((p.2.2.1 : ℕ) : ℤ) *
          apodWeight beta W os N3 ((p.2.2.2 : ℕ) : ℤ)) =
      apodLinG fun p : Fin B × Fin N1 × Fin N2 × Fin N3 =>
        (apodWeight beta W os N1 ((p.2.1 : ℕ) : ℤ)).re * (apodWeight beta W os N2 ((p.2.2.1 : ℕ) : ℤ)).re *
          (apodWeight beta W os N3 ((p.2.2.2 : ℕ) : ℤ)).re := by
  unfold apodLinG
  congr 2
  funext p
  rw [apodWeight_eq_re beta W os N1, apodWeight_eq_re beta W os N2, apodWeight_eq_re beta W os N3]
  push_cast
  simp only

-- non-vacuity: at the centre sample with beta² > 0 the weight is `beta / sinh beta` (real square root branch)
example (beta W : ℝ) (os : Rat) (N : ℤ) :
    apodWeight beta W os N (Gen.apodCentre N) = csqrtReal (beta ^ 2) / Complex.sinh (csqrtReal (beta ^ 2)) := by
  unfold apodWeight
  simp

end SigpyVerif.C06
