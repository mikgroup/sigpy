import SigpyVerif.Props.C04Shortcut
import SigpyVerif.Props.C01Gen
import SigpyVerif.Props.C01Fft
import SigpyVerif.Gen.LinopNormal
/-
  C04 — the model's normal rules ARE the ones written in sigpy/linop.py.

  `Gen/LinopNormal.lean` is regenerated on every run from `Linop._normal_linop`, from the `_normal_linop`
  method of every class that has one, and from the *absence* of the method in every other class
  (harness/translate/gen_c04.py).  This file proves

  * `normal_overrides`: exactly Identity, Reshape, Transpose, Circshift (entry-model classes), FFT, IFFT,
    NUFFT (classes without an entry model) override `_normal_linop`; no tree node (Conj, Add, Compose,
    Hstack, Vstack, Diag) does — in particular `Compose.N` is `self.H * self`, not a nested rule;
  * `normal_eq_gen`: the hand-written `C01.normal` — the definition all C04 theorems are about — coincides
    with the generated `normalGen` on every tree; `normal_denote` is `normal_denote_leaves` about the
    generated table: the tree that the translated `_normal_linop` rules build acts as `x ↦ Aᴴ(A x)`;
  * `gen_shortcuts_exact`: every arm of the generated leaf table that is not the default rule (an
    "analytic shortcut") agrees with `Aᴴ A` on the whole input range;
  * `compose_normal_nest`: the nested rule `C.H * B.N * C` for `A = B * C`, should sigpy adopt it, denotes
    the same operator as the default `A.H * A` whenever `B.N` acts as `B.H * B`;
  * `fft_shortcut_exact`: the generated tables return `Identity(shape)` as `.N` and each other as `.H` for
    FFT / IFFT, and the `ifft` table times the `fft` table (`fftTable`, C05's executable entries) is 1, from
    C05's unitarity theorem.  The opaque leaf's `sh`, `ax` and the table's `shape`, `axes` are separate variables.
-/
namespace SigpyVerif.C04
open SigpyVerif SigpyVerif.C01

/-- **which classes override `_normal_linop`** (read off the class bodies of sigpy/linop.py on every run):
    Identity, Reshape, Transpose, Circshift; FFT, IFFT, NUFFT; no tree-node class. -/
theorem normal_overrides :
    Gen.LinopNormal.leafOverrides = ["Identity", "Reshape", "Transpose", "Circshift"] ∧
    Gen.LinopNormal.nodeOverrides = [] ∧
    Gen.LinopNormal.opaqueOverrides = ["FFT", "IFFT", "NUFFT"] := ⟨rfl, rfl, rfl⟩

section
variable {α : Type} [CommRing α] [StarRing α] (ofRat : Rat → α)

/-- every leaf class: the generated arm (own `_normal_linop`, or the inherited `self.H * self`) is the model's -/
theorem normalLeaf_eq_gen (H : Expr α → Expr α) (l : Leaf α) (hH : H (.leaf l) = adj star (.leaf l)) :
    normal star (.leaf l) = Gen.LinopNormal.normalLeafGen H l := by
  cases l <;>
    first
      | rfl
      | simp only [normal, Gen.LinopNormal.normalLeafGen, Gen.LinopNormal.linopNormalDefault, hH]

/-- **every tree**: `C01.normal` = the generated `normalGen`, given that `.H` is the generated `adjGen`
    (`C01.adj_eq_gen`) -/
theorem normal_eq_gen (osh : Leaf α → List Int) (e : Expr α) (h : adj star e = Gen.LinopAdjoint.adjGen osh e) :
    normal star e = Gen.LinopNormal.normalGen osh e := by
  cases e with
  | leaf l => exact normalLeaf_eq_gen (Gen.LinopAdjoint.adjGen osh) l h.symm
  | _ => simp only [normal, Gen.LinopNormal.normalGen, Gen.LinopNormal.linopNormalDefault, h]

theorem gen_shortcut_iff (H : Expr α → Expr α) (l : Leaf α)
    (hH : H (.leaf l) = adj star (.leaf l)) :
    Shortcut (.leaf l : Expr α) ↔
      Gen.LinopNormal.normalLeafGen H l ≠ Gen.LinopNormal.linopNormalDefault H (.leaf l) := by
  cases l <;> simp [Shortcut, Gen.LinopNormal.normalLeafGen, Gen.LinopNormal.linopNormalDefault]

/-- **every analytic shortcut of the generated table is exact**: an arm that is not `self.H * self`
    (Identity, Reshape, Transpose, Circshift: `Identity(ishape)`) satisfies `Aᴴ(A x) = x = A.N x` on the whole
    input range (valid parameters: non-negative extents) -/
theorem gen_shortcuts_exact (H : Expr α → Expr α) (l : Leaf α) (hH : H (.leaf l) = adj star (.leaf l))
    (hv : ShortcutValid l)
    (hne : Gen.LinopNormal.normalLeafGen H l ≠ Gen.LinopNormal.linopNormalDefault H (.leaf l)) :
    ShortcutOK ofRat (.leaf l) :=
  shortcut_normal_is_identity ofRat (.leaf l) ((gen_shortcut_iff H l hH).mpr hne)
    (fun l' hl => by cases hl; exact hv)

/-- leaves with valid parameters that denote an operator (C01.LeafOK) and, for the shortcut classes, non-negative
    extents -/
def NormalLeafOK (l : Leaf α) : Prop := LeafOK ofRat l ∧ ShortcutValid l

/-- **`normal_denote` — `A.N` denotes `Aᴴ A`, about the translated source.**  For every tree built with
    Compose, Add, Conj, Hstack, Vstack, Diag over the proved leaf classes (valid parameters), whenever the tree
    denotes an operator `A`: the tree obtained by running the *generated* `_normal_linop` rules
    (`Gen.LinopNormal.normalGen`: the class's own override where sigpy/linop.py has one — Identity, Reshape,
    Transpose, Circshift —, `Linop._normal_linop = self.H * self` everywhere else, with `.H` the generated
    `_adjoint_linop` rules) denotes an `ishape × ishape` operator that acts on every index of the input range as
    `x ↦ Aᴴ(A x)`, `Aᴴ` being the true adjoint: `(A.N x)[j] = Σ_o conj(A[o,j]) (A x)[o]`. -/
theorem normal_denote (hreal : ∀ r, star (ofRat r) = ofRat r) (e : Expr α)
    (he : allLeaves (NormalLeafOK ofRat) e) (s : Sem α) (hs : denote star ofRat e = some s) :
    ∃ sN sH, denote star ofRat (Gen.LinopNormal.normalGen (oshOf ofRat) e) = some sN ∧
      denote star ofRat (Gen.LinopAdjoint.adjGen (oshOf ofRat) e) = some sH ∧
      sN.osh = s.ish ∧ sN.ish = s.ish ∧ IsAdj s.osz s.isz s.E sH.E ∧
      ∀ (x : Nat → α) (j : Nat), j < s.isz →
        applyF sN.E x j = applyF sH.E (applyF s.E x) j ∧
        applyF sN.E x j = dotL star (List.range s.osz) (applyF s.E (unitVec j)) (applyF s.E x) := by
  have hadj : adj star e = Gen.LinopAdjoint.adjGen (oshOf ofRat) e :=
    adj_eq_gen (oshOf ofRat) e (allLeaves_imp (fun l hl => adjLeaf_eq_gen ofRat l hl.1.1 hl.1.2) e he)
  rw [← normal_eq_gen (oshOf ofRat) e hadj, ← hadj]
  exact normal_denote_leaves ofRat hreal e (allLeaves_imp (fun l hl => ⟨hl.1.1, hl.2⟩) e he) s hs

/-- **Compose, nested rule.**  sigpy/linop.py has no `Compose._normal_linop` (`normal_overrides`), so
    `(B * C).N = (B * C).H * (B * C)`.  Should the nested rule `C.H * B.N * C` be adopted: whenever `B.N` acts as
    `x ↦ B.H(B x)`, it acts exactly as the default rule does.  (Associativity of composition: `sBH`, `sCH` are
    arbitrary, not required to be adjoints.) -/
theorem compose_normal_nest (sB sC sBH sCH sBN : Sem α)
    (hBN : ∀ x o, applyF sBN.E x o = applyF sBH.E (applyF sB.E x) o) (x : Nat → α) (j : Nat) :
    applyF (compE sCH.E (compE sBN.E sC.E)) x j
      = applyF (compE (compE sCH.E sBH.E) (compE sB.E sC.E)) x j := by
  simp only [applyF_compE_fun]
  rw [funext (hBN _)]

end

section fft
open Matrix

/-- the matrix of `fft` (`inv = false`) / `ifft` (`inv = true`) with `norm='ortho'`: the entries of the
    leaf `C01.fftLeaf` (C05's executable table, compared with `sigpy.fft` on every run of C05) -/
noncomputable def fftTable {N : ℕ} (inv center : Bool) (shape : Fin N → ℕ) (axes : List Int) :
    Matrix ((d : Fin N) → Fin (shape d)) ((d : Fin N) → Fin (shape d)) ℂ :=
  Matrix.of fun K J => C05.denote (C05.entry (C05.pipeOf inv center) true axes (List.ofFn fun d => (shape d : ℤ))
    (List.ofFn fun d => (shape d : ℤ)) (List.ofFn fun d => ((K d : ℕ) : ℤ)) (List.ofFn fun d => ((J d : ℕ) : ℤ)))

theorem fftTable_inv {N : ℕ} (center : Bool) (shape : Fin N → ℕ) (axes : List Int) :
    fftTable true center shape axes = (fftTable false center shape axes)ᴴ := by
  ext K J
  simp only [fftTable, of_apply, conjTranspose_apply]
  exact C05.ifft_table_eq_conjTranspose true center shape axes (fun d => rfl) K J

/-- **FFT.N = IFFT.N = Identity(shape), and `ifft`'s table inverts `fft`'s.**  The generated tables say:
    `FFT(sh, ax, center)._normal_linop` returns `Identity(sh)` and `.H` is `IFFT(sh, ax, center)` (and vice versa),
    for every `sh`, `ax`.  Separately, for every rank, `shape`, centred or not, and list `axes` of normalised axis
    numbers (`fftTable` transforms the axes `d` with `(d : ℤ) ∈ axes`; a negative entry selects nothing):
    `fftTable true · fftTable false = 1` and conversely.  Nothing in the statement relates `sh`, `ax` to `shape`,
    `axes`.  (C05: `fft_table_unitary`, `ifft_table_eq_conjTranspose`.) -/
theorem fft_shortcut_exact {N : ℕ} (center : Bool) (shape : Fin N → ℕ) (axes : List Int)
    (sh : List Int) (ax : Option (List Int)) :
    Gen.LinopNormal.normalOpaque (.fft sh ax center : Opaque ℂ) = .identity sh ∧
    Gen.LinopNormal.normalOpaque (.ifft sh ax center : Opaque ℂ) = .identity sh ∧
    Gen.LinopAdjoint.adjOpaque (.fft sh ax center : Opaque ℂ) = .ifft sh ax center ∧
    Gen.LinopAdjoint.adjOpaque (.ifft sh ax center : Opaque ℂ) = .fft sh ax center ∧
    fftTable true center shape axes * fftTable false center shape axes = 1 ∧
    fftTable false center shape axes * fftTable true center shape axes = 1 := by
  refine ⟨rfl, rfl, rfl, rfl, ?_, ?_⟩
  · rw [fftTable_inv]
    exact C05.fft_table_unitary false center shape axes
  · have h := C05.fft_table_unitary true center shape axes
    have e : fftTable false center shape axes = (fftTable true center shape axes)ᴴ := by
      rw [fftTable_inv, conjTranspose_conjTranspose]
    rw [e]
    exact h

/-- the wavelet and convolution classes and NUFFTAdjoint have the default rule; NUFFT with `toeplitz=False` too
    (`rfl` on the generated table: fails when one of these classes gains an override) -/
theorem normalOpaque_table (ishape : List Int) (coord : Arr Rat) (ov w : Rat) :
    Gen.LinopNormal.normalOpaque (.nufft ishape coord ov w false : Opaque ℂ) = .default ∧
    Gen.LinopNormal.normalOpaque (.nufftAdj ishape coord ov w : Opaque ℂ) = .default ∧
    (∀ ax wn lv, Gen.LinopNormal.normalOpaque (.wavelet ishape ax wn lv : Opaque ℂ) = .default) ∧
    (∀ ax wn lv, Gen.LinopNormal.normalOpaque (.iwavelet ishape ax wn lv : Opaque ℂ) = .default) ∧
    (∀ f m st mc, Gen.LinopNormal.normalOpaque (.convData ishape f m st mc : Opaque ℂ) = .default) ∧
    (∀ f m st mc, Gen.LinopNormal.normalOpaque (.convDataAdj ishape f m st mc : Opaque ℂ) = .default) ∧
    (∀ f m st mc, Gen.LinopNormal.normalOpaque (.convFilt ishape f m st mc : Opaque ℂ) = .default) ∧
    (∀ f m st mc, Gen.LinopNormal.normalOpaque (.convFiltAdj ishape f m st mc : Opaque ℂ) = .default) :=
  ⟨rfl, rfl, fun _ _ _ => rfl, fun _ _ _ => rfl, fun _ _ _ _ => rfl, fun _ _ _ _ => rfl, fun _ _ _ _ => rfl,
    fun _ _ _ _ => rfl⟩

end fft

/- non-vacuity: the generated table on a shortcut class and on a default class; a tree that satisfies the
   leaf hypothesis of `normal_denote` -/
example : Gen.LinopNormal.normalGen (fun _ => []) (.leaf (.transpose [2, 3] (some [-1, 0])) : Expr ℤ)
    = .leaf (.identity [2, 3]) := rfl
example : Gen.LinopNormal.normalGen (fun _ => []) (.leaf (.a2b [5] [2] [1]) : Expr ℤ)
    = .comp (.leaf (.b2a [5] [2] [1])) (.leaf (.a2b [5] [2] [1])) := rfl
example : allLeaves (NormalLeafOK (fun r : Rat => r.num))
    (.comp (.leaf (.sum [2, 3] [0])) (.leaf (.circshift [2, 3] [1] (some [-1]))) : Expr ℤ) := by
  have h : ∀ n ∈ [2, 3], (0 : Int) ≤ n := by decide
  exact ⟨⟨⟨trivial, by decide +kernel⟩, trivial⟩, ⟨h, by decide +kernel⟩, h⟩

end SigpyVerif.C04
