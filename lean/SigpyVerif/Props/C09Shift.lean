import SigpyVerif.Props.C09
import SigpyVerif.Lemmas.C09
import Mathlib.Data.List.Basic
import Mathlib.Data.List.Perm.Basic
import Mathlib.Algebra.BigOperators.Group.List.Basic
/-
  C09, array level: `util.flip` and `util.circshift` as whole-array index maps.
-/
namespace SigpyVerif.C09
open SigpyVerif

/-- the per-axis source map both `flip` and `circshift` use -/
def mapAxes (g : Nat → Int → Int → Int) (shape k : List Int) : List Int :=
  (List.zip (List.range shape.length) (List.zip shape k)).map fun (d, n, kd) => g d n kd

/-- the source index that `util.flip` / `util.circshift` compute has the rank of the array -/
theorem mapAxes_length (g : Nat → Int → Int → Int) (shape k : List Int)
    (h : k.length = shape.length) : (mapAxes g shape k).length = shape.length := by
  simp [mapAxes, h]

/-- axis `d` of the source index of `util.flip` / `util.circshift` depends only on `d`, the extent
    `n_d` and the output coordinate `k_d` -/
theorem mapAxes_getD (g : Nat → Int → Int → Int) (shape k : List Int)
    (h : k.length = shape.length) (d : Nat) (hd : d < shape.length) :
    (mapAxes g shape k).getD d 0 = g d (shape.getD d 0) (k.getD d 0) := by
  have hl := mapAxes_length g shape k h
  rw [getD_of_lt _ _ (hl ▸ hd), getD_of_lt _ _ hd, getD_of_lt _ _ (h ▸ hd)]
  simp only [mapAxes, List.getElem_map, List.getElem_zip, List.getElem_range]

/-- if every axis map keeps `0 ≤ · < n`, the source index of `util.flip` / `util.circshift` is a valid
    index of the array (no out-of-bounds read) -/
theorem mapAxes_mem_allIdx (g : Nat → Int → Int → Int) (shape k : List Int)
    (hk : k ∈ allIdx shape)
    (hg : ∀ d n kd, 0 ≤ kd → kd < n → 0 ≤ g d n kd ∧ g d n kd < n) :
    mapAxes g shape k ∈ allIdx shape := by
  obtain ⟨hl, hb⟩ := mem_allIdx_iff_getD.mp hk
  refine mem_allIdx_iff_getD.mpr ⟨mapAxes_length g shape k hl, fun d hd => ?_⟩
  rw [mapAxes_getD g shape k hl d hd]
  exact hg d _ _ (hb d hd).1 (hb d hd).2

/-- where output multi-index `k` of `util.flip` reads from -/
def flipSrc (shape : List Int) (axes : Option (List Int)) (k : List Int) : List Int :=
  mapAxes (fun d n kd =>
    if (normalizeAxes axes shape.length).contains (d : Int) then n - 1 - kd else kd) shape k

/-- `util.flip(x, axes)`: the output at multi-index `k` is the input at `flipSrc k`, for every
    in-range `k` (whole-array statement, not just per axis). -/
theorem flip_array_spec {α : Type} [Zero α] (shape : List Int) (axes : Option (List Int))
    (x : Array α) (k : List Int) (hk : k ∈ allIdx shape) :
    (flip shape axes x).getD (ravel shape k).toNat 0
      = x.getD (ravel shape (flipSrc shape axes k)).toNat 0 :=
  map_allIdx_getD shape (fun k => x.getD (ravel shape (flipSrc shape axes k)).toNat 0) k hk

/-- `util.flip`: axis `d` of the source index is `n_d - 1 - k_d` when `d` is among the normalised
    axes (`axes % ndim`, or all axes for `None`), and `k_d` otherwise. -/
theorem flipSrc_getD (shape : List Int) (axes : Option (List Int)) (k : List Int)
    (hk : k ∈ allIdx shape) (d : Nat) (hd : d < shape.length) :
    (flipSrc shape axes k).getD d 0 =
      if (normalizeAxes axes shape.length).contains (d : Int)
      then shape.getD d 0 - 1 - k.getD d 0 else k.getD d 0 :=
  mapAxes_getD _ shape k (length_of_mem_allIdx hk) d hd

/-- `util.flip` never reads outside the input array. -/
theorem flipSrc_mem (shape : List Int) (axes : Option (List Int)) (k : List Int)
    (hk : k ∈ allIdx shape) : flipSrc shape axes k ∈ allIdx shape := by
  refine mapAxes_mem_allIdx _ shape k hk fun d n kd h0 h1 => ?_
  split <;> omega

/-- the index map of `util.flip` is an involution of the index set -/
theorem flipSrc_involutive (shape : List Int) (axes : Option (List Int)) (k : List Int)
    (hk : k ∈ allIdx shape) : flipSrc shape axes (flipSrc shape axes k) = k := by
  have hm := flipSrc_mem shape axes k hk
  have hl := length_of_mem_allIdx hk
  have hl'' := length_of_mem_allIdx (flipSrc_mem shape axes _ hm)
  refine ext_getD 0 (hl''.trans hl.symm) fun d hd => ?_
  have hd' : d < shape.length := hl'' ▸ hd
  rw [flipSrc_getD shape axes _ hm d hd', flipSrc_getD shape axes k hk d hd']
  split <;> omega

/-- `util.flip(util.flip(x, axes), axes) == x` at every position of the array. -/
theorem flip_flip_array {α : Type} [Zero α] (shape : List Int) (axes : Option (List Int))
    (x : Array α) (k : List Int) (hk : k ∈ allIdx shape) :
    (flip shape axes (flip shape axes x)).getD (ravel shape k).toNat 0
      = x.getD (ravel shape k).toNat 0 := by
  rw [flip_array_spec shape axes _ k hk,
    flip_array_spec shape axes x _ (flipSrc_mem shape axes k hk),
    flipSrc_involutive shape axes k hk]

example : flipSrc [3, 4] (some [-1]) [0, 1] = [0, 2] := by decide +kernel
example : flipSrc [3, 4] none [0, 1] = [2, 2] := by decide +kernel
example : flip [2, 3] (some [1]) #[(1 : Int), 2, 3, 4, 5, 6] = #[3, 2, 1, 6, 5, 4] := by decide +kernel

/-- source index of one `np.roll(·, s, axis=a)` -/
def rollStep (shape : List Int) (a s : Int) (k : List Int) : List Int :=
  mapAxes (fun d n kd => if (d : Int) = a then rollSrc n s kd else kd) shape k

/-- source index of a sequence of rolls `ps = [(axis, shift), …]` applied in list order: the LAST
    roll is undone first. -/
def circSrc (shape : List Int) (ps : List (Int × Int)) (k : List Int) : List Int :=
  ps.foldr (fun p acc => rollStep shape p.1 p.2 acc) k

theorem circSrc_nil (shape k : List Int) : circSrc shape [] k = k := rfl

/-- `util.circshift`: the first roll of the list is the outermost map of the source index
    (`out_m[k] = x[g_1 (g_2 (… g_m k))]`) -/
theorem circSrc_cons (shape : List Int) (p : Int × Int) (ps : List (Int × Int)) (k : List Int) :
    circSrc shape (p :: ps) k = rollStep shape p.1 p.2 (circSrc shape ps k) := rfl

/-- one `np.roll` along one axis never reads outside the array -/
theorem rollStep_mem (shape : List Int) (a s : Int) (k : List Int) (hk : k ∈ allIdx shape) :
    rollStep shape a s k ∈ allIdx shape := by
  refine mapAxes_mem_allIdx _ shape k hk fun d n kd h0 h1 => ?_
  split
  · exact roll_in_range n s kd (by omega)
  · omega

/-- `util.circshift` never reads outside the input array -/
theorem circSrc_mem (shape : List Int) (ps : List (Int × Int)) (k : List Int)
    (hk : k ∈ allIdx shape) : circSrc shape ps k ∈ allIdx shape := by
  induction ps with
  | nil => exact hk
  | cons p ps ih => rw [circSrc_cons]; exact rollStep_mem shape p.1 p.2 _ ih

/-- one roll of the model, as a function on flat arrays -/
def rollArr {α : Type} [Zero α] (shape : List Int) (cur : Array α) (p : Int × Int) : Array α :=
  ((allIdx shape).map fun k => cur.getD (ravel shape (rollStep shape p.1 p.2 k)).toNat 0).toArray

/-- `util.circshift` of the model is the fold of `rollArr` over the (normalised axis, shift) pairs -/
theorem circshift_eq {α : Type} [Zero α] (shape shifts : List Int) (axes : Option (List Int))
    (x : Array α) :
    circshift shape shifts axes x =
      if ((axes.getD (pyRange0 shape.length)).map (fun a => pyMod a shape.length)).length
          ≠ shifts.length then none
      else some ((List.zip ((axes.getD (pyRange0 shape.length)).map
        (fun a => pyMod a shape.length)) shifts).foldl (rollArr shape) x) := rfl

/-- a sequence of `np.roll`s (the loop of `util.circshift`) reads output position `k` from `circSrc k` -/
theorem foldl_rollArr_getD {α : Type} [Zero α] (shape : List Int) (ps : List (Int × Int))
    (x : Array α) (k : List Int) (hk : k ∈ allIdx shape) :
    (ps.foldl (rollArr shape) x).getD (ravel shape k).toNat 0
      = x.getD (ravel shape (circSrc shape ps k)).toNat 0 := by
  induction ps generalizing x with
  | nil => rfl
  | cons p ps ih =>
    rw [List.foldl_cons, ih, circSrc_cons]
    exact map_allIdx_getD shape _ _ (circSrc_mem shape ps k hk)

/-- The model of `util.circshift(x, shifts, axes)` returns a result exactly when there is one shift per
    axis (`axes=None` means all axes).  It wraps every axis with `% ndim`; numpy raises on an axis
    outside `-ndim ≤ a < ndim`. -/
theorem circshift_isSome_iff {α : Type} [Zero α] (shape shifts : List Int)
    (axes : Option (List Int)) (x : Array α) :
    (circshift shape shifts axes x).isSome ↔
      ((axes.getD (pyRange0 shape.length)).map (fun a => pyMod a shape.length)).length
        = shifts.length := by
  rw [circshift_eq]
  split <;> simp_all

/-- `util.circshift(x, shifts, axes)`: the output at multi-index `k` is the input at
    `circSrc k`, the composition of the single-axis roll sources over the (normalised axis, shift)
    pairs — for every in-range `k` of the whole array. -/
theorem circshift_array_spec {α : Type} [Zero α] (shape shifts : List Int)
    (axes : Option (List Int)) (x y : Array α) (h : circshift shape shifts axes x = some y)
    (k : List Int) (hk : k ∈ allIdx shape) :
    y.getD (ravel shape k).toNat 0
      = x.getD (ravel shape (circSrc shape
          (List.zip ((axes.getD (pyRange0 shape.length)).map (fun a => pyMod a shape.length))
            shifts) k)).toNat 0 := by
  rw [circshift_eq] at h
  split at h
  · exact absurd h (by simp)
  · rw [← Option.some.inj h]
    exact foldl_rollArr_getD shape _ x k hk

/-- one `np.roll(·, s, axis=a)` changes coordinate `a` to `(k_a - s) mod n_a` and no other -/
theorem rollStep_getD (shape : List Int) (a s : Int) (k : List Int)
    (hl : k.length = shape.length) (d : Nat) (hd : d < shape.length) :
    (rollStep shape a s k).getD d 0 =
      if (d : Int) = a then rollSrc (shape.getD d 0) s (k.getD d 0) else k.getD d 0 :=
  mapAxes_getD _ shape k hl d hd

/-- rolling an already rolled axis adds the shifts -/
theorem rollSrc_pyMod (n s t k : Int) (hn : 0 < n) :
    rollSrc n s (pyMod (k - t) n) = pyMod (k - (s + t)) n := by
  unfold rollSrc
  rw [pyMod_of_pos _ hn, pyMod_of_pos _ hn, pyMod_of_pos _ hn, Int.emod_sub_emod]
  congr 1; ring

/-- **Total shift per axis.**  `util.circshift` with (normalised axis, shift) pairs `ps` reads, on
    axis `d`, from `(k_d - Σ shifts on axis d) mod n_d`: repeated axes add their shifts, the order of
    the pairs is irrelevant, and an axis that is not mentioned is untouched. -/
theorem circSrc_getD (shape : List Int) (ps : List (Int × Int)) (k : List Int)
    (hk : k ∈ allIdx shape) (d : Nat) (hd : d < shape.length) :
    (circSrc shape ps k).getD d 0 =
      pyMod (k.getD d 0 - ((ps.filter (fun p => decide (p.1 = (d : Int)))).map (·.2)).sum)
        (shape.getD d 0) := by
  obtain ⟨hl, hb⟩ := mem_allIdx_iff_getD.mp hk
  obtain ⟨h0, h1⟩ := hb d hd
  have hn : 0 < shape.getD d 0 := by omega
  induction ps with
  | nil =>
    simp only [circSrc_nil, List.filter_nil, List.map_nil, List.sum_nil, sub_zero]
    rw [pyMod_eq_of_lt h0 h1]
  | cons p ps ih =>
    rw [circSrc_cons,
      rollStep_getD shape p.1 p.2 _ (length_of_mem_allIdx (circSrc_mem shape ps k hk)) d hd, ih]
    by_cases h : p.1 = (d : Int)
    · rw [List.filter_cons_of_pos (by simpa using h), List.map_cons, List.sum_cons,
        if_pos h.symm, rollSrc_pyMod _ _ _ _ hn]
    · rw [List.filter_cons_of_neg (by simpa using h), if_neg (fun e => h e.symm)]

/-- an axis that no pair mentions is not moved by `util.circshift` -/
theorem circSrc_getD_untouched (shape : List Int) (ps : List (Int × Int)) (k : List Int)
    (hk : k ∈ allIdx shape) (d : Nat) (hd : d < shape.length)
    (hnot : (d : Int) ∉ ps.map (·.1)) : (circSrc shape ps k).getD d 0 = k.getD d 0 := by
  obtain ⟨hl, hb⟩ := mem_allIdx_iff_getD.mp hk
  obtain ⟨h0, h1⟩ := hb d hd
  have hf : ps.filter (fun p => decide (p.1 = (d : Int))) = [] := by
    rw [List.filter_eq_nil_iff]
    intro p hp
    simp only [decide_eq_true_eq]
    intro e
    exact hnot (List.mem_map.mpr ⟨p, hp, e⟩)
  rw [circSrc_getD shape ps k hk d hd, hf]
  simp only [List.map_nil, List.sum_nil, sub_zero]
  rw [pyMod_eq_of_lt h0 h1]

/-- helper for `util.circshift` with distinct axes: the total shift on axis `a` is the single shift
    paired with it -/
theorem filter_sum_of_nodup (ps : List (Int × Int)) (hnd : (ps.map (·.1)).Nodup) (a s : Int)
    (hm : (a, s) ∈ ps) : ((ps.filter (fun p => decide (p.1 = a))).map (·.2)).sum = s := by
  induction ps with
  | nil => simp at hm
  | cons p ps ih =>
    rw [List.map_cons, List.nodup_cons] at hnd
    rcases List.mem_cons.mp hm with e | hm'
    · subst e
      have hf : ps.filter (fun p => decide (p.1 = a)) = [] := by
        rw [List.filter_eq_nil_iff]
        intro q hq
        simp only [decide_eq_true_eq]
        intro e
        exact hnd.1 (List.mem_map.mpr ⟨q, hq, e⟩)
      rw [List.filter_cons_of_pos (by simp), hf]; simp
    · have hne : p.1 ≠ a := fun e =>
        hnd.1 (List.mem_map.mpr ⟨(a, s), hm', e.symm⟩)
      rw [List.filter_cons_of_neg (by simpa using hne)]
      exact ih hnd.2 hm'

/-- **Distinct axes = simultaneous shift.**  When the normalised axes of `util.circshift` are pairwise
    distinct (the documented use), axis `d` of the source is `(k_d - s) mod n_d` if `(d, s)` is one of
    the pairs and `k_d` if `d` is not an axis of the call. -/
theorem circshift_distinct_axes (shape : List Int) (ps : List (Int × Int)) (k : List Int)
    (hk : k ∈ allIdx shape) (hnd : (ps.map (·.1)).Nodup) (d : Nat) (hd : d < shape.length) :
    (∀ s, ((d : Int), s) ∈ ps →
        (circSrc shape ps k).getD d 0 = rollSrc (shape.getD d 0) s (k.getD d 0)) ∧
    ((d : Int) ∉ ps.map (·.1) → (circSrc shape ps k).getD d 0 = k.getD d 0) := by
  refine ⟨fun s hs => ?_, circSrc_getD_untouched shape ps k hk d hd⟩
  rw [circSrc_getD shape ps k hk d hd, filter_sum_of_nodup ps hnd d s hs]
  rfl

/-- **Order independence.**  `util.circshift` gives the same result for any reordering of its
    (axis, shift) pairs. -/
theorem circshift_perm (shape : List Int) (ps ps' : List (Int × Int)) (hp : ps.Perm ps')
    (k : List Int) (hk : k ∈ allIdx shape) : circSrc shape ps k = circSrc shape ps' k := by
  have h1 := length_of_mem_allIdx (circSrc_mem shape ps k hk)
  have h2 := length_of_mem_allIdx (circSrc_mem shape ps' k hk)
  refine ext_getD 0 (h1.trans h2.symm) fun d hd => ?_
  have hd' : d < shape.length := h1 ▸ hd
  rw [circSrc_getD shape ps k hk d hd', circSrc_getD shape ps' k hk d hd',
    ((hp.filter _).map _).sum_eq]

theorem circshift_perm_array {α : Type} [Zero α] (shape : List Int) (ps ps' : List (Int × Int))
    (hp : ps.Perm ps') (x : Array α) (k : List Int) (hk : k ∈ allIdx shape) :
    (ps.foldl (rollArr shape) x).getD (ravel shape k).toNat 0
      = (ps'.foldl (rollArr shape) x).getD (ravel shape k).toNat 0 := by
  rw [foldl_rollArr_getD shape ps x k hk, foldl_rollArr_getD shape ps' x k hk,
    circshift_perm shape ps ps' hp k hk]

/-- helper for `util.circshift` with negated shifts: the total shift per axis is negated -/
theorem filter_neg_sum (ps : List (Int × Int)) (a : Int) :
    (((ps.map (fun p => (p.1, -p.2))).filter (fun p => decide (p.1 = a))).map (·.2)).sum
      = -((ps.filter (fun p => decide (p.1 = a))).map (·.2)).sum := by
  induction ps with
  | nil => simp
  | cons p ps ih =>
    rw [List.map_cons]
    by_cases h : p.1 = a
    · rw [List.filter_cons_of_pos (by simpa using h), List.filter_cons_of_pos (by simpa using h),
        List.map_cons, List.sum_cons, List.map_cons, List.sum_cons, ih]
      ring
    · rw [List.filter_cons_of_neg (by simpa using h), List.filter_cons_of_neg (by simpa using h), ih]

/-- **Inverse.**  `circshift(circshift(x, shifts, axes), -shifts, axes)` reads every entry from its
    own position: the source index of the combined (axis, shift) list is `k` itself. -/
theorem circshift_inverse_array (shape : List Int) (ps : List (Int × Int)) (k : List Int)
    (hk : k ∈ allIdx shape) :
    circSrc shape (ps ++ ps.map (fun p => (p.1, -p.2))) k = k := by
  obtain ⟨hl, hb⟩ := mem_allIdx_iff_getD.mp hk
  have h1 := length_of_mem_allIdx (circSrc_mem shape (ps ++ ps.map (fun p => (p.1, -p.2))) k hk)
  refine ext_getD 0 (h1.trans hl.symm) fun d hd => ?_
  have hd' : d < shape.length := h1 ▸ hd
  obtain ⟨h0, h1⟩ := hb d hd'
  rw [circSrc_getD shape _ k hk d hd', List.filter_append, List.map_append, List.sum_append,
    filter_neg_sum, add_neg_cancel, sub_zero, pyMod_eq_of_lt h0 h1]

/-- array form: two successive model rolls, by `ps` then by the negated shifts, restore `x`. -/
theorem circshift_inverse_array_getD {α : Type} [Zero α] (shape : List Int)
    (ps : List (Int × Int)) (x : Array α) (k : List Int) (hk : k ∈ allIdx shape) :
    ((ps.map (fun p => (p.1, -p.2))).foldl (rollArr shape) (ps.foldl (rollArr shape) x)).getD
        (ravel shape k).toNat 0 = x.getD (ravel shape k).toNat 0 := by
  rw [← List.foldl_append, foldl_rollArr_getD shape _ x k hk,
    circshift_inverse_array shape ps k hk]

/-- **Round trip through the model.**  If `y = circshift(x, shifts, axes)` and
    `z = circshift(y, -shifts, axes)` then `z` equals `x` at every position. -/
theorem circshift_roundtrip {α : Type} [Zero α] (shape shifts : List Int)
    (axes : Option (List Int)) (x y z : Array α)
    (h1 : circshift shape shifts axes x = some y)
    (h2 : circshift shape (shifts.map (fun s => -s)) axes y = some z)
    (k : List Int) (hk : k ∈ allIdx shape) :
    z.getD (ravel shape k).toNat 0 = x.getD (ravel shape k).toNat 0 := by
  rw [circshift_array_spec shape _ axes y z h2 k hk,
    circshift_array_spec shape shifts axes x y h1 _ (circSrc_mem shape _ k hk)]
  have e : ∀ ax : List Int, List.zip ax (shifts.map (fun s => -s))
      = (List.zip ax shifts).map (fun p => (p.1, -p.2)) := by
    intro ax
    rw [List.zip_map_right]
    rfl
  rw [e]
  have := circshift_inverse_array shape
    (List.zip ((axes.getD (pyRange0 shape.length)).map (fun a => pyMod a shape.length)) shifts) k hk
  unfold circSrc at this ⊢
  rw [List.foldr_append] at this
  rw [this]

example : circSrc [3, 4] [(1, 1), (1, 2), (0, -1)] [0, 0] = [1, 1] := by decide +kernel
example : circSrc [3, 4] [(0, -1), (1, 2), (1, 1)] [0, 0] = [1, 1] := by decide +kernel
example : circSrc [3, 4] ([(1, 1), (0, 2)] ++ [(1, -1), (0, -2)]) [2, 3] = [2, 3] := by decide +kernel
example : rollStep [3, 4] 1 1 [0, 0] = [0, 3] := by decide +kernel
example : circshift [2, 3] [1] (some [-1]) #[(1 : Int), 2, 3, 4, 5, 6]
    = some #[3, 1, 2, 6, 4, 5] := by decide +kernel
example : circshift [2, 3] [1, 1] (some [1]) #[(1 : Int), 2, 3, 4, 5, 6] = none := by decide +kernel
example : (circshift [2, 3] [1, 1] none #[(1 : Int), 2, 3, 4, 5, 6]).isSome = true := by decide +kernel

end SigpyVerif.C09
