import SigpyVerif.Gen.Prox
import SigpyVerif.Props.C11
import Mathlib.Algebra.BigOperators.Intervals
import Mathlib.Algebra.BigOperators.Fin
import Mathlib.Algebra.BigOperators.Group.List.Basic
import Mathlib.Algebra.Order.BigOperators.Group.Finset
import Mathlib.Algebra.Order.Field.Basic
/-
  C11 — Duchi–Shalev-Shwartz–Singer index search of `thresh.l1_proj`:

      s   = xp.sort(xp.abs(input))[::-1]
      st  = (xp.cumsum(s) - eps) / (xp.arange(size) + 1)
      idx = xp.flatnonzero((s - st) > 0).max()
      return soft_thresh(st[idx], input.reshape(shape))

  `duchi_theta`: for a non-increasing, non-negative `s₀ ≥ … ≥ s_{n-1}` with `Σ s ≥ ε` (the else-branch of the
  code: `‖input‖₁ < eps` is false), `st k` the generated candidate `Gen.Prox.l1projSt (Σ_{i ≤ k} s i) ε k` and `ρ` the
  largest index satisfying the generated condition `Gen.Prox.l1projCond (s k) (st k)`, the threshold `θ = st ρ`
  satisfies the KKT hypothesis of `l1_proj_kkt_*`:  `θ ≥ 0` and `Σ_i (s i - θ)₊ = ε`.
  `duchi_index_exists`: for `ε > 0`, `n > 0` such a largest index exists (index 0 qualifies), so `.max()` does not
  raise.  `l1_proj_duchi_real / _complex`: hence `soft_thresh(st[idx], y)` **is** the projection of `y` onto the
  l1 ball, where the sort is any permutation `σ` that arranges the moduli in non-increasing order.
  Here `sort(...)[::-1]`, `cumsum`, `arange` and `flatnonzero(m).max()` are read as that arrangement, the partial sums,
  `k ↦ k` and the largest index where `m` holds; the list code of the generated body that computes them is treated in
  `Props/C11L1Body.lean` (`l1body_theta`, the sort under `SortContract`).
-/
namespace SigpyVerif.C11
open SigpyVerif.Gen.Prox Finset

/-- core of Duchi's index search (0-based): `C k = Σ_{i ≤ k} s i`, `θ = (C ρ - ε)/(ρ+1)`; over any ordered field
    (`ℝ` for the statement about arrays, `ℚ` for the executable model). -/
theorem duchi_core {K : Type*} [Field K] [LinearOrder K] [IsStrictOrderedRing K]
    (s : ℕ → K) (n ρ : ℕ) (hρ : ρ < n) (ε : K)
    (hanti : ∀ i j, i ≤ j → j < n → s j ≤ s i) (hnn : ∀ i, i < n → 0 ≤ s i)
    (hsum : ε ≤ ∑ i ∈ range n, s i)
    (hc : s ρ - ((∑ i ∈ range (ρ + 1), s i) - ε) / ((ρ : K) + 1) > 0)
    (hnc : ρ + 1 < n → ¬ (s (ρ + 1) - ((∑ i ∈ range (ρ + 1 + 1), s i) - ε) / (((ρ + 1 : ℕ) : K) + 1) > 0)) :
    0 ≤ ((∑ i ∈ range (ρ + 1), s i) - ε) / ((ρ : K) + 1) ∧
    ∑ i ∈ range n, max (s i - ((∑ i ∈ range (ρ + 1), s i) - ε) / ((ρ : K) + 1)) 0 = ε := by
  have hp : (0 : K) < (ρ : K) + 1 := by positivity
  set θ := ((∑ i ∈ range (ρ + 1), s i) - ε) / ((ρ : K) + 1) with hθ
  have hθmul : θ * ((ρ : K) + 1) = (∑ i ∈ range (ρ + 1), s i) - ε := div_mul_cancel₀ _ hp.ne'
  have hhead : ∀ i ≤ ρ, θ ≤ s i := fun i hi => (sub_pos.mp hc).le.trans (hanti i ρ hi hρ)
  -- the next entry (if any), hence every later one, is ≤ θ
  have hnext : ρ + 1 < n → s (ρ + 1) ≤ θ := by
    intro h
    have h2 := not_lt.mp (hnc h)
    rw [sub_nonpos, sum_range_succ, le_div_iff₀ (by positivity)] at h2
    push_cast at h2
    rw [hθ, le_div_iff₀ hp]
    linear_combination h2
  have htail : ∀ i ∈ Ico (ρ + 1) n, s i ≤ θ := fun i hi =>
    (hanti (ρ + 1) i (mem_Ico.mp hi).1 (mem_Ico.mp hi).2).trans
      (hnext (lt_of_le_of_lt (mem_Ico.mp hi).1 (mem_Ico.mp hi).2))
  constructor
  · rcases Nat.lt_or_ge (ρ + 1) n with h | h
    · exact (hnn _ h).trans (hnext h)
    · exact div_nonneg (sub_nonneg.mpr (le_antisymm hρ h ▸ hsum)) hp.le
  -- entries up to `ρ` contribute `s i - θ`, later ones nothing
  have h1 : ∑ i ∈ range (ρ + 1), max (s i - θ) 0 = ∑ i ∈ range (ρ + 1), (s i - θ) :=
    sum_congr rfl fun i hi => max_eq_left (sub_nonneg.mpr (hhead i (Nat.lt_succ_iff.mp (mem_range.mp hi))))
  have h2 : ∑ i ∈ Ico (ρ + 1) n, max (s i - θ) 0 = 0 :=
    sum_eq_zero fun i hi => max_eq_right (sub_nonpos.mpr (htail i hi))
  rw [← sum_range_add_sum_Ico _ (Nat.succ_le_of_lt hρ), Nat.succ_eq_add_one, h1, h2, sum_sub_distrib, sum_const,
    card_range, nsmul_eq_mul, add_zero]
  push_cast
  linear_combination -hθmul

theorem duchi_cond_zero {K : Type*} [Field K] [LinearOrder K] [IsStrictOrderedRing K] (s : ℕ → K) {ε : K}
    (hε : 0 < ε) : s 0 - ((∑ i ∈ range (0 + 1), s i) - ε) / (((0 : ℕ) : K) + 1) > 0 := by
  rw [zero_add, sum_range_one, Nat.cast_zero, zero_add, div_one, sub_sub_cancel]; exact hε

theorem getD_eq_getElem' {γ : Type*} (l : List γ) (k : ℕ) (d : γ) (h : k < l.length) : l.getD k d = l[k] := by
  simp [List.getD_eq_getElem?_getD, h]

theorem zipWith_map_range {α β γ : Type*} (f : α → β → γ) (l : List α) (d : α) (T : ℕ → β) {n : ℕ}
    (hl : l.length = n) :
    List.zipWith f l ((List.range n).map T) = (List.range n).map fun k => f (l.getD k d) (T k) := by
  subst hl
  apply List.ext_getElem
  · simp
  · intro k h1 h2
    simp only [List.getElem_zipWith, List.getElem_map, List.getElem_range]
    rw [getD_eq_getElem' l k d]

theorem list_sum_eq_range {K : Type*} [Field K] (g : K → K) (l : List K) :
    (l.map g).sum = ∑ i ∈ range l.length, g (l.getD i 0) := by
  induction l with
  | nil => simp
  | cons a t ih =>
    rw [List.map_cons, List.sum_cons, ih, List.length_cons, sum_range_succ', add_comm]
    simp only [List.getD_cons_succ, List.getD_cons_zero]

/-- `duchi_core` for `s` a non-increasing rearrangement of the non-negative list `mods` (`xp.sort(...)[::-1]`) -/
theorem duchi_core_sorted {K : Type*} [Field K] [LinearOrder K] [IsStrictOrderedRing K] (s mods : List K)
    (hperm : s.Perm mods) (hsorted : s.Pairwise (· ≥ ·)) (hnn : ∀ m ∈ mods, 0 ≤ m) {ε : K} (hsum : ε ≤ mods.sum)
    (ρ : ℕ) (hρ : ρ < s.length)
    (hc : s.getD ρ 0 - ((∑ i ∈ range (ρ + 1), s.getD i 0) - ε) / ((ρ : K) + 1) > 0)
    (hnc : ρ + 1 < s.length →
      ¬ (s.getD (ρ + 1) 0 - ((∑ i ∈ range (ρ + 1 + 1), s.getD i 0) - ε) / (((ρ + 1 : ℕ) : K) + 1) > 0)) :
    0 ≤ ((∑ i ∈ range (ρ + 1), s.getD i 0) - ε) / ((ρ : K) + 1) ∧
    (mods.map fun m => max (m - ((∑ i ∈ range (ρ + 1), s.getD i 0) - ε) / ((ρ : K) + 1)) 0).sum = ε := by
  have core := duchi_core (fun k => s.getD k 0) s.length ρ hρ ε
    (fun i j hij hj => by
      have hi : i < s.length := lt_of_le_of_lt hij hj
      rw [getD_eq_getElem' s i 0 hi, getD_eq_getElem' s j 0 hj]
      rcases Nat.lt_or_eq_of_le hij with h | rfl
      · exact List.pairwise_iff_getElem.mp hsorted i j hi hj h
      · exact le_refl _)
    (fun i hi => by
      rw [getD_eq_getElem' s i 0 hi]; exact hnn _ (hperm.mem_iff.mp (List.getElem_mem hi)))
    (by rw [← list_sum_eq_range (fun x => x), List.map_id', hperm.sum_eq]; exact hsum) hc hnc
  rw [← (hperm.map _).sum_eq, list_sum_eq_range]
  exact core

/-- `st[k]` as the code computes it: `(cumsum(s)[k] - eps) / (arange(size)[k] + 1)` (generated `l1projSt`) -/
noncomputable def duchiSt (s : ℕ → ℝ) (ε : ℝ) (k : ℕ) : ℝ := l1projSt (∑ i ∈ range (k + 1), s i) ε (k : ℝ)

/-- `((s - st) > 0)[k]` (generated `l1projCond`) -/
noncomputable def duchiCond (s : ℕ → ℝ) (ε : ℝ) (k : ℕ) : Bool := l1projCond (s k) (duchiSt s ε k)

/-- `idx = flatnonzero((s - st) > 0).max()`: the largest index `< n` where the condition holds -/
def IsDuchiIdx (s : ℕ → ℝ) (ε : ℝ) (n ρ : ℕ) : Prop :=
  ρ < n ∧ duchiCond s ε ρ = true ∧ ∀ k, ρ < k → k < n → duchiCond s ε k = false

set_option linter.unusedTactic false in
set_option linter.unreachableTactic false in
/-- the generated condition in inequality form, whichever way the source spells the candidate and the comparison
    (`(c - eps) / (k + 1)`, `s - st > 0` or commuted forms: `ring_nf`, `linarith` absorb them) -/
theorem l1projCond_iff {K : Type} [Field K] [LinearOrder K] [IsStrictOrderedRing K] (sk c ε k : K) :
    l1projCond sk (l1projSt c ε k) = true ↔ sk - (c - ε) / (k + 1) > 0 := by
  unfold l1projCond l1projSt
  rw [decide_eq_true_iff] <;> (constructor <;> intro h <;> (try ring_nf at h ⊢) <;> linarith)

theorem duchiCond_iff (s : ℕ → ℝ) (ε : ℝ) (k : ℕ) :
    duchiCond s ε k = true ↔ s k - ((∑ i ∈ range (k + 1), s i) - ε) / ((k : ℝ) + 1) > 0 :=
  l1projCond_iff _ _ _ _

/-- **`duchi_theta`.**  `s` non-increasing and non-negative on `[0, n)`, `Σ s ≥ ε`, `ρ` the index the code
    selects: `θ = st[ρ]` satisfies `θ ≥ 0` and `Σ_i (s i - θ)₊ = ε` (the hypothesis of `l1_proj_kkt_*`). -/
theorem duchi_theta (s : ℕ → ℝ) (n ρ : ℕ) (ε : ℝ)
    (hanti : ∀ i j, i ≤ j → j < n → s j ≤ s i) (hnn : ∀ i, i < n → 0 ≤ s i)
    (hsum : ε ≤ ∑ i ∈ range n, s i) (hidx : IsDuchiIdx s ε n ρ) :
    0 ≤ duchiSt s ε ρ ∧ ∑ i ∈ range n, max (s i - duchiSt s ε ρ) 0 = ε := by
  obtain ⟨hρ, hc, hmax⟩ := hidx
  have e : duchiSt s ε ρ = ((∑ i ∈ range (ρ + 1), s i) - ε) / ((ρ : ℝ) + 1) := by
    unfold duchiSt l1projSt; ring
  rw [e]
  refine duchi_core s n ρ hρ ε hanti hnn hsum ((duchiCond_iff s ε ρ).mp hc) fun h => ?_
  have := hmax (ρ + 1) (Nat.lt_succ_self ρ) h
  rw [← duchiCond_iff, this]
  exact Bool.false_ne_true

/-- **the index exists** (`.max()` of a non-empty set): for `ε > 0` index `0` satisfies the condition
    (`s₀ - (s₀ - ε)/1 = ε > 0`). -/
theorem duchi_index_exists (s : ℕ → ℝ) (n : ℕ) (hn : 0 < n) {ε : ℝ} (hε : 0 < ε) :
    ∃ ρ, IsDuchiIdx s ε n ρ := by
  classical
  have h0 : duchiCond s ε 0 = true := (duchiCond_iff s ε 0).mpr (duchi_cond_zero s hε)
  refine ⟨Nat.findGreatest (fun k => duchiCond s ε k = true) (n - 1), ?_, ?_, fun k hk hkn => ?_⟩
  · exact lt_of_le_of_lt (Nat.findGreatest_le _) (Nat.sub_lt hn Nat.one_pos)
  · exact Nat.findGreatest_spec (P := fun k => duchiCond s ε k = true) (Nat.zero_le _) h0
  · have := Nat.findGreatest_is_greatest (P := fun k => duchiCond s ε k = true) hk (Nat.le_sub_one_of_lt hkn)
    simpa using this

/-- the same for the moduli `a` of an array and a permutation `σ` that sorts them in non-increasing order -/
theorem duchi_kkt_of_sorted {n : ℕ} (a : Fin n → ℝ) (ha : ∀ i, 0 ≤ a i) (σ : Equiv.Perm (Fin n))
    (hσ : ∀ i j : Fin n, i ≤ j → a (σ j) ≤ a (σ i)) {ε : ℝ} (hsum : ε ≤ ∑ i, a i) (ρ : ℕ)
    (hidx : IsDuchiIdx (fun k => if h : k < n then a (σ ⟨k, h⟩) else 0) ε n ρ) :
    0 ≤ duchiSt (fun k => if h : k < n then a (σ ⟨k, h⟩) else 0) ε ρ ∧
    ∑ i, max (a i - duchiSt (fun k => if h : k < n then a (σ ⟨k, h⟩) else 0) ε ρ) 0 = ε := by
  set s : ℕ → ℝ := fun k => if h : k < n then a (σ ⟨k, h⟩) else 0 with hs
  have hval : ∀ i : Fin n, s i = a (σ i) := fun i => by simp [hs, i.2]
  have hsumf : ∀ f : ℝ → ℝ, ∑ i ∈ range n, f (s i) = ∑ i, f (a i) := by
    intro f
    rw [← Fin.sum_univ_eq_sum_range (fun i => f (s i)) n]
    simp only [hval]
    exact Equiv.sum_comp σ (fun i => f (a i))
  have := duchi_theta s n ρ ε
    (fun i j hij hj => by
      have hi : i < n := lt_of_le_of_lt hij hj
      have := hσ ⟨i, hi⟩ ⟨j, hj⟩ hij
      simpa [hs, hi, hj] using this)
    (fun i hi => by simp only [hs, hi, dite_true]; exact ha _)
    (by rw [hsumf fun x => x]; exact hsum) hidx
  refine ⟨this.1, ?_⟩
  rw [← hsumf fun x => max (x - duchiSt s ε ρ) 0]
  exact this.2

variable {n : ℕ}

/-- **`l1_proj` returns the projection onto the l1 ball** (real arrays, else-branch `‖y‖₁ ≥ ε`): with `σ` the
    descending sort of `|y|` and `ρ` the selected index, `soft_thresh(st[ρ], y)` is the nearest point of
    `{‖x‖₁ ≤ ε}` — Duchi's search composed with `l1_proj_kkt_real`. -/
theorem l1_proj_duchi_real (y : Vec (Fin n) ℝ) (σ : Equiv.Perm (Fin n))
    (hσ : ∀ i j : Fin n, i ≤ j → |y (σ j)| ≤ |y (σ i)|) {ε : ℝ} (hsum : ε ≤ ∑ i, |y i|) (ρ : ℕ)
    (hidx : IsDuchiIdx (fun k => if h : k < n then |y (σ ⟨k, h⟩)| else 0) ε n ρ) :
    IsProjOn {x : Vec (Fin n) ℝ | ∑ i, |x i| ≤ ε} y
      (vec fun i => softThresh (duchiSt (fun k => if h : k < n then |y (σ ⟨k, h⟩)| else 0) ε ρ) (y i) |y i|) := by
  obtain ⟨h1, h2⟩ := duchi_kkt_of_sorted (fun i => |y i|) (fun i => abs_nonneg _) σ hσ hsum ρ hidx
  exact l1_proj_kkt_real h1 y h2

/-- the same for complex arrays (`xp.abs` = modulus) with `l1_proj_kkt_complex` -/
theorem l1_proj_duchi_complex (y : Vec (Fin n) ℂ) (σ : Equiv.Perm (Fin n))
    (hσ : ∀ i j : Fin n, i ≤ j → ‖y (σ j)‖ ≤ ‖y (σ i)‖) {ε : ℝ} (hsum : ε ≤ ∑ i, ‖y i‖) (ρ : ℕ)
    (hidx : IsDuchiIdx (fun k => if h : k < n then ‖y (σ ⟨k, h⟩)‖ else 0) ε n ρ) :
    IsProjOn {x : Vec (Fin n) ℂ | ∑ i, ‖x i‖ ≤ ε} y
      (vec fun i => csoft (duchiSt (fun k => if h : k < n then ‖y (σ ⟨k, h⟩)‖ else 0) ε ρ) (y i)) := by
  obtain ⟨h1, h2⟩ := duchi_kkt_of_sorted (fun i => ‖y i‖) (fun i => norm_nonneg _) σ hσ hsum ρ hidx
  exact l1_proj_kkt_complex h1 y h2

/-! `y = (3, 1)`, `ε = 2`: `s = (3, 1)`, `st = (1, 1)`, `idx = 0`, `θ = 1` -/

example : IsDuchiIdx (fun k => if k = 0 then (3 : ℝ) else 1) 2 2 0 := by
  refine ⟨by norm_num, ?_, fun k hk hkn => ?_⟩
  · rw [duchiCond_iff]; norm_num
  · have : k = 1 := by omega
    subst this
    rw [← Bool.not_eq_true, duchiCond_iff]
    norm_num [Finset.sum_range_succ]

example : duchiSt (fun k => if k = 0 then (3 : ℝ) else 1) 2 0 = 1 := by
  unfold duchiSt l1projSt; norm_num

end SigpyVerif.C11
