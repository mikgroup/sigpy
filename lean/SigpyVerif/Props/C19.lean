/-
  C19 — Bloch simulators are unitary, keep β = 0 for a zero pulse, and compose; `ab2rf` inverts the forward SLR
  recursion on coefficient lists.

  All statements are about the definitions of Gen/Sim.lean — REGENERATED FROM THE SOURCE on every run by
  harness/translate/gen_c19.py (parameter formulas `av, bv, S, alpha, beta` from the atoms cos/sin/axis/unit
  phases, the state statements of the time loop in program order, final rephasing, whole simulations `…Sim`,
  `ab2rf`'s `sj`, peel and slices, the exponents of the phase factors) — instantiated over ℂ.  Their text is
  unfolded in the canonical-form lemmas (`…_def`, `…_eq`, `…Params_valid`, `…_frame_exponents`) and in the few
  proofs that evaluate a generated formula at special arguments (`abrm_balanced_norm`, `gen_zero_rf_*`,
  `…_frame_factor`, `zf…_append`), each time by `simp` with the generated names and `ring` for what is left:
  harmless rewrites of the source keep these proofs, a changed sign / conjugate / phase target / statement order
  breaks them.  `normSq z = |z|²`.
  The atoms are constrained by what the code guarantees (`C² + S² = 1` real, unit axis, unit phases); every
  statement is for every waveform length.  For abrm_hp / blochsim the composition law is also stated with the code's
  own final rephasing, whose exponent cancels the accumulated gradient phase.  `ab2rf` is run with the code's `sqrt`
  formula for `cj` on the polynomial pair the forward SLR recursion builds from hard pulses `(c_j, s_j)`, `c_j > 0`.
  That the forward recursion IS what hard-pulse simulation computes (for every `z`), the unit-circle identity as a
  polynomial identity, and both round trips `ab2rf ∘ forward = id`, `forward ∘ ab2rf = id` are in Props/C19Slr.lean.
  Not carried by a theorem: IEEE rounding (`+eps`), numpy's cos/sin/exp/sqrt, `b2a/mag2mp`, `dzrf` filter design.
-/
import Mathlib.Data.Complex.Basic
import Mathlib.Algebra.BigOperators.Group.List.Basic
import Mathlib.Tactic.Ring
import Mathlib.Tactic.Linarith
import Mathlib.Tactic.FieldSimp
import Mathlib.Tactic.LinearCombination
import Mathlib.Tactic.NormNum
import Mathlib.Analysis.Real.Sqrt
import Mathlib.Analysis.Complex.Trigonometric
import SigpyVerif.Model.C19
set_option linter.unusedSimpArgs false
namespace SigpyVerif.C19
open Complex

open SigpyVerif.Gen.Sim

instance : HasConj ℂ := ⟨starRingEnd ℂ⟩
instance : HasI ℂ := ⟨Complex.I⟩
theorem conj_def (x : ℂ) : (conj x : ℂ) = starRingEnd ℂ x := rfl
theorem hasI_def : (HasI.I : ℂ) = Complex.I := rfl

theorem ckStep_def (p s : ℂ × ℂ) :
    ckStep p s = (p.1 * s.1 - conj p.2 * s.2, p.2 * s.1 + conj p.1 * s.2) := by
  refine Prod.ext ?_ ?_ <;>
  · simp only [ckStep, abrmStep, conj_def, map_mul, map_add, map_sub, map_neg]
    try ring

/-- `abrm_nd` performs the same Cayley–Klein update as `abrm` -/
theorem abrmNdStep_eq (av bv : ℂ) (s : ℂ × ℂ) : abrmNdStep av bv s = ckStep (av, bv) s := by
  rw [ckStep_def]
  refine Prod.ext ?_ ?_ <;>
  · simp only [abrmNdStep, conj_def, map_mul, map_add, map_sub, map_neg]
    try ring

theorem hpStep_def (p : ℂ × ℂ × ℂ) (s : ℂ × ℂ) :
    hpStep p s = (s.1 * p.1 - s.2 * p.2.2 * conj p.2.1, s.1 * p.2.1 + s.2 * p.2.2 * p.1) := by
  refine Prod.ext ?_ ?_ <;>
  · simp only [hpStep, abrmHpStep, conj_def, map_mul, map_add, map_sub, map_neg]
    try ring

theorem bsStep_def (p : ℂ × ℂ × ℂ) (s : ℂ × ℂ) :
    bsStep p s = (s.1 * p.1 - s.2 * conj p.2.1, (s.1 * p.2.1 + s.2 * p.1) * p.2.2) := by
  refine Prod.ext ?_ ?_ <;>
  · simp only [bsStep, blochsimStep, conj_def, map_mul, map_add, map_sub, map_neg]
    try ring

theorem ptxStep_def (p s : ℂ × ℂ) :
    ptxStep p s = (p.1 * s.1 + p.2 * s.2, -(conj p.2) * s.1 + conj p.1 * s.2) := by
  refine Prod.ext ?_ ?_ <;>
  · simp only [ptxStep, abrmPtxStep, conj_def, map_mul, map_add, map_sub, map_neg]
    try ring

theorem ptxOut_def (s : ℂ × ℂ) : ptxOut s = (s.1, -(conj s.2)) := by
  refine Prod.ext ?_ ?_ <;>
  · simp only [ptxOut, abrmPtxOut, conj_def, map_mul, map_add, map_sub, map_neg]
    try ring

theorem finalPhase_def (zf : ℂ) (s : ℂ × ℂ) : finalPhase zf s = (s.1 * zf, s.2 * zf) := by
  refine Prod.ext ?_ ?_ <;>
  · simp only [finalPhase, abrmHpFinal]
    try ring

/-- `blochsim` applies the same final rephasing as `abrm_hp` -/
theorem blochsimFinal_eq (zf : ℂ) (s : ℂ × ℂ) : blochsimFinal zf s = finalPhase zf s := by
  rw [finalPhase_def]
  refine Prod.ext ?_ ?_ <;>
  · simp only [blochsimFinal]
    try ring

theorem peelS_def (cj aii bii : ℂ) : peelS cj aii bii = conj (cj * bii / aii) := by
  simp only [peelS, ab2rfSj, conj_def, map_mul, map_div₀]
  try ring

/-- `|α|² + |β|²` of a state -/
noncomputable def nrm (s : ℂ × ℂ) : ℝ := normSq s.1 + normSq s.2

/-- `su2_step_norm`: the Cayley–Klein update of abrm/abrm_nd multiplies `|a|²+|b|²` by `|av|²+|bv|²`. -/
theorem su2_step_norm (p s : ℂ × ℂ) : nrm (ckStep p s) = nrm p * nrm s := by
  simp only [nrm, ckStep_def, conj_def, normSq_apply, sub_re, sub_im, add_re, add_im, mul_re, mul_im, conj_re, conj_im]
  ring

theorem hpStep_eq (C S z : ℂ) (hC : conj C = C) (s : ℂ × ℂ) :
    hpStep (C, S, z) s = ckStep (C, S) (s.1, s.2 * z) := by
  simp only [hpStep_def, ckStep_def, hC]
  refine Prod.ext ?_ ?_ <;> (simp only; ring)

theorem bsStep_eq (C S z : ℂ) (hC : conj C = C) (s : ℂ × ℂ) :
    bsStep (C, S, z) s = ((ckStep (C, S) s).1, (ckStep (C, S) s).2 * z) := by
  simp only [bsStep_def, ckStep_def, hC]
  refine Prod.ext ?_ ?_ <;> (simp only; ring)

theorem ptxStep_eq (al be : ℂ) (s : ℂ × ℂ) : ptxStep (al, be) s = ckStep (al, -(conj be)) s := by
  simp only [ptxStep_def, ckStep_def, conj_def, map_neg, conj_conj]
  refine Prod.ext ?_ ?_ <;> (simp only; try ring)

/-- parameter constraints the code guarantees -/
def ckValid (p : ℂ × ℂ) : Prop := normSq p.1 + normSq p.2 = 1
def hpValid (p : ℂ × ℂ × ℂ) : Prop := conj p.1 = p.1 ∧ normSq p.1 + normSq p.2.1 = 1 ∧ normSq p.2.2 = 1

theorem ck_step_unitary (p s : ℂ × ℂ) (h : ckValid p) : nrm (ckStep p s) = nrm s := by
  rw [su2_step_norm]; simp only [nrm] at *; rw [h, one_mul]

theorem hp_step_unitary (p : ℂ × ℂ × ℂ) (s : ℂ × ℂ) (h : hpValid p) : nrm (hpStep p s) = nrm s := by
  obtain ⟨C, S, z⟩ := p
  obtain ⟨hC, hn, hz⟩ := h
  rw [hpStep_eq C S z hC, su2_step_norm]
  simp only [nrm, normSq_mul] at *
  rw [hn, hz]; ring

theorem bs_step_unitary (p : ℂ × ℂ × ℂ) (s : ℂ × ℂ) (h : hpValid p) : nrm (bsStep p s) = nrm s := by
  obtain ⟨C, S, z⟩ := p
  obtain ⟨hC, hn, hz⟩ := h
  have := su2_step_norm (C, S) s
  rw [bsStep_eq C S z hC]
  simp only [nrm, normSq_mul] at *
  rw [hz, mul_one, this, hn, one_mul]

theorem ptx_step_unitary (p s : ℂ × ℂ) (h : ckValid p) : nrm (ptxStep p s) = nrm s := by
  obtain ⟨al, be⟩ := p
  rw [ptxStep_eq, su2_step_norm]
  simp only [nrm, ckValid, conj_def, normSq_neg, normSq_conj] at *
  rw [h, one_mul]

theorem ptxOut_norm (s : ℂ × ℂ) : nrm (ptxOut s) = nrm s := by
  simp only [nrm, ptxOut_def, conj_def, normSq_neg, normSq_conj]

theorem finalPhase_norm (zf : ℂ) (s : ℂ × ℂ) (h : normSq zf = 1) : nrm (finalPhase zf s) = nrm s := by
  simp only [nrm, finalPhase_def, normSq_mul, h, mul_one]

/-- rotation about the axis `(w, n_z)`, `w` its transverse part as a complex number -/
theorem axis_params_valid (c s nz : ℝ) (w : ℂ) (hcs : c ^ 2 + s ^ 2 = 1) (hn : nz ^ 2 + normSq w = 1 ∨ s = 0) :
    ckValid ((c : ℂ) + I * nz * s, I * w * s) := by
  have e : (c : ℂ) + I * nz * s = (c : ℂ) + ((nz * s : ℝ) : ℂ) * I := by push_cast; ring
  rw [ckValid, e, normSq_add_mul_I, normSq_mul, normSq_mul, normSq_I, normSq_ofReal]
  rcases hn with hn | rfl
  · linear_combination hcs + s ^ 2 * hn
  · linear_combination hcs

/-- abrm / abrm_nd: `av = cos(φ/2) - i·n_z·sin(φ/2)`, `bv = -i·(n_x + i·n_y)·sin(φ/2)` with a unit axis, or with
the zero axis when `sin(φ/2) = 0` (abrm_nd at `φ = 0`: `0/(0+eps)`). -/
theorem ck_params_valid (c s nx ny nz : ℝ) (hcs : c ^ 2 + s ^ 2 = 1)
    (hn : nx ^ 2 + ny ^ 2 + nz ^ 2 = 1 ∨ s = 0) :
    ckValid ((c : ℂ) - I * nz * s, -I * ((nx : ℂ) + I * ny) * s) := by
  have e : ((c : ℂ) - I * nz * s, -I * ((nx : ℂ) + I * ny) * s) =
      ((c : ℂ) + I * ((-nz : ℝ) : ℂ) * s, I * (-((nx : ℂ) + ny * I)) * s) :=
    Prod.ext (by push_cast; ring) (by ring)
  rw [e]
  refine axis_params_valid c s (-nz) _ hcs (hn.imp_left fun h => ?_)
  rw [normSq_neg, normSq_add_mul_I]
  linear_combination h

/-- abrm_hp / blochsim: `C = cos(|rf|/2)`, `S = i·e^{i∠rf}·sin(|rf|/2)`, `z = e^{-i·x·g}` (unit complex numbers
`u = e^{i∠rf}`, `z`) -/
theorem hp_params_valid (c s : ℝ) (u z : ℂ) (hcs : c ^ 2 + s ^ 2 = 1) (hu : normSq u = 1) (hz : normSq z = 1) :
    hpValid ((c : ℂ), I * u * s, z) := by
  refine ⟨conj_ofReal c, ?_, hz⟩
  rw [normSq_mul, normSq_mul, normSq_I, hu, normSq_ofReal, normSq_ofReal]
  linear_combination hcs

/-- abrm_ptx: `alpha = cos + i·n_z·sin`, `beta = i·conj(n_xy)·sin` with `n_z² + |n_xy|² = 1` (or both 0 when the
field is zero, where `sin = 0`). -/
theorem ptx_params_valid (c s nz : ℝ) (nxy : ℂ) (hcs : c ^ 2 + s ^ 2 = 1) (hn : nz ^ 2 + normSq nxy = 1 ∨ s = 0) :
    ckValid ((c : ℂ) + I * nz * s, I * conj nxy * s) :=
  axis_params_valid c s nz (conj nxy) hcs (by rwa [conj_def, normSq_conj])

theorem sim_induction {P : Type} (step : P → ℂ × ℂ → ℂ × ℂ) (Q : ℂ × ℂ → Prop) (w : List P)
    (h : ∀ p ∈ w, ∀ s, Q s → Q (step p s)) (s : ℂ × ℂ) (hs : Q s) : Q (sim step w s) := by
  induction w generalizing s with
  | nil => exact hs
  | cons p w ih =>
    exact ih (fun q hq => h q (List.mem_cons_of_mem _ hq)) _ (h p List.mem_cons_self s hs)

theorem sim_norm_invariant {P : Type} (step : P → ℂ × ℂ → ℂ × ℂ) (valid : P → Prop)
    (h : ∀ p s, valid p → nrm (step p s) = nrm s) (w : List P) (hw : ∀ p ∈ w, valid p) (s : ℂ × ℂ) :
    nrm (sim step w s) = nrm s :=
  sim_induction step (fun t => nrm t = nrm s) w (fun p hp t ht => (h p t (hw p hp)).trans ht) s rfl

theorem nrm_init : nrm ((1 : ℂ), (0 : ℂ)) = 1 := by
  rw [nrm, normSq_one, normSq_zero, add_zero]

/-- `sim_unitary`, abrm and abrm_nd -/
theorem sim_unitary_abrm (w : List (ℂ × ℂ)) (hw : ∀ p ∈ w, ckValid p) : nrm (sim ckStep w (1, 0)) = 1 := by
  rw [sim_norm_invariant ckStep ckValid ck_step_unitary w hw, nrm_init]

/-- `sim_unitary`, abrm_hp (with its final phase `zf`, `|zf| = 1`) -/
theorem sim_unitary_hp (w : List (ℂ × ℂ × ℂ)) (hw : ∀ p ∈ w, hpValid p) (zf : ℂ) (hzf : normSq zf = 1) :
    nrm (finalPhase zf (sim hpStep w (1, 0))) = 1 := by
  rw [finalPhase_norm _ _ hzf, sim_norm_invariant hpStep hpValid hp_step_unitary w hw, nrm_init]

/-- `sim_unitary`, optcont.blochsim -/
theorem sim_unitary_blochsim (w : List (ℂ × ℂ × ℂ)) (hw : ∀ p ∈ w, hpValid p) (zf : ℂ) (hzf : normSq zf = 1) :
    nrm (finalPhase zf (sim bsStep w (1, 0))) = 1 := by
  rw [finalPhase_norm _ _ hzf, sim_norm_invariant bsStep hpValid bs_step_unitary w hw, nrm_init]

/-- `sim_unitary`, abrm_ptx (returned `a = statea`, `b = -conj(stateb)`) -/
theorem sim_unitary_ptx (w : List (ℂ × ℂ)) (hw : ∀ p ∈ w, ckValid p) : nrm (ptxOut (sim ptxStep w (1, 0))) = 1 := by
  rw [ptxOut_norm, sim_norm_invariant ptxStep ckValid ptx_step_unitary w hw, nrm_init]

/-! ## zero RF: β stays 0 and |α| = 1 (a pure z-rotation) -/

theorem zero_rf_abrm (w : List (ℂ × ℂ)) (hw : ∀ p ∈ w, ckValid p) (h0 : ∀ p ∈ w, p.2 = 0) :
    (sim ckStep w (1, 0)).2 = 0 ∧ normSq (sim ckStep w (1, 0)).1 = 1 := by
  have h2 := sim_induction ckStep (fun s => s.2 = 0) w (fun p hp s hs => by
    rw [ckStep_def, h0 p hp, hs]
    simp) (1, 0) rfl
  have h1 := sim_unitary_abrm w hw
  rw [nrm, h2, normSq_zero, add_zero] at h1
  exact ⟨h2, h1⟩

theorem zero_rf_hp (w : List (ℂ × ℂ × ℂ)) (h0 : ∀ p ∈ w, p.1 = 1 ∧ p.2.1 = 0) (zf : ℂ) (hzf : normSq zf = 1) :
    (finalPhase zf (sim hpStep w (1, 0))).2 = 0 ∧ normSq (finalPhase zf (sim hpStep w (1, 0))).1 = 1 := by
  rw [sim_induction hpStep (· = (1, 0)) w (fun p hp s hs => by
    rw [hs, hpStep_def, (h0 p hp).1, (h0 p hp).2]
    simp) (1, 0) rfl, finalPhase_def]
  exact ⟨zero_mul zf, by rwa [one_mul]⟩

theorem zero_rf_blochsim (w : List (ℂ × ℂ × ℂ)) (h0 : ∀ p ∈ w, p.1 = 1 ∧ p.2.1 = 0) (zf : ℂ) (hzf : normSq zf = 1) :
    (finalPhase zf (sim bsStep w (1, 0))).2 = 0 ∧ normSq (finalPhase zf (sim bsStep w (1, 0))).1 = 1 := by
  rw [sim_induction bsStep (· = (1, 0)) w (fun p hp s hs => by
    rw [hs, bsStep_def, (h0 p hp).1, (h0 p hp).2]
    simp) (1, 0) rfl, finalPhase_def]
  exact ⟨zero_mul zf, by rwa [one_mul]⟩

theorem zero_rf_ptx (w : List (ℂ × ℂ)) (hw : ∀ p ∈ w, ckValid p) (h0 : ∀ p ∈ w, p.2 = 0) :
    (ptxOut (sim ptxStep w (1, 0))).2 = 0 ∧ normSq (ptxOut (sim ptxStep w (1, 0))).1 = 1 := by
  have h2 := sim_induction ptxStep (fun s => s.2 = 0) w (fun p hp s hs => by
    rw [ptxStep_def, h0 p hp, hs, conj_def]
    simp) (1, 0) rfl
  have h1 := sim_unitary_ptx w hw
  rw [nrm, ptxOut_def, h2, conj_def, map_zero, neg_zero, normSq_zero, add_zero] at h1
  rw [ptxOut_def, h2, conj_def, map_zero, neg_zero]
  exact ⟨rfl, h1⟩

/-- `sim_append`: simulating `w₁ ++ w₂` is simulating `w₂` from the state reached by `w₁` (every simulator). -/
theorem sim_append {P : Type} (step : P → ℂ × ℂ → ℂ × ℂ) (w₁ w₂ : List P) (s : ℂ × ℂ) :
    sim step (w₁ ++ w₂) s = sim step w₂ (sim step w₁ s) :=
  List.foldl_append

/-- the matrix `[[a, -conj(b)·ζ], [b, conj(a)·ζ]]` (unitary of determinant `ζ`) applied to a state: one sample of
abrm_hp or blochsim, `ζ` its gradient phase; `ζ = 1`: `ckStep` -/
noncomputable def framed (ab : ℂ × ℂ) (ζ : ℂ) (s : ℂ × ℂ) : ℂ × ℂ :=
  (ab.1 * s.1 - conj ab.2 * ζ * s.2, ab.2 * s.1 + conj ab.1 * ζ * s.2)

theorem framed_one (ab s : ℂ × ℂ) : framed ab 1 s = ckStep ab s := by
  rw [ckStep_def, framed, mul_one, mul_one]

theorem framed_init (ab : ℂ × ℂ) (ζ : ℂ) : framed ab ζ (1, 0) = ab := by
  simp only [framed, mul_one, mul_zero, sub_zero, add_zero]

theorem unit_of_normSq {z : ℂ} (h : normSq z = 1) : conj z * z = 1 := by
  rw [conj_def, ← normSq_eq_conj_mul_self, h, ofReal_one]

theorem framed_assoc (x y s : ℂ × ℂ) (ζ z : ℂ) (hζ : normSq ζ = 1) :
    framed x ζ (framed y z s) = framed (framed x ζ y) (z * ζ) s := by
  have h := unit_of_normSq hζ
  simp only [framed, conj_def, map_sub, map_add, map_mul, conj_conj] at h ⊢
  refine Prod.ext ?_ ?_
  · linear_combination (x.1 * (starRingEnd ℂ) y.2 * z * s.2) * h
  · linear_combination (x.2 * (starRingEnd ℂ) y.2 * z * s.2) * h

theorem hpStep_framed (p : ℂ × ℂ × ℂ) (hC : conj p.1 = p.1) (s : ℂ × ℂ) :
    hpStep p s = framed (p.1, p.2.1) p.2.2 s := by
  rw [hpStep_def, framed, hC]
  refine Prod.ext ?_ ?_ <;> (simp only; ring)

theorem bsStep_framed (p : ℂ × ℂ × ℂ) (hC : conj p.1 = p.1) (hz : normSq p.2.2 = 1) (s : ℂ × ℂ) :
    bsStep p s = framed (p.1, p.2.1 * p.2.2) p.2.2 s := by
  have h := unit_of_normSq hz
  simp only [bsStep_def, framed, conj_def, map_mul, hC] at h ⊢
  refine Prod.ext ?_ ?_
  · linear_combination ((starRingEnd ℂ) p.2.1 * s.2) * h
  · ring

theorem framed_sim_linear {P : Type} (step : P → ℂ × ℂ → ℂ × ℂ) (ab : P → ℂ × ℂ) (z : P → ℂ) (w : List P)
    (h : ∀ p ∈ w, normSq (z p) = 1 ∧ ∀ s, step p s = framed (ab p) (z p) s) (s : ℂ × ℂ) :
    sim step w s = framed (sim step w (1, 0)) (w.map z).prod s := by
  induction w generalizing s with
  | nil => simp [sim, framed, conj_def]
  | cons p w ih =>
    obtain ⟨⟨_, hp⟩, hw⟩ := List.forall_mem_cons.1 h
    have hζ : normSq (w.map z).prod = 1 := by
      rw [map_list_prod, List.map_map]
      exact List.prod_eq_one (List.forall_mem_map.2 fun q hq => (hw q hq).1)
    simp only [sim, List.foldl_cons, List.map_cons, List.prod_cons] at ih ⊢
    rw [ih hw (step p s), ih hw (step p (1, 0)), hp, hp, framed_init, framed_assoc _ _ _ _ _ hζ]

theorem sim_linear_of_ckStep {P : Type} (step : P → ℂ × ℂ → ℂ × ℂ) (ab : P → ℂ × ℂ)
    (h : ∀ p s, step p s = ckStep (ab p) s) (w : List P) (s : ℂ × ℂ) :
    sim step w s = compose (sim step w (1, 0)) s := by
  have := framed_sim_linear step ab (fun _ => 1) w
    (fun p _ => ⟨normSq_one, fun s => by rw [framed_one, h]⟩) s
  rwa [List.map_const', List.prod_replicate, one_pow, framed_one] at this

theorem ck_assoc (p q s : ℂ × ℂ) : ckStep p (ckStep q s) = ckStep (ckStep p q) s := by
  simpa only [framed_one, mul_one] using framed_assoc p q s 1 1 normSq_one

/-- a Cayley–Klein simulation acts on any start state as the SU(2) matrix of its result from `(1, 0)` -/
theorem ck_sim_linear (w : List (ℂ × ℂ)) (s : ℂ × ℂ) :
    sim ckStep w s = compose (sim ckStep w (1, 0)) s :=
  sim_linear_of_ckStep ckStep id (fun _ _ => rfl) w s

/-- **composition, abrm / abrm_nd**: `(a, b)` of `w₁ ++ w₂` is the SU(2) product
`(a₂a₁ - conj(b₂)b₁, b₂a₁ + conj(a₂)b₁)` of the two simulations. -/
theorem sim_compose_abrm (w₁ w₂ : List (ℂ × ℂ)) :
    sim ckStep (w₁ ++ w₂) (1, 0) = compose (sim ckStep w₂ (1, 0)) (sim ckStep w₁ (1, 0)) := by
  rw [sim_append, ck_sim_linear w₂]

/-- **composition, abrm_ptx** (on its internal state `(statea, stateb)`; the returned pair is `(statea, -conj stateb)`) -/
theorem sim_compose_ptx (w₁ w₂ : List (ℂ × ℂ)) :
    sim ptxStep (w₁ ++ w₂) (1, 0) = compose (sim ptxStep w₂ (1, 0)) (sim ptxStep w₁ (1, 0)) := by
  rw [sim_append, sim_linear_of_ckStep ptxStep (fun p => (p.1, -(conj p.2))) (fun p s => ptxStep_eq p.1 p.2 s) w₂]

/-- product of the gradient phase factors of a waveform -/
noncomputable def zprod (w : List (ℂ × ℂ × ℂ)) : ℂ := (w.map fun p => p.2.2).prod

/-- abrm_hp before its final phase acts on any start state as the matrix
`[[a, -conj(b)·ζ], [b, conj(a)·ζ]]`, `(a, b)` its result from `(1, 0)`, `ζ = ∏ z` the accumulated gradient phase:
an SU(2) matrix up to the frame factor `ζ^{1/2}` that the final phase `zf = ζ^{-1/2}` removes. -/
theorem hp_sim_linear (w : List (ℂ × ℂ × ℂ)) (hw : ∀ p ∈ w, hpValid p) (s : ℂ × ℂ) :
    sim hpStep w s =
      ((sim hpStep w (1, 0)).1 * s.1 - conj (sim hpStep w (1, 0)).2 * zprod w * s.2,
       (sim hpStep w (1, 0)).2 * s.1 + conj (sim hpStep w (1, 0)).1 * zprod w * s.2) :=
  framed_sim_linear hpStep (fun p => (p.1, p.2.1)) (fun p => p.2.2) w
    (fun p hp => ⟨(hw p hp).2.2, hpStep_framed p (hw p hp).1⟩) s

theorem finalPhase_framed (x₂ x₁ : ℂ × ℂ) (ζ zf₁ zf₂ : ℂ) (hu : normSq zf₂ = 1) (hf : zf₂ * zf₂ * ζ = 1) :
    finalPhase (zf₁ * zf₂) (framed x₂ ζ x₁) = compose (finalPhase zf₂ x₂) (finalPhase zf₁ x₁) := by
  have h2 := unit_of_normSq hu
  simp only [finalPhase_def, framed, compose, ckStep_def, conj_def, map_mul] at h2 ⊢
  refine Prod.ext ?_ ?_
  · linear_combination (-(starRingEnd ℂ) x₂.2 * x₁.2 * zf₁) * ((starRingEnd ℂ) zf₂ * hf - ζ * zf₂ * h2)
  · linear_combination ((starRingEnd ℂ) x₂.1 * x₁.2 * zf₁) * ((starRingEnd ℂ) zf₂ * hf - ζ * zf₂ * h2)

/-- **composition, abrm_hp, with the explicit frame factors**: if `zf₂` is the final phase of the second waveform
(`|zf₂| = 1`, `zf₂²·∏z = 1`, i.e. `zf₂ = exp(i/2·x·Σg)`), then the simulation of `w₁ ++ w₂` with final phase
`zf₁·zf₂` is the SU(2) product of the two complete simulations. -/
theorem sim_compose_hp (w₁ w₂ : List (ℂ × ℂ × ℂ)) (hw₂ : ∀ p ∈ w₂, hpValid p) (zf₁ zf₂ : ℂ)
    (hu : normSq zf₂ = 1) (hf : zf₂ * zf₂ * zprod w₂ = 1) :
    finalPhase (zf₁ * zf₂) (sim hpStep (w₁ ++ w₂) (1, 0)) =
      compose (finalPhase zf₂ (sim hpStep w₂ (1, 0))) (finalPhase zf₁ (sim hpStep w₁ (1, 0))) := by
  rw [sim_append, hp_sim_linear w₂ hw₂]
  exact finalPhase_framed _ _ _ zf₁ zf₂ hu hf

/-- blochsim (RF rotation, then the gradient phase on `b`) before its final phase acts on any start state as the
same kind of matrix `[[a, -conj(b)·ζ], [b, conj(a)·ζ]]` as abrm_hp (`(a, b)` its result from `(1, 0)`, `ζ = ∏ z`):
a product of matrices `diag(1, z)·R` with `R ∈ SU(2)` is `ζ^{1/2}` times an SU(2) matrix. -/
theorem bs_sim_linear (w : List (ℂ × ℂ × ℂ)) (hw : ∀ p ∈ w, hpValid p) (s : ℂ × ℂ) :
    sim bsStep w s =
      ((sim bsStep w (1, 0)).1 * s.1 - conj (sim bsStep w (1, 0)).2 * zprod w * s.2,
       (sim bsStep w (1, 0)).2 * s.1 + conj (sim bsStep w (1, 0)).1 * zprod w * s.2) :=
  framed_sim_linear bsStep (fun p => (p.1, p.2.1 * p.2.2)) (fun p => p.2.2) w
    (fun p hp => ⟨(hw p hp).2.2, bsStep_framed p (hw p hp).1 (hw p hp).2.2⟩) s

/-- **composition, optcont.blochsim, with the explicit frame factors**: if `zf₂` is the final phase of the second
waveform (`|zf₂| = 1`, `zf₂²·∏z = 1`, i.e. `zf₂ = exp(i/2·x·Σg)`), then the simulation of `w₁ ++ w₂` with final phase
`zf₁·zf₂` is the SU(2) product of the two complete simulations (same frame convention as abrm_hp although the
gradient phase is applied after the RF rotation instead of before it). -/
theorem sim_compose_blochsim (w₁ w₂ : List (ℂ × ℂ × ℂ)) (hw₂ : ∀ p ∈ w₂, hpValid p) (zf₁ zf₂ : ℂ)
    (hu : normSq zf₂ = 1) (hf : zf₂ * zf₂ * zprod w₂ = 1) :
    finalPhase (zf₁ * zf₂) (sim bsStep (w₁ ++ w₂) (1, 0)) =
      compose (finalPhase zf₂ (sim bsStep w₂ (1, 0))) (finalPhase zf₁ (sim bsStep w₁ (1, 0))) := by
  rw [sim_append, bs_sim_linear w₂ hw₂]
  exact finalPhase_framed _ _ _ zf₁ zf₂ hu hf

/-! ## the generated simulators: parameter formulas, folds, and the three laws on `Gen.Sim.*Sim`

`…Sim w …` (Gen/Sim.lean) is the whole simulation as the translator found it in the source: start state, one
`…Sample` per time sample (parameter formulas from the atoms, then the state statements in program order), final
rephasing.  The atoms of a sample are constrained by what the code guarantees. -/

/-- abrm / abrm_nd: `C = cos(φ/2)`, `S = sin(φ/2)` real with `C² + S² = 1`, real unit axis (or `S = 0`) -/
def CkAtomsOk (p : CkAtoms ℂ) : Prop :=
  ∃ c s nx ny nz : ℝ, p = ⟨(c : ℂ), (s : ℂ), (nx : ℂ), (ny : ℂ), (nz : ℂ)⟩ ∧ c ^ 2 + s ^ 2 = 1 ∧
    (nx ^ 2 + ny ^ 2 + nz ^ 2 = 1 ∨ s = 0)

/-- abrm_hp / blochsim: `C = cos(|rf|/2)`, `S = sin(|rf|/2)` real with `C² + S² = 1`, `|u| = |z| = 1` -/
def HpAtomsOk (p : HpAtoms ℂ) : Prop :=
  ∃ c s : ℝ, p.C = (c : ℂ) ∧ p.S = (s : ℂ) ∧ c ^ 2 + s ^ 2 = 1 ∧ normSq p.u = 1 ∧ normSq p.z = 1

/-- abrm_ptx: `C`, `S`, `nz` real, `C² + S² = 1`, `nz² + |nxy|² = 1` (or `S = 0`: zero field) -/
def PtxAtomsOk (p : PtxAtoms ℂ) : Prop :=
  ∃ c s nz : ℝ, p.C = (c : ℂ) ∧ p.S = (s : ℂ) ∧ p.nz = (nz : ℂ) ∧ c ^ 2 + s ^ 2 = 1 ∧
    (nz ^ 2 + normSq p.nxy = 1 ∨ s = 0)

theorem ckParams_valid (p : CkAtoms ℂ) (h : CkAtomsOk p) : ckValid (ckParams p) := by
  obtain ⟨c, s, nx, ny, nz, rfl, hcs, hn⟩ := h
  have e : ckParams (⟨c, s, nx, ny, nz⟩ : CkAtoms ℂ) = ((c : ℂ) - I * nz * s, -I * ((nx : ℂ) + I * ny) * s) := by
    refine Prod.ext ?_ ?_ <;>
    · simp only [ckParams, abrmParam_av, abrmParam_bv, hasI_def]
      try ring
  rw [e]; exact ck_params_valid c s nx ny nz hcs hn

theorem ndParams_valid (p : CkAtoms ℂ) (h : CkAtomsOk p) : ckValid (ndParams p) := by
  obtain ⟨c, s, nx, ny, nz, rfl, hcs, hn⟩ := h
  have e : ndParams (⟨c, s, nx, ny, nz⟩ : CkAtoms ℂ) = ((c : ℂ) - I * nz * s, -I * ((nx : ℂ) + I * ny) * s) := by
    refine Prod.ext ?_ ?_ <;>
    · simp only [ndParams, abrmNdParam_av, abrmNdParam_bv, hasI_def]
      try ring
  rw [e]; exact ck_params_valid c s nx ny nz hcs hn

theorem hpParams_valid (p : HpAtoms ℂ) (h : HpAtomsOk p) : hpValid (hpParams p) := by
  obtain ⟨c, s, hC, hS, hcs, hu, hz⟩ := h
  have e : hpParams p = ((c : ℂ), I * p.u * s, p.z) := by
    refine Prod.ext ?_ (Prod.ext ?_ ?_) <;>
    · simp only [hpParams, abrmHpParam_S, hasI_def, hC, hS]
      try ring
  rw [e]; exact hp_params_valid c s p.u p.z hcs hu hz

theorem bsParams_valid (p : HpAtoms ℂ) (h : HpAtomsOk p) : hpValid (bsParams p) := by
  obtain ⟨c, s, hC, hS, hcs, hu, hz⟩ := h
  have e : bsParams p = ((c : ℂ), I * p.u * s, p.z) := by
    refine Prod.ext ?_ (Prod.ext ?_ ?_) <;>
    · simp only [bsParams, blochsimParam_s, hasI_def, hC, hS]
      try ring
  rw [e]; exact hp_params_valid c s p.u p.z hcs hu hz

theorem ptxParams_valid (p : PtxAtoms ℂ) (h : PtxAtomsOk p) : ckValid (ptxParams p) := by
  obtain ⟨c, s, nz, hC, hS, hnz, hcs, hn⟩ := h
  have e : ptxParams p = ((c : ℂ) + I * nz * s, I * conj p.nxy * s) := by
    refine Prod.ext ?_ ?_ <;>
    · simp only [ptxParams, abrmPtxParam_alpha, abrmPtxParam_beta, hasI_def, hC, hS, hnz]
      try ring
  rw [e]; exact ptx_params_valid c s nz p.nxy hcs hn

/-- the rewinder of `abrm(balanced=True)` (a pure z-rotation: axis `(0, 0, ±1)`) keeps `|a|²+|b|²` -/
theorem abrm_balanced_norm (p : CkAtoms ℂ) (h : CkAtomsOk p) (hz : p.nx = 0 ∧ p.ny = 0) (s : ℂ × ℂ) :
    nrm (abrmBalanced p s) = nrm s := by
  have hv := ckParams_valid p h
  have hb : (ckParams p).2 = 0 := by simp [ckParams, abrmParam_bv, hz.1, hz.2]
  have ha : (ckParams p).1 = abrmBalancedParam_av p := by
    simp only [ckParams, abrmParam_av, abrmBalancedParam_av]
    try ring
  simp only [ckValid, hb, normSq_zero, add_zero, ha] at hv
  have e : abrmBalanced p s = (abrmBalancedParam_av p * s.1, conj (abrmBalancedParam_av p) * s.2) := by
    refine Prod.ext ?_ ?_ <;>
    · simp only [abrmBalanced, abrmBalancedStep, conj_def]
      try ring
  rw [e]
  simp only [nrm, normSq_mul, conj_def, normSq_conj, hv, one_mul]

/-- the generated simulations are the folds of the (tupled) generated steps over the per-sample parameters -/
theorem abrmSim_eq (w : List (CkAtoms ℂ)) (s : ℂ × ℂ) : abrmSim w s = sim ckStep (w.map ckParams) s := by
  simp only [abrmSim, sim, List.foldl_map]; rfl

theorem abrmNdSim_eq (w : List (CkAtoms ℂ)) (s : ℂ × ℂ) : abrmNdSim w s = sim ckStep (w.map ndParams) s := by
  simp only [abrmNdSim, sim, List.foldl_map, abrmNdSample, abrmNdStep_eq]; rfl

theorem abrmHpSim_eq (w : List (HpAtoms ℂ)) (zf : ℂ) (s : ℂ × ℂ) :
    abrmHpSim w zf s = finalPhase zf (sim hpStep (w.map hpParams) s) := by
  simp only [abrmHpSim, sim, List.foldl_map]; rfl

theorem blochsimSim_eq (w : List (HpAtoms ℂ)) (zf : ℂ) (s : ℂ × ℂ) :
    blochsimSim w zf s = finalPhase zf (sim bsStep (w.map bsParams) s) := by
  simp only [blochsimSim, sim, List.foldl_map, blochsimFinal_eq]; rfl

theorem abrmPtxSim_eq (w : List (PtxAtoms ℂ)) (s : ℂ × ℂ) :
    abrmPtxSim w s = ptxOut (sim ptxStep (w.map ptxParams) s) := by
  simp only [abrmPtxSim, sim, List.foldl_map]; rfl

theorem forall_mem_map {A B : Type} {f : A → B} {P : A → Prop} {Q : B → Prop} {w : List A}
    (hw : ∀ p ∈ w, P p) (h : ∀ p, P p → Q (f p)) : ∀ q ∈ w.map f, Q q := by
  intro q hq
  obtain ⟨p, hp, rfl⟩ := List.mem_map.1 hq
  exact h p (hw p hp)

/-- **unitarity of `sim.abrm` as generated from its source**, every waveform length -/
theorem gen_unitary_abrm (w : List (CkAtoms ℂ)) (hw : ∀ p ∈ w, CkAtomsOk p) : nrm (abrmSim w (1, 0)) = 1 := by
  rw [abrmSim_eq]; exact sim_unitary_abrm _ (forall_mem_map hw ckParams_valid)

/-- **unitarity of `sim.abrm(balanced=True)`**: the time loop followed by the generated rewinder block (a pure
z-rotation: its axis is `(0, 0, om/|om|)`) -/
theorem gen_unitary_abrm_balanced (w : List (CkAtoms ℂ)) (hw : ∀ p ∈ w, CkAtomsOk p) (q : CkAtoms ℂ) (hq : CkAtomsOk q)
    (hz : q.nx = 0 ∧ q.ny = 0) : nrm (abrmBalanced q (abrmSim w (1, 0))) = 1 := by
  rw [abrm_balanced_norm q hq hz, gen_unitary_abrm w hw]

/-- **unitarity of `sim.abrm_nd`** -/
theorem gen_unitary_abrm_nd (w : List (CkAtoms ℂ)) (hw : ∀ p ∈ w, CkAtomsOk p) : nrm (abrmNdSim w (1, 0)) = 1 := by
  rw [abrmNdSim_eq]; exact sim_unitary_abrm _ (forall_mem_map hw ndParams_valid)

/-- **unitarity of `sim.abrm_hp`** (gradient phase, RF rotation per sample; final rephasing `zf`) -/
theorem gen_unitary_abrm_hp (w : List (HpAtoms ℂ)) (hw : ∀ p ∈ w, HpAtomsOk p) (zf : ℂ) (hzf : normSq zf = 1) :
    nrm (abrmHpSim w zf (1, 0)) = 1 := by
  rw [abrmHpSim_eq]; exact sim_unitary_hp _ (forall_mem_map hw hpParams_valid) zf hzf

/-- **unitarity of `optcont.blochsim`** (RF rotation, gradient phase per sample; final rephasing `zf`) -/
theorem gen_unitary_blochsim (w : List (HpAtoms ℂ)) (hw : ∀ p ∈ w, HpAtomsOk p) (zf : ℂ) (hzf : normSq zf = 1) :
    nrm (blochsimSim w zf (1, 0)) = 1 := by
  rw [blochsimSim_eq]; exact sim_unitary_blochsim _ (forall_mem_map hw bsParams_valid) zf hzf

/-- **unitarity of `sim.abrm_ptx`** (the returned `(a, b)`) -/
theorem gen_unitary_abrm_ptx (w : List (PtxAtoms ℂ)) (hw : ∀ p ∈ w, PtxAtomsOk p) : nrm (abrmPtxSim w (1, 0)) = 1 := by
  rw [abrmPtxSim_eq]; exact sim_unitary_ptx _ (forall_mem_map hw ptxParams_valid)

/-- **zero RF, abrm**: `rf = 0` makes the axis `(0, 0, n_z)`; then `β = 0` and `|α| = 1` -/
theorem gen_zero_rf_abrm (w : List (CkAtoms ℂ)) (hw : ∀ p ∈ w, CkAtomsOk p ∧ p.nx = 0 ∧ p.ny = 0) :
    (abrmSim w (1, 0)).2 = 0 ∧ normSq (abrmSim w (1, 0)).1 = 1 := by
  rw [abrmSim_eq]
  refine zero_rf_abrm _ (forall_mem_map hw fun p h => ckParams_valid p h.1) (forall_mem_map hw fun p h => ?_)
  simp [ckParams, abrmParam_bv, h.2.1, h.2.2]

theorem gen_zero_rf_abrm_nd (w : List (CkAtoms ℂ)) (hw : ∀ p ∈ w, CkAtomsOk p ∧ p.nx = 0 ∧ p.ny = 0) :
    (abrmNdSim w (1, 0)).2 = 0 ∧ normSq (abrmNdSim w (1, 0)).1 = 1 := by
  rw [abrmNdSim_eq]
  refine zero_rf_abrm _ (forall_mem_map hw fun p h => ndParams_valid p h.1) (forall_mem_map hw fun p h => ?_)
  simp [ndParams, abrmNdParam_bv, h.2.1, h.2.2]

/-- **zero RF, abrm_hp**: `|rf| = 0` gives `C = cos 0 = 1`, `S = sin 0 = 0` -/
theorem gen_zero_rf_abrm_hp (w : List (HpAtoms ℂ)) (hw : ∀ p ∈ w, p.C = 1 ∧ p.S = 0) (zf : ℂ) (hzf : normSq zf = 1) :
    (abrmHpSim w zf (1, 0)).2 = 0 ∧ normSq (abrmHpSim w zf (1, 0)).1 = 1 := by
  rw [abrmHpSim_eq]
  refine zero_rf_hp _ (forall_mem_map hw fun p h => ?_) zf hzf
  simp [hpParams, abrmHpParam_S, h.1, h.2]

theorem gen_zero_rf_blochsim (w : List (HpAtoms ℂ)) (hw : ∀ p ∈ w, p.C = 1 ∧ p.S = 0) (zf : ℂ) (hzf : normSq zf = 1) :
    (blochsimSim w zf (1, 0)).2 = 0 ∧ normSq (blochsimSim w zf (1, 0)).1 = 1 := by
  rw [blochsimSim_eq]
  refine zero_rf_blochsim _ (forall_mem_map hw fun p h => ?_) zf hzf
  simp [bsParams, blochsimParam_s, h.1, h.2]

/-- **zero RF, abrm_ptx**: `b1 = 0` gives `nxy = 0` -/
theorem gen_zero_rf_abrm_ptx (w : List (PtxAtoms ℂ)) (hw : ∀ p ∈ w, PtxAtomsOk p ∧ p.nxy = 0) :
    (abrmPtxSim w (1, 0)).2 = 0 ∧ normSq (abrmPtxSim w (1, 0)).1 = 1 := by
  rw [abrmPtxSim_eq]
  refine zero_rf_ptx _ (forall_mem_map hw fun p h => ptxParams_valid p h.1) (forall_mem_map hw fun p h => ?_)
  simp [ptxParams, abrmPtxParam_beta, h.2, conj_def]

/-- **composition, abrm / abrm_nd as generated**: simulating `w₁ ++ w₂` is the SU(2) product of the two simulations -/
theorem gen_compose_abrm (w₁ w₂ : List (CkAtoms ℂ)) :
    abrmSim (w₁ ++ w₂) (1, 0) = compose (abrmSim w₂ (1, 0)) (abrmSim w₁ (1, 0)) := by
  simp only [abrmSim_eq, List.map_append, sim_compose_abrm]

theorem gen_compose_abrm_nd (w₁ w₂ : List (CkAtoms ℂ)) :
    abrmNdSim (w₁ ++ w₂) (1, 0) = compose (abrmNdSim w₂ (1, 0)) (abrmNdSim w₁ (1, 0)) := by
  simp only [abrmNdSim_eq, List.map_append, sim_compose_abrm]

/-- the accumulated gradient phase of a waveform of `abrm_hp` / `blochsim` atoms -/
noncomputable def zAtoms (w : List (HpAtoms ℂ)) : ℂ := (w.map fun p => p.z).prod

theorem zprod_hpParams (w : List (HpAtoms ℂ)) : zprod (w.map hpParams) = zAtoms w := by
  simp [zprod, zAtoms, hpParams, List.map_map, Function.comp_def]

theorem zprod_bsParams (w : List (HpAtoms ℂ)) : zprod (w.map bsParams) = zAtoms w := by
  simp [zprod, zAtoms, bsParams, List.map_map, Function.comp_def]

/-- **composition, abrm_hp as generated** (frame factors explicit: `zf₂² · ∏ z = 1`, `|zf₂| = 1`) -/
theorem gen_compose_abrm_hp (w₁ w₂ : List (HpAtoms ℂ)) (hw₂ : ∀ p ∈ w₂, HpAtomsOk p) (zf₁ zf₂ : ℂ)
    (hu : normSq zf₂ = 1) (hf : zf₂ * zf₂ * zAtoms w₂ = 1) :
    abrmHpSim (w₁ ++ w₂) (zf₁ * zf₂) (1, 0) = compose (abrmHpSim w₂ zf₂ (1, 0)) (abrmHpSim w₁ zf₁ (1, 0)) := by
  simp only [abrmHpSim_eq, List.map_append]
  exact sim_compose_hp _ _ (forall_mem_map hw₂ hpParams_valid) zf₁ zf₂ hu (by rw [zprod_hpParams]; exact hf)

/-- **composition, optcont.blochsim as generated** (same frame convention) -/
theorem gen_compose_blochsim (w₁ w₂ : List (HpAtoms ℂ)) (hw₂ : ∀ p ∈ w₂, HpAtomsOk p) (zf₁ zf₂ : ℂ)
    (hu : normSq zf₂ = 1) (hf : zf₂ * zf₂ * zAtoms w₂ = 1) :
    blochsimSim (w₁ ++ w₂) (zf₁ * zf₂) (1, 0) = compose (blochsimSim w₂ zf₂ (1, 0)) (blochsimSim w₁ zf₁ (1, 0)) := by
  simp only [blochsimSim_eq, List.map_append]
  exact sim_compose_blochsim _ _ (forall_mem_map hw₂ bsParams_valid) zf₁ zf₂ hu (by rw [zprod_bsParams]; exact hf)

/-- **composition, abrm_ptx as generated**, in its returned `(a, b) = (statea, -conj stateb)`: the same SU(2)
product written in the outputs, `a = a₂a₁ - b₂·conj(b₁)`, `b = b₂·conj(a₁) + a₂·b₁`. -/
theorem gen_compose_abrm_ptx (w₁ w₂ : List (PtxAtoms ℂ)) :
    abrmPtxSim (w₁ ++ w₂) (1, 0) =
      ((abrmPtxSim w₂ (1, 0)).1 * (abrmPtxSim w₁ (1, 0)).1 - (abrmPtxSim w₂ (1, 0)).2 * conj (abrmPtxSim w₁ (1, 0)).2,
       (abrmPtxSim w₂ (1, 0)).2 * conj (abrmPtxSim w₁ (1, 0)).1 + (abrmPtxSim w₂ (1, 0)).1 * (abrmPtxSim w₁ (1, 0)).2) := by
  simp only [abrmPtxSim_eq, List.map_append, sim_compose_ptx, ptxOut_def, compose, ckStep_def, conj_def, map_neg, map_add,
    map_sub, map_mul, conj_conj]
  refine Prod.ext ?_ ?_ <;> (simp only; ring)

/-- non-vacuity: atoms of a real sample (`cos = 3/5`, `sin = 4/5`, axis `(0, 3/5, 4/5)`) -/
example : CkAtomsOk ⟨(3 / 5 : ℝ), (4 / 5 : ℝ), (0 : ℝ), (3 / 5 : ℝ), (4 / 5 : ℝ)⟩ :=
  ⟨3 / 5, 4 / 5, 0, 3 / 5, 4 / 5, rfl, by norm_num, Or.inl (by norm_num)⟩

example : HpAtomsOk ⟨(3 / 5 : ℝ), (4 / 5 : ℝ), I, -1⟩ :=
  ⟨3 / 5, 4 / 5, rfl, rfl, by norm_num, by simp, by simp⟩

/-! ## the frame factors of abrm_hp / blochsim from the exponents in the source

The hypotheses `|z| = 1`, `|zf| = 1`, `zf² · ∏ z = 1` of the composition theorems are what the code's phase factors
satisfy: the exponents below are the generated `…PhaseArg` / `…FinalArg` (the arguments of `exp` in the source). -/

/-- abrm_hp: twice the final exponent cancels the accumulated gradient/off-resonance phase exponents -/
theorem hp_frame_exponents (x d : ℂ) (gs : List ℂ) :
    2 * abrmHpFinalArg x gs.sum (gs.length : ℂ) d + (gs.map fun g => abrmHpPhaseArg x g d).sum = 0 := by
  induction gs with
  | nil => simp [abrmHpFinalArg]
  | cons g gs ih =>
    simp only [abrmHpFinalArg, abrmHpPhaseArg, hasI_def, List.sum_cons, List.map_cons, List.length_cons, Nat.cast_add,
      Nat.cast_one, Nat.cast_ofNat] at ih ⊢
    linear_combination ih

theorem bs_frame_exponents (x : ℂ) (gs : List ℂ) :
    2 * blochsimFinalArg x gs.sum + (gs.map fun g => blochsimPhaseArg x g).sum = 0 := by
  induction gs with
  | nil => simp [blochsimFinalArg]
  | cons g gs ih =>
    simp only [blochsimFinalArg, blochsimPhaseArg, hasI_def, List.sum_cons, List.map_cons, Nat.cast_ofNat] at ih ⊢
    linear_combination ih

theorem exp_frame (f : ℂ) (ps : List ℂ) (h : 2 * f + ps.sum = 0) :
    Complex.exp f * Complex.exp f * (ps.map Complex.exp).prod = 1 := by
  rw [← Complex.exp_list_sum, ← Complex.exp_add, ← Complex.exp_add]
  have : f + f + ps.sum = 0 := by linear_combination h
  rw [this, Complex.exp_zero]

theorem normSq_exp_of_re_zero (z : ℂ) (h : z.re = 0) : normSq (Complex.exp z) = 1 := by
  rw [Complex.normSq_eq_norm_sq, Complex.norm_exp, h, Real.exp_zero]; norm_num

theorem ofReal_list_sum (gs : List ℝ) : (gs.map fun g : ℝ => (g : ℂ)).sum = ((gs.sum : ℝ) : ℂ) :=
  (map_list_sum Complex.ofRealHom gs).symm

theorem frame_factor_of_exponents (F : ℂ) (φ : ℂ → ℂ) (gs : List ℝ) (hF : F.re = 0) (hφ : ∀ g : ℝ, (φ g).re = 0)
    (h : 2 * F + ((gs.map fun g : ℝ => (g : ℂ)).map φ).sum = 0) :
    normSq (Complex.exp F) = 1 ∧ (∀ z ∈ gs.map fun g : ℝ => Complex.exp (φ g), normSq z = 1) ∧
      Complex.exp F * Complex.exp F * (gs.map fun g : ℝ => Complex.exp (φ g)).prod = 1 := by
  refine ⟨normSq_exp_of_re_zero F hF, ?_, ?_⟩
  · rw [List.forall_mem_map]
    exact fun g _ => normSq_exp_of_re_zero _ (hφ g)
  · have := exp_frame F _ h
    rwa [List.map_map, List.map_map] at this

/-- **abrm_hp, frame factor**: with the code's `z_i = exp(-i(x·g_i + dom0dt))` and final `zf = exp(i/2·(x·Σg + Nt·dom0dt))`
(`x`, `g_i`, `dom0dt` real) all phase factors are unit and `zf² · ∏ z_i = 1`. -/
theorem hp_frame_factor (x d : ℝ) (gs : List ℝ) :
    let zf := Complex.exp (abrmHpFinalArg (x : ℂ) ((gs.map fun g : ℝ => (g : ℂ)).sum) (gs.length : ℂ) d)
    let zs := gs.map fun g : ℝ => Complex.exp (abrmHpPhaseArg (x : ℂ) (g : ℂ) (d : ℂ))
    normSq zf = 1 ∧ (∀ z ∈ zs, normSq z = 1) ∧ zf * zf * zs.prod = 1 := by
  refine frame_factor_of_exponents _ (fun g => abrmHpPhaseArg (x : ℂ) g (d : ℂ)) gs ?_ (fun g => ?_) ?_
  · rw [ofReal_list_sum]
    simp [abrmHpFinalArg, hasI_def, Complex.div_re]
  · simp [abrmHpPhaseArg, hasI_def]
  · have := hp_frame_exponents (x : ℂ) (d : ℂ) (gs.map fun g : ℝ => (g : ℂ))
    rwa [List.length_map] at this

/-- **blochsim, frame factor** (1-D positions; the n-D dot product `x @ g` is bilinear in the same way) -/
theorem bs_frame_factor (x : ℝ) (gs : List ℝ) :
    let zf := Complex.exp (blochsimFinalArg (x : ℂ) ((gs.map fun g : ℝ => (g : ℂ)).sum))
    let zs := gs.map fun g : ℝ => Complex.exp (blochsimPhaseArg (x : ℂ) (g : ℂ))
    normSq zf = 1 ∧ (∀ z ∈ zs, normSq z = 1) ∧ zf * zf * zs.prod = 1 := by
  refine frame_factor_of_exponents _ (fun g => blochsimPhaseArg (x : ℂ) g) gs ?_ (fun g => ?_)
    (bs_frame_exponents (x : ℂ) (gs.map fun g : ℝ => (g : ℂ)))
  · rw [ofReal_list_sum]
    simp [blochsimFinalArg, hasI_def, Complex.div_re]
  · simp [blochsimPhaseArg, hasI_def]

/-- the final rephasing factor `abrm_hp` computes at position `x` for gradient samples `gs`, off-resonance `d` -/
noncomputable def zfHp (x d : ℝ) (gs : List ℝ) : ℂ :=
  Complex.exp (abrmHpFinalArg (x : ℂ) ((gs.map fun g : ℝ => (g : ℂ)).sum) (gs.length : ℂ) d)

/-- the final rephasing factor `blochsim` computes -/
noncomputable def zfBs (x : ℝ) (gs : List ℝ) : ℂ :=
  Complex.exp (blochsimFinalArg (x : ℂ) ((gs.map fun g : ℝ => (g : ℂ)).sum))

theorem zfHp_append (x d : ℝ) (gs₁ gs₂ : List ℝ) : zfHp x d (gs₁ ++ gs₂) = zfHp x d gs₁ * zfHp x d gs₂ := by
  simp only [zfHp, ← Complex.exp_add]
  congr 1
  simp only [abrmHpFinalArg, hasI_def, List.map_append, List.sum_append, List.length_append, Nat.cast_add]
  ring

theorem zfBs_append (x : ℝ) (gs₁ gs₂ : List ℝ) : zfBs x (gs₁ ++ gs₂) = zfBs x gs₁ * zfBs x gs₂ := by
  simp only [zfBs, ← Complex.exp_add]
  congr 1
  simp only [blochsimFinalArg, hasI_def, List.map_append, List.sum_append]
  ring

/-- **composition, abrm_hp, with the code's own frame**: at a position `x` (off-resonance `d`), if the gradient
phases of the second waveform are the code's `exp(-i(x·g + d))`, then simulating `w₁ ++ w₂` (final rephasing computed
from all gradient samples) is the SU(2) product of the two complete simulations, each with its own final rephasing. -/
theorem gen_compose_abrm_hp_code (x d : ℝ) (gs₁ gs₂ : List ℝ) (w₁ w₂ : List (HpAtoms ℂ))
    (hw₂ : ∀ p ∈ w₂, HpAtomsOk p)
    (hz₂ : (w₂.map fun p => p.z) = gs₂.map fun g : ℝ => Complex.exp (abrmHpPhaseArg (x : ℂ) (g : ℂ) (d : ℂ))) :
    abrmHpSim (w₁ ++ w₂) (zfHp x d (gs₁ ++ gs₂)) (1, 0) =
      compose (abrmHpSim w₂ (zfHp x d gs₂) (1, 0)) (abrmHpSim w₁ (zfHp x d gs₁) (1, 0)) := by
  obtain ⟨h1, _, h3⟩ := hp_frame_factor x d gs₂
  rw [zfHp_append]
  exact gen_compose_abrm_hp w₁ w₂ hw₂ _ _ h1 (by rw [zAtoms, hz₂]; exact h3)

/-- **composition, optcont.blochsim, with the code's own frame** -/
theorem gen_compose_blochsim_code (x : ℝ) (gs₁ gs₂ : List ℝ) (w₁ w₂ : List (HpAtoms ℂ))
    (hw₂ : ∀ p ∈ w₂, HpAtomsOk p)
    (hz₂ : (w₂.map fun p => p.z) = gs₂.map fun g : ℝ => Complex.exp (blochsimPhaseArg (x : ℂ) (g : ℂ))) :
    blochsimSim (w₁ ++ w₂) (zfBs x (gs₁ ++ gs₂)) (1, 0) =
      compose (blochsimSim w₂ (zfBs x gs₂) (1, 0)) (blochsimSim w₁ (zfBs x gs₁) (1, 0)) := by
  obtain ⟨h1, _, h3⟩ := bs_frame_factor x gs₂
  rw [zfBs_append]
  exact gen_compose_blochsim w₁ w₂ hw₂ _ _ h1 (by rw [zAtoms, hz₂]; exact h3)

/-- `cj = sqrt(1/(1+|r|²))`, `sj = conj(cj·r)` (`r = b[ii]/a[ii]`) form a rotation: `cj² + |sj|² = 1`. -/
theorem peel_cs_unit (cj : ℝ) (r : ℂ) (h : cj ^ 2 * (1 + normSq r) = 1) :
    normSq (cj : ℂ) + normSq (conj ((cj : ℂ) * r)) = 1 := by
  rw [conj_def, normSq_conj, normSq_mul, normSq_ofReal]
  linear_combination h

theorem peelS_unit (cj : ℝ) (aii bii : ℂ) (h : cj ^ 2 * (1 + normSq (bii / aii)) = 1) :
    cj ^ 2 + normSq (peelS (cj : ℂ) aii bii) = 1 := by
  have := peel_cs_unit cj (bii / aii) h
  rwa [normSq_ofReal, ← sq, ← mul_div_assoc, ← peelS_def] at this

/-- the peel is a pointwise rotation of `(A(z), B(z))`: it keeps `|A|²+|B|²` at every point of the unit circle
(`x, y` are the values of the two polynomials at that point). -/
theorem peel_norm (cj : ℝ) (sj x y : ℂ) :
    normSq ((cj : ℂ) * x + sj * y) + normSq (-(conj sj) * x + (cj : ℂ) * y)
      = (cj ^ 2 + normSq sj) * (normSq x + normSq y) := by
  simp only [conj_def, normSq_apply, add_re, add_im, mul_re, mul_im, neg_re, neg_im, conj_re, conj_im, ofReal_re,
    ofReal_im]
  ring

/-- the last coefficient of `bt = -conj(sj)·a + cj·b` vanishes (so `b = bt[0:ii]` drops a zero) -/
theorem peel_bt_last_zero (cj : ℝ) (aii bii : ℂ) (ha : aii ≠ 0) :
    -(conj (peelS (cj : ℂ) aii bii)) * aii + (cj : ℂ) * bii = 0 := by
  rw [peelS_def, conj_def, conj_def, conj_conj, neg_mul, div_mul_cancel₀ _ ha, neg_add_cancel]

/-- for a valid pair (`a₀·conj(a_ii) + b₀·conj(b_ii) = 0`, the `z^{ii}` coefficient of `A·Ã + B·B̃ = 1`) the first
coefficient of `at = cj·a + sj·b` vanishes (so `a = at[1:ii+1]` drops a zero): the degree goes down by one. -/
theorem peel_at_first_zero (cj : ℝ) (a0 b0 aii bii : ℂ) (ha : aii ≠ 0)
    (hv : a0 * conj aii + b0 * conj bii = 0) :
    (cj : ℂ) * a0 + peelS (cj : ℂ) aii bii * b0 = 0 := by
  have hc : (starRingEnd ℂ) aii ≠ 0 := by simpa using ha
  simp only [peelS_def, conj_def, map_div₀, map_mul, conj_ofReal] at hv ⊢
  field_simp
  linear_combination (cj : ℂ) * hv

/-- one backward step of `ab2rf` with the generated `sj`, for `cj` real with `cj²·(1 + |b[ii]/a[ii]|²) = 1`: the values
`x, y` of the two polynomials at a point keep `|x|² + |y|²`, and the two coefficients that the slices drop are zero
(the first of `at` under `hv`). -/
theorem peel_step_partial (cj : ℝ) (a0 b0 aii bii x y : ℂ) (ha : aii ≠ 0)
    (hcj : cj ^ 2 * (1 + normSq (bii / aii)) = 1) (hv : a0 * conj aii + b0 * conj bii = 0) :
    let sj := peelS (cj : ℂ) aii bii
    (normSq ((cj : ℂ) * x + sj * y) + normSq (-(conj sj) * x + (cj : ℂ) * y) = normSq x + normSq y) ∧
    (-(conj sj) * aii + (cj : ℂ) * bii = 0) ∧ ((cj : ℂ) * a0 + sj * b0 = 0) := by
  intro sj
  refine ⟨?_, peel_bt_last_zero cj aii bii ha, peel_at_first_zero cj a0 b0 aii bii ha hv⟩
  rw [peel_norm, peelS_unit cj aii bii hcj, one_mul]

/-- the generated peel on coefficient lists in canonical form -/
theorem peel_def (cj sj : ℂ) (a b : List ℂ) (ii : Nat) :
    peel cj sj a b ii = (((List.zipWith (fun x y => cj * x + sj * y) a b).drop 1).take ii,
      (List.zipWith (fun x y => -(conj sj) * x + cj * y) a b).take ii) := by
  have e1 : ab2rfAt cj sj = fun x y => cj * x + sj * y := by
    funext x y
    simp only [ab2rfAt]
    try ring
  have e2 : ab2rfBt cj sj = fun x y => -(conj sj) * x + cj * y := by
    funext x y
    simp only [ab2rfBt]
    try ring
  simp only [peel, ab2rfPeel, ab2rfSliceA, ab2rfSliceB, e1, e2, Nat.add_sub_cancel, Nat.sub_zero, List.drop_zero]

/-- forward SLR step: the hard pulse `(c, s)` applied after the train with polynomials `(a, b)`:
`a' = c·(0 :: a) - s·(b ++ [0])`, `b' = conj(s)·(0 :: a) + c·(b ++ [0])` (what `ab2rf`'s peel undoes; the harness
builds its exact test pairs with the same recursion). -/
noncomputable def fwdStep (c s : ℂ) (ab : List ℂ × List ℂ) : List ℂ × List ℂ :=
  (List.zipWith (fun x y => c * x - s * y) (0 :: ab.1) (ab.2 ++ [0]),
   List.zipWith (fun x y => conj s * x + c * y) (0 :: ab.1) (ab.2 ++ [0]))

/-- the Cayley–Klein polynomial pair of a hard-pulse train, given LAST pulse first (the order in which `ab2rf`
recovers them): a single pulse is `([c], [conj s])`. -/
noncomputable def fwdRev : List (ℂ × ℂ) → List ℂ × List ℂ
  | [] => ([], [])
  | [r] => ([r.1], [conj r.2])
  | r :: r' :: t => fwdStep r.1 r.2 (fwdRev (r' :: t))

/-- a hard-pulse rotation `(c, s)`: `c` real, non-zero, `c² + |s|² = 1` -/
def Rot (r : ℂ × ℂ) : Prop := conj r.1 = r.1 ∧ r.1 ≠ 0 ∧ r.1 * r.1 + r.2 * conj r.2 = 1

theorem zipWith_zipWith_same {A B C D E : Type} (f : C → D → E) (g : A → B → C) (h : A → B → D) :
    ∀ (l₁ : List A) (l₂ : List B),
      List.zipWith f (List.zipWith g l₁ l₂) (List.zipWith h l₁ l₂) = List.zipWith (fun x y => f (g x y) (h x y)) l₁ l₂
  | [], _ => rfl
  | _ :: _, [] => rfl
  | x :: l₁, y :: l₂ => by simp only [List.zipWith_cons_cons, zipWith_zipWith_same f g h l₁ l₂]

theorem zipWith_fst {A B : Type} : ∀ (l₁ : List A) (l₂ : List B), l₁.length ≤ l₂.length →
    List.zipWith (fun x _ => x) l₁ l₂ = l₁
  | [], _, _ => List.zipWith_nil_left
  | _ :: _, [], h => nomatch h
  | x :: l₁, y :: l₂, h => by rw [List.zipWith_cons_cons, zipWith_fst l₁ l₂ (Nat.le_of_succ_le_succ h)]

theorem zipWith_snd {A B : Type} : ∀ (l₁ : List A) (l₂ : List B), l₂.length ≤ l₁.length →
    List.zipWith (fun _ y => y) l₁ l₂ = l₂
  | _, [], _ => List.zipWith_nil_right
  | [], _ :: _, h => nomatch h
  | x :: l₁, y :: l₂, h => by rw [List.zipWith_cons_cons, zipWith_snd l₁ l₂ (Nat.le_of_succ_le_succ h)]

theorem zipWith_zipWith_left {A B C D : Type} (f : C → D → A) (g : A → B → C) (h : A → B → D)
    (hf : ∀ x y, f (g x y) (h x y) = x) (l₁ : List A) (l₂ : List B) (hl : l₁.length ≤ l₂.length) :
    List.zipWith f (List.zipWith g l₁ l₂) (List.zipWith h l₁ l₂) = l₁ := by
  rw [zipWith_zipWith_same, funext fun x => funext (hf x), zipWith_fst _ _ hl]

theorem zipWith_zipWith_right {A B C D : Type} (f : C → D → B) (g : A → B → C) (h : A → B → D)
    (hf : ∀ x y, f (g x y) (h x y) = y) (l₁ : List A) (l₂ : List B) (hl : l₂.length ≤ l₁.length) :
    List.zipWith f (List.zipWith g l₁ l₂) (List.zipWith h l₁ l₂) = l₂ := by
  rw [zipWith_zipWith_same, funext fun x => funext (hf x), zipWith_snd _ _ hl]

/-- **one peel undoes one forward step** on whole coefficient lists: with `cj = c`, `sj = s` the slices
`at[1:ii+1]`, `bt[0:ii]` are exactly the previous polynomials. -/
theorem peel_fwdStep (c s : ℂ) (ab : List ℂ × List ℂ) (m : Nat) (ha : ab.1.length = m) (hb : ab.2.length = m)
    (hcs : c * c + s * conj s = 1) :
    peel c s (fwdStep c s ab).1 (fwdStep c s ab).2 m = ab := by
  obtain ⟨a, b⟩ := ab
  simp only at ha hb
  have hl : ((0 : ℂ) :: a).length = (b ++ [(0 : ℂ)]).length := by
    rw [List.length_cons, List.length_append, List.length_singleton, ha, hb]
  rw [peel_def, fwdStep,
    zipWith_zipWith_left (fun x y => c * x + s * y) _ _ (fun x y => by linear_combination x * hcs) _ _ hl.le,
    zipWith_zipWith_right (fun x y => -(conj s) * x + c * y) _ _ (fun x y => by linear_combination y * hcs) _ _ hl.ge,
    List.drop_succ_cons, List.drop_zero, ← ha, List.take_length, ha, List.take_left' hb]

theorem fwdStep_last (c s al : ℂ) (ab : List ℂ × List ℂ) (k : Nat) (_ha : ab.1.length = k + 1)
    (hb : ab.2.length = k + 1) (hl : ab.1[k]? = some al) :
    (fwdStep c s ab).1[k + 1]? = some (c * al - s * 0) ∧
      (fwdStep c s ab).2[k + 1]? = some (conj s * al + c * 0) := by
  obtain ⟨a, b⟩ := ab
  simp only at hb hl
  have h2 : (b ++ [(0 : ℂ)])[k + 1]? = some 0 := by
    rw [← hb]; exact List.getElem?_concat_length
  constructor <;> simp only [fwdStep, List.getElem?_zipWith, List.getElem?_cons_succ, hl, h2, Option.map₂_some_some]

theorem fwdRev_inv : ∀ (rs : List (ℂ × ℂ)), (∀ r ∈ rs, Rot r) →
    (fwdRev rs).1.length = rs.length ∧ (fwdRev rs).2.length = rs.length ∧
      ∀ k, rs.length = k + 1 → ∃ al, (fwdRev rs).1[k]? = some al ∧ al ≠ 0
  | [], _ => ⟨rfl, rfl, fun _ hk => nomatch hk⟩
  | [r], hr => by
    refine ⟨rfl, rfl, fun k hk => ?_⟩
    obtain rfl : 0 = k := Nat.succ_injective hk
    exact ⟨r.1, rfl, (hr r List.mem_cons_self).2.1⟩
  | r :: r' :: t, hr => by
    obtain ⟨h1, h2, h3⟩ := fwdRev_inv (r' :: t) (fun q hq => hr q (List.mem_cons_of_mem _ hq))
    obtain ⟨al, hal, hne⟩ := h3 t.length rfl
    have hl := fwdStep_last r.1 r.2 al _ t.length h1 h2 hal
    refine ⟨by simp [fwdRev, fwdStep, h1, h2], by simp [fwdRev, fwdStep, h1, h2], fun k hk => ?_⟩
    obtain rfl : t.length + 1 = k := Nat.succ_injective hk
    rw [mul_zero, sub_zero] at hl
    exact ⟨_, hl.1, mul_ne_zero (hr r List.mem_cons_self).2.1 hne⟩

theorem fwdRev_last_peel (r r' : ℂ × ℂ) (t : List (ℂ × ℂ)) (hr : ∀ q ∈ r :: r' :: t, Rot q) :
    ∃ al, al ≠ 0 ∧ (fwdRev (r :: r' :: t)).1[(r' :: t).length]? = some (r.1 * al - r.2 * 0) ∧
      (fwdRev (r :: r' :: t)).2[(r' :: t).length]? = some (conj r.2 * al + r.1 * 0) ∧
      peel r.1 r.2 (fwdRev (r :: r' :: t)).1 (fwdRev (r :: r' :: t)).2 (r' :: t).length = fwdRev (r' :: t) := by
  obtain ⟨h1, h2, h3⟩ := fwdRev_inv (r' :: t) fun q hq => hr q (List.mem_cons_of_mem _ hq)
  obtain ⟨al, hal, hne⟩ := h3 t.length rfl
  obtain ⟨la, lb⟩ := fwdStep_last r.1 r.2 al _ t.length h1 h2 hal
  exact ⟨al, hne, la, lb, peel_fwdStep r.1 r.2 _ (t.length + 1) h1 h2 (hr r List.mem_cons_self).2.2⟩

/-- `sj` recovered from the last coefficients of a forward-built pair is `s` -/
theorem peelS_fwd (c s al : ℂ) (hc : conj c = c) (hc0 : c ≠ 0) (hal : al ≠ 0) :
    peelS c (c * al - s * 0) (conj s * al + c * 0) = s := by
  rw [peelS_def]
  simp only [mul_zero, sub_zero, add_zero, conj_def, map_div₀, map_mul, conj_conj] at hc ⊢
  have h1 : (starRingEnd ℂ) al ≠ 0 := by simpa using hal
  rw [hc]
  field_simp

theorem ab2rfLoop_succ (cj : ℂ) (cs a b : List ℂ) (n : ℕ) (an bn : ℂ) (han : a[n]? = some an) (hbn : b[n]? = some bn) :
    ab2rfLoop (cj :: cs) a b (n + 1) =
      (cj, peelS cj an bn) :: ab2rfLoop cs (peel cj (peelS cj an bn) a b n).1 (peel cj (peelS cj an bn) a b n).2 n := by
  rw [ab2rfLoop]
  simp only [han, hbn]

/-- **`ab2rf_inverts_forward`** (coefficient lists, every pulse length): if `(a, b)` is the Cayley–Klein polynomial
pair that the forward SLR recursion builds from the hard pulses `rs` (last pulse first; each `(c, s)` with `c` real,
non-zero, `c² + |s|² = 1`), then `ab2rf`'s backward recursion — the generated `sj` formula and peel, run with
`cj = c` (see `ab2rf_cj_formula`: that IS the value of the code's `sqrt(1 / (1 + |b[ii]/a[ii]|²))` when `c > 0`) —
returns exactly `rs`: every `(cj, sj)` it emits is the rotation that was applied, in the order last to first. -/
theorem ab2rf_inverts_forward : ∀ (rs : List (ℂ × ℂ)), (∀ r ∈ rs, Rot r) →
    ab2rfLoop (rs.map Prod.fst) (fwdRev rs).1 (fwdRev rs).2 rs.length = rs
  | [], _ => by rw [List.map_nil, ab2rfLoop]
  | [r], hr => by
    have hs : peelS r.1 r.1 (conj r.2) = r.2 := by
      rw [peelS_def, mul_div_cancel_left₀ _ (hr r List.mem_cons_self).2.1, conj_def, conj_def, conj_conj]
    rw [List.map_cons, List.length_singleton, fwdRev, ab2rfLoop_succ r.1 _ _ _ 0 _ _ rfl rfl, hs]
    rfl
  | r :: r' :: t, hr => by
    obtain ⟨hc, hc0, _⟩ := hr r List.mem_cons_self
    obtain ⟨al, hne, la, lb, hp⟩ := fwdRev_last_peel r r' t hr
    have ih := ab2rf_inverts_forward (r' :: t) fun q hq => hr q (List.mem_cons_of_mem _ hq)
    have hs := peelS_fwd r.1 r.2 al hc hc0 hne
    rw [List.length_cons, List.map_cons, ab2rfLoop_succ _ _ _ _ _ _ _ la lb, hs, hp, ih]

theorem sqrt_cj (c q : ℝ) (hc : 0 < c) (h : c ^ 2 + q = 1) : Real.sqrt (1 / (1 + q / (c * c))) = c := by
  have : c ^ 2 * (1 + q / (c * c)) = 1 := by
    rw [mul_add, mul_one, ← sq, mul_div_cancel₀ _ (pow_ne_zero 2 hc.ne'), h]
  rw [← eq_one_div_of_mul_eq_one_left this, Real.sqrt_sq hc.le]

/-- the code's `cj = sqrt(1 / (1 + |b[ii]/a[ii]|²))` evaluates to `c` on the last coefficients of a forward-built
pair when `c > 0` (so the hint `cj = c` of `ab2rf_inverts_forward` is what the code computes). -/
theorem ab2rf_cj_formula (c : ℝ) (s al : ℂ) (hc : 0 < c) (hcs : c ^ 2 + normSq s = 1) (hal : al ≠ 0) :
    Real.sqrt (1 / (1 + normSq ((conj s * al + (c : ℂ) * 0) / ((c : ℂ) * al - s * 0)))) = c := by
  have hn : normSq al ≠ 0 := fun h => hal (normSq_eq_zero.1 h)
  rw [mul_zero, mul_zero, add_zero, sub_zero, normSq_div, normSq_mul, normSq_mul, conj_def, normSq_conj, normSq_ofReal,
    mul_div_mul_right _ _ hn]
  exact sqrt_cj c _ hc hcs

theorem rot_of_real (c : ℝ) (s : ℂ) (hc : 0 < c) (hcs : c ^ 2 + normSq s = 1) : Rot ((c : ℂ), s) := by
  refine ⟨by simp [conj_def], by simpa using ne_of_gt hc, ?_⟩
  simp only [conj_def, mul_conj]
  have : ((c ^ 2 + normSq s : ℝ) : ℂ) = 1 := by rw [hcs]; simp
  push_cast at this
  linear_combination this

/-- non-vacuity of `Rot` -/
example : Rot ((3 / 5 : ℝ), (4 / 5 : ℂ)) := rot_of_real (3 / 5) (4 / 5) (by norm_num) (by
  simp only [normSq_apply]; norm_num)

/-- a hard-pulse rotation as `ab2rf` sees it: `c > 0` real (`c = cos(θ/2)`, `|θ| < π`), `c² + |s|² = 1` -/
def RotR (r : ℂ × ℂ) : Prop := ∃ c : ℝ, 0 < c ∧ r.1 = (c : ℂ) ∧ c ^ 2 + normSq r.2 = 1

theorem RotR.rot {r : ℂ × ℂ} (h : RotR r) : Rot r := by
  obtain ⟨c, hc, h1, hcs⟩ := h
  obtain ⟨r1, r2⟩ := r
  simp only at h1 hcs
  subst h1
  exact rot_of_real c r2 hc hcs

/-- the values `cj = sqrt(1 / (1 + |b[ii]/a[ii]|²))` that `ab2rf` computes along its own backward recursion
(the translator checks that source line verbatim; `sj` and the peel are the generated definitions) -/
noncomputable def codeCj : List ℂ → List ℂ → Nat → List ℂ
  | _, _, 0 => []
  | a, b, n + 1 =>
    match a[n]?, b[n]? with
    | some an, some bn =>
      let cj : ℂ := ((Real.sqrt (1 / (1 + normSq (bn / an))) : ℝ) : ℂ)
      cj :: codeCj (peel cj (peelS cj an bn) a b n).1 (peel cj (peelS cj an bn) a b n).2 n
    | _, _ => []

theorem codeCj_succ (a b : List ℂ) (n : ℕ) (an bn : ℂ) (han : a[n]? = some an) (hbn : b[n]? = some bn) (cr : ℝ)
    (hcr : Real.sqrt (1 / (1 + normSq (bn / an))) = cr) :
    codeCj a b (n + 1) =
      (cr : ℂ) :: codeCj (peel (cr : ℂ) (peelS (cr : ℂ) an bn) a b n).1 (peel (cr : ℂ) (peelS (cr : ℂ) an bn) a b n).2 n := by
  rw [codeCj]
  simp only [han, hbn, hcr]

/-- along the backward recursion on a forward-built pair the code's own `cj` are the `c` of the pulses -/
theorem ab2rf_code_cj : ∀ (rs : List (ℂ × ℂ)), (∀ r ∈ rs, RotR r) →
    codeCj (fwdRev rs).1 (fwdRev rs).2 rs.length = rs.map Prod.fst
  | [], _ => by simp [codeCj]
  | [r], hr => by
    obtain ⟨c, hc, h1, hcs⟩ := hr r List.mem_cons_self
    have := ab2rf_cj_formula c r.2 1 hc hcs one_ne_zero
    simp only [mul_one, mul_zero, add_zero, sub_zero, ← h1] at this
    rw [List.length_singleton, fwdRev, codeCj_succ _ _ 0 _ _ rfl rfl c this, codeCj, ← h1]
    rfl
  | r :: r' :: t, hr => by
    obtain ⟨c, hc, hc1, hcs⟩ := hr r List.mem_cons_self
    obtain ⟨hcc, hc0, _⟩ := (hr r List.mem_cons_self).rot
    obtain ⟨al, hne, la, lb, hp⟩ := fwdRev_last_peel r r' t fun q hq => (hr q hq).rot
    have ih := ab2rf_code_cj (r' :: t) fun q hq => hr q (List.mem_cons_of_mem _ hq)
    have hs := peelS_fwd r.1 r.2 al hcc hc0 hne
    have hcj := ab2rf_cj_formula c r.2 al hc hcs hne
    rw [← hc1] at hcj
    rw [List.length_cons, List.map_cons, codeCj_succ _ _ _ _ _ la lb c hcj, ← hc1, hs, hp, ih]

/-- **`ab2rf_inverts_forward` with the code's own `cj`**: on the pair built by the forward recursion from pulses
with `|θ| < π` the backward recursion of `ab2rf` (its `sqrt` formula, the generated `sj` and peel) returns the pulses. -/
theorem ab2rf_inverts_forward_code (rs : List (ℂ × ℂ)) (hr : ∀ r ∈ rs, RotR r) :
    ab2rfLoop (codeCj (fwdRev rs).1 (fwdRev rs).2 rs.length) (fwdRev rs).1 (fwdRev rs).2 rs.length = rs := by
  rw [ab2rf_code_cj rs hr]
  exact ab2rf_inverts_forward rs fun r h => (hr r h).rot

/-- non-vacuity of `RotR` -/
example : RotR ((3 / 5 : ℝ), (4 / 5 : ℂ)) := ⟨3 / 5, by norm_num, rfl, by simp only [normSq_apply]; norm_num⟩

/-- non-vacuity of `ckValid` -/
example : ckValid ((3 / 5 : ℂ), (4 / 5 : ℂ)) := by
  simp only [ckValid, normSq_apply]; norm_num

end SigpyVerif.C19
