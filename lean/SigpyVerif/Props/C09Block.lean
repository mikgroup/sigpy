import SigpyVerif.Props.C09
import SigpyVerif.Lemmas.C01Block
import Mathlib.Data.List.Nodup
import Mathlib.Data.List.Perm.Basic
import Mathlib.Data.List.ProdSigma
/-
  C09 — multiplicities of the generated block loop nests.

  The gather kernels `_array_to_blocks{1,2,3}` write with `=`.  Every destination index is written at
  most once (`a2b*_dst_nodup`); that assignment and accumulation of such a list give the same array
  is not stated in Lean.
  The scatter kernels `_blocks_to_array{1,2,3}` write with `+=`.  The number of updates landing on one
  array element is exactly the number of (block, offset) pairs covering it, and the count factorises
  over the axes; elements covered by no block receive no update.
-/
namespace SigpyVerif.C09
open SigpyVerif

/-- `_array_to_blocks1`: two emitted writes with the same destination block entry `[b, n, x]` are the
    same write (same source, same weight).  So the `=` in the kernel never overwrites a value
    written earlier by the same call. -/
theorem a2b1_dst_unique (osh ish : Int → Int) (batch B S N : Int) (u v : Upd Rat)
    (hu : u ∈ Gen.a2b1 osh ish batch B S N) (hv : v ∈ Gen.a2b1 osh ish batch B S N)
    (h : u.1 = v.1) : u = v := by
  rw [a2b1_mem] at hu hv
  obtain ⟨b, n, x, -, -, -, -, -, -, -, rfl⟩ := hu
  obtain ⟨b', n', x', -, -, -, -, -, -, -, rfl⟩ := hv
  simp only [List.cons.injEq, and_true] at h
  obtain ⟨rfl, rfl, rfl⟩ := h
  rfl

/-- `_array_to_blocks1` writes each destination block entry at most once: the list of destination
    indices has no repetition (sigpy writes with `=`, the update-list semantics with `+=`). -/
theorem a2b1_dst_nodup (osh ish : Int → Int) (batch B S N : Int) :
    ((Gen.a2b1 osh ish batch B S N).map (·.1)).Nodup :=
  List.Nodup.map_on (fun u hu v hv h => a2b1_dst_unique osh ish batch B S N u v hu hv h)
    (C01.a2b1_nodup osh ish batch B S N)

/-- `_array_to_blocks2`: two emitted writes with the same destination `[b, ny, nx, y, x]` are the
    same write. -/
theorem a2b2_dst_unique (osh ish : Int → Int) (batch Bx By Sx Sy Nx Ny : Int) (u v : Upd Rat)
    (hu : u ∈ Gen.a2b2 osh ish batch Bx By Sx Sy Nx Ny)
    (hv : v ∈ Gen.a2b2 osh ish batch Bx By Sx Sy Nx Ny) (h : u.1 = v.1) : u = v := by
  rw [a2b2_mem] at hu hv
  obtain ⟨b, ny, nx, y, x, -, -, -, -, -, -, -, -, -, -, -, -, rfl⟩ := hu
  obtain ⟨b', ny', nx', y', x', -, -, -, -, -, -, -, -, -, -, -, -, rfl⟩ := hv
  simp only [List.cons.injEq, and_true] at h
  obtain ⟨rfl, rfl, rfl, rfl, rfl⟩ := h
  rfl

/-- `_array_to_blocks2` writes each destination block entry at most once. -/
theorem a2b2_dst_nodup (osh ish : Int → Int) (batch Bx By Sx Sy Nx Ny : Int) :
    ((Gen.a2b2 osh ish batch Bx By Sx Sy Nx Ny).map (·.1)).Nodup :=
  List.Nodup.map_on
    (fun u hu v hv h => a2b2_dst_unique osh ish batch Bx By Sx Sy Nx Ny u v hu hv h)
    (C01.a2b2_nodup osh ish batch Bx By Sx Sy Nx Ny)

/-- `_array_to_blocks3`: two emitted writes with the same destination `[b, nz, ny, nx, z, y, x]`
    are the same write. -/
theorem a2b3_dst_unique (osh ish : Int → Int) (batch Bx By Bz Sx Sy Sz Nx Ny Nz : Int)
    (u v : Upd Rat)
    (hu : u ∈ Gen.a2b3 osh ish batch Bx By Bz Sx Sy Sz Nx Ny Nz)
    (hv : v ∈ Gen.a2b3 osh ish batch Bx By Bz Sx Sy Sz Nx Ny Nz) (h : u.1 = v.1) : u = v := by
  rw [a2b3_mem] at hu hv
  obtain ⟨b, nz, ny, nx, z, y, x, -, -, -, -, -, -, -, -, -, -, -, -, -, -, -, -, -, rfl⟩ := hu
  obtain ⟨b', nz', ny', nx', z', y', x', -, -, -, -, -, -, -, -, -, -, -, -, -, -, -, -, -, rfl⟩ := hv
  simp only [List.cons.injEq, and_true] at h
  obtain ⟨rfl, rfl, rfl, rfl, rfl, rfl, rfl⟩ := h
  rfl

/-- `_array_to_blocks3` writes each destination block entry at most once. -/
theorem a2b3_dst_nodup (osh ish : Int → Int) (batch Bx By Bz Sx Sy Sz Nx Ny Nz : Int) :
    ((Gen.a2b3 osh ish batch Bx By Bz Sx Sy Sz Nx Ny Nz).map (·.1)).Nodup :=
  List.Nodup.map_on
    (fun u hu v hv h => a2b3_dst_unique osh ish batch Bx By Bz Sx Sy Sz Nx Ny Nz u v hu hv h)
    (C01.a2b3_nodup osh ish batch Bx By Bz Sx Sy Sz Nx Ny Nz)

/-- non-vacuity: the 1-D gather list for a length-5 array, block 3, stride 1, 3 blocks has nine
    writes with nine distinct destinations (while its *sources* do repeat: index 2 is read 3 times) -/
example : ((Gen.a2b1 (shapeFn [1, 3, 3]) (shapeFn [1, 5]) 1 3 1 3).map (·.1)).length = 9 := by decide +kernel
example : ¬ ((Gen.a2b1 (shapeFn [1, 3, 3]) (shapeFn [1, 5]) 1 3 1 3).map (·.2.1)).Nodup := by decide +kernel

/-- the (block `n`, offset `x`) pairs, `0 ≤ n < N`, `0 ≤ x < B`, that cover array index `i`,
    i.e. `n·S + x = i` -/
def coverPairs (N B S i : Int) : List (Int × Int) :=
  (pyRange0 N ×ˢ pyRange0 B).filter (fun p => decide (p.1 * S + p.2 = i))

/-- how many blocks cover array index `i` along one axis -/
def coverCount (N B S i : Int) : Nat := (coverPairs N B S i).length

/-- overlapping blocks (length 5, block 3, stride 1, 3 blocks): index 2 is covered 3 times -/
example : coverCount 3 3 1 2 = 3 := by decide +kernel
/-- the same geometry at the edge: index 0 is covered once -/
example : coverCount 3 3 1 0 = 1 := by decide +kernel
/-- a gap (block 1, stride 2): index 1 is covered by no block -/
example : coverCount 3 1 2 1 = 0 := by decide +kernel
/-- non-overlapping tiling (block 2, stride 2): every index is covered exactly once -/
example : coverCount 2 2 2 3 = 1 := by decide +kernel

/-- An array index is covered (count > 0) exactly when some in-range block `n` and in-block
    offset `x` satisfy `n·S + x = i`. -/
theorem coverCount_pos_iff (N B S i : Int) :
    0 < coverCount N B S i ↔ ∃ n x, 0 ≤ n ∧ n < N ∧ 0 ≤ x ∧ x < B ∧ n * S + x = i := by
  unfold coverCount coverPairs
  rw [List.length_pos_iff_exists_mem]
  constructor
  · rintro ⟨⟨n, x⟩, h⟩
    simp only [List.mem_filter, List.mem_product, mem_pyRange0, decide_eq_true_eq] at h
    exact ⟨n, x, h.1.1.1, h.1.1.2, h.1.2.1, h.1.2.2, h.2⟩
  · rintro ⟨n, x, h0, h1, h2, h3, h4⟩
    refine ⟨(n, x), ?_⟩
    simp only [List.mem_filter, List.mem_product, mem_pyRange0, decide_eq_true_eq]
    exact ⟨⟨⟨h0, h1⟩, ⟨h2, h3⟩⟩, h4⟩

/-- An array index is uncovered (count 0) exactly when no in-range (block, offset) pair hits it. -/
theorem coverCount_eq_zero_iff (N B S i : Int) :
    coverCount N B S i = 0 ↔ ∀ n x, 0 ≤ n → n < N → 0 ≤ x → x < B → n * S + x ≠ i := by
  rw [← Nat.le_zero, ← Nat.not_lt, coverCount_pos_iff]
  simp only [not_exists, not_and, ne_eq]

/-- Counting by bijection: if the selected members of a duplicate-free list `L` correspond one to
    one (via `g`) to the selected members of a duplicate-free list `T`, the two selections have the
    same length.  (Used with `L` = a scatter loop nest and `T` = a grid of (block, offset) pairs.) -/
theorem length_filter_eq_of_bij {β γ : Type} (L : List β) (T : List γ) (p : β → Bool)
    (q : γ → Bool) (g : γ → β) (hL : L.Nodup) (hT : T.Nodup)
    (hg : ∀ s ∈ T, ∀ t ∈ T, g s = g t → s = t)
    (h : ∀ u, (u ∈ L ∧ p u = true) ↔ ∃ t, t ∈ T ∧ q t = true ∧ g t = u) :
    (L.filter p).length = (T.filter q).length := by
  have hnd : ((T.filter q).map g).Nodup :=
    List.Nodup.map_on
      (fun s hs t ht e => hg s (List.mem_filter.1 hs).1 t (List.mem_filter.1 ht).1 e)
      (hT.filter _)
  have hperm : (L.filter p).Perm ((T.filter q).map g) := by
    rw [List.perm_ext_iff_of_nodup (hL.filter _) hnd]
    intro u
    rw [List.mem_filter, h, List.mem_map]
    constructor
    · rintro ⟨t, ht, hq, e⟩
      exact ⟨t, List.mem_filter.2 ⟨ht, hq⟩, e⟩
    · rintro ⟨t, ht, e⟩
      exact ⟨t, (List.mem_filter.1 ht).1, (List.mem_filter.1 ht).2, e⟩
  rw [hperm.length_eq, List.length_map]

/-- Selecting from a grid by a test that is a conjunction of one test per axis selects a grid:
    the count is the product of the per-axis counts. -/
theorem length_filter_product {α β : Type} (A : List α) (B : List β) (qa : α → Bool)
    (qb : β → Bool) :
    ((A ×ˢ B).filter (fun p => qa p.1 && qb p.2)).length =
      (A.filter qa).length * (B.filter qb).length := by
  induction A with
  | nil => simp
  | cons a A ih =>
    rw [List.product_cons, List.filter_append, List.length_append, ih, List.filter_map,
      List.length_map]
    cases hqa : qa a
    · have : ((fun p : α × β => qa p.1 && qb p.2) ∘ Prod.mk a) = fun _ => false := by
        funext y; simp [hqa]
      rw [this, List.filter_cons_of_neg (by simp [hqa])]
      simp
    · have : ((fun p : α × β => qa p.1 && qb p.2) ∘ Prod.mk a) = qb := by
        funext y; simp [hqa]
      rw [this, List.filter_cons_of_pos (by simp [hqa]), List.length_cons]
      ring

theorem filter_dst_eq_nil {L : List (Upd Rat)} {t : List Int} (h : ∀ u ∈ L, u.1 ≠ t) :
    L.filter (fun u => decide (u.1 = t)) = [] :=
  List.filter_eq_nil_iff.mpr fun u hu => by simpa using h u hu

/-- `_blocks_to_array1`: the number of `+=` updates landing on array index `ix` of batch `b` is the
    number of (block, offset) pairs with `n·S + x = ix`.  With overlapping blocks this is > 1
    (the overlaps are summed); with gaps it is 0. -/
theorem b2a1_cover (osh ish : Int → Int) (batch B S N : Int) (hS : 0 < S) (b ix : Int)
    (hb : 0 ≤ b ∧ b < batch) (hix : 0 ≤ ix ∧ ix < osh (-1)) :
    ((Gen.b2a1 osh ish batch B S N).filter (fun u => decide (u.1 = [b, ix]))).length =
      coverCount N B S ix := by
  unfold coverCount coverPairs
  refine length_filter_eq_of_bij _ _ _ _ (fun t => ([b, ix], [b, t.1, t.2], (1 : Rat)))
    (C01.b2a1_nodup osh ish batch B S N)
    (List.Nodup.product (pyRange_nodup _ _ _) (pyRange_nodup _ _ _)) ?_ ?_
  · rintro ⟨n, x⟩ _ ⟨n', x'⟩ _ e
    simp only [Prod.mk.injEq, List.cons.injEq, and_true, true_and] at e
    obtain ⟨rfl, rfl⟩ := e
    rfl
  · intro u
    rw [b2a1_mem osh ish batch B S N hS]
    simp only [Prod.exists, decide_eq_true_eq, List.mem_product, mem_pyRange0]
    constructor
    · rintro ⟨⟨b', n, x, -, -, hn0, hn1, hx0, hx1, -, rfl⟩, e⟩
      simp only [List.cons.injEq, and_true] at e
      obtain ⟨rfl, rfl⟩ := e
      exact ⟨n, x, ⟨⟨hn0, hn1⟩, ⟨hx0, hx1⟩⟩, rfl, rfl⟩
    · rintro ⟨n, x, ⟨⟨hn0, hn1⟩, ⟨hx0, hx1⟩⟩, e, rfl⟩
      subst e
      exact ⟨⟨b, n, x, hb.1, hb.2, hn0, hn1, hx0, hx1, hix.2, rfl⟩, rfl⟩

/-- the overlap example of `coverCount 3 3 1 2 = 3`, seen on the generated loop nest itself -/
example : ((Gen.b2a1 (shapeFn [1, 5]) (shapeFn [1, 3, 3]) 1 3 1 3).filter
    (fun u => decide (u.1 = [0, 2]))).length = coverCount 3 3 1 2 := by decide +kernel

/-- `_blocks_to_array1`: an array index covered by no block receives no update at all, so it keeps
    the 0 the output was initialised with. -/
theorem b2a1_uncovered (osh ish : Int → Int) (batch B S N : Int) (hS : 0 < S) (b ix : Int)
    (h0 : coverCount N B S ix = 0) :
    ∀ u ∈ Gen.b2a1 osh ish batch B S N, u.1 ≠ [b, ix] := by
  intro u hu e
  rw [b2a1_mem osh ish batch B S N hS] at hu
  obtain ⟨b', n, x, -, -, hn0, hn1, hx0, hx1, -, rfl⟩ := hu
  simp only [List.cons.injEq, and_true] at e
  exact (coverCount_eq_zero_iff N B S ix).mp h0 n x hn0 hn1 hx0 hx1 e.2

/-- `_blocks_to_array1`: positions outside the output array or outside the batch are never
    written (no out-of-bounds `+=`). -/
theorem b2a1_out_of_range (osh ish : Int → Int) (batch B S N : Int) (hS : 0 < S) (b ix : Int)
    (h : b < 0 ∨ batch ≤ b ∨ ix < 0 ∨ osh (-1) ≤ ix) :
    ∀ u ∈ Gen.b2a1 osh ish batch B S N, u.1 ≠ [b, ix] := by
  intro u hu e
  rw [b2a1_mem osh ish batch B S N hS] at hu
  obtain ⟨b', n, x, hb0, hb1, hn0, hn1, hx0, hx1, hg, rfl⟩ := hu
  simp only [List.cons.injEq, and_true] at e
  obtain ⟨rfl, rfl⟩ := e
  refine absurd h ?_
  simp only [not_or, not_lt, not_le]
  exact ⟨hb0, hb1, Int.add_nonneg (Int.mul_nonneg hn0 hS.le) hx0, hg⟩

/-- `_blocks_to_array1`, filter form: the list of updates landing on an uncovered index is empty. -/
theorem b2a1_uncovered_nil (osh ish : Int → Int) (batch B S N : Int) (hS : 0 < S) (b ix : Int)
    (h0 : coverCount N B S ix = 0) :
    (Gen.b2a1 osh ish batch B S N).filter (fun u => decide (u.1 = [b, ix])) = [] :=
  filter_dst_eq_nil (b2a1_uncovered osh ish batch B S N hS b ix h0)

/-- `_blocks_to_array2`: the number of `+=` updates landing on array element `(iy, ix)` of batch `b`
    is the product of the per-axis cover counts: (blocks covering `iy` along y) × (blocks covering
    `ix` along x). -/
theorem b2a2_cover (osh ish : Int → Int) (batch Bx By Sx Sy Nx Ny : Int) (hSx : 0 < Sx)
    (hSy : 0 < Sy) (b iy ix : Int) (hb : 0 ≤ b ∧ b < batch) (hiy : 0 ≤ iy ∧ iy < osh (-2))
    (hix : 0 ≤ ix ∧ ix < osh (-1)) :
    ((Gen.b2a2 osh ish batch Bx By Sx Sy Nx Ny).filter
        (fun u => decide (u.1 = [b, iy, ix]))).length =
      coverCount Ny By Sy iy * coverCount Nx Bx Sx ix := by
  unfold coverCount coverPairs
  rw [← length_filter_product]
  refine length_filter_eq_of_bij _ _ _ _
    (fun t : (Int × Int) × (Int × Int) =>
      ([b, iy, ix], [b, t.1.1, t.2.1, t.1.2, t.2.2], (1 : Rat)))
    (C01.b2a2_nodup osh ish batch Bx By Sx Sy Nx Ny)
    (List.Nodup.product
      (List.Nodup.product (pyRange_nodup _ _ _) (pyRange_nodup _ _ _))
      (List.Nodup.product (pyRange_nodup _ _ _) (pyRange_nodup _ _ _))) ?_ ?_
  · rintro ⟨⟨ny, y⟩, ⟨nx, x⟩⟩ _ ⟨⟨ny', y'⟩, ⟨nx', x'⟩⟩ _ e
    simp only [Prod.mk.injEq, List.cons.injEq, and_true, true_and] at e
    obtain ⟨rfl, rfl, rfl, rfl⟩ := e
    rfl
  · intro u
    rw [b2a2_mem osh ish batch Bx By Sx Sy Nx Ny hSx hSy]
    simp only [Prod.exists, decide_eq_true_eq, List.mem_product, mem_pyRange0, Bool.and_eq_true]
    constructor
    · rintro ⟨⟨b', ny, nx, y, x, -, -, hny0, hny1, hnx0, hnx1, hy0, hy1, hx0, hx1, -, -, rfl⟩, e⟩
      simp only [List.cons.injEq, and_true] at e
      obtain ⟨rfl, rfl, rfl⟩ := e
      exact ⟨ny, y, nx, x, ⟨⟨⟨hny0, hny1⟩, ⟨hy0, hy1⟩⟩, ⟨⟨hnx0, hnx1⟩, ⟨hx0, hx1⟩⟩⟩, ⟨rfl, rfl⟩, rfl⟩
    · rintro ⟨ny, y, nx, x, ⟨⟨⟨hny0, hny1⟩, ⟨hy0, hy1⟩⟩, ⟨⟨hnx0, hnx1⟩, ⟨hx0, hx1⟩⟩⟩, ⟨ey, ex⟩, rfl⟩
      subst ey ex
      exact ⟨⟨b, ny, nx, y, x, hb.1, hb.2, hny0, hny1, hnx0, hnx1, hy0, hy1, hx0, hx1,
        hix.2, hiy.2, rfl⟩, rfl⟩

/-- 3×3 array, 2×2 blocks, stride 1, 2×2 blocks: the centre element (1,1) is covered by all four
    blocks (2 along y × 2 along x), a corner by one. -/
example : ((Gen.b2a2 (shapeFn [1, 3, 3]) (shapeFn [1, 2, 2, 2, 2]) 1 2 2 1 1 2 2).filter
    (fun u => decide (u.1 = [0, 1, 1]))).length = 4 := by decide +kernel
example : coverCount 2 2 1 1 * coverCount 2 2 1 1 = 4 := by decide +kernel
example : coverCount 2 2 1 0 * coverCount 2 2 1 0 = 1 := by decide +kernel

/-- `_blocks_to_array2`: an element whose row or column is covered by no block receives no
    update (stays 0). -/
theorem b2a2_uncovered (osh ish : Int → Int) (batch Bx By Sx Sy Nx Ny : Int) (hSx : 0 < Sx)
    (hSy : 0 < Sy) (b iy ix : Int)
    (h0 : coverCount Ny By Sy iy = 0 ∨ coverCount Nx Bx Sx ix = 0) :
    ∀ u ∈ Gen.b2a2 osh ish batch Bx By Sx Sy Nx Ny, u.1 ≠ [b, iy, ix] := by
  intro u hu e
  rw [b2a2_mem osh ish batch Bx By Sx Sy Nx Ny hSx hSy] at hu
  obtain ⟨b', ny, nx, y, x, -, -, hny0, hny1, hnx0, hnx1, hy0, hy1, hx0, hx1, -, -, rfl⟩ := hu
  simp only [List.cons.injEq, and_true] at e
  rcases h0 with h0 | h0
  · exact (coverCount_eq_zero_iff Ny By Sy iy).mp h0 ny y hny0 hny1 hy0 hy1 e.2.1
  · exact (coverCount_eq_zero_iff Nx Bx Sx ix).mp h0 nx x hnx0 hnx1 hx0 hx1 e.2.2

/-- `_blocks_to_array2`: positions outside the output array or outside the batch are never
    written. -/
theorem b2a2_out_of_range (osh ish : Int → Int) (batch Bx By Sx Sy Nx Ny : Int) (hSx : 0 < Sx)
    (hSy : 0 < Sy) (b iy ix : Int)
    (h : b < 0 ∨ batch ≤ b ∨ iy < 0 ∨ osh (-2) ≤ iy ∨ ix < 0 ∨ osh (-1) ≤ ix) :
    ∀ u ∈ Gen.b2a2 osh ish batch Bx By Sx Sy Nx Ny, u.1 ≠ [b, iy, ix] := by
  intro u hu e
  rw [b2a2_mem osh ish batch Bx By Sx Sy Nx Ny hSx hSy] at hu
  obtain ⟨b', ny, nx, y, x, hb0, hb1, hny0, hny1, hnx0, hnx1, hy0, hy1, hx0, hx1, hgx, hgy, rfl⟩ := hu
  simp only [List.cons.injEq, and_true] at e
  obtain ⟨rfl, rfl, rfl⟩ := e
  refine absurd h ?_
  simp only [not_or, not_lt, not_le]
  exact ⟨hb0, hb1, Int.add_nonneg (Int.mul_nonneg hny0 hSy.le) hy0, hgy,
    Int.add_nonneg (Int.mul_nonneg hnx0 hSx.le) hx0, hgx⟩

/-- `_blocks_to_array2`, filter form: the list of updates landing on an uncovered element is
    empty. -/
theorem b2a2_uncovered_nil (osh ish : Int → Int) (batch Bx By Sx Sy Nx Ny : Int) (hSx : 0 < Sx)
    (hSy : 0 < Sy) (b iy ix : Int)
    (h0 : coverCount Ny By Sy iy = 0 ∨ coverCount Nx Bx Sx ix = 0) :
    (Gen.b2a2 osh ish batch Bx By Sx Sy Nx Ny).filter (fun u => decide (u.1 = [b, iy, ix])) = [] :=
  filter_dst_eq_nil (b2a2_uncovered osh ish batch Bx By Sx Sy Nx Ny hSx hSy b iy ix h0)

/-- `_blocks_to_array3`: the number of `+=` updates landing on array element `(iz, iy, ix)` of batch
    `b` is the product of the three per-axis cover counts. -/
theorem b2a3_cover (osh ish : Int → Int) (batch Bx By Bz Sx Sy Sz Nx Ny Nz : Int)
    (hSx : 0 < Sx) (hSy : 0 < Sy) (hSz : 0 < Sz) (b iz iy ix : Int) (hb : 0 ≤ b ∧ b < batch)
    (hiz : 0 ≤ iz ∧ iz < osh (-3)) (hiy : 0 ≤ iy ∧ iy < osh (-2))
    (hix : 0 ≤ ix ∧ ix < osh (-1)) :
    ((Gen.b2a3 osh ish batch Bx By Bz Sx Sy Sz Nx Ny Nz).filter
        (fun u => decide (u.1 = [b, iz, iy, ix]))).length =
      coverCount Nz Bz Sz iz * coverCount Ny By Sy iy * coverCount Nx Bx Sx ix := by
  unfold coverCount coverPairs
  rw [mul_assoc, ← length_filter_product (pyRange0 Ny ×ˢ pyRange0 By), ← length_filter_product]
  refine length_filter_eq_of_bij _ _ _ _
    (fun t : (Int × Int) × ((Int × Int) × (Int × Int)) =>
      ([b, iz, iy, ix], [b, t.1.1, t.2.1.1, t.2.2.1, t.1.2, t.2.1.2, t.2.2.2], (1 : Rat)))
    (C01.b2a3_nodup osh ish batch Bx By Bz Sx Sy Sz Nx Ny Nz)
    (List.Nodup.product
      (List.Nodup.product (pyRange_nodup _ _ _) (pyRange_nodup _ _ _))
      (List.Nodup.product
        (List.Nodup.product (pyRange_nodup _ _ _) (pyRange_nodup _ _ _))
        (List.Nodup.product (pyRange_nodup _ _ _) (pyRange_nodup _ _ _)))) ?_ ?_
  · rintro ⟨⟨nz, z⟩, ⟨ny, y⟩, ⟨nx, x⟩⟩ _ ⟨⟨nz', z'⟩, ⟨ny', y'⟩, ⟨nx', x'⟩⟩ _ e
    simp only [Prod.mk.injEq, List.cons.injEq, and_true, true_and] at e
    obtain ⟨rfl, rfl, rfl, rfl, rfl, rfl⟩ := e
    rfl
  · intro u
    rw [b2a3_mem osh ish batch Bx By Bz Sx Sy Sz Nx Ny Nz hSx hSy hSz]
    simp only [Prod.exists, decide_eq_true_eq, List.mem_product, mem_pyRange0, Bool.and_eq_true]
    constructor
    · rintro ⟨⟨b', nz, ny, nx, z, y, x, -, -, hnz0, hnz1, hny0, hny1, hnx0, hnx1, hz0, hz1,
        hy0, hy1, hx0, hx1, -, -, -, rfl⟩, e⟩
      simp only [List.cons.injEq, and_true] at e
      obtain ⟨rfl, rfl, rfl, rfl⟩ := e
      exact ⟨nz, z, ny, y, nx, x,
        ⟨⟨⟨hnz0, hnz1⟩, ⟨hz0, hz1⟩⟩, ⟨⟨hny0, hny1⟩, ⟨hy0, hy1⟩⟩, ⟨⟨hnx0, hnx1⟩, ⟨hx0, hx1⟩⟩⟩,
        ⟨rfl, rfl, rfl⟩, rfl⟩
    · rintro ⟨nz, z, ny, y, nx, x,
        ⟨⟨⟨hnz0, hnz1⟩, ⟨hz0, hz1⟩⟩, ⟨⟨hny0, hny1⟩, ⟨hy0, hy1⟩⟩, ⟨⟨hnx0, hnx1⟩, ⟨hx0, hx1⟩⟩⟩,
        ⟨ez, ey, ex⟩, rfl⟩
      subst ez ey ex
      exact ⟨⟨b, nz, ny, nx, z, y, x, hb.1, hb.2, hnz0, hnz1, hny0, hny1, hnx0, hnx1, hz0, hz1,
        hy0, hy1, hx0, hx1, hix.2, hiy.2, hiz.2, rfl⟩, rfl⟩

/-- 1×1×3 array, blocks of 1×1×2 with stride 1 (one block along z and y, two along x): element
    (0,0,1) is covered by both x-blocks, so it receives two updates. -/
example : ((Gen.b2a3 (shapeFn [1, 1, 1, 3]) (shapeFn [1, 1, 1, 2, 1, 1, 2]) 1 2 1 1 1 1 1 2 1 1).filter
    (fun u => decide (u.1 = [0, 0, 0, 1]))).length = 2 := by decide +kernel
example : coverCount 1 1 1 0 * coverCount 1 1 1 0 * coverCount 2 2 1 1 = 2 := by decide +kernel

/-- `_blocks_to_array3`: an element that is uncovered along at least one axis receives no update
    (stays 0). -/
theorem b2a3_uncovered (osh ish : Int → Int) (batch Bx By Bz Sx Sy Sz Nx Ny Nz : Int)
    (hSx : 0 < Sx) (hSy : 0 < Sy) (hSz : 0 < Sz) (b iz iy ix : Int)
    (h0 : coverCount Nz Bz Sz iz = 0 ∨ coverCount Ny By Sy iy = 0 ∨ coverCount Nx Bx Sx ix = 0) :
    ∀ u ∈ Gen.b2a3 osh ish batch Bx By Bz Sx Sy Sz Nx Ny Nz, u.1 ≠ [b, iz, iy, ix] := by
  intro u hu e
  rw [b2a3_mem osh ish batch Bx By Bz Sx Sy Sz Nx Ny Nz hSx hSy hSz] at hu
  obtain ⟨b', nz, ny, nx, z, y, x, -, -, hnz0, hnz1, hny0, hny1, hnx0, hnx1, hz0, hz1,
    hy0, hy1, hx0, hx1, -, -, -, rfl⟩ := hu
  simp only [List.cons.injEq, and_true] at e
  rcases h0 with h0 | h0 | h0
  · exact (coverCount_eq_zero_iff Nz Bz Sz iz).mp h0 nz z hnz0 hnz1 hz0 hz1 e.2.1
  · exact (coverCount_eq_zero_iff Ny By Sy iy).mp h0 ny y hny0 hny1 hy0 hy1 e.2.2.1
  · exact (coverCount_eq_zero_iff Nx Bx Sx ix).mp h0 nx x hnx0 hnx1 hx0 hx1 e.2.2.2

/-- `_blocks_to_array3`: positions outside the output array or outside the batch are never
    written. -/
theorem b2a3_out_of_range (osh ish : Int → Int) (batch Bx By Bz Sx Sy Sz Nx Ny Nz : Int)
    (hSx : 0 < Sx) (hSy : 0 < Sy) (hSz : 0 < Sz) (b iz iy ix : Int)
    (h : b < 0 ∨ batch ≤ b ∨ iz < 0 ∨ osh (-3) ≤ iz ∨ iy < 0 ∨ osh (-2) ≤ iy ∨
      ix < 0 ∨ osh (-1) ≤ ix) :
    ∀ u ∈ Gen.b2a3 osh ish batch Bx By Bz Sx Sy Sz Nx Ny Nz, u.1 ≠ [b, iz, iy, ix] := by
  intro u hu e
  rw [b2a3_mem osh ish batch Bx By Bz Sx Sy Sz Nx Ny Nz hSx hSy hSz] at hu
  obtain ⟨b', nz, ny, nx, z, y, x, hb0, hb1, hnz0, hnz1, hny0, hny1, hnx0, hnx1, hz0, hz1,
    hy0, hy1, hx0, hx1, hgx, hgy, hgz, rfl⟩ := hu
  simp only [List.cons.injEq, and_true] at e
  obtain ⟨rfl, rfl, rfl, rfl⟩ := e
  refine absurd h ?_
  simp only [not_or, not_lt, not_le]
  exact ⟨hb0, hb1, Int.add_nonneg (Int.mul_nonneg hnz0 hSz.le) hz0, hgz,
    Int.add_nonneg (Int.mul_nonneg hny0 hSy.le) hy0, hgy,
    Int.add_nonneg (Int.mul_nonneg hnx0 hSx.le) hx0, hgx⟩

/-- `_blocks_to_array3`, filter form: the list of updates landing on an uncovered element is
    empty. -/
theorem b2a3_uncovered_nil (osh ish : Int → Int) (batch Bx By Bz Sx Sy Sz Nx Ny Nz : Int)
    (hSx : 0 < Sx) (hSy : 0 < Sy) (hSz : 0 < Sz) (b iz iy ix : Int)
    (h0 : coverCount Nz Bz Sz iz = 0 ∨ coverCount Ny By Sy iy = 0 ∨ coverCount Nx Bx Sx ix = 0) :
    (Gen.b2a3 osh ish batch Bx By Bz Sx Sy Sz Nx Ny Nz).filter
      (fun u => decide (u.1 = [b, iz, iy, ix])) = [] :=
  filter_dst_eq_nil (b2a3_uncovered osh ish batch Bx By Bz Sx Sy Sz Nx Ny Nz hSx hSy hSz b iz iy ix h0)

/-- a gap seen on the generated loop nest: block 1, stride 2, 3 blocks on a length-5 array leaves
    index 1 without any update -/
example : (Gen.b2a1 (shapeFn [1, 5]) (shapeFn [1, 3, 1]) 1 1 2 3).filter
    (fun u => decide (u.1 = [0, 1])) = [] := by decide +kernel

/-- The scatter kernels `_blocks_to_array{1,2,3}` accumulate (`+=`).  By `b2a1_cover` several updates
    land on one array index as soon as blocks overlap (`coverCount > 1`), so an assignment (`=`) would
    keep only the last block's value; the gather kernels write every destination once
    (`a2b*_dst_nodup`). -/
theorem b2a_accumulates :
    Gen.b2a1_accumulates = true ∧ Gen.b2a2_accumulates = true ∧ Gen.b2a3_accumulates = true :=
  ⟨rfl, rfl, rfl⟩

end SigpyVerif.C09
