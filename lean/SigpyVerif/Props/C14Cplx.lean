/-
  C14, part "complex data": the theorems of `Props/C14.lean` for operators over `𝕜 = ℝ` or `ℂ`.

  The property quantifies over real or complex `A`, `y`.  `lamda`, `alpha`, `tau`, `sigma`, `rho` are Python
  floats, so the GENERATED set-ups (`Gen.C14.cgArgs`, `gmArgs`, `pdhgArgs*`, `admmArgs*`) are instantiated with the
  scalar type `S = ℝ` and vector spaces `E`, `F`, `H` that are inner-product spaces over `𝕜`; the documented objective
  `½‖Ax-y‖² + g(Gx) + λ/2‖x-z‖²` uses the norm of that space (complex 2-norm for complex data), the gradient is
  `Aᴴ(Ax-y) + λ(x-z)` with the `𝕜`-adjoint `Aᴴ`, and the subgradient inequality of `g` uses `re ⟪·,·⟫`.

  Route taken: a complex inner-product space IS a real inner-product space with `⟪x,y⟫_ℝ = re ⟪x,y⟫_𝕜` (class
  `ReInner 𝕜 E`; instances for `𝕜 = ℝ` and for `𝕜 = ℂ` with Mathlib's `InnerProductSpace.complexToReal`), a
  `𝕜`-linear map restricts to an `ℝ`-linear map with the same underlying function, and the TRANSFER LEMMA
  `isAdj_restrict` says that a `𝕜`-adjoint pair is an adjoint pair for the real inner products.  Every theorem below
  is then the real theorem applied to the restricted maps; statements mention `A`, `AH` as `𝕜`-linear maps only
  (the set-ups take the underlying functions, which restriction does not change).
-/
import SigpyVerif.Props.C14
import Mathlib.Analysis.InnerProductSpace.Basic

namespace SigpyVerif.C14
open SigpyVerif.Gen.C14
open RCLike
open scoped RealInnerProductSpace

set_option linter.unusedSectionVars false
set_option linter.unusedVariables false

/-- `E` carries an inner product over `𝕜` and the real inner product `re ⟪·,·⟫_𝕜` (what `xp.real(xp.vdot(·,·))`
    computes) -/
class ReInner (𝕜 E : Type) [RCLike 𝕜] [NormedAddCommGroup E] [InnerProductSpace 𝕜 E] [InnerProductSpace ℝ E] :
    Prop where
  re_inner : ∀ x y : E, inner ℝ x y = re (inner 𝕜 x y)

/-- real data -/
instance reInner_real {E : Type} [NormedAddCommGroup E] [InnerProductSpace ℝ E] : ReInner ℝ E :=
  ⟨fun _ _ => rfl⟩

/-- complex data: `E` with Mathlib's real structure `InnerProductSpace.complexToReal` (`⟪x,y⟫_ℝ = re ⟪x,y⟫_ℂ`,
    i.e. `ℂⁿ` read as `ℝ²ⁿ`) on a complex inner-product space -/
theorem reInner_complex {E : Type} [NormedAddCommGroup E] [InnerProductSpace ℂ E] :
    @ReInner ℂ E _ _ _ InnerProductSpace.complexToReal :=
  @ReInner.mk ℂ E _ _ _ InnerProductSpace.complexToReal (fun x y => real_inner_eq_re_inner ℂ x y)

section rc
variable {𝕜 : Type} [RCLike 𝕜]
variable {E F H : Type}
  [NormedAddCommGroup E] [InnerProductSpace 𝕜 E] [InnerProductSpace ℝ E] [IsScalarTower ℝ 𝕜 E] [ReInner 𝕜 E]
  [NormedAddCommGroup F] [InnerProductSpace 𝕜 F] [InnerProductSpace ℝ F] [IsScalarTower ℝ 𝕜 F] [ReInner 𝕜 F]

/-- `AH` is the adjoint of `A` for the `𝕜`-inner products (`A.H` of a sigpy Linop) -/
def IsAdjK (A : E →ₗ[𝕜] F) (AH : F →ₗ[𝕜] E) : Prop := ∀ x u, inner 𝕜 (A x) u = inner 𝕜 x (AH u)

/-- **transfer lemma**: a `𝕜`-adjoint pair, restricted to real scalars, is an adjoint pair for `re ⟪·,·⟫` -/
theorem isAdj_restrict (A : E →ₗ[𝕜] F) (AH : F →ₗ[𝕜] E) (h : IsAdjK A AH) :
    IsAdj (A.restrictScalars ℝ) (AH.restrictScalars ℝ) := by
  intro x u
  simp only [LinearMap.coe_restrictScalars]
  rw [ReInner.re_inner (𝕜 := 𝕜), ReInner.re_inner (𝕜 := 𝕜), h]

/-- a Python-float multiple of an array is the `𝕜`-scalar multiple by the embedded real -/
theorem real_smul_eq (c : ℝ) (x : E) : c • x = (c : 𝕜) • x := RCLike.real_smul_eq_coe_smul (K := 𝕜) c x

/-- restriction does not change the underlying function: the generated set-ups see the same arguments -/
theorem restrict_coe (A : E →ₗ[𝕜] F) : (⇑(A.restrictScalars ℝ) : E → F) = ⇑A := rfl

/-- the generated CG system over `𝕜`: `AᴴA + λI` and `Aᴴy + λz` -/
theorem cgArgs_sys_rc (A : E →ₗ[𝕜] F) (AH : F →ₗ[𝕜] E) (y : F) (lam : ℝ) (z : Option E) (x : E) :
    (cgArgs A AH y lam z).sys x = AH (A x) + lam • x :=
  cgArgs_sys (A.restrictScalars ℝ) (AH.restrictScalars ℝ) y lam z x

theorem cgArgs_rhs_rc (A : E →ₗ[𝕜] F) (AH : F →ₗ[𝕜] E) (y : F) (lam : ℝ) (z : Option E) :
    (cgArgs A AH y lam z).rhs = AH y + lam • zOf z :=
  cgArgs_rhs (A.restrictScalars ℝ) (AH.restrictScalars ℝ) y lam z

/-- the CG system is the normal equation `Aᴴ(Ax-y) + λ(x-z) = 0` (complex gradient) -/
theorem cgSys_cgRhs_eq_normal_rc (A : E →ₗ[𝕜] F) (AH : F →ₗ[𝕜] E) (y : F) (lam : ℝ) (z : Option E) (x : E) :
    (cgArgs A AH y lam z).sys x = (cgArgs A AH y lam z).rhs ↔ AH (A x - y) + lam • (x - zOf z) = 0 :=
  cgSys_cgRhs_eq_normal (A.restrictScalars ℝ) (AH.restrictScalars ℝ) y lam z x

/-- second-order expansion of the smooth part over `𝕜`: the first-order term is `re ⟪Aᴴ(Ax-y) + λ(x-z), h⟫` -/
theorem obj_expand_rc (A : E →ₗ[𝕜] F) (AH : F →ₗ[𝕜] E) (hA : IsAdjK A AH) (y : F) (lam : ℝ) (z x h : E) :
    1 / 2 * ‖A (x + h) - y‖ ^ 2 + lam / 2 * ‖x + h - z‖ ^ 2 =
      1 / 2 * ‖A x - y‖ ^ 2 + lam / 2 * ‖x - z‖ ^ 2 + re (inner 𝕜 (AH (A x - y) + lam • (x - z)) h)
        + (1 / 2 * ‖A h‖ ^ 2 + lam / 2 * ‖h‖ ^ 2) := by
  rw [← ReInner.re_inner (𝕜 := 𝕜)]
  exact obj_expand (A.restrictScalars ℝ) (AH.restrictScalars ℝ) (isAdj_restrict A AH hA) y lam z x h

/-- real or complex data, `λ ≥ 0`: `x` solves the generated CG system iff it is a global minimiser of
    `½‖Ax-y‖² + λ/2‖x-z‖²` -/
theorem cg_normal_eq_rc (A : E →ₗ[𝕜] F) (AH : F →ₗ[𝕜] E) (hA : IsAdjK A AH) (y : F) (lam : ℝ) (hl : 0 ≤ lam)
    (z : Option E) (x : E) :
    (cgArgs A AH y lam z).sys x = (cgArgs A AH y lam z).rhs ↔
      ∀ x', 1 / 2 * ‖A x - y‖ ^ 2 + lam / 2 * ‖x - zOf z‖ ^ 2 ≤ 1 / 2 * ‖A x' - y‖ ^ 2 + lam / 2 * ‖x' - zOf z‖ ^ 2 :=
  cg_normal_eq (A.restrictScalars ℝ) (AH.restrictScalars ℝ) (isAdj_restrict A AH hA) y lam hl z x

/-- real or complex data: with `AᴴA + λI` positive definite the solution of the generated CG system is THE
    minimiser of the documented objective (no `proxg`) -/
theorem cg_unique_minimiser_rc (A : E →ₗ[𝕜] F) (AH : F →ₗ[𝕜] E) (hA : IsAdjK A AH) (y : F) (lam : ℝ)
    (z : Option E) (x : E) (hpd : ∀ h : E, h ≠ 0 → 0 < ‖A h‖ ^ 2 + lam * ‖h‖ ^ 2)
    (hx : (cgArgs A AH y lam z).sys x = (cgArgs A AH y lam z).rhs) (x' : E) (hne : x' ≠ x) :
    1 / 2 * ‖A x - y‖ ^ 2 + lam / 2 * ‖x - zOf z‖ ^ 2 < 1 / 2 * ‖A x' - y‖ ^ 2 + lam / 2 * ‖x' - zOf z‖ ^ 2 :=
  cg_unique_minimiser (A.restrictScalars ℝ) (AH.restrictScalars ℝ) (isAdj_restrict A AH hA) y lam z x hpd hx x' hne

/-- the generated `gradf` is the complex gradient `Aᴴ(Ax-y) + λ(x-z)` -/
theorem gm_gradient_rc (A : E →ₗ[𝕜] F) (AH : F →ₗ[𝕜] E) (y : F) (lam : ℝ) (z : Option E) (alpha : Option ℝ)
    (me : ℝ) (x : E) :
    (gmArgs A AH y lam z alpha me).gradf x = AH (A x - y) + lam • (x - zOf z) :=
  gm_gradient (A.restrictScalars ℝ) (AH.restrictScalars ℝ) y lam z alpha me x

/-- real or complex data, no `proxg`: a gradient step with a non-zero step leaves `x` fixed iff `x` minimises the
    documented objective -/
theorem gm_fixed_point_iff_minimiser_rc (A : E →ₗ[𝕜] F) (AH : F →ₗ[𝕜] E) (hA : IsAdjK A AH) (y : F) (lam : ℝ)
    (hl : 0 ≤ lam) (z : Option E) (alpha : Option ℝ) (me : ℝ) (x : E)
    (ha : (gmArgs A AH y lam z alpha me).alpha ≠ 0) :
    x - (gmArgs A AH y lam z alpha me).alpha • (gmArgs A AH y lam z alpha me).gradf x = x ↔
      ∀ x', 1 / 2 * ‖A x - y‖ ^ 2 + lam / 2 * ‖x - zOf z‖ ^ 2 ≤ 1 / 2 * ‖A x' - y‖ ^ 2 + lam / 2 * ‖x' - zOf z‖ ^ 2 :=
  gm_fixed_point_iff_minimiser (A.restrictScalars ℝ) (AH.restrictScalars ℝ) (isAdj_restrict A AH hA) y lam hl z
    alpha me x ha

/-- **default step of GradientMethod, real or complex data**: with `max_eig` a bound of the Rayleigh quotient
    `re ⟪h, (AᴴA+λI)h⟫ = ‖Ah‖² + λ‖h‖²` of the operator handed to `MaxEig`, `alpha = 1/max_eig` and `L = max_eig`
    satisfy the hypotheses of C13's rate theorems -/
theorem default_steps_gm_rc (A : E →ₗ[𝕜] F) (AH : F →ₗ[𝕜] E) (hA : IsAdjK A AH) (y : F) (lam : ℝ) (z : Option E)
    (me : ℝ) (hme : 0 ≤ me)
    (hR : ∀ f, (gmArgs A AH y lam z none me).eig = .primal f → ∀ h, re (inner 𝕜 h (f h)) ≤ me * ‖h‖ ^ 2) :
    let a := gmArgs A AH y lam z none me
    0 < a.alpha ∧ a.alpha * me ≤ 1 ∧
    ∀ x p, 1 / 2 * ‖A p - y‖ ^ 2 + lam / 2 * ‖p - zOf z‖ ^ 2 ≤
      1 / 2 * ‖A x - y‖ ^ 2 + lam / 2 * ‖x - zOf z‖ ^ 2 + re (inner 𝕜 (a.gradf x) (p - x)) + me / 2 * ‖p - x‖ ^ 2 := by
  intro a
  have h := default_steps_gm (A.restrictScalars ℝ) (AH.restrictScalars ℝ) (isAdj_restrict A AH hA) y lam z me hme
    (fun f hf h => by rw [ReInner.re_inner (𝕜 := 𝕜)]; exact hR f hf h)
  refine ⟨h.1, h.2.1, fun x p => ?_⟩
  rw [← ReInner.re_inner (𝕜 := 𝕜)]
  exact h.2.2 x p

variable [NormedAddCommGroup H] [InnerProductSpace 𝕜 H] [InnerProductSpace ℝ H] [IsScalarTower ℝ 𝕜 H] [ReInner 𝕜 H]

/-- KKT point of `½‖Ax-y‖² + g(Gx) + λ/2‖x-z‖²` over `𝕜` with multiplier `w ∈ ∂g(Gx)` -/
def IsKKTK (A : E →ₗ[𝕜] F) (AH : F →ₗ[𝕜] E) (G : E →ₗ[𝕜] H) (GH : H →ₗ[𝕜] E) (dg : H → Set H)
    (y : F) (lam : ℝ) (z : E) (x : E) (w : H) : Prop :=
  w ∈ dg (G x) ∧ AH (A x - y) + lam • (x - z) + GH w = 0

theorem isKKTK_iff (A : E →ₗ[𝕜] F) (AH : F →ₗ[𝕜] E) (G : E →ₗ[𝕜] H) (GH : H →ₗ[𝕜] E) (dg : H → Set H)
    (y : F) (lam : ℝ) (z : E) (x : E) (w : H) :
    IsKKTK A AH G GH dg y lam z x w ↔
      IsKKT (A.restrictScalars ℝ) (AH.restrictScalars ℝ) (G.restrictScalars ℝ) (GH.restrictScalars ℝ) dg y lam z x w :=
  Iff.rfl

/-- real or complex data: a KKT point whose multiplier is a subgradient of `g` (for `re ⟪·,·⟫`) is a global
    minimiser of the documented objective (`λ ≥ 0`) -/
theorem kkt_is_minimiser_rc (A : E →ₗ[𝕜] F) (AH : F →ₗ[𝕜] E) (hA : IsAdjK A AH) (G : E →ₗ[𝕜] H)
    (GH : H →ₗ[𝕜] E) (hG : IsAdjK G GH) (g : H → ℝ) (dg : H → Set H)
    (hsub : ∀ p w, w ∈ dg p → ∀ q, g p + re (inner 𝕜 w (q - p)) ≤ g q)
    (y : F) (lam : ℝ) (hl : 0 ≤ lam) (z x : E) (w : H) (hk : IsKKTK A AH G GH dg y lam z x w) (x' : E) :
    1 / 2 * ‖A x - y‖ ^ 2 + g (G x) + lam / 2 * ‖x - z‖ ^ 2 ≤ 1 / 2 * ‖A x' - y‖ ^ 2 + g (G x') + lam / 2 * ‖x' - z‖ ^ 2 :=
  kkt_is_minimiser (A.restrictScalars ℝ) (AH.restrictScalars ℝ) (isAdj_restrict A AH hA) (G.restrictScalars ℝ)
    (GH.restrictScalars ℝ) (isAdj_restrict G GH hG) g dg
    (fun p w hw q => by rw [ReInner.re_inner (𝕜 := 𝕜)]; exact hsub p w hw q) y lam hl z x w
    ((isKKTK_iff A AH G GH dg y lam z x w).mp hk) x'

/-- **PDHG without `G`, real or complex data**: fixed points of the generated set-up = KKT points of the
    documented objective (`u = Ax - y`) -/
theorem pdhg_fixed_point_kkt_noG_rc (A : E →ₗ[𝕜] F) (AH : F →ₗ[𝕜] E) (y : F) (lam : ℝ) (hl : 0 ≤ lam)
    (z : Option E) (hasProxg : Bool) (tau sigma : Option ℝ) (me : ℝ) (user : ℝ → E → E) (dg : E → Set E)
    (hu : hasProxg = true → IsProxOf user dg) (τ σ : ℝ) (hτ : 0 < τ) (hσ : 0 < σ) (x : E) (u : F) :
    let su := pdhgArgsNoG A AH y lam z hasProxg tau sigma me
    (su.proxfc.eval (fun _ v => v) σ (u + σ • su.K x) = u ∧ su.proxg.eval user τ (x - τ • su.KH u) = x) ↔
    (u = A x - y ∧ ∃ w, IsKKTK A AH (LinearMap.id : E →ₗ[𝕜] E) LinearMap.id (effDg hasProxg dg) y lam (zOf z) x w) :=
  pdhg_fixed_point_kkt_noG (A.restrictScalars ℝ) (AH.restrictScalars ℝ) y lam hl z hasProxg tau sigma me user dg hu
    τ σ hτ hσ x u

/-- **PDHG with `G`, real or complex data** -/
theorem pdhg_fixed_point_kkt_G_rc (A : E →ₗ[𝕜] F) (AH : F →ₗ[𝕜] E) (G : E →ₗ[𝕜] H) (GH : H →ₗ[𝕜] E)
    (y : F) (lam : ℝ) (hl : 0 ≤ lam) (z : Option E) (hasProxg : Bool) (tau sigma : Option ℝ) (me : ℝ)
    (user : ℝ → H → H) (userE : ℝ → E → E)
    (dg : H → Set H) (hu : hasProxg = true → IsProxOf user dg) (τ σ : ℝ) (hτ : 0 < τ) (hσ : 0 < σ)
    (x : E) (u : Pair F H) :
    let su := pdhgArgsG A AH G GH y lam z hasProxg tau sigma me
    (su.proxfc.eval (fun _ v => v) user σ (u + σ • su.K x) = u ∧ su.proxg.eval userE τ (x - τ • su.KH u) = x) ↔
    (u.fst = A x - y ∧ IsKKTK A AH G GH (effDg hasProxg dg) y lam (zOf z) x u.snd) :=
  pdhg_fixed_point_kkt_G (A.restrictScalars ℝ) (AH.restrictScalars ℝ) (G.restrictScalars ℝ) (GH.restrictScalars ℝ)
    y lam hl z hasProxg tau sigma me user userE dg hu τ σ hτ hσ x u

/-- **ADMM without `G`, real or complex data** -/
theorem admm_fixed_point_kkt_noG_rc (A : E →ₗ[𝕜] F) (AH : F →ₗ[𝕜] E) (y : F) (lam : ℝ) (z : Option E)
    (proxg : Option (ℝ → E → E)) (dg : E → Set E) (hp : ∀ p, proxg = some p → IsProxOf p dg)
    (ρ : ℝ) (hρ : 0 < ρ) (x v u : E) :
    let a := admmArgsNoG A AH y lam z ρ proxg
    ((a.minLx x v u).sys x = (a.minLx x v u).rhs ∧ a.minLv x v u = v ∧ u + (a.A x + a.B v) = u) ↔
    (v = x ∧ IsKKTK A AH (LinearMap.id : E →ₗ[𝕜] E) LinearMap.id (effDg proxg.isSome dg) y lam (zOf z) x (ρ • u)) :=
  admm_fixed_point_kkt_noG (A.restrictScalars ℝ) (AH.restrictScalars ℝ) y lam z proxg dg hp ρ hρ x v u

/-- **ADMM with `G`, real or complex data** -/
theorem admm_fixed_point_kkt_G_rc (A : E →ₗ[𝕜] F) (AH : F →ₗ[𝕜] E) (G : E →ₗ[𝕜] H) (GH : H →ₗ[𝕜] E)
    (y : F) (lam : ℝ) (hl : 0 ≤ lam) (z : Option E)
    (proxg : Option (ℝ → H → H)) (dg : H → Set H) (hp : ∀ p, proxg = some p → IsProxOf p dg)
    (ρ : ℝ) (hρ : 0 < ρ) (x : E) (v u : H) :
    let a := admmArgsG A AH G GH y lam z ρ proxg
    ((a.minLx x v u).sys x = (a.minLx x v u).rhs ∧ a.minLv x v u = v ∧ u + (a.A x + a.B v) = u) ↔
    (v = G x ∧ IsKKTK A AH G GH (effDg proxg.isSome dg) y lam (zOf z) x (ρ • u)) :=
  admm_fixed_point_kkt_G (A.restrictScalars ℝ) (AH.restrictScalars ℝ) (G.restrictScalars ℝ) (GH.restrictScalars ℝ)
    y lam hl z proxg dg hp ρ hρ x v u

end rc

/-! `𝕜 = ℂ` with Mathlib's real structure `complexToReal`, spelled out. -/
section complex
variable {E F : Type} [NormedAddCommGroup E] [InnerProductSpace ℂ E] [NormedAddCommGroup F] [InnerProductSpace ℂ F]
attribute [local instance] InnerProductSpace.complexToReal

/-- **complex data**: for complex-linear `A` with adjoint `AH` (for the complex inner product), the solution of
    the generated CG system is the unique minimiser of `½‖Ax-y‖² + λ/2‖x-z‖²` (complex 2-norms) -/
theorem cg_unique_minimiser_complex (A : E →ₗ[ℂ] F) (AH : F →ₗ[ℂ] E)
    (hA : ∀ x u, inner ℂ (A x) u = inner ℂ x (AH u)) (y : F) (lam : ℝ)
    (z : Option E) (x : E) (hpd : ∀ h : E, h ≠ 0 → 0 < ‖A h‖ ^ 2 + lam * ‖h‖ ^ 2)
    (hx : (cgArgs A AH y lam z).sys x = (cgArgs A AH y lam z).rhs) (x' : E) (hne : x' ≠ x) :
    1 / 2 * ‖A x - y‖ ^ 2 + lam / 2 * ‖x - zOf z‖ ^ 2 < 1 / 2 * ‖A x' - y‖ ^ 2 + lam / 2 * ‖x' - zOf z‖ ^ 2 :=
  haveI := reInner_complex (E := E); haveI := reInner_complex (E := F)
  cg_unique_minimiser_rc (𝕜 := ℂ) A AH hA y lam z x hpd hx x' hne

/-- **complex data**: fixed points of the generated gradient step are the minimisers -/
theorem gm_fixed_point_iff_minimiser_complex (A : E →ₗ[ℂ] F) (AH : F →ₗ[ℂ] E)
    (hA : ∀ x u, inner ℂ (A x) u = inner ℂ x (AH u)) (y : F) (lam : ℝ)
    (hl : 0 ≤ lam) (z : Option E) (alpha : Option ℝ) (me : ℝ) (x : E)
    (ha : (gmArgs A AH y lam z alpha me).alpha ≠ 0) :
    x - (gmArgs A AH y lam z alpha me).alpha • (gmArgs A AH y lam z alpha me).gradf x = x ↔
      ∀ x', 1 / 2 * ‖A x - y‖ ^ 2 + lam / 2 * ‖x - zOf z‖ ^ 2 ≤ 1 / 2 * ‖A x' - y‖ ^ 2 + lam / 2 * ‖x' - zOf z‖ ^ 2 :=
  haveI := reInner_complex (E := E); haveI := reInner_complex (E := F)
  gm_fixed_point_iff_minimiser_rc (𝕜 := ℂ) A AH hA y lam hl z alpha me x ha

end complex

/-- on `E = ℂ` (one complex unknown) multiplication by `i` has the adjoint "multiplication by `-i`": a `𝕜`-adjoint
    pair that is NOT symmetric over ℝ² -/
example : IsAdjK (𝕜 := ℂ) (E := ℂ) (F := ℂ) (Complex.I • LinearMap.id) ((-Complex.I) • LinearMap.id) := by
  intro x u
  simp only [LinearMap.smul_apply, LinearMap.id_coe, id_eq, smul_eq_mul, RCLike.inner_apply, map_mul,
    Complex.conj_I]
  ring

/-- the positive-definiteness hypothesis of `cg_unique_minimiser_rc` holds for that operator with `λ = 0` -/
example (h : ℂ) (hh : h ≠ 0) :
    0 < ‖(Complex.I • (LinearMap.id : ℂ →ₗ[ℂ] ℂ)) h‖ ^ 2 + (0 : ℝ) * ‖h‖ ^ 2 := by
  simp only [LinearMap.smul_apply, LinearMap.id_coe, id_eq, smul_eq_mul, norm_mul, Complex.norm_I, one_mul,
    zero_mul, add_zero]
  have : 0 < ‖h‖ := norm_pos_iff.mpr hh
  positivity

end SigpyVerif.C14
