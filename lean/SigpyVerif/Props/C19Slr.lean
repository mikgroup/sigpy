/-
  C19 (SLR part) — hard-pulse simulation IS the forward SLR recursion, and `ab2rf` is its two-sided inverse.

  All statements are about definitions REGENERATED FROM THE SOURCE (Gen/Sim.lean: `abrmHpSim`, `abrmHpSample`,
  `abrmHpParam_S`, `blochsimSim`, `ab2rfSj`, `ab2rfPeel`) instantiated over ℂ, and about the coefficient lists
  `hpPoly` of Model/C19.lean (executed over the Gaussian rationals by the driver and compared with the real
  `sim.abrm_hp` / `optcont.blochsim` in the correspondence).

  Conventions, exactly as in the source:
  * `sim.abrm_hp(rf, gamgdt, xx, dom0dt)`: per sample `b ← b·z` with `z = exp(-1j*(xx*gamgdt[ii] + dom0dt))`, then
    `a' = a·C - b·conj(S)`, `b' = a·S + b·C`, `C = cos(|rf|/2)`, `S = 1j·exp(1j·angle(rf))·sin(|rf|/2)`; at the end both
    are multiplied by `zf = exp(1j/2*(xx*sum(gamgdt) + Nt*dom0dt))` (for a constant gradient `zf = z^{-Nt/2}`, the
    common half-angle phase factor).  `rf` is in radians: the `gamma*dt` scaling is the caller's (abrm_hp has none).
    `optcont.blochsim` does the RF rotation first and `b ← b·z` after it.
  * For a constant gradient (`z` the same for all samples) the state after `n` samples is
    `(A_n(z), B_n(z))`, `A_j = C_j·A_{j-1} - conj(S_j)·z·B_{j-1}`, `B_j = S_j·A_{j-1} + C_j·z·B_{j-1}`, `A_0 = 1`, `B_0 = 0`:
    polynomials with `n` coefficients (degree `< n`) in the code's `z` — which is `z⁻¹` of the SLR literature, where
    `z = exp(+i·ω·dt)`.  `hpPoly w` are their coefficient lists.  (`sim.abrm` / `abrm_nd` / `abrm_ptx` rotate about the
    tilted axis `(rf, x·g)` in ONE step — simultaneous RF and gradient — so their Cayley–Klein parameters are not
    polynomials in `z`; the SLR polynomial statement is about the two hard-pulse simulators only.)
  * `slr.ab2rf(a, b)` works on `a_slr = reverse(conj A)`, `b_slr = 1j·reverse(conj B)` (`toSlr`): it reads the rotation
    of the LAST sample off the HIGHEST coefficients, `cj = sqrt(1/(1+|b[ii]/a[ii]|²))`, `sj = conj(cj·b[ii]/a[ii])`,
    `rf[ii] = 2·arctan2(|sj|, cj)·exp(1j·angle(sj))`, and `(cj, sj) = (C, -1j·S) = (cos(|rf|/2), exp(1j·angle rf)·sin(|rf|/2))`.

  Every statement is for every pulse length.
  Not carried by a theorem: IEEE rounding, numpy's cos/sin/exp/sqrt/arctan2/angle, `b2a`/`mag2mp`, `dzrf` filter design.
-/
import Mathlib.Data.Complex.Basic
import Mathlib.Tactic.Ring
import Mathlib.Tactic.Linarith
import Mathlib.Tactic.FieldSimp
import Mathlib.Tactic.LinearCombination
import Mathlib.Tactic.NormNum
import Mathlib.Analysis.Real.Sqrt
import Mathlib.Algebra.Polynomial.Roots
import Mathlib.Algebra.CharZero.Infinite
import Mathlib.Analysis.SpecialFunctions.Complex.Arg
import SigpyVerif.Props.C19
set_option linter.unreachableTactic false
set_option linter.unusedTactic false
namespace SigpyVerif.C19
open Complex
open SigpyVerif.Gen.Sim

@[simp] theorem peval_nil (ζ : ℂ) : peval ζ ([] : List ℂ) = 0 := rfl
@[simp] theorem peval_cons (ζ c : ℂ) (l : List ℂ) : peval ζ (c :: l) = c + ζ * peval ζ l := rfl

theorem peval_append_singleton (ζ x : ℂ) (l : List ℂ) : peval ζ (l ++ [x]) = peval ζ l + ζ ^ l.length * x := by
  induction l with
  | nil => simp
  | cons c l ih => simp only [List.cons_append, peval_cons, ih, List.length_cons]; ring

theorem peval_append_zero (ζ : ℂ) (l : List ℂ) : peval ζ (l ++ [0]) = peval ζ l := by
  rw [peval_append_singleton]; ring

theorem peval_zipWith (ζ c d : ℂ) (f : ℂ → ℂ → ℂ) (hf : ∀ x y, f x y = c * x + d * y) : ∀ (l₁ l₂ : List ℂ),
    l₁.length = l₂.length → peval ζ (List.zipWith f l₁ l₂) = c * peval ζ l₁ + d * peval ζ l₂
  | [], [], _ => by rw [List.zipWith_nil_left, peval_nil, mul_zero, mul_zero, add_zero]
  | x :: l₁, y :: l₂, h => by
    rw [List.zipWith_cons_cons, peval_cons, peval_cons, peval_cons, hf,
      peval_zipWith ζ c d f hf l₁ l₂ (Nat.succ_injective h)]
    ring
  | [], _ :: _, h => nomatch h
  | _ :: _, [], h => nomatch h

theorem peval_zipWith_lin (ζ c d : ℂ) : ∀ (l₁ l₂ : List ℂ), l₁.length = l₂.length →
    peval ζ (List.zipWith (fun x y => c * x + d * y) l₁ l₂) = c * peval ζ l₁ + d * peval ζ l₂ :=
  peval_zipWith ζ c d _ fun _ _ => rfl

/-! ## (1) hard-pulse simulation evaluates the forward recursion -/

/-- the start state `(1, 0)` or a pair of coefficient lists of equal length -/
def PolyInv (ab : List ℂ × List ℂ) : Prop := ab = ([1], []) ∨ (ab.1.length = ab.2.length ∧ 0 < ab.1.length)

theorem hpPolyStep_length (C S : ℂ) (ab : List ℂ × List ℂ) (h : PolyInv ab) :
    (hpPolyStep C S ab).1.length = ab.2.length + 1 ∧ (hpPolyStep C S ab).2.length = ab.2.length + 1 := by
  rcases h with rfl | ⟨h, _⟩
  · simp [hpPolyStep]
  · simp [hpPolyStep, h]

theorem hpPolyStep_inv (C S : ℂ) (ab : List ℂ × List ℂ) (h : PolyInv ab) : PolyInv (hpPolyStep C S ab) := by
  obtain ⟨h1, h2⟩ := hpPolyStep_length C S ab h
  exact Or.inr ⟨by rw [h1, h2], by rw [h1]; exact Nat.succ_pos _⟩

/-- **one sample**: evaluating the stepped coefficient lists at `ζ` is the GENERATED `abrm_hp` state update with
gradient phase `ζ` applied to the evaluated lists (any `ζ ∈ ℂ`, any `C`, `S`). -/
theorem hpPolyStep_eval (ζ C S : ℂ) (ab : List ℂ × List ℂ) (h : PolyInv ab) :
    (peval ζ (hpPolyStep C S ab).1, peval ζ (hpPolyStep C S ab).2) =
      abrmHpStep C S ζ (peval ζ ab.1, peval ζ ab.2) := by
  have hs := hpStep_def (C, S, ζ) (peval ζ ab.1, peval ζ ab.2)
  simp only [hpStep] at hs
  rw [hs]
  rcases h with rfl | ⟨h, _⟩
  · simp [hpPolyStep]
  · obtain ⟨a, b⟩ := ab
    simp only at h
    have hl : (a ++ [(0 : ℂ)]).length = ((0 : ℂ) :: b).length := by simp [h]
    rw [hpPolyStep, peval_zipWith ζ C (-(conj S)) _ (fun x y => by ring) _ _ hl,
      peval_zipWith ζ S C _ (fun x y => by ring) _ _ hl, peval_append_zero, peval_cons]
    refine Prod.ext ?_ ?_ <;> (simp only; ring)

theorem hpPoly_fold_inv (w : List (HpAtoms ℂ)) (ab : List ℂ × List ℂ) (h : PolyInv ab) :
    PolyInv (w.foldl (fun ab p => hpPolyStep p.C (abrmHpParam_S p) ab) ab) ∧
      (w.foldl (fun ab p => hpPolyStep p.C (abrmHpParam_S p) ab) ab).2.length = ab.2.length + w.length := by
  induction w generalizing ab with
  | nil => exact ⟨h, rfl⟩
  | cons p w ih =>
    obtain ⟨i2, i3⟩ := ih _ (hpPolyStep_inv p.C (abrmHpParam_S p) ab h)
    exact ⟨i2, by rw [List.foldl_cons, i3, (hpPolyStep_length _ _ ab h).2, List.length_cons]; omega⟩

theorem hpPoly_fold (ζ : ℂ) (w : List (HpAtoms ℂ)) (hz : ∀ p ∈ w, p.z = ζ) (ab : List ℂ × List ℂ) (h : PolyInv ab) :
    let r := w.foldl (fun ab p => hpPolyStep p.C (abrmHpParam_S p) ab) ab
    (peval ζ r.1, peval ζ r.2) = w.foldl (fun st p => abrmHpSample p st) (peval ζ ab.1, peval ζ ab.2) ∧ PolyInv r ∧
      r.2.length = ab.2.length + w.length := by
  refine ⟨?_, hpPoly_fold_inv w ab h⟩
  induction w generalizing ab with
  | nil => rfl
  | cons p w ih =>
    rw [List.foldl_cons, List.foldl_cons, ih (fun q hq => hz q (List.mem_cons_of_mem _ hq)) _ (hpPolyStep_inv _ _ ab h),
      hpPolyStep_eval ζ _ _ ab h, abrmHpSample, hz p List.mem_cons_self]

/-- **(1) `abrm_hp` evaluates the forward SLR recursion**: for a hard-pulse train `w` whose samples all have the
gradient phase factor `ζ` (constant gradient: `ζ = exp(-1j*(xx*g + dom0dt))`, but ANY `ζ ∈ ℂ` is allowed), the
simulation generated from the source of `sim.abrm_hp`, started at `(1, 0)`, returns
`(A(ζ)·zf, B(ζ)·zf)` where `(A, B) = hpPoly w` are the coefficient lists of the forward recursion
`A_j = C_j·A_{j-1} - conj(S_j)·z·B_{j-1}`, `B_j = S_j·A_{j-1} + C_j·z·B_{j-1}` and `zf` is the final rephasing. -/
theorem hpPoly_eval (ζ zf : ℂ) (w : List (HpAtoms ℂ)) (hz : ∀ p ∈ w, p.z = ζ) :
    abrmHpSim w zf (1, 0) = (peval ζ (hpPoly w).1 * zf, peval ζ (hpPoly w).2 * zf) := by
  obtain ⟨h1, _, _⟩ := hpPoly_fold ζ w hz ([1], []) (Or.inl rfl)
  have hf := finalPhase_def zf (w.foldl (fun st p => abrmHpSample p st) (1, 0))
  simp only [finalPhase] at hf
  simp only [peval_cons, peval_nil, mul_zero, add_zero] at h1
  rw [abrmHpSim, hf, ← h1]
  rfl

/-- the polynomials of `n ≥ 1` samples have exactly `n` coefficients each (degree `< n`) -/
theorem hpPoly_length (w : List (HpAtoms ℂ)) (hne : w ≠ []) :
    (hpPoly w).1.length = w.length ∧ (hpPoly w).2.length = w.length := by
  obtain ⟨h2, h3⟩ : PolyInv (hpPoly w) ∧ (hpPoly w).2.length = 0 + w.length := hpPoly_fold_inv w ([1], []) (Or.inl rfl)
  rw [zero_add] at h3
  rcases h2 with h2 | ⟨h2, _⟩
  · rw [h2] at h3
    exact absurd (List.length_eq_zero_iff.1 h3.symm) hne
  · exact ⟨h2.trans h3, h3⟩

/-- blochsim (RF rotation first, then `b ← b·z`) is abrm_hp (`b ← b·z` first) with `b` advanced by one phase factor -/
theorem bs_hp_shift (ζ : ℂ) (w : List (HpAtoms ℂ)) (hz : ∀ p ∈ w, p.z = ζ) (st : ℂ × ℂ) :
    w.foldl (fun st p => blochsimSample p st) (st.1, st.2 * ζ) =
      ((w.foldl (fun st p => abrmHpSample p st) st).1, (w.foldl (fun st p => abrmHpSample p st) st).2 * ζ) := by
  induction w generalizing st with
  | nil => rfl
  | cons p w ih =>
    have hp : p.z = ζ := hz p List.mem_cons_self
    have hb := bsStep_def (p.C, blochsimParam_s p, ζ) (st.1, st.2 * ζ)
    have hh := hpStep_def (p.C, abrmHpParam_S p, ζ) st
    simp only [bsStep, hpStep] at hb hh
    have es : blochsimParam_s p = abrmHpParam_S p := by
      simp only [blochsimParam_s, abrmHpParam_S]
      try ring
    have e : blochsimSample p (st.1, st.2 * ζ) = ((abrmHpSample p st).1, (abrmHpSample p st).2 * ζ) := by
      rw [blochsimSample, abrmHpSample, hp, hb, hh, es]
      all_goals (refine Prod.ext ?_ ?_ <;> (simp only; ring))
    simp only [List.foldl_cons, e]
    exact ih (fun q hq => hz q (List.mem_cons_of_mem _ hq)) _

/-- **(1) `optcont.blochsim` evaluates the same polynomials**: `(A(ζ)·zf, ζ·B(ζ)·zf)` -/
theorem blochsim_hpPoly_eval (ζ zf : ℂ) (w : List (HpAtoms ℂ)) (hz : ∀ p ∈ w, p.z = ζ) :
    blochsimSim w zf (1, 0) = (peval ζ (hpPoly w).1 * zf, peval ζ (hpPoly w).2 * ζ * zf) := by
  have h := bs_hp_shift ζ w hz (1, 0)
  have hh := hpPoly_eval ζ 1 w hz
  have hf := finalPhase_def (1 : ℂ) (w.foldl (fun st p => abrmHpSample p st) (1, 0))
  simp only [finalPhase] at hf
  rw [abrmHpSim, hf] at hh
  simp only [mul_one, Prod.mk.injEq] at hh
  simp only [zero_mul] at h
  rw [blochsimSim, h, blochsimFinal_eq, finalPhase_def, hh.1, hh.2]

/-! ## (2) the unit-circle identity -/

/-- the rotation atoms of one hard-pulse sample (no constraint on the gradient phase): `C = cos(|rf|/2)`,
`S = sin(|rf|/2)` real with `C² + S² = 1`, `|u| = 1` -/
def HpRotOk (p : HpAtoms ℂ) : Prop :=
  ∃ c s : ℝ, p.C = (c : ℂ) ∧ p.S = (s : ℂ) ∧ c ^ 2 + s ^ 2 = 1 ∧ normSq p.u = 1

theorem hpPoly_setZ (ζ : ℂ) (w : List (HpAtoms ℂ)) : hpPoly (w.map fun p => { p with z := ζ }) = hpPoly w := by
  simp only [hpPoly, List.foldl_map]
  rfl

/-- **(2) `|A(ζ)|² + |B(ζ)|² = 1` at every point of the unit circle**, every pulse length: from the unitarity of the
generated simulation (`gen_unitary_abrm_hp`) through `hpPoly_eval`. -/
theorem hpPoly_unit_circle (w : List (HpAtoms ℂ)) (hw : ∀ p ∈ w, HpRotOk p) (ζ : ℂ) (hζ : normSq ζ = 1) :
    normSq (peval ζ (hpPoly w).1) + normSq (peval ζ (hpPoly w).2) = 1 := by
  have hu := gen_unitary_abrm_hp (w.map fun p => { p with z := ζ })
    (forall_mem_map hw fun p ⟨c, s, h1, h2, h3, h4⟩ => ⟨c, s, h1, h2, h3, h4, hζ⟩) 1 normSq_one
  rw [hpPoly_eval ζ 1 _ (List.forall_mem_map.2 fun _ _ => rfl), hpPoly_setZ, nrm, mul_one, mul_one] at hu
  exact hu

theorem zipWith_map_both {A B C D E : Type} (f : C → D → E) (g : A → C) (h : B → D) :
    ∀ (l₁ : List A) (l₂ : List B), List.zipWith f (l₁.map g) (l₂.map h) = List.zipWith (fun x y => f (g x) (h y)) l₁ l₂ :=
  fun _ _ => List.zipWith_map

/-- one forward step in the simulator's convention is one `fwdStep` in `ab2rf`'s convention with `(c, s) = (C, -i·S)` -/
theorem toSlr_hpPolyStep (C S : ℂ) (hC : conj C = C) (ab : List ℂ × List ℂ) (h : ab.1.length = ab.2.length) :
    toSlr (hpPolyStep C S ab) = fwdStep C (-I * S) (toSlr ab) := by
  obtain ⟨a, b⟩ := ab
  have hl : (a ++ [(0 : ℂ)]).length = ((0 : ℂ) :: b).length := by
    rw [List.length_append, List.length_singleton, List.length_cons, show a.length = b.length from h]
  have z1 : (0 : ℂ) :: a.reverse.map conj = (0 :: a.reverse).map conj := by
    rw [List.map_cons, conj_def, map_zero]
  have z2 : (b.reverse.map fun x => (HasI.I : ℂ) * conj x) ++ [0] = (b.reverse ++ [0]).map fun x => (HasI.I : ℂ) * conj x := by
    rw [List.map_append, List.map_singleton, conj_def, map_zero, mul_zero]
  rw [conj_def] at hC
  simp only [toSlr, hpPolyStep, fwdStep]
  rw [List.reverse_zipWith hl, List.reverse_zipWith hl, List.map_zipWith, List.map_zipWith, z1, z2, zipWith_map_both,
    zipWith_map_both, List.reverse_append, List.reverse_cons, List.reverse_cons, List.reverse_nil, List.nil_append,
    List.singleton_append]
  refine Prod.ext (congrArg (fun f => List.zipWith f _ _) (funext fun x => funext fun y => ?_))
    (congrArg (fun f => List.zipWith f _ _) (funext fun x => funext fun y => ?_))
  · simp only [conj_def, hasI_def, map_sub, map_mul, conj_conj, hC]
    linear_combination (-(S * (starRingEnd ℂ) y)) * I_mul_I
  · simp only [conj_def, hasI_def, map_add, map_mul, map_neg, conj_I, hC]
    ring

/-- the rotation `ab2rf` recovers for a sample: `(cj, sj) = (C, -1j·S)` with the generated `S` formula -/
noncomputable def slrRot (p : HpAtoms ℂ) : ℂ × ℂ := (p.C, -I * abrmHpParam_S p)

theorem hpPoly_snoc (w : List (HpAtoms ℂ)) (p : HpAtoms ℂ) :
    hpPoly (w ++ [p]) = hpPolyStep p.C (abrmHpParam_S p) (hpPoly w) := by
  simp [hpPoly, List.foldl_append]

/-- **the polynomials of hard-pulse simulation, written as `ab2rf`'s arrays, are the forward recursion** `fwdRev` of
Props/C19.lean (last sample first) with `(c_j, s_j) = (C_j, -1j·S_j)` — every pulse length. -/
theorem toSlr_hpPoly (w : List (HpAtoms ℂ)) (hne : w ≠ []) (hC : ∀ p ∈ w, conj p.C = p.C) :
    toSlr (hpPoly w) = fwdRev (w.reverse.map slrRot) := by
  induction w using List.reverseRecOn with
  | nil => exact absurd rfl hne
  | append_singleton w p ih =>
    have hp : conj p.C = p.C := hC p (List.mem_append_right _ (List.mem_singleton_self p))
    rw [hpPoly_snoc, List.reverse_append, List.reverse_singleton, List.singleton_append, List.map_cons]
    by_cases hw : w = []
    · subst hw
      simp [hpPoly, hpPolyStep, toSlr, fwdRev, slrRot, conj_def, hasI_def, hp]
    · obtain ⟨l1, l2⟩ := hpPoly_length w hw
      obtain ⟨q, t, hqt⟩ := List.exists_cons_of_ne_nil (mt List.reverse_eq_nil_iff.1 hw)
      rw [toSlr_hpPolyStep _ _ hp _ (l1.trans l2.symm), ih hw fun q hq => hC q (List.mem_append_left _ hq), hqt,
        List.map_cons, fwdRev]
      rfl

/-! ## (3a) `ab2rf ∘ forward = id` on the polynomials of hard-pulse simulation -/

/-- a hard-pulse sample `ab2rf` can recover: `cos(|rf|/2) > 0`, i.e. `|rf| < π` -/
def HpPulseOk (p : HpAtoms ℂ) : Prop :=
  ∃ c s : ℝ, 0 < c ∧ p.C = (c : ℂ) ∧ p.S = (s : ℂ) ∧ c ^ 2 + s ^ 2 = 1 ∧ normSq p.u = 1

theorem HpPulseOk.rot {p : HpAtoms ℂ} (h : HpPulseOk p) : HpRotOk p := by
  obtain ⟨c, s, _, h1, h2, h3, h4⟩ := h
  exact ⟨c, s, h1, h2, h3, h4⟩

theorem slrRot_eq (p : HpAtoms ℂ) : slrRot p = (p.C, p.u * p.S) := by
  simp only [slrRot, abrmHpParam_S, hasI_def]
  refine Prod.ext rfl ?_
  simp only
  linear_combination (-(p.u * p.S)) * I_mul_I

theorem slrRot_RotR (p : HpAtoms ℂ) (h : HpPulseOk p) : RotR (slrRot p) := by
  obtain ⟨c, s, hc, h1, h2, h3, h4⟩ := h
  rw [slrRot_eq]
  refine ⟨c, hc, h1, ?_⟩
  rw [h2, normSq_mul, h4, normSq_ofReal, one_mul]
  linear_combination h3

/-- **(3a) `ab2rf` recovers every sample of a hard-pulse train from its simulation polynomials** (`ab2rf ∘ forward
= id`): take ANY train `w` with `|rf| < π` per sample, its polynomials `(A, B) = hpPoly w` (what the generated
`abrm_hp` evaluates, `hpPoly_eval`), written as `ab2rf`'s arrays (`toSlr`); the backward recursion of `slr.ab2rf` — the
code's own `cj = sqrt(1/(1+|b[ii]/a[ii]|²))`, the generated `sj` and peel — emits, last sample first, exactly
`(cj, sj) = (cos(|rf|/2), exp(1j·angle rf)·sin(|rf|/2))` of each sample. -/
theorem ab2rf_hp_roundtrip (w : List (HpAtoms ℂ)) (hne : w ≠ []) (hw : ∀ p ∈ w, HpPulseOk p) :
    ab2rfLoop (codeCj (toSlr (hpPoly w)).1 (toSlr (hpPoly w)).2 w.length) (toSlr (hpPoly w)).1 (toSlr (hpPoly w)).2 w.length
      = w.reverse.map fun p => (p.C, p.u * p.S) := by
  have hC : ∀ p ∈ w, conj p.C = p.C := by
    intro p hp
    obtain ⟨c, s, _, h1, _⟩ := hw p hp
    rw [h1, conj_def, conj_ofReal]
  rw [toSlr_hpPoly w hne hC]
  have hl : w.length = (w.reverse.map slrRot).length := by simp
  have hr : ∀ r ∈ w.reverse.map slrRot, RotR r :=
    forall_mem_map (fun p hp => hw p (List.mem_reverse.1 hp)) slrRot_RotR
  rw [hl, ab2rf_inverts_forward_code _ hr]
  exact List.map_congr_left fun p _ => slrRot_eq p

/-- **the sample `ab2rf` writes is the sample that was simulated**: `rf[ii] = 2·arctan2(|sj|, cj)·exp(1j·angle(sj))` —
with `arctan2(y, x) = arg(x + y·i)` and `angle = arg` — evaluated at the rotation `(cj, sj) = (cos(|rf|/2),
exp(1j·angle rf)·sin(|rf|/2))` that `ab2rf_hp_roundtrip` shows the backward recursion recovers, is `rf` itself, for
every complex sample with `|rf| < π` (at `|rf| ≥ π` `cos(|rf|/2) ≤ 0` and the `sqrt` formula for `cj` loses the sign). -/
theorem ab2rf_sample_rf (rf : ℂ) (h : ‖rf‖ < Real.pi) :
    let cj : ℝ := Real.cos (‖rf‖ / 2)
    let sj : ℂ := Complex.exp (I * (Complex.arg rf : ℂ)) * (Real.sin (‖rf‖ / 2) : ℂ)
    ((2 * Complex.arg ((cj : ℂ) + (‖sj‖ : ℂ) * I) : ℝ) : ℂ) * Complex.exp (I * (Complex.arg sj : ℂ)) = rf := by
  intro cj sj
  by_cases h0 : rf = 0
  · subst h0
    simp [cj, sj]
  · have hr : 0 < ‖rf‖ := norm_pos_iff.2 h0
    have hlt : ‖rf‖ / 2 < Real.pi := (half_lt_self hr).trans h
    have hs : 0 < Real.sin (‖rf‖ / 2) := Real.sin_pos_of_pos_of_lt_pi (half_pos hr) hlt
    have hu : Complex.exp (I * (Complex.arg rf : ℂ)) = Complex.exp ((Complex.arg rf : ℂ) * I) := by rw [mul_comm]
    have hn : ‖sj‖ = Real.sin (‖rf‖ / 2) := by
      simp only [sj, norm_mul, hu, Complex.norm_exp_ofReal_mul_I, one_mul, Complex.norm_real, Real.norm_eq_abs,
        abs_of_pos hs]
    have ha : Complex.arg ((cj : ℂ) + (‖sj‖ : ℂ) * I) = ‖rf‖ / 2 := by
      rw [hn]
      simp only [cj, Complex.ofReal_cos, Complex.ofReal_sin]
      exact Complex.arg_cos_add_sin_mul_I ⟨(neg_neg_of_pos Real.pi_pos).trans (half_pos hr), hlt.le⟩
    have hsj : Complex.arg sj = Complex.arg rf := by
      simp only [sj]
      rw [mul_comm, Complex.arg_real_mul _ hs, hu, Complex.exp_mul_I]
      exact Complex.arg_cos_add_sin_mul_I (Complex.arg_mem_Ioc rf)
    rw [ha, hsj]
    have := Complex.norm_mul_exp_arg_mul_I rf
    rw [mul_comm I]
    convert this using 2
    push_cast
    ring

/-- the unit-circle identity of a pair of coefficient lists -/
def CircleId (a b : List ℂ) : Prop := ∀ ζ : ℂ, normSq ζ = 1 → normSq (peval ζ a) + normSq (peval ζ b) = 1

/-- a coefficient list as a polynomial in `ℂ[X]` -/
noncomputable def ofL : List ℂ → Polynomial ℂ
  | [] => 0
  | c :: l => Polynomial.C c + Polynomial.X * ofL l

theorem eval_ofL (ζ : ℂ) (l : List ℂ) : (ofL l).eval ζ = peval ζ l := by
  induction l with
  | nil => simp [ofL]
  | cons c l ih => simp [ofL, ih]

theorem coeff_zero_ofL (l : List ℂ) : (ofL l).coeff 0 = (l[0]?).getD 0 := by
  cases l with
  | nil => simp [ofL]
  | cons c l => simp [ofL, Polynomial.mul_coeff_zero]

/-- para-conjugate: reversed, conjugated coefficients (`Ã(z) = z^{n-1}·conj A(1/conj z)`) -/
noncomputable def pc (l : List ℂ) : List ℂ := l.reverse.map conj

theorem peval_pc (ζ : ℂ) (hζ : ζ * conj ζ = 1) (l : List ℂ) :
    ζ * peval ζ (pc l) = ζ ^ l.length * conj (peval ζ l) := by
  induction l with
  | nil => simp [pc, conj_def]
  | cons c l ih =>
    simp only [pc, List.reverse_cons, List.map_append, List.map_cons, List.map_nil, peval_append_singleton,
      List.length_map, List.length_reverse, peval_cons, conj_def, map_add, map_mul, List.length_cons] at ih hζ ⊢
    linear_combination ih - ζ ^ l.length * (starRingEnd ℂ) (peval ζ l) * hζ

theorem peval_pc_succ (ζ : ℂ) (hζ : ζ * conj ζ = 1) (l : List ℂ) (n : ℕ) (hl : l.length = n + 1) :
    peval ζ (pc l) = ζ ^ n * conj (peval ζ l) := by
  refine mul_left_cancel₀ (left_ne_zero_of_mul_eq_one hζ) ?_
  rw [peval_pc ζ hζ l, hl, pow_succ', mul_assoc]

theorem circle_infinite : Set.Infinite {ζ : ℂ | normSq ζ = 1} := by
  refine Set.infinite_of_injOn_mapsTo (f := fun x : ℝ => (x : ℂ) + (Real.sqrt (1 - x ^ 2) : ℂ) * I) (fun x _ y _ h => ?_)
    (fun x hx => ?_) (Set.Icc_infinite zero_lt_one)
  · simpa using congrArg Complex.re h
  · rw [Set.mem_ofPred_eq, normSq_add_mul_I, Real.sq_sqrt (sub_nonneg.2 (pow_le_one₀ hx.1 hx.2)), add_sub_cancel]

/-- **(2) the unit-circle identity is an identity of polynomials**: a pair of `n+1` coefficients each with
`|a(ζ)|² + |b(ζ)|² = 1` on the unit circle satisfies `a·ã + b·b̃ = X^n` in `ℂ[X]`. -/
theorem circle_id_poly (a b : List ℂ) (n : ℕ) (ha : a.length = n + 1) (hb : b.length = n + 1) (h : CircleId a b) :
    ofL a * ofL (pc a) + ofL b * ofL (pc b) = Polynomial.X ^ n := by
  rw [← sub_eq_zero]
  refine Polynomial.eq_zero_of_infinite_isRoot _ (circle_infinite.mono fun ζ hζ => ?_)
  have hu : ζ * conj ζ = 1 := by rw [mul_comm]; exact unit_of_normSq hζ
  have hn : ((normSq (peval ζ a) + normSq (peval ζ b) : ℝ) : ℂ) = 1 := by rw [h ζ hζ, ofReal_one]
  rw [ofReal_add, ← mul_conj, ← mul_conj] at hn
  simp only [Set.mem_ofPred_eq, Polynomial.IsRoot.def, Polynomial.eval_sub, Polynomial.eval_add, Polynomial.eval_mul,
    Polynomial.eval_pow, Polynomial.eval_X, eval_ofL, peval_pc_succ ζ hu a n ha, peval_pc_succ ζ hu b n hb, conj_def] at hn ⊢
  linear_combination ζ ^ n * hn

/-- **(2) for the polynomials of hard-pulse simulation**: `A·Ã + B·B̃ = X^{n-1}` in `ℂ[X]`, every pulse length -/
theorem hpPoly_paraconj_identity (w : List (HpAtoms ℂ)) (p : HpAtoms ℂ) (hw : ∀ q ∈ w ++ [p], HpRotOk q) :
    ofL (hpPoly (w ++ [p])).1 * ofL (pc (hpPoly (w ++ [p])).1) + ofL (hpPoly (w ++ [p])).2 * ofL (pc (hpPoly (w ++ [p])).2)
      = Polynomial.X ^ w.length := by
  obtain ⟨l1, l2⟩ := hpPoly_length (w ++ [p]) (by simp)
  exact circle_id_poly _ _ w.length (by simpa using l1) (by simpa using l2) (hpPoly_unit_circle _ hw)

theorem pc_head (l : List ℂ) (n : ℕ) (hl : l.length = n + 1) (x : ℂ) (h : l[n]? = some x) : (pc l)[0]? = some (conj x) := by
  rw [pc, List.getElem?_map, List.getElem?_reverse (by omega), hl, Nat.add_sub_cancel, Nat.sub_zero, h, Option.map_some]

/-- the extreme coefficient of the identity: `a₀·conj(a_n) + b₀·conj(b_n) = 0` (what makes `ab2rf`'s peel lower the degree) -/
theorem circle_corner (a b : List ℂ) (m : ℕ) (ha : a.length = m + 2) (hb : b.length = m + 2) (h : CircleId a b)
    (a0 al b0 bl : ℂ) (h1 : a[0]? = some a0) (h2 : a[m + 1]? = some al) (h3 : b[0]? = some b0) (h4 : b[m + 1]? = some bl) :
    a0 * conj al + b0 * conj bl = 0 := by
  have hp := congrArg (fun q => Polynomial.coeff q 0) (circle_id_poly a b (m + 1) ha hb h)
  simp only [Polynomial.coeff_add, Polynomial.mul_coeff_zero, coeff_zero_ofL, h1, h3, pc_head a (m + 1) ha al h2,
    pc_head b (m + 1) hb bl h4, Option.getD_some, Polynomial.coeff_X_pow, if_neg (Nat.succ_ne_zero m).symm] at hp
  exact hp

/-! ## (3b) `forward ∘ ab2rf = id` -/

theorem list_head_zero (l : List ℂ) (k : ℕ) (hl : l.length = k + 2) (h0 : l[0]? = some 0) :
    l = 0 :: (l.drop 1).take (k + 1) := by
  cases l with
  | nil => simp at hl
  | cons x t =>
    simp only [List.getElem?_cons_zero, Option.some.injEq] at h0
    simp only [List.length_cons] at hl
    subst h0
    simp only [List.drop_succ_cons, List.drop_zero]
    rw [List.take_of_length_le (by omega)]

theorem list_last_zero (l : List ℂ) (k : ℕ) (hl : l.length = k + 2) (h0 : l[k + 1]? = some 0) :
    l = l.take (k + 1) ++ [0] := by
  have hlt : k + 1 < l.length := by omega
  have e := (List.take_append_drop (k + 1) l).symm
  rw [List.drop_eq_getElem_cons hlt, List.drop_of_length_le (by omega)] at e
  have : l[k + 1] = 0 := by
    rw [List.getElem?_eq_getElem hlt] at h0
    exact Option.some.inj h0
  rw [this] at e
  exact e

/-- what `ab2rf` needs of its input: `n = k+1` coefficients each, the unit-circle identity, and a real positive top
coefficient of `a` (the forward recursion always has `a[n-1] = ∏ cos(|rf_j|/2) > 0`; `ab2rf` discards its phase). -/
def SlrPair (k : ℕ) (a b : List ℂ) : Prop :=
  a.length = k + 1 ∧ b.length = k + 1 ∧ CircleId a b ∧ ∃ t : ℝ, 0 < t ∧ a[k]? = some (t : ℂ)

/-- the slices `at[1:ii+1]`, `bt[0:ii]` drop a zero each -/
theorem peel_cons_snoc (cj sj : ℂ) (a b : List ℂ) (k : ℕ) (ha : a.length = k + 2) (hb : b.length = k + 2)
    (a0 b0 an bn : ℂ) (h1 : a[0]? = some a0) (h2 : b[0]? = some b0) (h3 : a[k + 1]? = some an) (h4 : b[k + 1]? = some bn)
    (hfirst : cj * a0 + sj * b0 = 0) (hlast : -(conj sj) * an + cj * bn = 0) :
    List.zipWith (fun x y => cj * x + sj * y) a b = 0 :: (peel cj sj a b (k + 1)).1 ∧
      List.zipWith (fun x y => -(conj sj) * x + cj * y) a b = (peel cj sj a b (k + 1)).2 ++ [0] := by
  rw [peel_def]
  constructor
  · refine list_head_zero _ k (by rw [List.length_zipWith, ha, hb, min_self]) ?_
    rw [List.getElem?_zipWith, h1, h2]
    exact congrArg some hfirst
  · refine list_last_zero _ k (by rw [List.length_zipWith, ha, hb, min_self]) ?_
    rw [List.getElem?_zipWith, h3, h4]
    exact congrArg some hlast

theorem peel_top (cr t : ℝ) (bn : ℂ) (ht : t ≠ 0) :
    (cr : ℂ) * t + peelS (cr : ℂ) t bn * bn = ((cr * (t ^ 2 + normSq bn) / t : ℝ) : ℂ) := by
  have hb2 : ((normSq bn : ℝ) : ℂ) = bn * conj bn := (mul_conj bn).symm
  have htc : (t : ℂ) ≠ 0 := ofReal_ne_zero.2 ht
  simp only [peelS_def, conj_def, map_div₀, map_mul, conj_ofReal] at hb2 ⊢
  push_cast
  rw [hb2, eq_div_iff htc, add_mul, div_mul_eq_mul_div, div_mul_cancel₀ _ htc]
  ring

/-- one backward step of `ab2rf` on a valid pair of `k+2` coefficients: with the code's `cj`, the generated `sj` and
peel — the emitted `(cj, sj)` is a rotation with `cj > 0`, the peeled pair is valid with `k+1` coefficients, and ONE
FORWARD STEP REBUILDS the input. -/
theorem peel_inverts (k : ℕ) (a b : List ℂ) (h : SlrPair (k + 1) a b) (an bn : ℂ) (han : a[k + 1]? = some an)
    (hbn : b[k + 1]? = some bn) (cr : ℝ) (hcr : cr = Real.sqrt (1 / (1 + normSq (bn / an)))) :
    RotR ((cr : ℂ), peelS (cr : ℂ) an bn) ∧
      SlrPair k (peel (cr : ℂ) (peelS (cr : ℂ) an bn) a b (k + 1)).1 (peel (cr : ℂ) (peelS (cr : ℂ) an bn) a b (k + 1)).2 ∧
      fwdStep (cr : ℂ) (peelS (cr : ℂ) an bn) (peel (cr : ℂ) (peelS (cr : ℂ) an bn) a b (k + 1)) = (a, b) := by
  obtain ⟨ha, hb, hid, t, ht, hat⟩ := h
  obtain rfl : an = (t : ℂ) := Option.some.inj (han.symm.trans hat)
  have ht0 : (t : ℂ) ≠ 0 := ofReal_ne_zero.2 ht.ne'
  have hq : 0 < 1 + normSq (bn / t) := add_pos_of_pos_of_nonneg one_pos (normSq_nonneg _)
  have hcr0 : 0 < cr := hcr ▸ Real.sqrt_pos.2 (one_div_pos.2 hq)
  have hcrN : cr ^ 2 * (1 + normSq (bn / t)) = 1 := by
    rw [hcr, Real.sq_sqrt (one_div_pos.2 hq).le, one_div_mul_cancel hq.ne']
  have hunit := peelS_unit cr t bn hcrN
  have hcs : (cr : ℂ) * cr + peelS (cr : ℂ) t bn * conj (peelS (cr : ℂ) t bn) = 1 := by
    rw [conj_def, mul_conj, ← ofReal_mul, ← ofReal_add, ← sq, hunit, ofReal_one]
  have htop := peel_top cr t bn ht.ne'
  -- the `z^{k+1}` coefficient of the unit-circle identity makes the first coefficient of `at` vanish
  obtain ⟨a0, ha0⟩ : ∃ a0, a[0]? = some a0 := ⟨a[0]'(ha ▸ Nat.succ_pos _), List.getElem?_eq_getElem _⟩
  obtain ⟨b0, hb0⟩ : ∃ b0, b[0]? = some b0 := ⟨b[0]'(hb ▸ Nat.succ_pos _), List.getElem?_eq_getElem _⟩
  obtain ⟨eat, ebt⟩ := peel_cons_snoc cr (peelS (cr : ℂ) t bn) a b k ha hb a0 b0 t bn ha0 hb0 han hbn
    (peel_at_first_zero cr a0 b0 t bn ht0 (circle_corner a b k ha hb hid a0 t b0 bn ha0 han hb0 hbn))
    (peel_bt_last_zero cr t bn ht0)
  -- of `sj` and the peeled pair only `eat`, `ebt` are used from here on
  generalize peelS (cr : ℂ) t bn = sj at *
  generalize peel (cr : ℂ) sj a b (k + 1) = ab' at *
  obtain ⟨a', b'⟩ := ab'
  have hl : a.length = b.length := ha.trans hb.symm
  have la := congrArg List.length eat
  have lb := congrArg List.length ebt
  simp only [List.length_zipWith, List.length_cons, List.length_append, ha, hb, min_self] at la lb
  refine ⟨⟨cr, hcr0, rfl, hunit⟩,
    ⟨(Nat.add_right_cancel la).symm, (Nat.add_right_cancel lb).symm, fun ζ hζ => ?_, ?_⟩, ?_⟩
  · have e1 := peval_zipWith_lin ζ cr sj a b hl
    have e2 := peval_zipWith_lin ζ (-(conj sj)) cr a b hl
    rw [eat, peval_cons, zero_add] at e1
    rw [ebt, peval_append_zero] at e2
    have hn := peel_norm cr sj (peval ζ a) (peval ζ b)
    rwa [← e1, ← e2, normSq_mul, hζ, one_mul, hunit, one_mul, hid ζ hζ] at hn
  · have hpos : 0 < t ^ 2 + normSq bn := add_pos_of_pos_of_nonneg (pow_pos ht 2) (normSq_nonneg bn)
    refine ⟨cr * (t ^ 2 + normSq bn) / t, div_pos (mul_pos hcr0 hpos) ht, ?_⟩
    have := congrArg (·[k + 1]?) eat
    simp only [List.getElem?_zipWith, han, hbn, List.getElem?_cons_succ, htop] at this
    exact this.symm
  · rw [fwdStep, ← eat, ← ebt]
    exact Prod.ext
      (zipWith_zipWith_left (fun x y => (cr : ℂ) * x - sj * y) _ _ (fun x y => by linear_combination x * hcs) a b hl.le)
      (zipWith_zipWith_right (fun x y => conj sj * x + (cr : ℂ) * y) _ _ (fun x y => by linear_combination y * hcs) a b
        hl.ge)

/-- **(3b) `forward ∘ ab2rf = id`**: for ANY pair of coefficient lists with `n = k+1 ≥ 1` coefficients each that
satisfies the unit-circle identity and has a real positive top coefficient `a[n-1]`, the backward recursion of
`slr.ab2rf` (the code's `sqrt` formula for `cj`, the generated `sj`, peel and slices) emits `n` valid rotations
(`cj > 0` real, `cj² + |sj|² = 1`) and the forward SLR recursion applied to them rebuilds `(a, b)` EXACTLY. -/
theorem forward_ab2rf : ∀ (k : ℕ) (a b : List ℂ), SlrPair k a b →
    (ab2rfLoop (codeCj a b (k + 1)) a b (k + 1)).length = k + 1 ∧
      (∀ r ∈ ab2rfLoop (codeCj a b (k + 1)) a b (k + 1), RotR r) ∧
      fwdRev (ab2rfLoop (codeCj a b (k + 1)) a b (k + 1)) = (a, b)
  | 0, a, b, h => by
    obtain ⟨ha, hb, hid, t, ht, hat⟩ := h
    obtain ⟨a0, rfl⟩ := List.length_eq_one_iff.1 ha
    obtain ⟨b0, rfl⟩ := List.length_eq_one_iff.1 hb
    obtain rfl : a0 = (t : ℂ) := Option.some.inj hat
    have h1 : t ^ 2 + normSq b0 = 1 := by
      have := hid 1 normSq_one
      simp only [peval_cons, peval_nil, mul_zero, add_zero, normSq_ofReal] at this
      rwa [sq]
    have htc : (t : ℂ) ≠ 0 := ofReal_ne_zero.2 ht.ne'
    have hc : Real.sqrt (1 / (1 + normSq (b0 / (t : ℂ)))) = t := by
      rw [normSq_div, normSq_ofReal]
      exact sqrt_cj t _ ht h1
    have hs : peelS (t : ℂ) (t : ℂ) b0 = conj b0 := by
      rw [peelS_def, mul_div_assoc, mul_div_cancel₀ _ htc]
    rw [codeCj_succ _ _ 0 _ _ rfl rfl t hc, ab2rfLoop_succ _ _ _ _ 0 _ _ rfl rfl, hs]
    refine ⟨rfl, ?_, ?_⟩
    · intro r hr
      rw [List.mem_singleton.1 hr]
      exact ⟨t, ht, rfl, by rwa [conj_def, normSq_conj]⟩
    · rw [codeCj, ab2rfLoop, fwdRev]
      simp only [conj_def, conj_conj]
  | k + 1, a, b, h => by
    obtain ⟨ha, hb, _, _⟩ := id h
    obtain ⟨an, han⟩ : ∃ an, a[k + 1]? = some an := ⟨a[k + 1]'(by omega), List.getElem?_eq_getElem (by omega)⟩
    obtain ⟨bn, hbn⟩ : ∃ bn, b[k + 1]? = some bn := ⟨b[k + 1]'(by omega), List.getElem?_eq_getElem (by omega)⟩
    obtain ⟨hrot, hpair, hfwd⟩ := peel_inverts k a b h an bn han hbn _ rfl
    obtain ⟨il, ir, ifw⟩ := forward_ab2rf k _ _ hpair
    rw [codeCj_succ a b (k + 1) an bn han hbn _ rfl, ab2rfLoop_succ _ _ a b (k + 1) an bn han hbn]
    generalize ((Real.sqrt _ : ℝ) : ℂ) = cj at *
    generalize ab2rfLoop (codeCj _ _ _) _ _ _ = rs at *
    obtain ⟨r', t', rfl⟩ := List.exists_cons_of_length_eq_add_one il
    refine ⟨by rw [List.length_cons, il], List.forall_mem_cons.2 ⟨hrot, ir⟩, ?_⟩
    rw [fwdRev, ifw]
    exact hfwd

theorem toSlr_toSlr (ab : List ℂ × List ℂ) : toSlr (toSlr ab) = ab := by
  obtain ⟨a, b⟩ := ab
  have e1 : (fun x : ℂ => conj (conj x)) = id := by funext x; simp [conj_def]
  have e2 : (fun x : ℂ => (HasI.I : ℂ) * conj ((HasI.I : ℂ) * conj x)) = id := by
    funext x
    simp only [conj_def, hasI_def, map_mul, conj_I, conj_conj, id]
    linear_combination (-x) * I_mul_I
  simp only [toSlr, List.map_reverse, List.map_map, List.reverse_reverse, Function.comp_def, e1, e2, List.map_id]

/-- **(3b) in terms of the simulator**: let `(a, b)` be a valid `ab2rf` input (`SlrPair`) and `w` ANY hard-pulse train
whose per-sample `(cos(|rf|/2), exp(1j·angle rf)·sin(|rf|/2))`, last sample first, are the rotations `ab2rf` emits
on `(a, b)`; then the polynomials of hard-pulse simulation of `w` are `(a, b)` (in `ab2rf`'s convention), and the
generated `sim.abrm_hp` at gradient phase `ζ` returns `zf·(A(ζ), B(ζ))` with `(A, B) = toSlr (a, b)`. -/
theorem forward_ab2rf_sim (k : ℕ) (a b : List ℂ) (h : SlrPair k a b) (w : List (HpAtoms ℂ))
    (hw : (w.reverse.map fun p => (p.C, p.u * p.S)) = ab2rfLoop (codeCj a b (k + 1)) a b (k + 1)) :
    toSlr (hpPoly w) = (a, b) ∧ ∀ ζ zf : ℂ, (∀ p ∈ w, p.z = ζ) →
      abrmHpSim w zf (1, 0) = (peval ζ (toSlr (a, b)).1 * zf, peval ζ (toSlr (a, b)).2 * zf) := by
  obtain ⟨hl, hr, hf⟩ := forward_ab2rf k a b h
  rw [← hw] at hl hr hf
  have hne : w ≠ [] := by
    intro h0
    subst h0
    simp at hl
  have hC : ∀ p ∈ w, conj p.C = p.C := by
    intro p hp
    obtain ⟨c, _, h1, _⟩ := hr (p.C, p.u * p.S) (List.mem_map.2 ⟨p, List.mem_reverse.2 hp, rfl⟩)
    simp only at h1
    rw [h1, conj_def, conj_ofReal]
  have e : (w.reverse.map slrRot) = w.reverse.map fun p => (p.C, p.u * p.S) :=
    List.map_congr_left fun p _ => slrRot_eq p
  have hs : toSlr (hpPoly w) = (a, b) := by rw [toSlr_hpPoly w hne hC, e, hf]
  refine ⟨hs, fun ζ zf hz => ?_⟩
  rw [hpPoly_eval ζ zf w hz, ← hs, toSlr_toSlr]

/-- **(1) with the code's own phase factors**: at position `x`, constant gradient sample `g`, off-resonance `d` (all
real), every sample has `z = exp(-1j*(x*g + d))` (the generated exponent `abrmHpPhaseArg`) and the final rephasing is
`zf = exp(1j/2*(x*sum(g) + Nt*d))` (generated `abrmHpFinalArg`); then `sim.abrm_hp` returns `zf·(A(z), B(z))` with `|z| = 1`
and `zf²·z^Nt = 1`: the common factor is the half-angle phase `z^{-Nt/2}` (so `|beta| = |B(z)|`). -/
theorem hpPoly_eval_code (x g d : ℝ) (w : List (HpAtoms ℂ))
    (hz : ∀ p ∈ w, p.z = Complex.exp (abrmHpPhaseArg (x : ℂ) (g : ℂ) (d : ℂ))) :
    let ζ := Complex.exp (abrmHpPhaseArg (x : ℂ) (g : ℂ) (d : ℂ))
    let zf := zfHp x d (List.replicate w.length g)
    abrmHpSim w zf (1, 0) = (peval ζ (hpPoly w).1 * zf, peval ζ (hpPoly w).2 * zf) ∧ normSq ζ = 1 ∧ normSq zf = 1 ∧
      zf * zf * ζ ^ w.length = 1 := by
  intro ζ zf
  obtain ⟨h1, _, h3⟩ := hp_frame_factor x d (List.replicate w.length g)
  refine ⟨hpPoly_eval ζ zf w hz, ?_, h1, ?_⟩
  · apply normSq_exp_of_re_zero
    simp [abrmHpPhaseArg, hasI_def]
  · simp only [zf, ζ, zfHp, List.map_replicate, List.prod_replicate] at h3 ⊢
    exact h3

/-- non-vacuity of `HpPulseOk`: `cos = 3/5`, `sin = 4/5`, `u = i`, `z = -1` -/
example : HpPulseOk ⟨(3 / 5 : ℝ), (4 / 5 : ℝ), I, -1⟩ := ⟨3 / 5, 4 / 5, by norm_num, rfl, rfl, by norm_num, by simp⟩

/-- a valid one-coefficient `ab2rf` input: `a = [3/5]`, `b = [4/5·i]` -/
example : SlrPair 0 [((3 / 5 : ℝ) : ℂ)] [((4 / 5 : ℝ) : ℂ) * I] := by
  refine ⟨rfl, rfl, ?_, 3 / 5, by norm_num, rfl⟩
  intro ζ _
  simp only [peval_cons, peval_nil, mul_zero, add_zero, normSq_mul, normSq_ofReal, normSq_I]
  norm_num

/-- a valid two-coefficient `ab2rf` input (two pulses `(3/5, 4/5)`: `a = [-16/25, 9/25]`, `b = [12/25, 12/25]`) -/
example : SlrPair 1 [((-16 / 25 : ℝ) : ℂ), ((9 / 25 : ℝ) : ℂ)] [((12 / 25 : ℝ) : ℂ), ((12 / 25 : ℝ) : ℂ)] := by
  refine ⟨rfl, rfl, ?_, 9 / 25, by norm_num, rfl⟩
  intro ζ hζ
  simp only [peval_cons, peval_nil, mul_zero, add_zero, normSq_apply, add_re, add_im, mul_re, mul_im, ofReal_re,
    ofReal_im] at hζ ⊢
  linear_combination (225 / 625 : ℝ) * hζ

end SigpyVerif.C19
