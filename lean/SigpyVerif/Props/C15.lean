import SigpyVerif.Model.C15
import SigpyVerif.Props.C13
import Mathlib.Analysis.InnerProductSpace.Basic
import Mathlib.Tactic.Ring
import Mathlib.Tactic.Linarith
import Mathlib.Tactic.NormNum
import Mathlib.Tactic.Positivity
/-
  C15 — solvers stop within max_iter and stop early only at genuine fixed points.
  Counter/loop theorems are about `Gen.AlgDone` (regenerated from sigpy/alg.py + app.py on every
  run: `algUpdateIncr`, `selfIncr<Cls>`, `initIter<Cls>`, `done<Cls>`, `appUpdatesPerPass`) and
  `C15.runLoop / ctrUpdate`; the fixed-point theorems are about the transcribed `_update`s of
  `Model/C15.lean`, which the correspondence check compares with the real classes update by update.
  (`early_stop_fixed` for ConjugateGradient is `C12.cg_early_stop_fixed` in Props/C12.lean.)
  PDHG in every variant (γ_primal > 0, γ_dual > 0, constant θ; scalar or array-valued steps):
  `early_stop_fixed_pdhg_general` is about `pdhgUpdateG` = C13's translator-generated `pdStep` + the residual
  formulas regenerated from the source (`Gen.C15.*`), at `P = D = C13.StepOp` (a step is the positive operator it
  acts as); it goes through `C13.pdhg_fixed_point_iff_saddle_diag`: resid = 0 ⇒ saddle point ⇒ fixed point of the
  update with ANY positive steps, in particular the rescaled ones.  NewtonsMethod with the backtracking line
  search: `early_stop_fixed_newton_ls` (loop with fuel; `newton_ls_backtracks` shows the loop does iterate).
-/
namespace SigpyVerif.C15

section loopR
variable {σ : Type} (done : σ → Bool) (iter : σ → Int) (M : Int)

theorem runLoopR_spec (update : σ → Res σ) (hinc : ∀ s s', update s = Res.ok s' → iter s' = iter s + 1)
    (hdone : ∀ s, iter s ≥ M → done s = true) (fuel : Nat) : ∀ (s : σ) (n : Nat), iter s = n → M - n ≤ fuel →
      ((runLoopR done update fuel s n).2.1 : Int) ≤ max M n ∧
        iter (runLoopR done update fuel s n).1 = (runLoopR done update fuel s n).2.1 ∧
        ((runLoopR done update fuel s n).2.2 = true → done (runLoopR done update fuel s n).1 = true) ∧
        ((∀ s, ∃ s', update s = Res.ok s') → (runLoopR done update fuel s n).2.2 = true) := by
  induction fuel with
  | zero =>
    intro s n hs hf
    exact ⟨le_max_right _ _, hs, id, fun _ => hdone s (by omega)⟩
  | succ f ih =>
    intro s n hs hf
    rw [runLoopR]
    by_cases hd : done s = true
    · rw [if_pos hd]
      exact ⟨le_max_right _ _, hs, fun _ => hd, fun _ => rfl⟩
    · have hlt : (n : Int) < M := by
        by_contra hge
        exact hd (hdone s (by omega))
      rw [if_neg hd]
      cases hu : update s with
      | ok s' =>
        have := ih s' (n + 1) (by rw [hinc s s' hu, hs, Nat.cast_succ]) (by omega)
        rw [Nat.cast_succ, max_eq_left (by omega : (n : Int) + 1 ≤ M)] at this
        exact ⟨this.1.trans (le_max_left _ _), this.2⟩
      | raised =>
        exact ⟨le_max_right _ _, hs, fun h => absurd h Bool.false_ne_true,
          fun h => by obtain ⟨s', hs'⟩ := h s; rw [hu] at hs'; cases hs'⟩
      | nofuel =>
        exact ⟨le_max_right _ _, hs, fun h => absurd h Bool.false_ne_true,
          fun h => by obtain ⟨s', hs'⟩ := h s; rw [hu] at hs'; cases hs'⟩

end loopR

section loop
variable {σ : Type} (done : σ → Bool) (update : σ → σ) (iter : σ → Int) (M : Int)

theorem runLoopR_ok : ∀ (fuel : Nat) (s : σ) (n : Nat),
    runLoopR done (fun s => Res.ok (update s)) fuel s n = runLoop done update fuel s n := by
  intro fuel
  induction fuel with
  | zero => intro s n; rfl
  | succ f ih =>
    intro s n
    rw [runLoopR, runLoop]
    split_ifs
    · rfl
    · exact ih _ _

/-- **loop_bound.**  Starting from `iter = 0`, `while not done(): update()` (the canonical loop and
    `App.run`) terminates by `done()` after at most `max_iter` updates (none if `max_iter ≤ 0`), and
    the counter equals the number of updates performed — for every machine whose `update` advances
    the counter by one and whose `done` contains the disjunct `iter >= max_iter`. -/
theorem loop_bound (hinc : ∀ s, iter (update s) = iter s + 1) (hdone : ∀ s, iter s ≥ M → done s = true)
    (s0 : σ) (h0 : iter s0 = 0) (fuel : Nat) (hf : M ≤ fuel) :
    (runLoop done update fuel s0 0).2.2 = true ∧ ((runLoop done update fuel s0 0).2.1 : Int) ≤ max M 0 ∧
      iter (runLoop done update fuel s0 0).1 = (runLoop done update fuel s0 0).2.1 ∧
      done (runLoop done update fuel s0 0).1 = true := by
  have := runLoopR_spec done iter M (fun s => Res.ok (update s)) (fun s s' h => by cases h; exact hinc s) hdone
    fuel s0 0 (by rw [h0, Nat.cast_zero]) (by rw [Nat.cast_zero, sub_zero]; exact hf)
  rw [runLoopR_ok, Nat.cast_zero] at this
  have hfl := this.2.2.2 fun s => ⟨_, rfl⟩
  exact ⟨hfl, this.1, this.2.1, this.2.2.1 hfl⟩

end loop

/-- after `n` calls of `update()` the counter is `n * (selfIncr + algUpdateIncr)` above its start -/
theorem ctr_iterate (selfIncr i0 : Int) (n : Nat) :
    (ctrUpdate selfIncr)^[n] i0 = i0 + n * (selfIncr + Gen.algUpdateIncr) := by
  induction n generalizing i0 with
  | zero => simp
  | succ n ih => rw [Function.iterate_succ_apply, ih, ctrUpdate]; push_cast; ring

/-- **iter_counts_updates.**  After `n` calls of `update()` the counter is exactly `n` above its start, for every
    class whose `_update` does not touch the counter (`Alg.update` adds exactly one: `Gen.algUpdateIncr = 1` is
    re-checked against the source). -/
theorem iter_counts_updates (i0 : Int) (n : Nat) : (ctrUpdate 0)^[n] i0 = i0 + n := by
  rw [ctr_iterate]; simp [Gen.algUpdateIncr]

/-- an assertion on a generated constant, checked when this file is built: the translator counted one `alg.update()`
    per pass of the `while not alg.done()` loop of `App.run` -/
theorem app_one_update_per_pass : Gen.appUpdatesPerPass = 1 := rfl

/-- an assertion on generated constants, checked when this file is built: the translator found no write to the counter
    in the `_update` of these classes (GerchbergSaxton: see `loop_bound_GerchbergSaxton`) -/
theorem self_incr_zero :
    Gen.selfIncrAlg = 0 ∧ Gen.selfIncrPowerMethod = 0 ∧ Gen.selfIncrGradientMethod = 0 ∧
    Gen.selfIncrConjugateGradient = 0 ∧ Gen.selfIncrPrimalDualHybridGradient = 0 ∧ Gen.selfIncrAltMin = 0 ∧
    Gen.selfIncrAugmentedLagrangianMethod = 0 ∧ Gen.selfIncrADMM = 0 ∧ Gen.selfIncrSDMM = 0 ∧
    Gen.selfIncrNewtonsMethod = 0 := by
  refine ⟨rfl, rfl, rfl, rfl, rfl, rfl, rfl, rfl, rfl, rfl⟩

theorem loop_bound_ctr {F : Type} (dn : Int × F → Bool) (g : F → F) (c i0 M : Int) (f0 : F) (fuel : Nat)
    (hinc : ∀ i, ctrUpdate c i = i + 1) (hdone : ∀ s : Int × F, s.1 ≥ M → dn s = true) (h0 : i0 = 0)
    (hf : M ≤ fuel) :
    let up := fun s : Int × F => (ctrUpdate c s.1, g s.2)
    (runLoop dn up fuel (i0, f0) 0).2.2 = true ∧ ((runLoop dn up fuel (i0, f0) 0).2.1 : Int) ≤ max M 0 ∧
      (runLoop dn up fuel (i0, f0) 0).1.1 = (runLoop dn up fuel (i0, f0) 0).2.1 := by
  intro up
  have := loop_bound dn up Prod.fst M (fun s => hinc s.1) hdone (i0, f0) h0 fuel hf
  exact ⟨this.1, this.2.1, this.2.2.1⟩

/-! ### `loop_bound` for the generated `_done` of every class.  The state is `(iter, f)`, `f` the
rest of the object (arbitrary type `F`, arbitrary evolution `g`), read by `_done` through
`resid/tol/flag`. -/
section classes
variable {F : Type} (g : F → F) (resid tol : F → Rat) (flag : F → Bool) (M : Int) (f0 : F) (fuel : Nat)

theorem loop_bound_Alg (hf : M ≤ fuel) :
    let dn := fun s : Int × F => Gen.doneAlg s.1 M
    let up := fun s : Int × F => (ctrUpdate Gen.selfIncrAlg s.1, g s.2)
    (runLoop dn up fuel (Gen.initIterAlg, f0) 0).2.2 = true ∧
      ((runLoop dn up fuel (Gen.initIterAlg, f0) 0).2.1 : Int) ≤ max M 0 ∧
      (runLoop dn up fuel (Gen.initIterAlg, f0) 0).1.1 = (runLoop dn up fuel (Gen.initIterAlg, f0) 0).2.1 := by
  intro dn up
  exact loop_bound_ctr dn g _ _ M f0 fuel (fun i => by simp [ctrUpdate, Gen.selfIncrAlg, Gen.algUpdateIncr])
    (fun s h => by simp [dn, Gen.doneAlg, h]) (by simp [Gen.initIterAlg]) hf

theorem loop_bound_PowerMethod (hf : M ≤ fuel) :
    let dn := fun s : Int × F => Gen.donePowerMethod s.1 M
    let up := fun s : Int × F => (ctrUpdate Gen.selfIncrPowerMethod s.1, g s.2)
    (runLoop dn up fuel (Gen.initIterPowerMethod, f0) 0).2.2 = true ∧
      ((runLoop dn up fuel (Gen.initIterPowerMethod, f0) 0).2.1 : Int) ≤ max M 0 ∧
      (runLoop dn up fuel (Gen.initIterPowerMethod, f0) 0).1.1 = (runLoop dn up fuel (Gen.initIterPowerMethod, f0) 0).2.1 := by
  intro dn up
  exact loop_bound_ctr dn g _ _ M f0 fuel (fun i => by simp [ctrUpdate, Gen.selfIncrPowerMethod, Gen.algUpdateIncr])
    (fun s h => by simp [dn, Gen.donePowerMethod, h]) (by simp [Gen.initIterPowerMethod]) hf

theorem loop_bound_GradientMethod (hf : M ≤ fuel) :
    let dn := fun s : Int × F => Gen.doneGradientMethod s.1 M (resid s.2) (tol s.2)
    let up := fun s : Int × F => (ctrUpdate Gen.selfIncrGradientMethod s.1, g s.2)
    (runLoop dn up fuel (Gen.initIterGradientMethod, f0) 0).2.2 = true ∧
      ((runLoop dn up fuel (Gen.initIterGradientMethod, f0) 0).2.1 : Int) ≤ max M 0 ∧
      (runLoop dn up fuel (Gen.initIterGradientMethod, f0) 0).1.1 = (runLoop dn up fuel (Gen.initIterGradientMethod, f0) 0).2.1 := by
  intro dn up
  exact loop_bound_ctr dn g _ _ M f0 fuel (fun i => by simp [ctrUpdate, Gen.selfIncrGradientMethod, Gen.algUpdateIncr])
    (fun s h => by simp [dn, Gen.doneGradientMethod, h]) (by simp [Gen.initIterGradientMethod]) hf

theorem loop_bound_ConjugateGradient (hf : M ≤ fuel) :
    let dn := fun s : Int × F => Gen.doneConjugateGradient s.1 M (flag s.2) (resid s.2) (tol s.2)
    let up := fun s : Int × F => (ctrUpdate Gen.selfIncrConjugateGradient s.1, g s.2)
    (runLoop dn up fuel (Gen.initIterConjugateGradient, f0) 0).2.2 = true ∧
      ((runLoop dn up fuel (Gen.initIterConjugateGradient, f0) 0).2.1 : Int) ≤ max M 0 ∧
      (runLoop dn up fuel (Gen.initIterConjugateGradient, f0) 0).1.1 = (runLoop dn up fuel (Gen.initIterConjugateGradient, f0) 0).2.1 := by
  intro dn up
  exact loop_bound_ctr dn g _ _ M f0 fuel (fun i => by simp [ctrUpdate, Gen.selfIncrConjugateGradient, Gen.algUpdateIncr])
    (fun s h => by simp [dn, Gen.doneConjugateGradient, h]) (by simp [Gen.initIterConjugateGradient]) hf

theorem loop_bound_PrimalDualHybridGradient (hf : M ≤ fuel) :
    let dn := fun s : Int × F => Gen.donePrimalDualHybridGradient s.1 M (resid s.2) (tol s.2)
    let up := fun s : Int × F => (ctrUpdate Gen.selfIncrPrimalDualHybridGradient s.1, g s.2)
    (runLoop dn up fuel (Gen.initIterPrimalDualHybridGradient, f0) 0).2.2 = true ∧
      ((runLoop dn up fuel (Gen.initIterPrimalDualHybridGradient, f0) 0).2.1 : Int) ≤ max M 0 ∧
      (runLoop dn up fuel (Gen.initIterPrimalDualHybridGradient, f0) 0).1.1 = (runLoop dn up fuel (Gen.initIterPrimalDualHybridGradient, f0) 0).2.1 := by
  intro dn up
  exact loop_bound_ctr dn g _ _ M f0 fuel (fun i => by simp [ctrUpdate, Gen.selfIncrPrimalDualHybridGradient, Gen.algUpdateIncr])
    (fun s h => by simp [dn, Gen.donePrimalDualHybridGradient, h]) (by simp [Gen.initIterPrimalDualHybridGradient]) hf

theorem loop_bound_AltMin (hf : M ≤ fuel) :
    let dn := fun s : Int × F => Gen.doneAltMin s.1 M
    let up := fun s : Int × F => (ctrUpdate Gen.selfIncrAltMin s.1, g s.2)
    (runLoop dn up fuel (Gen.initIterAltMin, f0) 0).2.2 = true ∧
      ((runLoop dn up fuel (Gen.initIterAltMin, f0) 0).2.1 : Int) ≤ max M 0 ∧
      (runLoop dn up fuel (Gen.initIterAltMin, f0) 0).1.1 = (runLoop dn up fuel (Gen.initIterAltMin, f0) 0).2.1 := by
  intro dn up
  exact loop_bound_ctr dn g _ _ M f0 fuel (fun i => by simp [ctrUpdate, Gen.selfIncrAltMin, Gen.algUpdateIncr])
    (fun s h => by simp [dn, Gen.doneAltMin, h]) (by simp [Gen.initIterAltMin]) hf

theorem loop_bound_AugmentedLagrangianMethod (hf : M ≤ fuel) :
    let dn := fun s : Int × F => Gen.doneAugmentedLagrangianMethod s.1 M
    let up := fun s : Int × F => (ctrUpdate Gen.selfIncrAugmentedLagrangianMethod s.1, g s.2)
    (runLoop dn up fuel (Gen.initIterAugmentedLagrangianMethod, f0) 0).2.2 = true ∧
      ((runLoop dn up fuel (Gen.initIterAugmentedLagrangianMethod, f0) 0).2.1 : Int) ≤ max M 0 ∧
      (runLoop dn up fuel (Gen.initIterAugmentedLagrangianMethod, f0) 0).1.1 = (runLoop dn up fuel (Gen.initIterAugmentedLagrangianMethod, f0) 0).2.1 := by
  intro dn up
  exact loop_bound_ctr dn g _ _ M f0 fuel (fun i => by simp [ctrUpdate, Gen.selfIncrAugmentedLagrangianMethod, Gen.algUpdateIncr])
    (fun s h => by simp [dn, Gen.doneAugmentedLagrangianMethod, h]) (by simp [Gen.initIterAugmentedLagrangianMethod]) hf

theorem loop_bound_ADMM (hf : M ≤ fuel) :
    let dn := fun s : Int × F => Gen.doneADMM s.1 M
    let up := fun s : Int × F => (ctrUpdate Gen.selfIncrADMM s.1, g s.2)
    (runLoop dn up fuel (Gen.initIterADMM, f0) 0).2.2 = true ∧
      ((runLoop dn up fuel (Gen.initIterADMM, f0) 0).2.1 : Int) ≤ max M 0 ∧
      (runLoop dn up fuel (Gen.initIterADMM, f0) 0).1.1 = (runLoop dn up fuel (Gen.initIterADMM, f0) 0).2.1 := by
  intro dn up
  exact loop_bound_ctr dn g _ _ M f0 fuel (fun i => by simp [ctrUpdate, Gen.selfIncrADMM, Gen.algUpdateIncr])
    (fun s h => by simp [dn, Gen.doneADMM, h]) (by simp [Gen.initIterADMM]) hf

theorem loop_bound_SDMM (hf : M ≤ fuel) :
    let dn := fun s : Int × F => Gen.doneSDMM s.1 M (flag s.2)
    let up := fun s : Int × F => (ctrUpdate Gen.selfIncrSDMM s.1, g s.2)
    (runLoop dn up fuel (Gen.initIterSDMM, f0) 0).2.2 = true ∧
      ((runLoop dn up fuel (Gen.initIterSDMM, f0) 0).2.1 : Int) ≤ max M 0 ∧
      (runLoop dn up fuel (Gen.initIterSDMM, f0) 0).1.1 = (runLoop dn up fuel (Gen.initIterSDMM, f0) 0).2.1 := by
  intro dn up
  exact loop_bound_ctr dn g _ _ M f0 fuel (fun i => by simp [ctrUpdate, Gen.selfIncrSDMM, Gen.algUpdateIncr])
    (fun s h => by simp [dn, Gen.doneSDMM, h]) (by simp [Gen.initIterSDMM]) hf

theorem loop_bound_NewtonsMethod (hf : M ≤ fuel) :
    let dn := fun s : Int × F => Gen.doneNewtonsMethod s.1 M (resid s.2) (tol s.2)
    let up := fun s : Int × F => (ctrUpdate Gen.selfIncrNewtonsMethod s.1, g s.2)
    (runLoop dn up fuel (Gen.initIterNewtonsMethod, f0) 0).2.2 = true ∧
      ((runLoop dn up fuel (Gen.initIterNewtonsMethod, f0) 0).2.1 : Int) ≤ max M 0 ∧
      (runLoop dn up fuel (Gen.initIterNewtonsMethod, f0) 0).1.1 = (runLoop dn up fuel (Gen.initIterNewtonsMethod, f0) 0).2.1 := by
  intro dn up
  exact loop_bound_ctr dn g _ _ M f0 fuel (fun i => by simp [ctrUpdate, Gen.selfIncrNewtonsMethod, Gen.algUpdateIncr])
    (fun s h => by simp [dn, Gen.doneNewtonsMethod, h]) (by simp [Gen.initIterNewtonsMethod]) hf

/-- GerchbergSaxton: provided its `_update` does not increment the counter itself (`hgs`; the harness checks the generated value: a non-zero value is the double-increment defect) -/
theorem loop_bound_GerchbergSaxton (hgs : Gen.selfIncrGerchbergSaxton = 0) (hf : M ≤ fuel) :
    let dn := fun s : Int × F => Gen.doneGerchbergSaxton s.1 M (resid s.2) (tol s.2)
    let up := fun s : Int × F => (ctrUpdate Gen.selfIncrGerchbergSaxton s.1, g s.2)
    (runLoop dn up fuel (Gen.initIterGerchbergSaxton, f0) 0).2.2 = true ∧
      ((runLoop dn up fuel (Gen.initIterGerchbergSaxton, f0) 0).2.1 : Int) ≤ max M 0 ∧
      (runLoop dn up fuel (Gen.initIterGerchbergSaxton, f0) 0).1.1 = (runLoop dn up fuel (Gen.initIterGerchbergSaxton, f0) 0).2.1 := by
  intro dn up
  exact loop_bound_ctr dn g _ _ M f0 fuel (fun i => by simp [ctrUpdate, hgs, Gen.algUpdateIncr])
    (fun s h => by simp [dn, Gen.doneGerchbergSaxton, h]) (by simp [Gen.initIterGerchbergSaxton]) hf

end classes

/-! ### early stop only at fixed points (`tol = 0`: `resid <= 0`, i.e. `resid2 <= 0`) -/
section fixed
variable {E : Type} [NormedAddCommGroup E] [InnerProductSpace ℝ E]

/-- the vector operations in a real inner-product space (a complex one is a real one) -/
noncomputable def nOps (E : Type) [NormedAddCommGroup E] [InnerProductSpace ℝ E] : VOps E ℝ where
  add := fun a b => a + b
  sub := fun a b => a - b
  smul := fun s v => s • v
  norm2 := fun v => ‖v‖ ^ 2

omit [InnerProductSpace ℝ E] in
theorem sq_div_nonpos {v : E} {a : ℝ} (ha : 0 < a) (h : ‖v‖ ^ 2 / a ≤ 0) : v = 0 := by
  rw [div_le_iff₀ ha, zero_mul] at h
  exact norm_eq_zero.mp (pow_eq_zero_iff two_ne_zero |>.mp (le_antisymm h (sq_nonneg _)))

omit [InnerProductSpace ℝ E] in
theorem sq_div_add_nonpos {v : E} {a r : ℝ} (ha : 0 < a) (hr : 0 ≤ r) (h : ‖v‖ ^ 2 / a + r ≤ 0) :
    v = 0 ∧ r ≤ 0 :=
  have hv : 0 ≤ ‖v‖ ^ 2 / a := div_nonneg (sq_nonneg _) ha.le
  ⟨sq_div_nonpos ha ((le_add_of_nonneg_right hr).trans h), (le_add_of_nonneg_left hv).trans h⟩

/-- **GradientMethod without acceleration**: if `resid <= 0` after an update then `x = T(x)`: a
    further `update()` leaves `x` unchanged. -/
theorem early_stop_fixed_gm (tnext : ℝ → ℝ) (gradf : E → E) (prox : Option (ℝ → E → E)) (α : ℝ) (hα : α ≠ 0)
    (s : GM E ℝ) (h : (gmUpdate (nOps E) tnext gradf prox α false s).resid2 ≤ 0) :
    (gmUpdate (nOps E) tnext gradf prox α false (gmUpdate (nOps E) tnext gradf prox α false s)).x =
      (gmUpdate (nOps E) tnext gradf prox α false s).x := by
  have hαα : 0 < α * α := mul_self_pos.mpr hα
  simp only [gmUpdate, Bool.false_eq_true, if_false] at h ⊢
  have hx : gmT (nOps E) gradf prox α s.x = s.x := sub_eq_zero.mp (sq_div_nonpos hαα h)
  rw [hx]; exact hx

/-- **Accelerated GradientMethod** (the residual also measures the move from the
    extrapolated point `z`): `resid <= 0` means `x_new = x_old = z_old`, hence `z_new = x_new` and a
    further `update()` leaves `x` unchanged. -/
theorem early_stop_fixed_gm_accel (tnext : ℝ → ℝ) (gradf : E → E) (prox : Option (ℝ → E → E)) (α : ℝ)
    (hα : α ≠ 0) (s : GM E ℝ) (h : (gmUpdate (nOps E) tnext gradf prox α true s).resid2 ≤ 0) :
    (gmUpdate (nOps E) tnext gradf prox α true (gmUpdate (nOps E) tnext gradf prox α true s)).x =
      (gmUpdate (nOps E) tnext gradf prox α true s).x := by
  have hαα : 0 < α * α := mul_self_pos.mpr hα
  simp only [gmUpdate, if_true] at h ⊢
  obtain ⟨hx, h'⟩ := sq_div_add_nonpos hαα (div_nonneg (sq_nonneg _) hαα.le) h
  have hz : gmT (nOps E) gradf prox α s.z = s.z := sub_eq_zero.mp (sq_div_nonpos hαα h')
  rw [hx]
  show gmT (nOps E) gradf prox α (gmT (nOps E) gradf prox α s.z + _ • (0 : E)) = _
  rw [smul_zero, add_zero, hz, hz]

/-- **PDHG** (primal, extrapolation and dual change are all measured): `resid <= 0`
    means `x_new = x_old = x_ext_old` and `u_new = u_old`; then the whole iterate `(x, u, x_ext)` is
    unchanged by the update, so a further `update()` changes neither `x` nor `u`. -/
theorem early_stop_fixed_pdhg (A AH : E → E) (proxfc proxg : ℝ → E → E) (τ σ θ : ℝ) (hτ : 0 < τ) (hσ : 0 < σ)
    (s : PD E ℝ) (h : (pdhgUpdate (nOps E) A AH proxfc proxg τ σ θ s).resid2 ≤ 0) :
    (pdhgUpdate (nOps E) A AH proxfc proxg τ σ θ (pdhgUpdate (nOps E) A AH proxfc proxg τ σ θ s)).x =
        (pdhgUpdate (nOps E) A AH proxfc proxg τ σ θ s).x ∧
    (pdhgUpdate (nOps E) A AH proxfc proxg τ σ θ (pdhgUpdate (nOps E) A AH proxfc proxg τ σ θ s)).u =
        (pdhgUpdate (nOps E) A AH proxfc proxg τ σ θ s).u := by
  simp only [pdhgUpdate, nOps] at h ⊢
  rw [add_assoc] at h
  have n3 := div_nonneg (sq_nonneg ‖proxfc σ (s.u + σ • A s.xext) - s.u‖) hσ.le
  obtain ⟨hx, h⟩ := sq_div_add_nonpos hτ (add_nonneg (div_nonneg (sq_nonneg _) hτ.le) n3) h
  obtain ⟨he, h⟩ := sq_div_add_nonpos hτ n3 h
  have hu := sub_eq_zero.mp (sq_div_nonpos hσ h)
  have he := sub_eq_zero.mp he
  have hx := sub_eq_zero.mp hx
  rw [hx, hu, sub_self, smul_zero, add_zero, ← he, hu]
  rw [hu, ← he] at hx
  exact ⟨hx, rfl⟩

/-- **NewtonsMethod** (β = 1): `residual <= 0` means `λ² = re ⟪H⁻¹g, g⟫ <= 0`; for a positive
    definite inverse Hessian then `g = 0`, the Newton step is zero, and a further `update()` leaves
    `x` unchanged.  (`newtonUpdate` has no branch for the `raise ValueError` of `_update` at `λ² < 0`; `hH` and `h0`
    exclude `λ² < 0`.  The generated machine, with the branch: `early_stop_fixed_newton_gen`, Props/C15Mach.) -/
theorem early_stop_fixed_newton (gradf : E → E) (invH : E → E → E)
    (hH : ∀ x g, inner ℝ (invH x g) g ≤ 0 → g = 0) (h0 : ∀ x, invH x 0 = 0) (x : E)
    (h : (newtonUpdate (nOps E) (fun a b => inner ℝ a b) gradf invH x).2 ≤ 0) :
    (newtonUpdate (nOps E) (fun a b => inner ℝ a b) gradf invH
        (newtonUpdate (nOps E) (fun a b => inner ℝ a b) gradf invH x).1).1 =
      (newtonUpdate (nOps E) (fun a b => inner ℝ a b) gradf invH x).1 := by
  simp only [newtonUpdate, nOps] at h ⊢
  have hg : gradf x = 0 := hH x _ (by rwa [real_inner_smul_left, neg_one_mul, neg_neg] at h)
  simp only [hg, h0, smul_zero, add_zero]

end fixed

section general
open SigpyVerif.C13
variable {E F : Type} [NormedAddCommGroup E] [InnerProductSpace ℝ E] [NormedAddCommGroup F] [InnerProductSpace ℝ F]

/-- `norm(v / T**0.5)**2` for a (scalar or array) step `T`: `Σ_i |v_i|²/τ_i = ⟨T⁻¹v, v⟩` -/
noncomputable def wn {G : Type} [NormedAddCommGroup G] [InnerProductSpace ℝ G] (T : StepOp G) (v : G) : ℝ :=
  inner ℝ (T.inv v) v

theorem theta_pos_of_nonneg (γ m : ℝ) (hγ : 0 < γ) (hm : 0 ≤ m) :
    0 < ((1 : ℕ) : ℝ) / Real.sqrt (((1 : ℕ) : ℝ) + ((2 : ℕ) : ℝ) * γ * m) := by
  have : (0 : ℝ) < ((1 : ℕ) : ℝ) + ((2 : ℕ) : ℝ) * γ * m :=
    add_pos_of_pos_of_nonneg (Nat.cast_pos.mpr one_pos)
      (mul_nonneg (mul_nonneg (Nat.cast_nonneg 2) hγ.le) hm)
  exact div_pos (Nat.cast_pos.mpr one_pos) (Real.sqrt_pos.mpr this)

/-- whatever branch the step-size block takes, positive steps stay positive
    (`tau_min`, `sigma_min` are minima of absolute values, hence `≥ 0`) -/
theorem pdRescale_steps_pos (γp γd θ0 : ℝ) (τ : StepOp E) (σ : StepOp F) (tm sm : ℝ) (hτ : τ.Pos) (hσ : σ.Pos)
    (htm : 0 ≤ tm) (hsm : 0 ≤ sm) :
    (pdRescale Real.sqrt γp γd θ0 τ σ tm sm : Rescale ℝ (StepOp E) (StepOp F)).tau.Pos ∧
    (pdRescale Real.sqrt γp γd θ0 τ σ tm sm : Rescale ℝ (StepOp E) (StepOp F)).sigma.Pos := by
  unfold pdRescale
  split_ifs with h1 h2
  · have hθ := theta_pos_of_nonneg γp tm (by simpa using h1.1) htm
    exact ⟨hτ.smul hθ, hσ.div hθ⟩
  · have hθ := theta_pos_of_nonneg γd sm (by simpa using h2.2) hsm
    exact ⟨hτ.div hθ, hσ.smul hθ⟩
  · exact ⟨hτ, hσ⟩

/-- the squared residual is a sum of three step-weighted squared norms, each `≥ 0` for positive steps -/
theorem pdhg_resid_terms_le (A : E → F) (AH : F → E) (proxfc : StepOp F → F → F) (proxg : StepOp E → E → E)
    (γp γd θ0 c : ℝ) (s : PDState ℝ E F (StepOp E) (StepOp F)) (hτ : s.tau.Pos) (hσ : s.sigma.Pos)
    (htm : 0 ≤ s.tau_min) (hsm : 0 ≤ s.sigma_min)
    (h : (pdhgUpdateG Real.sqrt wn wn A AH proxfc proxg γp γd θ0 s).2 ≤ c) :
    wn (pdStep Real.sqrt A AH proxfc proxg γp γd θ0 s).tau
        (Gen.C13.pdXDiff (pdStep Real.sqrt A AH proxfc proxg γp γd θ0 s).x s.x) ≤ c ∧
    wn (pdStep Real.sqrt A AH proxfc proxg γp γd θ0 s).tau (Gen.C15.pdXExtDiff s.x_ext s.x) ≤ c ∧
    Gen.C15.pdResidDual2 wn (pdStep Real.sqrt A AH proxfc proxg γp γd θ0 s).u s.u s.sigma ≤ c := by
  set s' := pdStep Real.sqrt A AH proxfc proxg γp γd θ0 s
  have hτ' : s'.tau.Pos := (pdRescale_steps_pos γp γd θ0 s.tau s.sigma s.tau_min s.sigma_min hτ hσ htm hsm).1
  have hr : (pdhgUpdateG Real.sqrt wn wn A AH proxfc proxg γp γd θ0 s).2
      = Gen.C15.pdResid2 wn (Gen.C13.pdXDiff s'.x s.x) (Gen.C15.pdXExtDiff s.x_ext s.x) s'.tau
          (Gen.C15.pdResidDual2 wn s'.u s.u s.sigma) := rfl
  rw [hr] at h
  have n1 : 0 ≤ wn s'.tau (Gen.C13.pdXDiff s'.x s.x) := hτ'.nonneg _
  have n2 : 0 ≤ wn s'.tau (Gen.C15.pdXExtDiff s.x_ext s.x) := hτ'.nonneg _
  have n3 : 0 ≤ Gen.C15.pdResidDual2 wn s'.u s.u s.sigma := by
    unfold Gen.C15.pdResidDual2; exact hσ.nonneg _
  unfold Gen.C15.pdResid2 at h
  refine ⟨by linarith, by linarith, by linarith⟩

set_option linter.unusedTactic false in
set_option linter.unreachableTactic false in
/-- **PDHG, general** (γ_primal > 0, γ_dual > 0 or constant θ; scalar or array-valued positive steps):
    `resid <= 0` means `x_new = x_old = x_ext_old` and `u_new = u_old` (all three weighted norms vanish), so
    `(x, u)` is a saddle point (`C13.pdhg_fixed_point_iff_saddle_diag`), and the NEXT `update()` — which runs
    with the RESCALED steps — changes neither `x` nor `u`. -/
theorem early_stop_fixed_pdhg_general (g : E → ℝ) (fc : F → ℝ) (A : E → F) (AH : F → E)
    (proxfc : StepOp F → F → F) (proxg : StepOp E → E → E) (hg : ProxOfW g proxg) (hfc : ProxOfW fc proxfc)
    (γp γd θ0 : ℝ) (s : PDState ℝ E F (StepOp E) (StepOp F)) (hτ : s.tau.Pos) (hσ : s.sigma.Pos)
    (htm : 0 ≤ s.tau_min) (hsm : 0 ≤ s.sigma_min)
    (h : (pdhgUpdateG Real.sqrt wn wn A AH proxfc proxg γp γd θ0 s).2 ≤ 0) :
    (pdhgUpdateG Real.sqrt wn wn A AH proxfc proxg γp γd θ0
        (pdhgUpdateG Real.sqrt wn wn A AH proxfc proxg γp γd θ0 s).1).1.x =
      (pdhgUpdateG Real.sqrt wn wn A AH proxfc proxg γp γd θ0 s).1.x ∧
    (pdhgUpdateG Real.sqrt wn wn A AH proxfc proxg γp γd θ0
        (pdhgUpdateG Real.sqrt wn wn A AH proxfc proxg γp γd θ0 s).1).1.u =
      (pdhgUpdateG Real.sqrt wn wn A AH proxfc proxg γp γd θ0 s).1.u ∧
    IsSaddle g fc A AH (pdhgUpdateG Real.sqrt wn wn A AH proxfc proxg γp γd θ0 s).1.x
      (pdhgUpdateG Real.sqrt wn wn A AH proxfc proxg γp γd θ0 s).1.u := by
  have e1 : ∀ t, (pdhgUpdateG Real.sqrt wn wn A AH proxfc proxg γp γd θ0 t).1
      = pdStep Real.sqrt A AH proxfc proxg γp γd θ0 t := fun _ => rfl
  simp only [e1]
  obtain ⟨h1, h2, h3⟩ := pdhg_resid_terms_le A AH proxfc proxg γp γd θ0 0 s hτ hσ htm hsm h
  set s' := pdStep Real.sqrt A AH proxfc proxg γp γd θ0 s with hs'
  have hpos := pdRescale_steps_pos γp γd θ0 s.tau s.sigma s.tau_min s.sigma_min hτ hσ htm hsm
  have hτ' : s'.tau.Pos := hpos.1
  have hσ' : s'.sigma.Pos := hpos.2
  simp only [Gen.C15.pdResidDual2, Gen.C15.pdXExtDiff, Gen.C13.pdXDiff, wn] at h1 h2 h3
  -- each weighted norm vanishes (either orientation of the differences in the source)
  have hx : s'.x = s.x := by
    first
      | exact sub_eq_zero.mp (hτ'.eq_zero h1)
      | exact (sub_eq_zero.mp (hτ'.eq_zero h1)).symm
  have he : s.x_ext = s.x := by
    first
      | exact sub_eq_zero.mp (hτ'.eq_zero h2)
      | exact (sub_eq_zero.mp (hτ'.eq_zero h2)).symm
  have hu : s'.u = s.u := by
    first
      | exact sub_eq_zero.mp (hσ.eq_zero h3)
      | exact (sub_eq_zero.mp (hσ.eq_zero h3)).symm
  have hxe' : s'.x_ext = s'.x := by
    rw [hs', pdStepW_x_ext, ← hs', hx]; simp
  have hfix : s'.x = s.x ∧ s'.u = s.u ∧ s'.x_ext = s.x_ext := ⟨hx, hu, by rw [hxe', hx, he]⟩
  have hsad : IsSaddle g fc A AH s.x s.u :=
    (pdhg_fixed_point_iff_saddle_diag g fc proxg proxfc A AH hg hfc γp γd θ0 s hτ hσ he).mp hfix
  have hsad' : IsSaddle g fc A AH s'.x s'.u := by rw [hx, hu]; exact hsad
  have := (pdhg_fixed_point_iff_saddle_diag g fc proxg proxfc A AH hg hfc γp γd θ0 s' hτ' hσ' hxe').mpr hsad'
  exact ⟨this.1, this.2.1, hsad'⟩

set_option linter.unusedTactic false in
set_option linter.unreachableTactic false in
/-- the residual NewtonsMethod feeds to `_done` is `<= 0` only if `lamda2 <= 0`
    (generated formula: `lamda2 ** 0.5`; the proof also covers the variant without the root) -/
theorem newtonResid_nonpos (l : ℝ) (h : Gen.C15.newtonResid Real.sqrt l ≤ 0) : l ≤ 0 := by
  unfold Gen.C15.newtonResid at h
  first
    | exact Real.sqrt_eq_zero'.mp (le_antisymm h (Real.sqrt_nonneg _))
    | exact h

/-- every `x_new` the backtracking loop can return for the zero direction is `x` -/
theorem newtonLoop_zero_dir (f : E → ℝ) (β l fx : ℝ) (x : E) (n : ℕ) :
    ∀ (a : ℝ) (r : ℝ × E), newtonLoop (nOps E) f β l fx x 0 n a x = some r → r.2 = x := by
  induction n with
  | zero => intro a r hr; simp [newtonLoop] at hr
  | succ n ih =>
    intro a r hr
    simp only [newtonLoop] at hr
    split_ifs at hr
    · have e : (nOps E).add x ((nOps E).smul (a * β) 0) = x := by simp [nOps]
      rw [e] at hr
      exact ih _ r hr
    · simp only [Option.some.injEq] at hr; rw [← hr]

/-- **NewtonsMethod with backtracking line search** (β < 1, or β ≥ 1: both branches): if the update ran (the loop
    terminated) and `residual <= 0`, then `λ² = re⟪H⁻¹g, g⟫ <= 0`, so `g = 0` for a positive definite inverse
    Hessian, the direction `p` is zero, and `x` is unchanged WHATEVER `α` the loop picked; the next `update()`
    tests `f(x + p) = f(x) > f(x) - α/2·0` — false — so its loop exits at once (any fuel ≥ 1) and leaves `x`
    unchanged again.  (`newtonUpdateLS` has no branch for the `raise ValueError` at `λ² < 0`; `hH`, `h0` exclude it.) -/
theorem early_stop_fixed_newton_ls (gradf : E → E) (invH : E → E → E) (f : E → ℝ) (β : ℝ)
    (hH : ∀ x g, inner ℝ (invH x g) g ≤ 0 → g = 0) (h0 : ∀ x, invH x 0 = 0) (x x' : E) (l α : ℝ) (fuel : ℕ)
    (hrun : newtonUpdateLS (nOps E) (fun a b => inner ℝ a b) gradf invH f β fuel x = some (x', l, α))
    (h : Gen.C15.newtonResid Real.sqrt l ≤ 0) :
    x' = x ∧ ∀ fuel', 0 < fuel' →
      newtonUpdateLS (nOps E) (fun a b => inner ℝ a b) gradf invH f β fuel' x' = some (x', 0, 1) := by
  have hl := newtonResid_nonpos l h
  simp only [newtonUpdateLS, nOps] at hrun
  have hlam : l = -(inner ℝ (-(1 : ℝ) • invH x (gradf x)) (gradf x)) := by
    split_ifs at hrun
    · simp only [Option.map_eq_some_iff] at hrun
      obtain ⟨r, _, hr⟩ := hrun
      exact (congrArg (fun t => t.2.1) hr).symm
    · simp only [Option.some.injEq, Prod.mk.injEq] at hrun
      exact hrun.2.1.symm
  have hg : gradf x = 0 := hH x _ (by rwa [hlam, real_inner_smul_left, neg_one_mul, neg_neg] at hl)
  -- one update at a point with zero gradient: the loop exits immediately
  have key : ∀ y, gradf y = 0 → ∀ fuel', 0 < fuel' →
      newtonUpdateLS (nOps E) (fun a b => inner ℝ a b) gradf invH f β fuel' y = some (y, 0, 1) := by
    intro y hy fuel' hf
    obtain ⟨k, rfl⟩ := Nat.exists_eq_succ_of_ne_zero hf.ne'
    simp only [newtonUpdateLS, nOps]
    rw [hy, h0]
    simp only [smul_zero, add_zero, inner_zero_left, neg_zero, newtonLoop, mul_zero, sub_zero, lt_self_iff_false,
      if_false, Option.map_some, ite_self]
  have hx' : x' = x := by
    rw [hg, h0] at hrun
    simp only [smul_zero, add_zero] at hrun
    split_ifs at hrun
    · simp only [Option.map_eq_some_iff] at hrun
      obtain ⟨r, hr1, hr2⟩ := hrun
      have hx2 : r.2 = x' := congrArg (fun t => t.1) hr2
      rw [← hx2]
      exact newtonLoop_zero_dir f β _ _ x fuel 1 r hr1
    · simp only [Option.some.injEq, Prod.mk.injEq] at hrun
      exact hrun.1.symm
  refine ⟨hx', ?_⟩
  rw [hx']
  exact key x hg

/-- the positive-definiteness hypotheses of `early_stop_fixed_newton_ls` hold for `H⁻¹ = id` -/
example : (∀ x g : ℝ, inner ℝ ((fun _ g => g) x g) g ≤ 0 → g = 0) ∧ (∀ x : ℝ, (fun (_ : ℝ) (g : ℝ) => g) x 0 = 0) := by
  exact ⟨fun x g h => real_inner_self_nonpos.mp h, fun _ => rfl⟩

/-- an accelerated (`γ_primal = 1`) update from a saddle point of `g = f* = 0`, `A = id` on `ℝ` with steps
    `τ = σ = 1`: the residual is `0`, so `early_stop_fixed_pdhg_general` applies (its hypotheses are jointly
    satisfiable) -/
example : (pdhgUpdateG Real.sqrt wn wn (id : ℝ → ℝ) id (fun _ v => v) (fun _ v => v) 1 0 1
    (⟨0, 0, 0, StepOp.scalar 1, StepOp.scalar 1, 1, 1⟩ : PDState ℝ ℝ ℝ (StepOp ℝ) (StepOp ℝ))).2 ≤ 0 := by
  simp [pdhgUpdateG, pdStep, Gen.C15.pdResid2, Gen.C15.pdResidDual2, Gen.C15.pdXExtDiff, Gen.C13.pdXDiff,
    Gen.C13.pdPrimalProx, Gen.C13.pdPrimalArg, Gen.C13.pdDualProx, Gen.C13.pdDualArg, Gen.C13.pdXOld, wn,
    StepOp.smul_act]

end general

/-! ### residuals that measure the move of `x` alone do NOT have this property: exact witnesses over ℚ -/
section witnesses

/-- scalars as vectors -/
def qOps : VOps ℚ ℚ where
  add := (· + ·)
  sub := (· - ·)
  smul := (· * ·)
  norm2 := fun v => v * v

def soft (lam v : ℚ) : ℚ := if v > lam then v - lam else if v < -lam then v + lam else 0

/-- `min ½(x - 1)² + ½|x|` by PDHG from `x = u = 0`, `τ = σ = θ = 1`: after the first update the
    primal variable has not moved (`x = 0`: the primal-only residual `pdhgResidPrimalOnly` is 0, so `done()`
    would be true) although the second update moves it to `1/4`; the residual `resid2` of `pdhgUpdate` is `1/4 ≠ 0`
    there because it sees the dual change. -/
theorem pdhg_primal_only_not_fixed :
    let up := pdhgUpdate qOps id id (fun s u => (u - s * 1) / (1 + s)) (fun t v => soft (1 / 2 * t) v) 1 1 1
    let s0 : PD ℚ ℚ := { x := 0, u := 0, xext := 0, resid2 := 0 }
    pdhgResidPrimalOnly qOps 1 (up s0).x s0.x = 0 ∧ (up (up s0)).x = 1 / 4 ∧ (up s0).x = 0 ∧
      (up s0).resid2 = 1 / 4 := by
  decide +kernel

/-- accelerated GradientMethod for `½·(x - 9/10)²` on the box `x ≤ 1`, `α = 1/10`, momentum
    coefficient 1/2: from `x = 1`, `z = 103/100` the update returns `x = 1` again (clipped): the
    move of `x` alone (`gmResidXOnly`) is 0, although `T(1) = 99/100 ≠ 1`; the residual `resid2` of `gmUpdate` is
    non-zero because `x ≠ z`. -/
theorem gm_accel_x_only_not_fixed :
    let T := fun x : ℚ => gmT qOps (fun v => v - 9 / 10) (some fun _ v => min v 1) (1 / 10) x
    let s : GM ℚ ℚ := { x := 1, z := 103 / 100, t := 2, resid2 := 0 }
    let s' := gmUpdate qOps (fun _ => 2) (fun v => v - 9 / 10) (some fun _ v => min v 1) (1 / 10) true s
    s'.x = 1 ∧ gmResidXOnly qOps (1 / 10) s'.x s.x = 0 ∧ T 1 = 99 / 100 ∧ s'.resid2 ≠ 0 := by
  decide +kernel


/-- the backtracking loop really backtracks in the model: `f(x) = x²` with a deliberately too long direction
    (`H⁻¹ = 2`), `β = 1/2`, from `x = 1`: `α = 1, 1/2` are rejected, `α = 1/4` is accepted at `x = 0`; `λ² = 8`. -/
theorem newton_ls_backtracks :
    newtonUpdateLS qOps (fun a b => a * b) (fun x => 2 * x) (fun _ g => 2 * g) (fun x => x * x) (1 / 2) 10 (1 : ℚ)
      = some (0, 8, 1 / 4) := by
  decide +kernel
end witnesses

section power
open RCLike
variable {𝕜 E : Type} [RCLike 𝕜] [NormedAddCommGroup E] [InnerProductSpace 𝕜 E]

/-- vector operations with real scalars in a `𝕜`-inner-product space -/
noncomputable def kOps (𝕜 E : Type) [RCLike 𝕜] [NormedAddCommGroup E] [InnerProductSpace 𝕜 E] : VOps E ℝ where
  add := fun a b => a + b
  sub := fun a b => a - b
  smul := fun s v => (s : 𝕜) • v
  norm2 := fun v => ‖v‖ ^ 2

/-- Cauchy–Schwarz step: `‖Ax‖² = ⟪x, A²x⟫ ≤ ‖x‖ ‖A²x‖` for Hermitian `A` -/
theorem norm_sq_apply_le (A : E →ₗ[𝕜] E) (hA : ∀ u v, inner 𝕜 (A u) v = inner 𝕜 u (A v)) (x : E) :
    ‖A x‖ ^ 2 ≤ ‖x‖ * ‖A (A x)‖ := by
  have h1 : ‖A x‖ ^ 2 = re (inner 𝕜 (A x) (A x)) := (inner_self_eq_norm_sq (𝕜 := 𝕜) (A x)).symm
  rw [h1, hA]
  exact (re_le_norm _).trans (norm_inner_le_norm _ _)

theorem norm_one_div_smul {c : ℝ} (hc : 0 < c) (v : E) : ‖((1 / c : ℝ) : 𝕜) • v‖ = ‖v‖ / c := by
  rw [norm_smul, RCLike.norm_ofReal, abs_of_pos (one_div_pos.mpr hc), one_div, inv_mul_eq_div]

/-- **power_monotone.**  For the hand transcription `Model/C15.powerUpdate` of `PowerMethod._update` (`x = y / max_eig`
    as `(1 / max_eig) • y`, no `norm_func`; not the generated `updPowerMethod`): once the vector is normalised
    (`‖x‖ = 1`, true after the first update: `power_normalised`), the estimate `max_eig = ‖A x‖` of a Hermitian `A`
    does not decrease from one `powerUpdate` to the next … -/
theorem power_monotone (A : E →ₗ[𝕜] E) (hA : ∀ u v, inner 𝕜 (A u) v = inner 𝕜 u (A v)) (x : E) (hx : ‖x‖ = 1)
    (hAx : A x ≠ 0) :
    (powerUpdate (kOps 𝕜 E) (fun v => ‖v‖) (⇑A) x).2 ≤
      (powerUpdate (kOps 𝕜 E) (fun v => ‖v‖) (⇑A) (powerUpdate (kOps 𝕜 E) (fun v => ‖v‖) (⇑A) x).1).2 := by
  have hpos : 0 < ‖A x‖ := norm_pos_iff.mpr hAx
  have h := norm_sq_apply_le A hA x
  rw [hx, one_mul] at h
  simp only [powerUpdate, kOps]
  rw [LinearMap.map_smul, norm_one_div_smul hpos, le_div_iff₀ hpos]
  rwa [sq] at h

/-- … the vector it leaves behind has norm one … -/
theorem power_normalised (A : E →ₗ[𝕜] E) (x : E) (hAx : A x ≠ 0) :
    ‖(powerUpdate (kOps 𝕜 E) (fun v => ‖v‖) (⇑A) x).1‖ = 1 := by
  have hpos : 0 < ‖A x‖ := norm_pos_iff.mpr hAx
  simp only [powerUpdate, kOps]
  rw [norm_one_div_smul hpos, div_self hpos.ne']

/-- … and never exceeds a bound `L` of the operator (`‖A v‖ ≤ L ‖v‖` for all `v`; for Hermitian
    positive semidefinite `A` the least such `L` is the largest eigenvalue — spectral theorem, not
    re-proved here). -/
theorem power_le_bound (A : E →ₗ[𝕜] E) (L : ℝ) (hL : ∀ v, ‖A v‖ ≤ L * ‖v‖) (x : E) (hx : ‖x‖ = 1) :
    (powerUpdate (kOps 𝕜 E) (fun v => ‖v‖) (⇑A) x).2 ≤ L := by
  have := hL x
  rwa [hx, mul_one] at this

end power

end SigpyVerif.C15
