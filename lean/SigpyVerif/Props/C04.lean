import SigpyVerif.Model.C01
import SigpyVerif.Props.C01
import SigpyVerif.Lemmas.C04Cover
/-
  C04 — the normal operator `A.N` is `Aᴴ A`.

  `normal : Expr → Expr` (Model/C01.lean) transcribes every `_normal_linop`: Identity for
  Identity / Reshape / Transpose / Circshift, and the default `A.H * A` for everything else
  (including ArrayToBlocks / BlocksToArray: an `Identity` override would be wrong for them unless the
  cover count is 1 everywhere, `blocks_identity_wrong_witness`).

  This file: the default rule (`normal_eq_default`, `normal_default`, `normal_gram`).
  Props/C04Shortcut.lean (imports the C01 leaf-pair theorems): the Identity overrides agree with
  `Aᴴ A` at the entry level (`shortcut_normal_is_identity_{identity,reshape,transpose,circshift}`) and
  `normal_denote_leaves` — for every tree over the proved leaf classes `A.N` acts as `x ↦ Aᴴ(A x)`.
  Lemmas/C04Cover.lean, C04CoverND.lean, C04CoverIff.lean, C04B2aND.lean: the block operators, about the generated
  loop nests `Gen.a2b{1,2,3}` / `Gen.b2a{1,2,3}`: `Aᴴ A` = multiplication by the product of the
  per-axis cover counts (`b2a1_a2b1_cover`, `b2a2_a2b2_cover`, `b2a3_a2b3_cover`); cover ≡ 1 iff the
  blocks tile the axis or one block spans it (`cover_one_iff_tiling`); `BlocksToArray.N = Identity`
  iff `B ≤ S` or a single block (`b2a_normal_identity_iff`, `cover_le_one_iff`).
  Props/C04Gen.lean: `normal` is the generated `_normal_linop` table (`normal_eq_gen`, `normal_denote`);
  FFT / IFFT `normal = Identity`: `fft_shortcut_exact`, from `C05.fft_table_unitary` (in trees the FFT classes
  are `ext` leaves, `C01.fftLeaf`, with the default rule).
  Props/C04Stationary.lean: `A.N x = Aᴴ y` characterises the least-squares minimisers.
  The Toeplitz NUFFT normal: Props/C04Toeplitz.lean (the generated operator chain with the exact psf is `Aᴴ A`);
  the psf computed by `fourier.toeplitz_psf` is covered by the search oracle only (tolerance 2× the C06 bound).
-/
namespace SigpyVerif.C04
open SigpyVerif SigpyVerif.C01

section
variable {α : Type} [CommRing α] [StarRing α] (ofRat : Rat → α)

/-- the classes whose `_normal_linop` is overridden by `Identity(ishape)` -/
def Shortcut : Expr α → Prop
  | .leaf (.identity _) => True
  | .leaf (.reshape _ _) => True
  | .leaf (.transpose _ _) => True
  | .leaf (.circshift _ _ _) => True
  | _ => False

/-- every operator without an override gets the default rule `A.N = A.H * A`
    (`Linop._normal_linop`), in particular every Compose / Add / stack and the block operators -/
theorem normal_eq_default (e : Expr α) (h : ¬ Shortcut e) : normal star e = .comp (adj star e) e := by
  cases e with
  | leaf l => cases l <;> first | rfl | (exact absurd trivial h)
  | _ => rfl

/-- **default rule:** when `A.H` is built with matching shapes, `A.N` denotes the composition and
    acts as `x ↦ A.H(A(x))`; together with `C01.adj_denote` (`A.H` is the true adjoint) this is
    `A.N = Aᴴ A`. -/
theorem normal_default (e : Expr α) (h : ¬ Shortcut e) (s sH : Sem α)
    (hs : denote star ofRat e = some s) (hH : denote star ofRat (adj star e) = some sH)
    (hsh : sH.ish = s.osh) :
    ∃ sN, denote star ofRat (normal star e) = some sN ∧ sN.osh = sH.osh ∧ sN.ish = s.ish ∧
      ∀ x o, applyF sN.E x o = applyF sH.E (applyF s.E x) o := by
  refine ⟨⟨sH.osh, s.ish, compE sH.E s.E⟩, ?_, rfl, rfl, fun x o => applyF_compE _ _ x o⟩
  rw [normal_eq_default e h]
  simp only [denote, hs, hH, if_pos hsh]

/-- `A.N` of a well-formed tree whose leaf pairings hold is `Aᴴ A` with `Aᴴ` the *true* adjoint:
    `⟨A.N x, z⟩ = ⟨A x, A z⟩` for all `x`, `z`. -/
theorem normal_gram (P : Leaf α → Prop) (hP : ∀ l, P l → AdjOK ofRat (.leaf l)) (e : Expr α)
    (he : allLeaves P e) (h : ¬ Shortcut e) (s : Sem α) (hs : denote star ofRat e = some s) :
    ∃ sN, denote star ofRat (normal star e) = some sN ∧ sN.osh = s.ish ∧ sN.ish = s.ish ∧
      ∀ x z : Nat → α, dotL star (List.range s.isz) (applyF sN.E x) z
        = dotL star (List.range s.osz) (applyF s.E x) (applyF s.E z) := by
  obtain ⟨sH, hH, ho, hi, hadj⟩ := adj_denote ofRat P hP e he s hs
  obtain ⟨sN, hN, hNo, hNi, hact⟩ := normal_default ofRat e h s sH hs hH hi
  refine ⟨sN, hN, by rw [hNo, ho], hNi, ?_⟩
  intro x z
  have e1 : applyF sN.E x = applyF sH.E (applyF s.E x) := by funext o; exact hact x o
  rw [e1, dotL_swap (List.range s.isz), ← hadj z (applyF s.E x), ← dotL_swap]

/-- Circshift: shifting by `s` and then by `-s` (what `Circshift.H` does) returns every index of an
    axis to itself, so `Circshift.N = Identity` is right — per axis, from the numpy.roll contract -/
theorem circshift_normal_axis (n s k : Int) (hn : 0 < n) (hk : 0 ≤ k) (hkn : k < n) :
    C09.rollSrc n s (C09.rollSrc n (-s) k) = k ∧ C09.rollSrc n (-s) (C09.rollSrc n s k) = k := by
  refine ⟨C09.roll_inverse n s k hn hk hkn, ?_⟩
  have := C09.roll_inverse n (-s) k hn hk hkn
  simpa using this

example : ¬ Shortcut (.leaf (.a2b [5] [2] [1]) : Expr α) := by simp [Shortcut]
example : normal star (.leaf (.a2b [5] [2] [1]) : Expr α)
    = .comp (.leaf (.b2a [5] [2] [1])) (.leaf (.a2b [5] [2] [1])) := rfl

end
end SigpyVerif.C04
