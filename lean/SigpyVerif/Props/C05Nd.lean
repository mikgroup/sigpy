import SigpyVerif.Props.C05
import SigpyVerif.Lemmas.C05Nd
import SigpyVerif.Props.C09Nd
/-
  C05 — the N-dimensional statements ("along the requested axes … any subset of axes including negative
  ones", every rank and shape).  `Props/C05.lean` proves the 1-D facts; here:

  §1  `fftnMatrix`: the N-d matrix on multi-indices `(d : Fin N) → Fin (shape d)` = Kronecker product over
      the axes of the 1-D `dftMatrix` (transformed axes) and the identity (other axes); `fftn_matrix_entry`;
      `fftn_unitary` (FᴴF = I for every shape and axes subset), `ifftn_eq_conjTranspose`, `ifftn_fftn_id`,
      `fftn_ifftn_id`, `fftn_norm_preserved`, `fftn_backward_scaling_inverse` (norm=None),
      `fftn_unitary_flat` (any enumeration of the multi-indices by a flat index: C or Fortran order).
      The n-fold mixed-product rule is `piKron_mul` (Lemmas/C05Nd.lean).
  §2  axes: `axes_normalised_distinct` (the translator-extracted `a % ndim` maps a valid subset, negative
      spellings included, to distinct axes — the axes the spellings denote), `spellings_same_matrix`.
  §3  `entry_denote`: the entry the EXECUTABLE table computes through the generated pipeline (the one the
      correspondence check compares with sigpy on every run) denotes the entry of `fftnMatrix`, by
      induction over the rank (`entryGo_denote`); hence `fft_table_unitary`, `ifft_table_eq_conjTranspose`.
  §4  centred `oshape`, N-d: `fft_oshape_eq_fftn_resize` — column `j` of `fft(·, oshape)` is the column of
      the square `oshape` transform at the position where C09's `resize` (N-d: `C09.resize_array_spec`,
      `C09.resize_default_aligns_nd`, `C09.resize_transpose_nd`) puts `x[j]`, zero if `resize` crops it.
  §5  `table_eq` / `sigpy_fft_unitary`: all of this is about `C05.table`, the function the driver runs.

  Validated by correspondence, not proved: numpy's `fftn/ifftn/roll` meet the 1-D contract of
  `Model/C05.lean`; floating-point rounding.
-/
namespace SigpyVerif.C05
open SigpyVerif Matrix Finset ComplexConjugate

/-- **The N-d matrix of `fft`/`ifft` on a shape and a set of (normalised) axes.**  Rows and columns are
    multi-indices `K J : (d : Fin N) → Fin (shape d)`; the matrix is the Kronecker product over the axes
    of the 1-D matrix `dftMatrix` (`Props/C05.lean`) on the transformed axes and the identity on the
    others.  `ω d` is the root of unity of axis `d` (`e^{∓2πi/n_d}`), `s d` its scale. -/
noncomputable def fftnMatrix {N : ℕ} (shape : Fin N → ℕ) (ω : Fin N → ℂ) (center : Bool) (s : Fin N → ℝ)
    (axes : Finset (Fin N)) :
    Matrix ((d : Fin N) → Fin (shape d)) ((d : Fin N) → Fin (shape d)) ℂ :=
  piKron fun d => if d ∈ axes then dftMatrix (ω d) (shape d) center (s d) else 1

/-- entry `(K, J)` of the N-d matrix: the product over the transformed axes of the 1-D entries
    `s_d · ω_d^{(K_d − c_d)(J_d − c_d) mod n_d}` times `δ` on every other axis — what `entry_separable`
    states step by step for the executable table. -/
theorem fftn_matrix_entry {N : ℕ} (shape : Fin N → ℕ) (ω : Fin N → ℂ) (center : Bool) (s : Fin N → ℝ)
    (axes : Finset (Fin N)) (K J : (d : Fin N) → Fin (shape d)) :
    fftnMatrix shape ω center s axes K J =
      if ∀ d, d ∉ axes → K d = J d then
        ∏ d ∈ axes, (s d : ℂ) * ω d ^ axisExp (shape d : ℤ) center ((K d : ℕ) : ℤ) ((J d : ℕ) : ℤ)
      else 0 := by
  unfold fftnMatrix
  rw [piKron_ite_apply]
  split_ifs <;> rfl

/-- `ifft`'s N-d matrix (conjugate roots, same scales and axes) is the conjugate transpose of `fft`'s:
    `IFFT = FFTᴴ` for every shape and axes subset. -/
theorem ifftn_eq_conjTranspose {N : ℕ} (shape : Fin N → ℕ) (ω : Fin N → ℂ) (center : Bool) (s : Fin N → ℝ)
    (axes : Finset (Fin N)) (hω : ∀ d ∈ axes, IsPrimitiveRoot (ω d) (shape d)) :
    fftnMatrix shape (fun d => (ω d)⁻¹) center s axes = (fftnMatrix shape ω center s axes)ᴴ := by
  unfold fftnMatrix
  rw [piKron_conjTranspose]
  congr 1
  funext d
  by_cases hd : d ∈ axes
  · simp only [hd, if_true]; exact idftMatrix_eq_conjTranspose (hω d hd) center (s d)
  · simp [hd]

/-- general N-d product: conjugate roots with scales `t` undo roots `ω` with scales `s` whenever
    `t_d s_d n_d = 1` on every transformed axis (covers `ortho` and `norm=None`). -/
theorem fftn_mul_general {N : ℕ} (shape : Fin N → ℕ) (ω : Fin N → ℂ) (center : Bool) (s t : Fin N → ℝ)
    (axes : Finset (Fin N)) (hω : ∀ d ∈ axes, IsPrimitiveRoot (ω d) (shape d))
    (h : ∀ d ∈ axes, t d * s d * shape d = 1) :
    fftnMatrix shape (fun d => (ω d)⁻¹) center t axes * fftnMatrix shape ω center s axes = 1 := by
  unfold fftnMatrix
  rw [piKron_mul, ← piKron_one]
  congr 1
  funext d
  by_cases hd : d ∈ axes
  · simp only [hd, if_true]; exact dft_mul_general (hω d hd) center (s d) (t d) (h d hd)
  · simp [hd]

/-- **FᴴF = I in N dimensions**, for every shape, every subset of axes, centred or not, with the
    orthonormal scale `s_d² n_d = 1` on the transformed axes: `FFT.N = Identity`. -/
theorem fftn_unitary {N : ℕ} (shape : Fin N → ℕ) (ω : Fin N → ℂ) (center : Bool) (s : Fin N → ℝ)
    (axes : Finset (Fin N)) (hω : ∀ d ∈ axes, IsPrimitiveRoot (ω d) (shape d))
    (hs : ∀ d ∈ axes, s d * s d * shape d = 1) :
    (fftnMatrix shape ω center s axes)ᴴ * fftnMatrix shape ω center s axes = 1 := by
  rw [← ifftn_eq_conjTranspose shape ω center s axes hω]
  exact fftn_mul_general shape ω center s s axes hω hs

/-- `ifft(fft(x)) = x` on N-d arrays (functions of the multi-index), orthonormal scaling -/
theorem ifftn_fftn_id {N : ℕ} (shape : Fin N → ℕ) (ω : Fin N → ℂ) (center : Bool) (s : Fin N → ℝ)
    (axes : Finset (Fin N)) (hω : ∀ d ∈ axes, IsPrimitiveRoot (ω d) (shape d))
    (hs : ∀ d ∈ axes, s d * s d * shape d = 1) (x : ((d : Fin N) → Fin (shape d)) → ℂ) :
    (fftnMatrix shape (fun d => (ω d)⁻¹) center s axes).mulVec
      ((fftnMatrix shape ω center s axes).mulVec x) = x := by
  rw [mulVec_mulVec, fftn_mul_general shape ω center s s axes hω hs, one_mulVec]

/-- `fft(ifft(x)) = x` on N-d arrays -/
theorem fftn_ifftn_id {N : ℕ} (shape : Fin N → ℕ) (ω : Fin N → ℂ) (center : Bool) (s : Fin N → ℝ)
    (axes : Finset (Fin N)) (hω : ∀ d ∈ axes, IsPrimitiveRoot (ω d) (shape d))
    (hs : ∀ d ∈ axes, s d * s d * shape d = 1) (x : ((d : Fin N) → Fin (shape d)) → ℂ) :
    (fftnMatrix shape ω center s axes).mulVec
      ((fftnMatrix shape (fun d => (ω d)⁻¹) center s axes).mulVec x) = x := by
  rw [mulVec_mulVec, mul_eq_one_comm.mp (fftn_mul_general shape ω center s s axes hω hs), one_mulVec]

/-- `‖fft(x)‖² = ‖x‖²` on N-d arrays, orthonormal scaling -/
theorem fftn_norm_preserved {N : ℕ} (shape : Fin N → ℕ) (ω : Fin N → ℂ) (center : Bool) (s : Fin N → ℝ)
    (axes : Finset (Fin N)) (hω : ∀ d ∈ axes, IsPrimitiveRoot (ω d) (shape d))
    (hs : ∀ d ∈ axes, s d * s d * shape d = 1) (x : ((d : Fin N) → Fin (shape d)) → ℂ) :
    star ((fftnMatrix shape ω center s axes).mulVec x) ⬝ᵥ (fftnMatrix shape ω center s axes).mulVec x
      = star x ⬝ᵥ x := by
  rw [star_mulVec, dotProduct_mulVec, vecMul_vecMul, fftn_unitary shape ω center s axes hω hs, vecMul_one]

/-- `norm=None` in N-d: `ifft` (scale `1/n_d` per axis) undoes `fft` (scale 1) -/
theorem fftn_backward_scaling_inverse {N : ℕ} (shape : Fin N → ℕ) (ω : Fin N → ℂ) (center : Bool)
    (axes : Finset (Fin N)) (hω : ∀ d ∈ axes, IsPrimitiveRoot (ω d) (shape d))
    (hn : ∀ d ∈ axes, 0 < shape d) :
    fftnMatrix shape (fun d => (ω d)⁻¹) center (fun d => 1 / shape d) axes *
      fftnMatrix shape ω center (fun _ => 1) axes = 1 := by
  apply fftn_mul_general shape ω center _ _ axes hω
  intro d hd
  have : (shape d : ℝ) ≠ 0 := by exact_mod_cast (hn d hd).ne'
  field_simp

/-- **on the flat index space**: for ANY enumeration `e` of the multi-indices by `Fin M` (row-major /
    C order, column-major / Fortran order, …) the flattened matrix satisfies `FᴴF = I`. -/
theorem fftn_unitary_flat {N M : ℕ} (shape : Fin N → ℕ) (ω : Fin N → ℂ) (center : Bool) (s : Fin N → ℝ)
    (axes : Finset (Fin N)) (hω : ∀ d ∈ axes, IsPrimitiveRoot (ω d) (shape d))
    (hs : ∀ d ∈ axes, s d * s d * shape d = 1) (e : ((d : Fin N) → Fin (shape d)) ≃ Fin M) :
    (Matrix.reindex e e (fftnMatrix shape ω center s axes))ᴴ *
      Matrix.reindex e e (fftnMatrix shape ω center s axes) = 1 := by
  rw [Matrix.conjTranspose_reindex, Matrix.reindex_apply, Matrix.reindex_apply,
    Matrix.submatrix_mul_equiv, fftn_unitary shape ω center s axes hω hs, Matrix.submatrix_one_equiv]

/-- the axis a valid spelling `a ∈ [-ndim, ndim)` denotes -/
def canonAxis (nd a : Int) : Int := if a < 0 then a + nd else a

theorem eraseDups_length_le (l : List Int) : l.eraseDups.length ≤ l.length := by
  induction h : l.length using Nat.strong_induction_on generalizing l with
  | _ n ih =>
    cases l with
    | nil => simp
    | cons a as =>
      rw [List.eraseDups_cons, List.length_cons]
      rw [List.length_cons] at h
      have h1 := List.length_filter_le (fun b => !b == a) as
      have h2 := ih _ (by omega) (as.filter fun b => !b == a) rfl
      omega

/-- `eraseDups` keeps the length exactly when there is no duplicate (the executable guard `axesOk`
    uses this to say "the axes are a subset") -/
theorem nodup_of_eraseDups_length (l : List Int) (h : l.eraseDups.length = l.length) : l.Nodup := by
  induction l with
  | nil => exact List.nodup_nil
  | cons a as ih =>
    rw [List.eraseDups_cons, List.length_cons, List.length_cons] at h
    have h1 := List.length_filter_le (fun b => !b == a) as
    have h2 := eraseDups_length_le (as.filter fun b => !b == a)
    have hf : (as.filter fun b => !b == a).length = as.length := by omega
    have hall := List.length_filter_eq_length_iff.mp hf
    have hfe : (as.filter fun b => !b == a) = as := List.filter_eq_self.mpr hall
    rw [hfe] at h
    refine List.nodup_cons.mpr ⟨fun hmem => ?_, ih (by omega)⟩
    have := hall a hmem
    simp at this

theorem pyMod_canon (a nd : Int) (h1 : -nd ≤ a) (h2 : a < nd) : pyMod a nd = canonAxis nd a :=
  pyMod_cases a nd (by omega) ⟨h1, h2⟩

/-- what the executable domain guard `axesOk` says: every spelling is valid, and no two spellings
    denote the same axis — "any subset of axes including negative ones" -/
theorem axesOk_spec (axes : List Int) (nd : Int) (h : axesOk axes nd = true) :
    (∀ a ∈ axes, -nd ≤ a ∧ a < nd) ∧ (axes.map (canonAxis nd)).Nodup := by
  unfold axesOk at h
  rw [Bool.and_eq_true, List.all_eq_true, beq_iff_eq] at h
  obtain ⟨hv, hl⟩ := h
  have hv' : ∀ a ∈ axes, -nd ≤ a ∧ a < nd := fun a ha => by simpa using hv a ha
  refine ⟨hv', ?_⟩
  have hn := nodup_of_eraseDups_length (axes.map fun a => pyMod a nd) (by rw [hl, List.length_map])
  have e : axes.map (canonAxis nd) = axes.map fun a => pyMod a nd := by
    apply List.map_congr_left
    intro a ha
    obtain ⟨h1, h2⟩ := hv' a ha
    exact (pyMod_canon a nd h1 h2).symm
  rw [e]; exact hn

/-- two valid spellings are normalised to the same axis iff they differ by `0` or `±ndim` -/
theorem normAxis_eq_iff (a b nd : Int) (ha : -nd ≤ a ∧ a < nd) (hb : -nd ≤ b ∧ b < nd) :
    Gen.normAxis a nd = Gen.normAxis b nd ↔ (a = b ∨ a = b + nd ∨ b = a + nd) := by
  rw [(normAxis_spec a nd ha.1 ha.2).1, (normAxis_spec b nd hb.1 hb.2).1]
  split_ifs <;> omega

/-- **`a % ndim` (the translator-extracted `Gen.normAxis`) maps any valid subset of axes — negative
    spellings included — to distinct axes in `0 … ndim-1`**: exactly the axes the spellings denote. -/
theorem axes_normalised_distinct (axes : List Int) (nd : Int) (h : axesOk axes nd = true) :
    normAxes true (some axes) nd = axes.map (canonAxis nd) ∧
    (normAxes true (some axes) nd).Nodup ∧
    ∀ a ∈ normAxes true (some axes) nd, 0 ≤ a ∧ a < nd := by
  obtain ⟨hv, hn⟩ := axesOk_spec axes nd h
  have e : normAxes true (some axes) nd = axes.map (canonAxis nd) := by
    simp only [normAxes, if_true]
    apply List.map_congr_left
    intro a ha
    rw [canonAxis, (normAxis_spec a nd (hv a ha).1 (hv a ha).2).1]
  refine ⟨e, e ▸ hn, fun a ha => ?_⟩
  simp only [normAxes, if_true, List.mem_map] at ha
  obtain ⟨b, hb, rfl⟩ := ha
  exact (normAxis_spec b nd (hv b hb).1 (hv b hb).2).2

/-- the uncentred branch (numpy's own normalisation) agrees -/
theorem axes_normalised_uncentred (axes : List Int) (nd : Int) :
    normAxes false (some axes) nd = axes.map (canonAxis nd) := rfl

/-- `axes=None` is all axes -/
theorem axes_none (c : Bool) (nd : Int) : normAxes c none nd = pyRange0 nd := rfl

/-- the table depends on the axes list only through membership (order and multiplicity are immaterial:
    `sorted(axes)` in `_normalize_axes` cannot matter) -/
theorem entryGo_axes_congr (P : Pipe) (ortho : Bool) (axes axes' : List Int)
    (h : ∀ x : Int, x ∈ axes ↔ x ∈ axes') (d : Nat) (is os ks js : List Int) :
    entryGo P ortho axes d is os ks js = entryGo P ortho axes' d is os ks js := by
  have hc : ∀ x : Int, axes.contains x = axes'.contains x := fun x => by
    rw [Bool.eq_iff_iff, List.contains_iff_mem, List.contains_iff_mem]; exact h x
  induction is generalizing d os ks js with
  | nil => cases os <;> cases ks <;> cases js <;> rfl
  | cons i is ih =>
    cases os with
    | nil => rfl
    | cons o os =>
    cases ks with
    | nil => rfl
    | cons k ks =>
    cases js with
    | nil => rfl
    | cons j js => simp only [entryGo, hc, ih]

/-- **two spellings of the same axis set give the same matrix**, entry by entry (e.g. `axes=(-1, 0)`
    and `axes=(0, 1)` on a 2-D array; `(1, -2)` and `(0, 1)`; any order). -/
theorem spellings_same_matrix (P : Pipe) (ortho center : Bool) (a a' : List Int) (nd : Int)
    (ha : axesOk a nd = true) (ha' : axesOk a' nd = true)
    (hset : ∀ x : Int, x ∈ a.map (canonAxis nd) ↔ x ∈ a'.map (canonAxis nd))
    (ish osh k j : List Int) :
    entry P ortho (normAxes center (some a) nd) ish osh k j =
      entry P ortho (normAxes center (some a') nd) ish osh k j := by
  unfold entry
  apply entryGo_axes_congr
  cases center
  · exact hset
  · rw [(axes_normalised_distinct a nd ha).1, (axes_normalised_distinct a' nd ha').1]; exact hset

example : axesOk [-1, 0] 2 = true ∧ axesOk [0, 1] 2 = true ∧
    [-1, 0].map (canonAxis 2) = [1, 0] ∧ [0, 1].map (canonAxis 2) = [0, 1] := by decide +kernel
example : axesOk [-1, 1] 2 = false := by decide +kernel   -- the same axis twice is not a subset

/-- the complex number an entry of the executable table stands for: `none` = 0,
    `some (φ, s²)` = `s · e^{2πiφ}` (this is how the harness reads an entry, too) -/
noncomputable def denote : Option (ℚ × ℚ) → ℂ
  | none => 0
  | some (ph, mg) => ((Real.sqrt ((mg : ℚ) : ℝ) : ℝ) : ℂ) * Complex.exp (2 * Real.pi * Complex.I * ((ph : ℚ) : ℂ))

/-- the pipeline of `fft`/`ifft` (`pipelines_are_centred`: this IS what the generated step lists parse to) -/
def pipeOf (inv center : Bool) : Pipe := if center then centredPipe inv else plainPipe inv

theorem mkPipe_steps (inv center : Bool) : mkPipe (steps inv center) = some (pipeOf inv center) := by
  obtain ⟨h1, h2, h3, h4⟩ := pipelines_are_centred
  cases inv <;> cases center <;> simp only [steps, pipeOf] <;> assumption

theorem scale2_nonneg (inv ortho : Bool) (n : Int) (hn : 0 ≤ n) : 0 ≤ scale2 inv ortho n := by
  have h : (0 : ℚ) ≤ (n : ℚ) := by exact_mod_cast hn
  unfold scale2
  split_ifs
  · exact one_div_nonneg.mpr h
  · exact one_div_nonneg.mpr (mul_nonneg h h)
  · exact zero_le_one

theorem axisEntry_mag_nonneg (P : Pipe) (ortho tr : Bool) (i o k j : Int) (ph mg : ℚ) (hi : 0 ≤ i)
    (ho : 0 ≤ o) (h : axisEntry P ortho tr i o k j = some (ph, mg)) : 0 ≤ mg := by
  unfold axisEntry at h
  have hl : 0 ≤ lenAfter P.pre i o := by unfold lenAfter; split_ifs <;> assumption
  cases hidx : axisIdx P tr i o k j with
  | none => rw [hidx] at h; simp at h
  | some t =>
    obtain ⟨p, m, n⟩ := t
    have hn : n = lenAfter P.pre i o := by
      simp only [axisIdx] at hidx
      split at hidx
      · simp only [Option.some.injEq, Prod.mk.injEq] at hidx; exact hidx.2.2.symm
      · simp at hidx
    rw [hidx] at h
    simp only at h
    split_ifs at h
    · simp only [Option.some.injEq, Prod.mk.injEq] at h
      rw [← h.2, hn]; exact scale2_nonneg _ _ _ hl
    · simp only [Option.some.injEq, Prod.mk.injEq] at h
      rw [← h.2]; exact zero_le_one

/-- one more axis: phases add and squared magnitudes multiply = the denoted complex numbers multiply -/
theorem entryGo_cons_denote (P : Pipe) (ortho : Bool) (axes : List Int) (d : Nat) (i o k j : Int)
    (is os ks js : List Int) (hi : 0 ≤ i) (ho : 0 ≤ o) :
    denote (entryGo P ortho axes d (i :: is) (o :: os) (k :: ks) (j :: js)) =
      denote (axisEntry P ortho (axes.contains (d : Int)) i o k j) *
        denote (entryGo P ortho axes (d + 1) is os ks js) := by
  rw [entry_separable]
  have ha := fun ph mg => axisEntry_mag_nonneg P ortho (axes.contains (d : Int)) i o k j ph mg hi ho
  generalize axisEntry P ortho (axes.contains (d : Int)) i o k j = a at ha ⊢
  generalize entryGo P ortho axes (d + 1) is os ks js = b
  cases a with
  | none => exact (zero_mul _).symm
  | some a =>
    cases b with
    | none => exact (mul_zero _).symm
    | some b =>
      obtain ⟨ph, mg⟩ := a
      obtain ⟨ph', mg'⟩ := b
      have hm : (0 : ℝ) ≤ ((mg : ℚ) : ℝ) := by exact_mod_cast ha ph mg rfl
      simp only [denote]
      rw [phase_add]
      push_cast
      rw [Real.sqrt_mul hm]
      push_cast
      ring

/-- **the n-fold induction over the axes for the executable table**: the entry `entryGo` computes on
    lists of any rank `N` denotes the product over the axes of what the per-axis entries denote. -/
theorem entryGo_denote (P : Pipe) (ortho : Bool) (axes : List Int) :
    ∀ (N : ℕ) (d0 : ℕ) (i o k j : Fin N → ℤ), (∀ d, 0 ≤ i d) → (∀ d, 0 ≤ o d) →
      denote (entryGo P ortho axes d0 (List.ofFn i) (List.ofFn o) (List.ofFn k) (List.ofFn j)) =
        ∏ d : Fin N, denote (axisEntry P ortho (axes.contains (((d0 + (d : ℕ) : ℕ)) : ℤ)) (i d) (o d) (k d) (j d))
  | 0, d0, i, o, k, j, _, _ => by
    simp [entryGo, denote]
  | N + 1, d0, i, o, k, j, hi, ho => by
    simp only [List.ofFn_succ]
    rw [entryGo_cons_denote _ _ _ _ _ _ _ _ _ _ _ _ (hi 0) (ho 0)]
    rw [entryGo_denote P ortho axes N (d0 + 1) (fun d => i d.succ) (fun d => o d.succ)
      (fun d => k d.succ) (fun d => j d.succ) (fun d => hi _) (fun d => ho _), Fin.prod_univ_succ]
    congr 1
    apply Finset.prod_congr rfl
    intro d _
    have : ((d0 + 1 + (d : ℕ) : ℕ) : ℤ) = ((d0 + ((d.succ : Fin (N + 1)) : ℕ) : ℕ) : ℤ) := by
      simp only [Fin.val_succ]; push_cast; ring
    rw [this]

/-- the root of unity of one axis: `e^{2πi/n}` for `ifft`, its inverse (= conjugate) for `fft` -/
noncomputable def root (inv : Bool) (n : ℕ) : ℂ :=
  if inv then Complex.exp (2 * Real.pi * Complex.I / n) else (Complex.exp (2 * Real.pi * Complex.I / n))⁻¹

theorem root_primitive (inv : Bool) (n : ℕ) (hn : n ≠ 0) : IsPrimitiveRoot (root inv n) n := by
  unfold root
  cases inv
  · exact (Complex.isPrimitiveRoot_exp n hn).inv
  · exact Complex.isPrimitiveRoot_exp n hn

/-- `fft` and `ifft` use conjugate (= inverse) roots -/
theorem root_inv (inv : Bool) (n : ℕ) : root (!inv) n = (root inv n)⁻¹ := by
  cases inv
  · exact (inv_inv _).symm
  · rfl

/-- a phase `e/n` of a turn is the `e`-th power of `e^{2πi/n}`; only `e mod n` matters -/
theorem exp_phase (n : ℕ) (hn : 0 < n) (e : ℤ) :
    Complex.exp (2 * Real.pi * Complex.I * (((((e % (n : ℤ) : ℤ) : ℚ) / ((n : ℤ) : ℚ) : ℚ)) : ℂ)) =
      Complex.exp (2 * Real.pi * Complex.I / n) ^ e := by
  have hp := Complex.isPrimitiveRoot_exp n hn.ne'
  rw [← zpow_emod_of_pow_eq_one hp.pow_eq_one (hp.ne_zero hn.ne') e, ← Complex.exp_int_mul]
  congr 1
  push_cast
  ring

theorem signed_root (inv : Bool) (n : ℕ) (x : ℤ) :
    Complex.exp (2 * Real.pi * Complex.I / n) ^ ((if inv then 1 else -1) * x) = root inv n ^ x := by
  cases inv
  · show _ ^ (-1 * x) = _⁻¹ ^ x
    rw [neg_one_mul, inv_zpow']
  · show _ ^ (1 * x) = _ ^ x
    rw [one_mul]
    rfl

/-- **one transformed axis of the centred pipeline, input length `i`, output length `o`**: the table
    entry denotes `s · ω^{(k − o/2)(j − i/2)}` when input `j` survives the centre pad/crop, else 0. -/
theorem centred_axis_denote (inv ortho : Bool) (i : Int) (o : ℕ) (k j : Int) (ho : 0 < o) (hj : 0 ≤ j ∧ j < i) :
    denote (axisEntry (centredPipe inv) ortho true i o k j) =
      if 0 ≤ j - i / 2 + (o : ℤ) / 2 ∧ j - i / 2 + (o : ℤ) / 2 < o then
        ((Real.sqrt ((scale2 inv ortho o : ℚ) : ℝ) : ℝ) : ℂ) * root inv o ^ ((k - (o : ℤ) / 2) * (j - i / 2))
      else 0 := by
  rw [centred_axis_entry inv ortho i o k j (by exact_mod_cast ho) hj]
  by_cases h : 0 ≤ j - i / 2 + (o : ℤ) / 2 ∧ j - i / 2 + (o : ℤ) / 2 < o
  · rw [if_pos h, if_pos h]
    simp only [denote]
    rw [exp_phase o ho, signed_root]
  · rw [if_neg h, if_neg h]; rfl

/-- one transformed axis, uncentred -/
theorem plain_axis_denote (inv ortho : Bool) (n : ℕ) (o k j : Int) (hn : 0 < n) :
    denote (axisEntry (plainPipe inv) ortho true n o k j) =
      ((Real.sqrt ((scale2 inv ortho n : ℚ) : ℝ) : ℝ) : ℂ) * root inv n ^ (k * j) := by
  have hn' : (0 : ℤ) < n := by exact_mod_cast hn
  simp only [axisEntry, uncentred_axis_table]
  simp only [if_true, plainPipe, Bool.and_true, denote]
  rw [signedExp_spec _ _ _ _ hn', exp_phase n hn, signed_root]

/-- an untransformed axis, same length in and out: Kronecker delta -/
theorem id_axis_denote (inv ortho center : Bool) (n k j : Int) (hk : 0 ≤ k ∧ k < n) (hj : 0 ≤ j ∧ j < n) :
    denote (axisEntry (pipeOf inv center) ortho false n n k j) = if k = j then 1 else 0 := by
  cases center
  · simp only [pipeOf, axisEntry, uncentred_axis_table, Bool.false_eq_true, if_false]
    split_ifs <;> simp [denote]
  · simp only [pipeOf, if_true]
    rw [centred_axis_identity inv ortho n n k j hk hj]
    by_cases h : k = j
    · subst h; simp [denote]
    · have : ¬ (j - n / 2 = k - n / 2) := by omega
      simp [denote, h, this]

/-- one transformed axis, same length in and out, either pipeline: the 1-D matrix `dftMatrix` of
    `Props/C05.lean` with the axis' root of unity and the square root of the scale table -/
theorem tr_axis_denote (inv ortho center : Bool) (n : ℕ) (k j : Fin n) :
    denote (axisEntry (pipeOf inv center) ortho true n n ((k : ℕ) : ℤ) ((j : ℕ) : ℤ)) =
      dftMatrix (root inv n) n center (Real.sqrt ((scale2 inv ortho n : ℚ) : ℝ)) k j := by
  have hn : 0 < n := Nat.pos_of_ne_zero (fun h => by subst h; exact k.elim0)
  have hj : (0 : ℤ) ≤ ((j : ℕ) : ℤ) ∧ ((j : ℕ) : ℤ) < (n : ℤ) := ⟨by omega, by exact_mod_cast j.2⟩
  simp only [dftMatrix, of_apply, zpow_axisExp (root_primitive inv n hn.ne') hn]
  cases center
  · simp only [pipeOf, Bool.false_eq_true, if_false, centre, sub_zero]
    exact plain_axis_denote inv ortho n n _ _ hn
  · simp only [pipeOf, if_true, centre]
    rw [centred_axis_denote inv ortho n n _ _ hn hj, if_pos (by omega)]

/-- **The executable table IS the N-d matrix.**  For every rank `N`, shape, axes list (already
    normalised), centred or not, `fft` or `ifft`, either norm: the entry the model computes through the
    generated pipeline on the lists the driver is given (`List.ofFn`: the multi-index written out)
    denotes the entry of `fftnMatrix` with roots `e^{∓2πi/n_d}`, scales `√scale2`, on the axis set
    `{d | d ∈ axes}`.  The correspondence check compares exactly this table with the real code. -/
theorem entry_denote {N : ℕ} (inv ortho center : Bool) (shape : Fin N → ℕ) (axes : List Int)
    (K J : (d : Fin N) → Fin (shape d)) :
    denote (entry (pipeOf inv center) ortho axes (List.ofFn fun d => (shape d : ℤ))
        (List.ofFn fun d => (shape d : ℤ)) (List.ofFn fun d => ((K d : ℕ) : ℤ))
        (List.ofFn fun d => ((J d : ℕ) : ℤ))) =
      fftnMatrix shape (fun d => root inv (shape d)) center
        (fun d => Real.sqrt ((scale2 inv ortho (shape d) : ℚ) : ℝ))
        (Finset.univ.filter fun d : Fin N => ((d : ℕ) : ℤ) ∈ axes) K J := by
  unfold entry
  rw [entryGo_denote _ _ _ N 0 _ _ _ _ (fun d => by positivity) (fun d => by positivity)]
  unfold fftnMatrix
  rw [piKron_apply]
  apply Finset.prod_congr rfl
  intro d _
  simp only [Nat.zero_add, Finset.mem_filter, Finset.mem_univ, true_and]
  by_cases hd : ((d : ℕ) : ℤ) ∈ axes
  · rw [if_pos hd, List.contains_iff_mem.mpr hd]
    exact tr_axis_denote inv ortho center (shape d) (K d) (J d)
  · rw [if_neg hd, (by simpa using hd : axes.contains ((d : ℕ) : ℤ) = false), one_apply]
    rw [id_axis_denote inv ortho center _ _ _ ⟨by omega, by exact_mod_cast (K d).2⟩
      ⟨by omega, by exact_mod_cast (J d).2⟩]
    simp only [Nat.cast_inj, Fin.val_inj]

theorem ortho_scale (inv : Bool) (n : ℕ) (hn : 0 < n) :
    Real.sqrt ((scale2 inv true n : ℚ) : ℝ) * Real.sqrt ((scale2 inv true n : ℚ) : ℝ) * n = 1 := by
  have h : (0 : ℝ) < n := by exact_mod_cast hn
  have e : ((scale2 inv true n : ℚ) : ℝ) = 1 / (n : ℝ) := by simp [scale2]
  rw [e, Real.mul_self_sqrt (by positivity)]
  field_simp

/-- **`sigpy.fft` / `sigpy.ifft` with `norm="ortho"` are unitary in N dimensions** — stated for the
    matrix whose entries are the ones the executable table computes through the generated pipeline:
    `M[K, J] = denote (entry …)`, any rank, shape, axes subset, centred or not. -/
theorem fft_table_unitary {N : ℕ} (inv center : Bool) (shape : Fin N → ℕ) (axes : List Int) :
    let M : Matrix ((d : Fin N) → Fin (shape d)) ((d : Fin N) → Fin (shape d)) ℂ :=
      Matrix.of fun K J => denote (entry (pipeOf inv center) true axes (List.ofFn fun d => (shape d : ℤ))
        (List.ofFn fun d => (shape d : ℤ)) (List.ofFn fun d => ((K d : ℕ) : ℤ))
        (List.ofFn fun d => ((J d : ℕ) : ℤ)))
    Mᴴ * M = 1 := by
  intro M
  rcases isEmpty_or_nonempty ((d : Fin N) → Fin (shape d)) with he | ⟨⟨K0⟩⟩
  · exact Subsingleton.elim _ _
  have hpos : ∀ d, 0 < shape d := fun d => Nat.pos_of_ne_zero (fun h => (h ▸ K0 d).elim0)
  have hM : M = fftnMatrix shape (fun d => root inv (shape d)) center
      (fun d => Real.sqrt ((scale2 inv true (shape d) : ℚ) : ℝ))
      (Finset.univ.filter fun d : Fin N => ((d : ℕ) : ℤ) ∈ axes) := by
    ext K J; exact entry_denote inv true center shape axes K J
  rw [hM]
  exact fftn_unitary _ _ _ _ _ (fun d _ => root_primitive inv _ (hpos d).ne')
    (fun d _ => ortho_scale inv _ (hpos d))

/-- and `ifft`'s table is the conjugate transpose of `fft`'s, entry by entry (N-d).  `hsc` holds for
    `norm="ortho"` (`ortho = true`, the `example` below); for `ortho = false` it says `1/n² = 1`, i.e. every length is 1. -/
theorem ifft_table_eq_conjTranspose {N : ℕ} (ortho center : Bool) (shape : Fin N → ℕ) (axes : List Int)
    (hsc : ∀ d, scale2 true ortho (shape d) = scale2 false ortho (shape d))
    (K J : (d : Fin N) → Fin (shape d)) :
    denote (entry (pipeOf true center) ortho axes (List.ofFn fun d => (shape d : ℤ))
        (List.ofFn fun d => (shape d : ℤ)) (List.ofFn fun d => ((K d : ℕ) : ℤ))
        (List.ofFn fun d => ((J d : ℕ) : ℤ))) =
      conj (denote (entry (pipeOf false center) ortho axes (List.ofFn fun d => (shape d : ℤ))
        (List.ofFn fun d => (shape d : ℤ)) (List.ofFn fun d => ((J d : ℕ) : ℤ))
        (List.ofFn fun d => ((K d : ℕ) : ℤ)))) := by
  have hpos : ∀ d, 0 < shape d := fun d => Nat.pos_of_ne_zero (fun h => (h ▸ K d).elim0)
  rw [entry_denote, entry_denote]
  have h := ifftn_eq_conjTranspose shape (fun d => root false (shape d)) center
    (fun d => Real.sqrt ((scale2 false ortho (shape d) : ℚ) : ℝ))
    (Finset.univ.filter fun d : Fin N => ((d : ℕ) : ℤ) ∈ axes)
    (fun d _ => root_primitive false _ (hpos d).ne')
  have e : (fun d => (root false (shape d))⁻¹) = fun d => root true (shape d) := by
    funext d; rw [← root_inv]; rfl
  rw [e] at h
  simp only [hsc]
  rw [h, conjTranspose_apply]; rfl

example : scale2 true true 5 = scale2 false true 5 := rfl

theorem axisEntry_after_resize (inv ortho tr : Bool) (i o k j : Int) :
    axisEntry (centredPipe inv) ortho tr i o k j =
      match C09.resizeSrc1 o i (Gen.resizeOshiftDefault i o) (Gen.resizeIshiftDefault i o) j with
      | some m => axisEntry (centredPipe inv) ortho tr o o k m
      | none => none := by
  -- both sides follow the same steps after `resize`, and `resize` from `o` to `o` leaves `m` in place
  unfold axisEntry
  rw [centred_axisIdx]
  cases h : C09.resizeSrc1 o i (Gen.resizeOshiftDefault i o) (Gen.resizeIshiftDefault i o) j with
  | none => rfl
  | some m =>
    rw [← C09.resize_default_swap o i, C09.resize_default_swap i o, C09.resize_default_aligns] at h
    have hm := (C09.resize_default_aligns o o m m).mpr ⟨h.2.2.1, h.2.2.2.1, h.2.2.1, h.2.2.2.1, rfl⟩
    rw [C09.resize_default_swap o o] at hm
    dsimp only
    rw [centred_axisIdx, C09.resize_default_swap o o, hm]

/-- one axis: the entry for input length `i`, requested length `o` is the entry of the `o × o`
    transform in the column where `util.resize` (default shifts, C09) puts input index `j`, and zero
    when `resize` crops `j` away.  Transformed and untransformed axes alike. -/
theorem axis_oshape_factor (inv ortho tr : Bool) (i o k j : Int) (ho : 0 < o) (hk : 0 ≤ k ∧ k < o)
    (hj : 0 ≤ j ∧ j < i) :
    axisEntry (centredPipe inv) ortho tr i o k j =
      match C09.resizeSrc1 o i (Gen.resizeOshiftDefault i o) (Gen.resizeIshiftDefault i o) j with
      | some m => axisEntry (centredPipe inv) ortho tr o o k m
      | none => none :=
  axisEntry_after_resize inv ortho tr i o k j

/-- `k` is a multi-index of an array of shape `sh` (`C09.mem_allIdx`: same as `k ∈ allIdx sh`) -/
abbrev IsIdx (sh k : List Int) : Prop := List.Forall₂ (fun n i => 0 ≤ i ∧ i < n) sh k

theorem entryGo_oshape (inv ortho : Bool) (axes : List Int) (d : Nat) (ish osh k j : List Int)
    (ho : ∀ n ∈ osh, 0 < n) (hk : IsIdx osh k) (hj : IsIdx ish j) :
    entryGo (centredPipe inv) ortho axes d ish osh k j =
      match C09.resizeSrc.go osh ish (List.zipWith Gen.resizeOshiftDefault ish osh)
          (List.zipWith Gen.resizeIshiftDefault ish osh) j with
      | some m => entryGo (centredPipe inv) ortho axes d osh osh k m
      | none => none := by
  induction hj generalizing d osh k with
  | nil => cases hk <;> rfl
  | @cons i j is js hj0 hjs ih =>
    cases hk with
    | nil => rfl
    | @cons o k os ks hk0 hks =>
      have ih' := ih (d + 1) os ks (fun n hn => ho n (List.mem_cons_of_mem _ hn)) hks
      simp only [List.zipWith_cons_cons, C09.resizeSrc.go, entry_separable, Option.pure_def,
        Option.bind_eq_bind]
      rw [axisEntry_after_resize inv ortho _ i o k j, ih']
      cases C09.resizeSrc1 o i (Gen.resizeOshiftDefault i o) (Gen.resizeIshiftDefault i o) j with
      | none => rfl
      | some m0 =>
        cases C09.resizeSrc.go os is (List.zipWith Gen.resizeOshiftDefault is os)
            (List.zipWith Gen.resizeIshiftDefault is os) js with
        | none =>
          simp only [Option.bind_some, Option.bind_none]
          cases axisEntry (centredPipe inv) ortho (axes.contains (d : Int)) o o k m0 <;> rfl
        | some ms => simp only [Option.bind_some, entry_separable]

/-- **`fft(x, oshape)` centred, N-d, is `F_{N-d} ∘ resize`.**  `C09.resizeSrc ish osh si so m = some j`
    says (by `C09.resize_array_spec`, N-d, default shifts `si`, `so`) that `util.resize(x, oshape)`
    holds `x[j]` at position `m`.  Then column `j` of the matrix of `fft(·, oshape)` is column `m` of the
    square `oshape`-transform (1); an input sample that `resize` drops contributes nothing (2).
    So `fft(x, oshape)[k] = Σ_m F[k, m] · resize(x)[m]` — for any rank, any axes, pad, crop or mixed. -/
theorem fft_oshape_eq_fftn_resize (inv ortho : Bool) (axes ish osh k j : List Int)
    (ho : ∀ n ∈ osh, 0 < n) (hk : IsIdx osh k) (hj : IsIdx ish j) :
    (∀ m, C09.resizeSrc ish osh (List.zipWith Gen.resizeIshiftDefault ish osh)
            (List.zipWith Gen.resizeOshiftDefault ish osh) m = some j →
        entry (centredPipe inv) ortho axes ish osh k j = entry (centredPipe inv) ortho axes osh osh k m) ∧
    ((∀ m, C09.resizeSrc ish osh (List.zipWith Gen.resizeIshiftDefault ish osh)
            (List.zipWith Gen.resizeOshiftDefault ish osh) m ≠ some j) →
        entry (centredPipe inv) ortho axes ish osh k j = none) := by
  have key := entryGo_oshape inv ortho axes 0 ish osh k j ho hk hj
  have tr := fun m => C09.resize_transpose_nd ish osh (List.zipWith Gen.resizeIshiftDefault ish osh)
    (List.zipWith Gen.resizeOshiftDefault ish osh) m j
  unfold C09.resizeSrc at tr
  unfold entry C09.resizeSrc
  constructor
  · intro m hm
    rw [key, (tr m).mp hm]
  · intro hno
    rw [key]
    cases hgo : C09.resizeSrc.go osh ish (List.zipWith Gen.resizeOshiftDefault ish osh)
        (List.zipWith Gen.resizeIshiftDefault ish osh) j with
    | none => rfl
    | some m => exact absurd ((tr m).mpr hgo) (hno m)

/-- the same with the alignment spelled out (`C09.resize_default_aligns_nd`): the column `m` is the one
    with `m_d − o_d//2 = j_d − i_d//2` on EVERY axis — centre `i//2` of the input sits on centre
    `o//2` of the transform, axis by axis. -/
theorem fft_oshape_aligned (inv ortho : Bool) (axes ish osh k j m : List Int)
    (hr : osh.length = ish.length) (ho : ∀ n ∈ osh, 0 < n) (hk : IsIdx osh k)
    (hj : IsIdx ish j) (hm : m.length = ish.length)
    (hal : ∀ d, d < ish.length → 0 ≤ m.getD d 0 ∧ m.getD d 0 < osh.getD d 0 ∧
        j.getD d 0 - ish.getD d 0 / 2 = m.getD d 0 - osh.getD d 0 / 2) :
    entry (centredPipe inv) ortho axes ish osh k j = entry (centredPipe inv) ortho axes osh osh k m := by
  apply (fft_oshape_eq_fftn_resize inv ortho axes ish osh k j ho hk hj).1
  rw [C09.resize_default_aligns_nd ish osh m j hr]
  have hjl : j.length = ish.length ∧ ∀ d, d < ish.length → 0 ≤ j.getD d 0 ∧ j.getD d 0 < ish.getD d 0 := by
    exact C09.mem_allIdx_iff_getD.mp (C09.mem_allIdx.mpr hj)
  exact ⟨hm, hjl.1, fun d hd => ⟨(hal d hd).1, (hal d hd).2.1, (hjl.2 d hd).1, (hjl.2 d hd).2, (hal d hd).2.2⟩⟩

/-- and on arrays (`C09.resize_array_spec`): the sample of `util.resize(x, oshape)` at that position
    `m` is `x[j]` — so the two factors of `F_{N-d} ∘ resize` are exactly the model's `C09.resize` (compared
    with `sigpy.util.resize` by C09) and the square transform of §1–§3. -/
theorem resize_feeds_fftn {α : Type} [Zero α] (ish osh m j : List Int) (x : Array α)
    (hr : osh.length = ish.length) (hne : ish ≠ osh)
    (hm : C09.resizeSrc ish osh (List.zipWith Gen.resizeIshiftDefault ish osh)
            (List.zipWith Gen.resizeOshiftDefault ish osh) m = some j) :
    (C09.resize ish osh none none x).getD (ravel osh m).toNat 0 = x.getD (ravel ish j).toNat 0 := by
  have hes := C09.expandShapes_same_rank ish osh hr.symm
  have hal := (C09.resize_default_aligns_nd ish osh m j hr).mp hm
  have hmem : m ∈ allIdx (C09.expandShapes ish osh).2 := by
    rw [hes]
    show m ∈ allIdx osh
    exact C09.mem_allIdx_iff_getD.mpr ⟨by omega, fun d hd => ⟨(hal.2.2 d (by omega)).1, (hal.2.2 d (by omega)).2.1⟩⟩
  have h := C09.resize_array_spec ish osh none none x (by rw [hes]; exact hne) m hmem
  simp only [C09.resizeParams, hes, Option.getD_none] at h
  rw [h, hm]

example : C09.resizeSrc [3, 4] [5, 2] (List.zipWith Gen.resizeIshiftDefault [3, 4] [5, 2])
    (List.zipWith Gen.resizeOshiftDefault [3, 4] [5, 2]) [1, 0] = some [0, 1] := by decide +kernel

/-- **`C05.table` — the function the driver executes and the correspondence check compares with
    `sigpy.fft/ifft` on every run — is the `entry` table of the theorems above**: on the property's domain
    (positive lengths, a valid axes subset or `None`, `oshape` of the same rank and only when centred)
    it returns the output shape `oshape` (default: the input shape) and
    `entry (pipeOf inverse center) ortho (normAxes …) ishape oshape`. -/
theorem table_eq (c : Cfg) (h1 : ∀ n ∈ c.ishape, 1 ≤ n)
    (h2 : ∀ a, c.axes = some a → axesOk a c.ishape.length = true)
    (h3 : ∀ o, c.oshape = some o → c.center = true ∧ o.length = c.ishape.length ∧ ∀ n ∈ o, 1 ≤ n) :
    table c = .ok (c.oshape.getD c.ishape, fun k j =>
      entry (pipeOf c.inverse c.center) c.ortho (normAxes c.center c.axes c.ishape.length) c.ishape
        (c.oshape.getD c.ishape) k j) := by
  obtain ⟨inv, center, ortho, ish, osh, axes⟩ := c
  simp only at h1 h2 h3 ⊢
  have e1 : ish.any (· < 1) = false := by
    rw [List.any_eq_false]; intro n hn; simpa using h1 n hn
  have e3 : (!center && osh.isSome) = false := by
    cases osh with
    | none => simp
    | some o => simp [(h3 o rfl).1]
  have hl : (osh.getD ish).length = ish.length := by
    cases osh with
    | none => rfl
    | some o => exact (h3 o rfl).2.1
  have e4 : (osh.getD ish).any (· < 1) = false := by
    rw [List.any_eq_false]; intro n hn
    cases osh with
    | none => simpa using h1 n hn
    | some o => simpa using (h3 o rfl).2.2 n hn
  have fin : List.zipWith (fun i o => lenAfter ((pipeOf inv center).pre ++ (pipeOf inv center).post) i o) ish
      (osh.getD ish) = osh.getD ish := by
    cases center
    · have : osh = none := by
        cases osh with
        | none => rfl
        | some o => have := (h3 o rfl).1; cases this
      subst this
      exact (List.map_zipWith (f := Prod.fst) (g := Prod.mk) ..).symm.trans (List.map_fst_zip le_rfl)
    · exact (List.map_zipWith (f := Prod.snd) (g := Prod.mk) ..).symm.trans (List.map_snd_zip hl.le)
  unfold table
  simp only [e1, e3, e4, hl, mkPipe_steps, Bool.false_eq_true, if_false, ne_eq,
    not_true_eq_false, decide_false, Bool.or_self, fin]
  cases axes with
  | none => simp only [Bool.not_true, Bool.false_eq_true, if_false]
  | some a => simp only [h2 a rfl, Bool.not_true, Bool.false_eq_true, if_false]

example : (table ⟨false, true, true, [3, 4], some [5, 2], some [-1]⟩).toOption.map (·.1) = some [5, 2] := by
  decide +kernel

/-- **Capstone: the function the driver runs is unitary.**  For every rank `N`, every shape, every valid
    axes subset in any spelling (or `None`), centred or not, `fft` or `ifft`, with `norm="ortho"` and no
    `oshape`: `C05.table` succeeds, and the matrix its entries denote satisfies `MᴴM = I`. -/
theorem sigpy_fft_unitary {N : ℕ} (inv center : Bool) (shape : Fin N → ℕ) (hpos : ∀ d, 1 ≤ shape d)
    (axes : Option (List Int)) (hax : ∀ a, axes = some a → axesOk a N = true) :
    ∃ f, table ⟨inv, center, true, List.ofFn fun d => (shape d : ℤ), none, axes⟩ =
        .ok (List.ofFn fun d => (shape d : ℤ), f) ∧
      (Matrix.of fun (K J : (d : Fin N) → Fin (shape d)) =>
          denote (f (List.ofFn fun d => ((K d : ℕ) : ℤ)) (List.ofFn fun d => ((J d : ℕ) : ℤ))))ᴴ *
        (Matrix.of fun (K J : (d : Fin N) → Fin (shape d)) =>
          denote (f (List.ofFn fun d => ((K d : ℕ) : ℤ)) (List.ofFn fun d => ((J d : ℕ) : ℤ)))) = 1 := by
  refine ⟨_, table_eq _ ?_ ?_ ?_, ?_⟩
  · intro n hn
    simp only [List.mem_ofFn] at hn
    obtain ⟨d, rfl⟩ := hn
    exact_mod_cast hpos d
  · intro a ha
    simp only [List.length_ofFn]
    exact hax a ha
  · intro o ho; cases ho
  · exact fft_table_unitary inv center shape _

example : axesOk [-1, 0] ((2 : ℕ) : ℤ) = true := by decide +kernel

/-- non-vacuity of §1: the hypotheses of `fftn_unitary` hold for the concrete roots `e^{∓2πi/n_d}` and the
    orthonormal scales `1/√n_d`, for every shape with positive lengths and every axes subset -/
example {N : ℕ} (shape : Fin N → ℕ) (hpos : ∀ d, 0 < shape d) (center : Bool) (axes : Finset (Fin N)) :
    (fftnMatrix shape (fun d => root false (shape d)) center
        (fun d => Real.sqrt ((scale2 false true (shape d) : ℚ) : ℝ)) axes)ᴴ *
      fftnMatrix shape (fun d => root false (shape d)) center
        (fun d => Real.sqrt ((scale2 false true (shape d) : ℚ) : ℝ)) axes = 1 :=
  fftn_unitary _ _ _ _ _ (fun d _ => root_primitive false _ (hpos d).ne') (fun d _ => ortho_scale false _ (hpos d))

end SigpyVerif.C05
