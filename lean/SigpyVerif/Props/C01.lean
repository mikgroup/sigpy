import SigpyVerif.Model.C01
import SigpyVerif.Lemmas.C01
import SigpyVerif.Props.C09
/-
  C01 — every linear operator's adjoint is its true adjoint.

  Everything is about the executable model `Model/C01.lean` (entry lists, `Expr`, `denote`, `adj`),
  which the correspondence check compares with the real operators' matrices on every run, and about
  the `Gen.*` loop nests regenerated from block.py / interp.py.  Scalars: any commutative star ring
  (ℂ in particular); `⟨a,b⟩ = Σ conj(a)·b` is numpy's `vdot`.

  This file: the algebra (`coo_adjoint`, composition / sum / conjugation / stacking rules, `adj_denote` by
  structural induction over a leaf predicate `P`) and the leaf pairs Identity, Reshape, Slice↔Embed.  The leaf
  hypothesis for the other classes is discharged by `leafProved_adjOK` (Props/C01LeavesGen.lean).
-/
set_option linter.unusedSectionVars false
namespace SigpyVerif.C01
open SigpyVerif

section
variable {α : Type} [CommRing α] [StarRing α]

/-- the action is additive in the entry list: the matrix of `A + B` is the concatenation -/
theorem applyF_append {ι κ : Type} [DecidableEq ι] (A B : List (ι × κ × α)) (x : κ → α) (o : ι) :
    applyF (A ++ B) x o = applyF A x o + applyF B x o := by
  unfold applyF
  rw [List.map_append, List.sum_append]

/-- `compE` is the matrix product: `Compose([A, B])(x) = A(B(x))` -/
theorem applyF_compE {ι κ μ : Type} [DecidableEq ι] [DecidableEq κ]
    (A : List (ι × κ × α)) (B : List (κ × μ × α)) (x : μ → α) (o : ι) :
    applyF (compE A B) x o = applyF A (applyF B x) o := by
  induction A with
  | nil => rfl
  | cons a A ih =>
    have h : compE (a :: A) B =
        (B.filterMap fun b => if a.2.1 = b.1 then some (a.1, b.2.1, a.2.2 * b.2.2) else none)
          ++ compE A B := rfl
    rw [h, applyF_append, ih, applyF_cons, applyF_row]

/-- `conjE` is the matrix of `Conj(A)`: `x ↦ conj(A(conj x))` -/
theorem applyF_conjE {ι κ : Type} [DecidableEq ι] (E : List (ι × κ × α)) (x : κ → α) (o : ι) :
    applyF (conjE star E) x o = star (applyF E (fun i => star (x i)) o) := by
  induction E with
  | nil => exact (star_zero α).symm
  | cons e E ih =>
    have h : conjE star (e :: E) = (e.1, e.2.1, star e.2.2) :: conjE star E := rfl
    rw [h, applyF_cons, applyF_cons, ih, star_add]
    congr 1
    by_cases ho : e.1 = o
    · rw [if_pos ho, if_pos ho, star_mul', star_star]
    · rw [if_neg ho, if_neg ho, star_zero]

/-! the same three rules for the whole output vector -/

theorem applyF_append_fun {ι κ : Type} [DecidableEq ι] (A B : List (ι × κ × α)) (x : κ → α) :
    applyF (A ++ B) x = fun o => applyF A x o + applyF B x o := funext (applyF_append A B x)

theorem applyF_compE_fun {ι κ μ : Type} [DecidableEq ι] [DecidableEq κ]
    (A : List (ι × κ × α)) (B : List (κ × μ × α)) (x : μ → α) :
    applyF (compE A B) x = applyF A (applyF B x) := funext (applyF_compE A B x)

theorem applyF_conjE_fun {ι κ : Type} [DecidableEq ι] (E : List (ι × κ × α)) (x : κ → α) :
    applyF (conjE star E) x = fun o => star (applyF E (fun i => star (x i)) o) := funext (applyF_conjE E x)

/-- **Core theorem.** For any entry list `E` (out index, in index, weight) over a commutative ring
    with conjugation, whose indices lie in the (duplicate-free) index lists `I`, `J`:
    `⟨E x, y⟩ = ⟨x, Eᴴ y⟩` where `Eᴴ = adjE E` swaps the indices and conjugates the weights. -/
theorem coo_adjoint {ι κ : Type} [DecidableEq ι] [DecidableEq κ] (I : List ι) (J : List κ)
    (hI : I.Nodup) (hJ : J.Nodup) (E : List (ι × κ × α)) (hE : ∀ e ∈ E, e.1 ∈ I ∧ e.2.1 ∈ J)
    (x : κ → α) (y : ι → α) :
    dotL star I (applyF E x) y = dotL star J x (applyF (adjE star E) y) := by
  induction E with
  | nil => simp [adjE, applyF, dotL]
  | cons e E ih =>
    have hadj : adjE star (e :: E) = (e.2.1, e.1, star e.2.2) :: adjE star E := rfl
    have h1 : applyF (e :: E) x = fun o => (if e.1 = o then e.2.2 * x e.2.1 else 0) + applyF E x o := by
      funext o; exact applyF_cons e E x o
    have h2 : applyF (adjE star (e :: E)) y =
        fun j => (if e.2.1 = j then star e.2.2 * y e.1 else 0) + applyF (adjE star E) y j := by
      funext j; rw [hadj]; exact applyF_cons _ _ y j
    rw [h1, h2, dotL_add_left, dotL_add_right, ih (fun e' he' => hE e' (List.mem_cons_of_mem _ he'))]
    congr 1
    obtain ⟨heI, heJ⟩ := hE e (List.mem_cons_self ..)
    unfold dotL
    have e1 : (I.map fun i => star (if e.1 = i then e.2.2 * x e.2.1 else 0) * y i)
        = I.map fun i => if e.1 = i then star (e.2.2 * x e.2.1) * y i else 0 := by
      apply List.map_congr_left; intro i _
      by_cases h : e.1 = i
      · rw [if_pos h, if_pos h]
      · rw [if_neg h, if_neg h, star_zero, zero_mul]
    have e2 : (J.map fun j => star (x j) * (if e.2.1 = j then star e.2.2 * y e.1 else 0))
        = J.map fun j => if e.2.1 = j then star (x j) * (star e.2.2 * y e.1) else 0 := by
      apply List.map_congr_left; intro j _
      by_cases h : e.2.1 = j
      · rw [if_pos h, if_pos h]
      · rw [if_neg h, if_neg h, mul_zero]
    rw [e1, e2, sum_ite_single I hI e.1 heI, sum_ite_single J hJ e.2.1 heJ, star_mul']
    ring

/-- an `n × m` entry list and its conjugate transpose are adjoint for `vdot` on `ℂ^n`, `ℂ^m` -/
theorem isAdj_of_entries (n m : Nat) (E : List (Ent α)) (h : InRange n m E) :
    IsAdj n m E (adjE star E) := by
  intro x y
  exact coo_adjoint (List.range n) (List.range m) List.nodup_range List.nodup_range E
    (fun e he => ⟨List.mem_range.mpr (h e he).1, List.mem_range.mpr (h e he).2⟩) x y

/-- `Compose._adjoint_linop`: reverse the order and take adjoints -/
theorem isAdj_comp (n k m : Nat) (A A' B B' : List (Ent α)) (hA : IsAdj n k A A') (hB : IsAdj k m B B') :
    IsAdj n m (compE A B) (compE B' A') := by
  intro x y
  rw [applyF_compE_fun, applyF_compE_fun, hA, hB]

/-- three factors, associated the way `Diag` places its blocks: `(S_oᵀ · A · S_i)ᴴ = S_iᵀ · Aᴴ · S_o` -/
theorem isAdj_comp3 (n k l m : Nat) (A A' B B' C C' : List (Ent α)) (hA : IsAdj n k A A')
    (hB : IsAdj k l B B') (hC : IsAdj l m C C') :
    IsAdj n m (compE A (compE B C)) (compE C' (compE B' A')) := by
  intro x y
  simp only [applyF_compE_fun]
  rw [hA, hB, hC]

/-- `Add._adjoint_linop`: termwise -/
theorem isAdj_add (n m : Nat) (A A' B B' : List (Ent α)) (hA : IsAdj n m A A') (hB : IsAdj n m B B') :
    IsAdj n m (A ++ B) (A' ++ B') := by
  intro x y
  rw [applyF_append_fun, applyF_append_fun, dotL_add_left, dotL_add_right, hA, hB]

/-- `Conj._adjoint_linop`: `Conj(A).H = Conj(A.H)` -/
theorem isAdj_conj (n m : Nat) (A A' : List (Ent α)) (hA : IsAdj n m A A') :
    IsAdj n m (conjE star A) (conjE star A') := by
  intro x y
  have h := congrArg star (hA (fun i => star (x i)) (fun i => star (y i)))
  rw [star_dotL, star_dotL] at h
  simp only [star_star] at h
  rw [applyF_conjE_fun, applyF_conjE_fun]
  exact h

/-- a 0/1 selection (gather) and its transposed scatter are adjoint: `Slice ↔ Embed`, and the
    selections used by `Hstack`/`Vstack`/`Diag` -/
theorem isAdj_swap_gather (n m : Nat) (E : List (Ent α)) (h : InRange n m E) (hw : ∀ e ∈ E, e.2.2 = 1) :
    IsAdj n m E (swapE E) ∧ IsAdj m n (swapE E) E := by
  have h1 : IsAdj n m E (swapE E) := by
    rw [← weights_one_swap E hw]
    exact isAdj_of_entries n m E h
  exact ⟨h1, h1.symm⟩

variable (ofRat : Rat → α)

/-- "`.H` of `e` denotes the adjoint of what `e` denotes, with the shapes swapped" -/
def AdjOK (e : Expr α) : Prop :=
  ∀ s, denote star ofRat e = some s →
    ∃ s', denote star ofRat (adj star e) = some s' ∧ s'.osh = s.ish ∧ s'.ish = s.osh ∧
      IsAdj s.osz s.isz s.E s'.E

/-- every leaf of the tree satisfies `P` -/
def allLeaves (P : Leaf α → Prop) : Expr α → Prop
  | .leaf l => P l
  | .comp a b => allLeaves P a ∧ allLeaves P b
  | .add a b => allLeaves P a ∧ allLeaves P b
  | .conj a => allLeaves P a
  | .hstack _ a b => allLeaves P a ∧ allLeaves P b
  | .vstack _ a b => allLeaves P a ∧ allLeaves P b
  | .diag _ _ a b => allLeaves P a ∧ allLeaves P b

theorem catParts_spec (ax : Option Int) (a b tot : List Int) (pa pb : List (Ent α))
    (h : catParts ax a b = some (tot, pa, pb)) :
    (InRange (shapeProd a).toNat (shapeProd tot).toNat pa ∧ ∀ e ∈ pa, e.2.2 = 1) ∧
    (InRange (shapeProd b).toNat (shapeProd tot).toNat pb ∧ ∀ e ∈ pb, e.2.2 = 1) := by
  unfold catParts at h
  cases hc : catShape ax a b with
  | none => simp [hc] at h
  | some t =>
    obtain ⟨tot', d, a', b'⟩ := t
    simp only [hc, Option.map_some, Option.some.injEq, Prod.mk.injEq] at h
    obtain ⟨rfl, rfl, rfl⟩ := h
    exact ⟨⟨inRangeE_inRange _ _ _, inRangeE_weights _ _ _ (gatherE_weights _ _ _)⟩,
           ⟨inRangeE_inRange _ _ _, inRangeE_weights _ _ _ (gatherE_weights _ _ _)⟩⟩

/-! What a tree node denotes, read backwards: a leaf denotes its class's entries, clipped; under a
    combinator the children denote operators, the shapes fit, and the entry list is the one the node's
    rule builds. -/

theorem denote_leaf_some {l : Leaf α} {s : Sem α} (hs : denote star ofRat (.leaf l) = some s) :
    ∃ s0, leafSem0 star ofRat l = some s0 ∧ s = Sem.clip s0 := by
  obtain ⟨s0, h0, rfl⟩ := Option.map_eq_some_iff.mp hs
  exact ⟨s0, h0, rfl⟩

theorem denote_comp_some {a b : Expr α} {s : Sem α} (hs : denote star ofRat (.comp a b) = some s) :
    ∃ sa sb, denote star ofRat a = some sa ∧ denote star ofRat b = some sb ∧ sa.ish = sb.osh ∧
      s = ⟨sa.osh, sb.ish, compE sa.E sb.E⟩ := by
  rw [denote] at hs
  split at hs
  next sa sb ha hb =>
    split_ifs at hs with hsh
    exact ⟨sa, sb, ha, hb, hsh, (Option.some.inj hs).symm⟩
  · cases hs

theorem denote_add_some {a b : Expr α} {s : Sem α} (hs : denote star ofRat (.add a b) = some s) :
    ∃ sa sb, denote star ofRat a = some sa ∧ denote star ofRat b = some sb ∧
      (sa.ish = sb.ish ∧ sa.osh = sb.osh) ∧ s = ⟨sa.osh, sa.ish, sa.E ++ sb.E⟩ := by
  rw [denote] at hs
  split at hs
  next sa sb ha hb =>
    split_ifs at hs with hsh
    exact ⟨sa, sb, ha, hb, hsh, (Option.some.inj hs).symm⟩
  · cases hs

theorem denote_conj_some {a : Expr α} {s : Sem α} (hs : denote star ofRat (.conj a) = some s) :
    ∃ sa, denote star ofRat a = some sa ∧ s = ⟨sa.osh, sa.ish, conjE star sa.E⟩ := by
  rw [denote] at hs
  split at hs
  next sa ha => exact ⟨sa, ha, (Option.some.inj hs).symm⟩
  · cases hs

theorem denote_hstack_some {ax : Option Int} {a b : Expr α} {s : Sem α}
    (hs : denote star ofRat (.hstack ax a b) = some s) :
    ∃ sa sb tot pa pb, denote star ofRat a = some sa ∧ denote star ofRat b = some sb ∧
      sa.osh = sb.osh ∧ catParts ax sa.ish sb.ish = some (tot, pa, pb) ∧
      s = ⟨sa.osh, tot, compE sa.E pa ++ compE sb.E pb⟩ := by
  rw [denote] at hs
  split at hs
  next sa sb ha hb =>
    split_ifs at hs with hsh
    split at hs
    next tot pa pb hc => exact ⟨sa, sb, tot, pa, pb, ha, hb, hsh, hc, (Option.some.inj hs).symm⟩
    · cases hs
  · cases hs

theorem denote_vstack_some {ax : Option Int} {a b : Expr α} {s : Sem α}
    (hs : denote star ofRat (.vstack ax a b) = some s) :
    ∃ sa sb tot pa pb, denote star ofRat a = some sa ∧ denote star ofRat b = some sb ∧
      sa.ish = sb.ish ∧ catParts ax sa.osh sb.osh = some (tot, pa, pb) ∧
      s = ⟨tot, sa.ish, compE (swapE pa) sa.E ++ compE (swapE pb) sb.E⟩ := by
  rw [denote] at hs
  split at hs
  next sa sb ha hb =>
    split_ifs at hs with hsh
    split at hs
    next tot pa pb hc => exact ⟨sa, sb, tot, pa, pb, ha, hb, hsh, hc, (Option.some.inj hs).symm⟩
    · cases hs
  · cases hs

theorem denote_diag_some {oax iax : Option Int} {a b : Expr α} {s : Sem α}
    (hs : denote star ofRat (.diag oax iax a b) = some s) :
    ∃ sa sb itot ia ib otot oa ob, denote star ofRat a = some sa ∧ denote star ofRat b = some sb ∧
      catParts iax sa.ish sb.ish = some (itot, ia, ib) ∧ catParts oax sa.osh sb.osh = some (otot, oa, ob) ∧
      s = ⟨otot, itot, compE (swapE oa) (compE sa.E ia) ++ compE (swapE ob) (compE sb.E ib)⟩ := by
  rw [denote] at hs
  split at hs
  next sa sb ha hb =>
    split at hs
    next itot ia ib otot oa ob hci hco =>
      exact ⟨sa, sb, itot, ia, ib, otot, oa, ob, ha, hb, hci, hco, (Option.some.inj hs).symm⟩
    · cases hs
  · cases hs

/-- **`adj_denote`.** For every expression tree whose leaves satisfy the leaf pairing `AdjOK`
    (`leafProved_adjOK` supplies it), the tree `adj e` built by the transcribed `_adjoint_linop` rules —
    Compose reverses, Add termwise, Hstack↔Vstack on the same axis, Diag with the axes swapped,
    `Conj(A).H = Conj(A.H)` — denotes an operator with swapped shapes that satisfies
    `⟨A x, y⟩ = ⟨x, A.H y⟩` for all `x`, `y`. -/
theorem adj_denote (P : Leaf α → Prop) (hP : ∀ l, P l → AdjOK ofRat (.leaf l)) (e : Expr α)
    (he : allLeaves P e) : AdjOK ofRat e := by
  induction e with
  | leaf l => exact hP l he
  | comp a b iha ihb =>
    intro s hs
    obtain ⟨sa, sb, ha, hb, hsh, rfl⟩ := denote_comp_some ofRat hs
    obtain ⟨sa', ha', hao, hai, hA⟩ := iha he.1 sa ha
    obtain ⟨sb', hb', hbo, hbi, hB⟩ := ihb he.2 sb hb
    refine ⟨⟨sb'.osh, sa'.ish, compE sb'.E sa'.E⟩, ?_, hbo, hai, ?_⟩
    · simp only [adj, denote, ha', hb']
      rw [if_pos (by rw [hbi, hao, hsh])]
    · simp only [Sem.osz, Sem.isz] at hA hB ⊢
      rw [← hsh] at hB
      exact isAdj_comp _ _ _ _ _ _ _ hA hB
  | add a b iha ihb =>
    intro s hs
    obtain ⟨sa, sb, ha, hb, hsh, rfl⟩ := denote_add_some ofRat hs
    obtain ⟨sa', ha', hao, hai, hA⟩ := iha he.1 sa ha
    obtain ⟨sb', hb', hbo, hbi, hB⟩ := ihb he.2 sb hb
    refine ⟨⟨sa'.osh, sa'.ish, sa'.E ++ sb'.E⟩, ?_, hao, hai, ?_⟩
    · simp only [adj, denote, ha', hb']
      rw [if_pos ⟨by rw [hai, hbi, hsh.2], by rw [hao, hbo, hsh.1]⟩]
    · simp only [Sem.osz, Sem.isz] at hA hB ⊢
      rw [← hsh.1, ← hsh.2] at hB
      exact isAdj_add _ _ _ _ _ _ hA hB
  | conj a iha =>
    intro s hs
    obtain ⟨sa, ha, rfl⟩ := denote_conj_some ofRat hs
    obtain ⟨sa', ha', hao, hai, hA⟩ := iha he sa ha
    refine ⟨⟨sa'.osh, sa'.ish, conjE star sa'.E⟩, ?_, hao, hai, isAdj_conj _ _ _ _ hA⟩
    simp only [adj, denote, ha']
  | hstack ax a b iha ihb =>
    intro s hs
    obtain ⟨sa, sb, tot, pa, pb, ha, hb, hsh, hc, rfl⟩ := denote_hstack_some ofRat hs
    obtain ⟨sa', ha', hao, hai, hA⟩ := iha he.1 sa ha
    obtain ⟨sb', hb', hbo, hbi, hB⟩ := ihb he.2 sb hb
    obtain ⟨⟨ra, wa⟩, ⟨rb, wb⟩⟩ := catParts_spec ax _ _ _ _ _ hc
    refine ⟨⟨tot, sa'.ish, compE (swapE pa) sa'.E ++ compE (swapE pb) sb'.E⟩, ?_, rfl, hai, ?_⟩
    · simp only [adj, denote, ha', hb']
      rw [if_pos (by rw [hai, hbi, hsh]), hao, hbo, hc]
    · simp only [Sem.osz, Sem.isz] at hA hB ⊢
      rw [← hsh] at hB
      exact isAdj_add _ _ _ _ _ _
        (isAdj_comp _ _ _ _ _ _ _ hA (isAdj_swap_gather _ _ pa ra wa).1)
        (isAdj_comp _ _ _ _ _ _ _ hB (isAdj_swap_gather _ _ pb rb wb).1)
  | vstack ax a b iha ihb =>
    intro s hs
    obtain ⟨sa, sb, tot, pa, pb, ha, hb, hsh, hc, rfl⟩ := denote_vstack_some ofRat hs
    obtain ⟨sa', ha', hao, hai, hA⟩ := iha he.1 sa ha
    obtain ⟨sb', hb', hbo, hbi, hB⟩ := ihb he.2 sb hb
    obtain ⟨⟨ra, wa⟩, ⟨rb, wb⟩⟩ := catParts_spec ax _ _ _ _ _ hc
    refine ⟨⟨sa'.osh, tot, compE sa'.E pa ++ compE sb'.E pb⟩, ?_, hao, rfl, ?_⟩
    · simp only [adj, denote, ha', hb']
      rw [if_pos (by rw [hao, hbo, hsh]), hai, hbi, hc]
    · simp only [Sem.osz, Sem.isz] at hA hB ⊢
      rw [← hsh] at hB
      exact isAdj_add _ _ _ _ _ _
        (isAdj_comp _ _ _ _ _ _ _ (isAdj_swap_gather _ _ pa ra wa).2 hA)
        (isAdj_comp _ _ _ _ _ _ _ (isAdj_swap_gather _ _ pb rb wb).2 hB)
  | diag oax iax a b iha ihb =>
    intro s hs
    obtain ⟨sa, sb, itot, ia, ib, otot, oa, ob, ha, hb, hci, hco, rfl⟩ := denote_diag_some ofRat hs
    obtain ⟨sa', ha', hao, hai, hA⟩ := iha he.1 sa ha
    obtain ⟨sb', hb', hbo, hbi, hB⟩ := ihb he.2 sb hb
    obtain ⟨⟨ria, wia⟩, ⟨rib, wib⟩⟩ := catParts_spec iax _ _ _ _ _ hci
    obtain ⟨⟨roa, woa⟩, ⟨rob, wob⟩⟩ := catParts_spec oax _ _ _ _ _ hco
    refine ⟨⟨itot, otot, compE (swapE ia) (compE sa'.E oa) ++ compE (swapE ib) (compE sb'.E ob)⟩,
      ?_, rfl, rfl, ?_⟩
    · simp only [adj, denote, ha', hb']
      rw [hai, hbi, hao, hbo, hco, hci]
    · simp only [Sem.osz, Sem.isz] at hA hB ⊢
      exact isAdj_add _ _ _ _ _ _
        (isAdj_comp3 _ _ _ _ _ _ _ _ _ _ (isAdj_swap_gather _ _ oa roa woa).2 hA
          (isAdj_swap_gather _ _ ia ria wia).1)
        (isAdj_comp3 _ _ _ _ _ _ _ _ _ _ (isAdj_swap_gather _ _ ob rob wob).2 hB
          (isAdj_swap_gather _ _ ib rib wib).1)

theorem swapE_of_diag (E : List (Ent α)) (h : ∀ e ∈ E, e.1 = e.2.1) : swapE E = E := by
  unfold swapE
  conv_rhs => rw [← List.map_id E]
  apply List.map_congr_left
  intro e he
  have := h e he
  obtain ⟨a, b, c⟩ := e
  simp only at this
  subst this
  rfl

theorem inRangeE_swapE (n m : Nat) (E : List (Ent α)) :
    inRangeE m n (swapE E) = swapE (inRangeE n m E) := by
  unfold inRangeE swapE
  rw [List.filter_map]
  congr 1
  apply List.filter_congr
  intro e _
  simp only [Bool.decide_and]
  exact Bool.and_comm _ _

theorem idE_spec (n : Nat) : (∀ e ∈ (idE n : List (Ent α)), e.1 = e.2.1) ∧ ∀ e ∈ (idE n : List (Ent α)), e.2.2 = 1 := by
  unfold idE
  constructor <;> intro e he <;> obtain ⟨k, _, rfl⟩ := List.mem_map.mp he <;> rfl

/-- a clipped identity matrix is its own adjoint -/
theorem idE_isAdj (n m k : Nat) : IsAdj n m (inRangeE n m (idE k : List (Ent α))) (inRangeE m n (idE k)) := by
  have hw : ∀ e ∈ inRangeE n m (idE k : List (Ent α)), e.2.2 = 1 :=
    inRangeE_weights _ _ _ (idE_spec k).2
  have h := (isAdj_swap_gather n m _ (inRangeE_inRange n m (idE k : List (Ent α))) hw).1
  rwa [← inRangeE_swapE, swapE_of_diag _ (idE_spec k).1] at h

/-- template for the classes whose `_adjoint_linop` returns a single operator `l'` -/
theorem adjOK_of_isAdj (l l' : Leaf α) (hadj : adjLeaf star l = .leaf l')
    (h : ∀ s, leafSem0 star ofRat l = some s → ∃ s', leafSem0 star ofRat l' = some s' ∧
      s'.osh = s.ish ∧ s'.ish = s.osh ∧
      IsAdj s.osz s.isz (inRangeE s.osz s.isz s.E) (inRangeE s.isz s.osz s'.E)) :
    AdjOK ofRat (.leaf l) := by
  intro s hs
  obtain ⟨s0, h0, rfl⟩ := denote_leaf_some ofRat hs
  obtain ⟨s0', h0', ho, hi, hA⟩ := h s0 h0
  refine ⟨Sem.clip s0', ?_, ho, hi, ?_⟩
  · simp only [adj, hadj, denote, leafSem, h0', Option.map_some]
  · simp only [Sem.clip, Sem.osz, Sem.isz] at hA ⊢
    rw [ho, hi]
    exact hA

/-- `Identity.H = Identity` is the true adjoint -/
theorem identity_leaf_adjoint (sh : List Int) : AdjOK ofRat (.leaf (.identity sh : Leaf α)) := by
  refine adjOK_of_isAdj ofRat _ (.identity sh) rfl fun s hs => ?_
  obtain rfl := Option.some.inj hs
  exact ⟨_, rfl, rfl, rfl, idE_isAdj _ _ _⟩

/-- `Reshape(o, i).H = Reshape(i, o)` is the true adjoint (row-major flat index is unchanged) -/
theorem reshape_leaf_adjoint (osh ish : List Int) : AdjOK ofRat (.leaf (.reshape osh ish : Leaf α)) := by
  refine adjOK_of_isAdj ofRat _ (.reshape ish osh) rfl fun s hs => ?_
  simp only [leafSem0] at hs ⊢
  split_ifs at hs with hp
  obtain rfl := Option.some.inj hs
  refine ⟨_, if_pos hp.symm, rfl, rfl, ?_⟩
  simp only [Sem.osz, Sem.isz, hp]
  exact idE_isAdj _ _ _

theorem sliceSem_weights {ish : List Int} {idx : List PySlice} {t : Sem α}
    (h : sliceSem ish idx = some t) : ∀ e ∈ t.E, e.2.2 = 1 := by
  unfold sliceSem at h
  cases hps : sliceParams ish idx with
  | none => simp [hps] at h
  | some ps =>
    simp only [hps, Option.bind_eq_bind, Option.bind_some, Option.pure_def, Option.some.injEq] at h
    subst h
    exact gatherE_weights _ _ _

/-- `Slice(shape, idx).H = Embed(shape, idx)` is the true adjoint, for every tuple of Python slices
    (positive and negative steps, negative / omitted bounds) -/
theorem slice_leaf_adjoint (ish : List Int) (idx : List PySlice) :
    AdjOK ofRat (.leaf (.slice ish idx : Leaf α)) := by
  refine adjOK_of_isAdj ofRat _ (.embed ish idx) rfl fun t ht => ?_
  have ht' : sliceSem ish idx = some t := ht
  refine ⟨⟨t.ish, t.osh, swapE t.E⟩, by simp only [leafSem0, ht', Option.map_some], rfl, rfl, ?_⟩
  rw [inRangeE_swapE]
  exact (isAdj_swap_gather _ _ _ (inRangeE_inRange _ _ _)
    (inRangeE_weights _ _ _ (sliceSem_weights ht'))).1

/-- `Embed(shape, idx).H = Slice(shape, idx)` -/
theorem embed_leaf_adjoint (osh : List Int) (idx : List PySlice) :
    AdjOK ofRat (.leaf (.embed osh idx : Leaf α)) := by
  refine adjOK_of_isAdj ofRat _ (.slice osh idx) rfl fun s hs => ?_
  simp only [leafSem0] at hs ⊢
  cases hsl : (sliceSem osh idx : Option (Sem α)) with
  | none => simp [hsl] at hs
  | some t =>
    simp only [hsl, Option.map_some, Option.some.injEq] at hs
    subst hs
    refine ⟨t, rfl, rfl, rfl, ?_⟩
    simp only [Sem.osz, Sem.isz]
    rw [inRangeE_swapE]
    exact (isAdj_swap_gather _ _ _ (inRangeE_inRange _ _ _)
      (inRangeE_weights _ _ _ (sliceSem_weights hsl))).2

/-- the leaf classes whose pairing is proved at the entry level in this file -/
def ProvedLeaf : Leaf α → Prop
  | .identity _ => True
  | .reshape _ _ => True
  | .slice _ _ => True
  | .embed _ _ => True
  | _ => False

/-- **Instance of `adj_denote`:** every tree built from Identity / Reshape / Slice /
    Embed leaves with Compose, Add, Conj, Hstack, Vstack, Diag (in particular every pure stacking /
    selection network) has `⟨A x, y⟩ = ⟨x, A.H y⟩` and swapped shapes. -/
theorem adj_denote_shapes (e : Expr α) (he : allLeaves ProvedLeaf e) : AdjOK ofRat e := by
  refine adj_denote ofRat ProvedLeaf ?_ e he
  intro l hl
  cases l <;> simp only [ProvedLeaf] at hl
  · exact identity_leaf_adjoint ofRat _
  · exact reshape_leaf_adjoint ofRat _ _
  · exact slice_leaf_adjoint ofRat _ _
  · exact embed_leaf_adjoint ofRat _ _

/-- one axis of `Resize`: the copy relation of `Resize(o,i,ishift,oshift)` is the transpose of the
    relation of `Resize(i,o,oshift,ishift)` (from Props/C09), which is what `Resize._adjoint_linop` builds -/
theorem resize_axis_adjoint (i o si so k j : Int) :
    C09.resizeSrc1 i o si so k = some j ↔ C09.resizeSrc1 o i so si j = some k :=
  C09.resize_transpose i o si so k j

example : allLeaves (α := α) ProvedLeaf
    (.hstack (some 0) (.leaf (.identity [2, 3])) (.comp (.leaf (.slice [4, 3] [⟨some 1, some 3, none⟩])) (.leaf (.identity [4, 3])))) := by
  simp [allLeaves, ProvedLeaf]

end
end SigpyVerif.C01
