import SigpyVerif.Gen.Prox
import SigpyVerif.Lemmas.C11
import Mathlib.Analysis.InnerProductSpace.PiL2
import Mathlib.Analysis.Complex.Norm
/-
  C11 — every proximal operator returns the exact minimiser.

  `IsProxOn C F y p` (Lemmas/C11.lean) is "p = argmin_{x∈C} ½‖x-y‖² + F x" in the strong form
  `∀ x∈C, F p + ½‖p-y‖² + ½‖x-p‖² ≤ F x + ½‖x-y‖²`, which yields minimality and uniqueness
  (`prox_is_minimiser`, `prox_unique`) and is equivalent to the variational inequality
  (`prox_iff_variational`).  `IsProjOn C y p` is the case `F = 0` (projection).

  The scalar formulas are the definitions `Gen.Prox.*` that the translator regenerates from
  sigpy/prox.py and sigpy/thresh.py on every run; vectors are `ℓ²` tuples `PiLp 2 (fun _ : ι => ℝ)`
  (`‖x‖² = Σ |x i|²`, exactly `½‖x-y‖²` of a flattened numpy array), complex scalars are `ℂ`.
  Trusted, and only validated by the correspondence check: that numpy's elementwise evaluation and `norm`
  compute these formulas (Model/C11.lean executes them over ℚ and is compared with the real classes).
  The list code of `l1_proj` (sort under `SortContract`, cumsum, flatnonzero) is in `Props/C11L1Body.lean`,
  `Stack`'s split / vec in `Props/C11Stack.lean`, Duchi's index search in `Props/C11Duchi.lean`, `psd_proj` in
  `Props/C11Psd.lean` (numpy's `eigh` as a parameter under its spectral contract).
-/
namespace SigpyVerif.C11
open SigpyVerif.Gen.Prox InnerProductSpace

/-- real or complex vectors with the Euclidean norm (a flattened numpy array) -/
abbrev Vec (ι : Type) (𝕂 : Type) [Fintype ι] := PiLp 2 (fun _ : ι => 𝕂)
/-- build a vector from its entries -/
abbrev vec {ι 𝕂 : Type} [Fintype ι] (f : ι → 𝕂) : Vec ι 𝕂 := WithLp.toLp 2 f

theorem prox_is_minimiser {E : Type*} [NormedAddCommGroup E] {C : Set E} {F : E → ℝ} {y p : E}
    (h : IsProxOn C F y p) : ∀ x ∈ C, F p + ‖p - y‖ ^ 2 / 2 ≤ F x + ‖x - y‖ ^ 2 / 2 :=
  fun _ hx => h.le hx

theorem prox_unique {E : Type*} [NormedAddCommGroup E] {C : Set E} {F : E → ℝ} {y p : E}
    (h : IsProxOn C F y p) : ∀ x ∈ C, F x + ‖x - y‖ ^ 2 / 2 ≤ F p + ‖p - y‖ ^ 2 / 2 → x = p :=
  fun _ hx hle => h.unique hx hle

/-- the strong inequality is the usual variational characterisation; for projections:
    `p ∈ C ∧ ∀ q ∈ C, ⟪y - p, q - p⟫ ≤ 0`. -/
theorem prox_iff_variational {E : Type*} [NormedAddCommGroup E] [InnerProductSpace ℝ E] {C : Set E}
    {F : E → ℝ} {y p : E} : IsProxOn C F y p ↔ p ∈ C ∧ ∀ x ∈ C, F p + ⟪y - p, x - p⟫_ℝ ≤ F x :=
  isProxOn_iff_subgrad

/-- projections return a feasible input unchanged -/
theorem proj_feasible_fixed {E : Type*} [NormedAddCommGroup E] {C : Set E} {y p : E}
    (h : IsProjOn C y p) (hy : y ∈ C) : p = y := h.fixed_of_feasible hy

theorem proj_idempotent {E : Type*} [NormedAddCommGroup E] {C : Set E} {y p q : E}
    (h : IsProjOn C y p) (h' : IsProjOn C p q) : q = p := h.idempotent h'

/-! ### soft threshold (`thresh._soft_thresh`, `L1Reg`) -/

theorem gabs_eq_abs (x : ℝ) : gabs x = |x| := by
  unfold gabs; split_ifs with h
  · rw [abs_of_neg h]
  · rw [abs_of_nonneg (not_lt.mp h)]

/-- the generated kernel formula with `abs_input = ‖y‖`, applied to one real component `c` of `y`,
    is the component of the block soft threshold: `(‖y‖-λ)₊ · c/‖y‖`. -/
theorem softThresh_component (lam c n : ℝ) (h0 : n = 0 → c = 0) :
    softThresh lam c n = if n ≤ lam then 0 else (1 - lam / n) * c := by
  unfold softThresh
  rw [gabs_eq_abs]
  simp only [Nat.cast_ofNat]
  split_ifs with h1 h2 h2
  · simp
  · simp [h0 h1]
  · rw [abs_of_nonpos (by linarith)]; ring
  · rw [not_le] at h2
    rw [abs_of_pos (by linarith)]
    have : n ≠ 0 := h1
    field_simp; ring

/-- real scalar: the kernel is the block soft threshold of `ℝ` -/
theorem softThresh_real (lam y : ℝ) : softThresh lam y |y| = blockSoft lam y := by
  rw [softThresh_component lam y |y| (fun h => abs_eq_zero.mp h)]
  unfold blockSoft; simp only [Real.norm_eq_abs, smul_eq_mul]

/-- complex scalar `z` (the numba kernel computes `mag * (z / |z|)`, i.e. the formula on both components) -/
noncomputable def csoft (lam : ℝ) (z : ℂ) : ℂ := ⟨softThresh lam z.re ‖z‖, softThresh lam z.im ‖z‖⟩

theorem csoft_eq (lam : ℝ) (z : ℂ) : csoft lam z = blockSoft lam z := by
  have h0 : ‖z‖ = 0 → z = 0 := fun h => norm_eq_zero.mp h
  unfold csoft
  rw [softThresh_component lam z.re ‖z‖ (fun h => by rw [h0 h]; rfl),
    softThresh_component lam z.im ‖z‖ (fun h => by rw [h0 h]; rfl)]
  unfold blockSoft
  split_ifs with h
  · rfl
  · apply Complex.ext <;> simp

/-- **`soft_thresh` is the prox of `λ|·|` (real scalar).** -/
theorem soft_thresh_prox_real {lam : ℝ} (hl : 0 ≤ lam) (y : ℝ) :
    IsProxOn Set.univ (fun x : ℝ => lam * |x|) y (softThresh lam y |y|) := by
  rw [softThresh_real]
  exact (norm_prox hl y).congr rfl (fun x => by simp [Real.norm_eq_abs])

/-- **`soft_thresh` is the prox of `λ|·|` (complex scalar: modulus shrinks, phase is kept).** -/
theorem soft_thresh_prox_complex {lam : ℝ} (hl : 0 ≤ lam) (z : ℂ) :
    IsProxOn Set.univ (fun x : ℂ => lam * ‖x‖) z (csoft lam z) := by
  rw [csoft_eq]; exact norm_prox hl z

/-- the modulus of the result is `(|y| - λ)₊` -/
theorem soft_thresh_abs {lam : ℝ} (hl : 0 ≤ lam) (y : ℝ) : abs (softThresh lam y |y|) = max (|y| - lam) 0 := by
  rw [softThresh_real, ← Real.norm_eq_abs, norm_blockSoft hl, Real.norm_eq_abs]

theorem csoft_norm {lam : ℝ} (hl : 0 ≤ lam) (z : ℂ) : ‖csoft lam z‖ = max (‖z‖ - lam) 0 := by
  rw [csoft_eq, norm_blockSoft hl]

variable {ι : Type} [Fintype ι]

theorem weighted_l1_prox {E : Type} [NormedAddCommGroup E] [InnerProductSpace ℝ E] {w : ι → ℝ} (hw : ∀ i, 0 ≤ w i)
    (y : Vec ι E) :
    IsProxOn Set.univ (fun x : Vec ι E => ∑ i, w i * ‖x i‖) y (vec fun i => blockSoft (w i) (y i)) :=
  (isProxOn_pi (C := fun _ => Set.univ) y _ fun i => norm_prox (hw i) (y i)).congr
    (Set.eq_univ_of_forall fun _ _ => Set.mem_univ _).symm fun _ => rfl

theorem l1reg_blockSoft {E : Type} [NormedAddCommGroup E] [InnerProductSpace ℝ E] {lamda : ι → ℝ} {α : ℝ}
    (hl : ∀ i, 0 ≤ lamda i) (hα : 0 < α) (y : Vec ι E) :
    IsProxOn Set.univ (fun x : Vec ι E => α * ∑ i, lamda i * ‖x i‖) y
      (vec fun i => blockSoft (l1regLam (lamda i) α) (y i)) := by
  refine (weighted_l1_prox (w := fun i => l1regLam (lamda i) α) (fun i => ?_) y).congr rfl fun x => ?_
  · unfold l1regLam; have := hl i; positivity
  · unfold l1regLam
    rw [Finset.mul_sum]
    exact Finset.sum_congr rfl fun i _ => by ring

/-- **`L1Reg(shape, λ)(α, y)`** `= soft_thresh(λ·α, y)` is the minimiser of `½‖x-y‖² + α·λ‖x‖₁`
    (real arrays).  The threshold is the generated `l1regLam λ α`. -/
theorem l1reg_prox_real {lamda α : ℝ} (hl : 0 ≤ lamda) (hα : 0 < α) (y : Vec ι ℝ) :
    IsProxOn Set.univ (fun x : Vec ι ℝ => α * (lamda * ∑ i, |x i|)) y
      (vec fun i => softThresh (l1regLam lamda α) (y i) |y i|) := by
  simp only [softThresh_real]
  exact (l1reg_blockSoft (fun _ => hl) hα y).congr rfl fun x => by rw [Finset.mul_sum]; rfl

theorem l1reg_prox_complex {lamda α : ℝ} (hl : 0 ≤ lamda) (hα : 0 < α) (y : Vec ι ℂ) :
    IsProxOn Set.univ (fun x : Vec ι ℂ => α * (lamda * ∑ i, ‖x i‖)) y
      (vec fun i => csoft (l1regLam lamda α) (y i)) := by
  simp only [csoft_eq]
  exact (l1reg_blockSoft (fun _ => hl) hα y).congr rfl fun x => by rw [Finset.mul_sum]

/-! ### box constraint (`BoxConstraint`: `xp.clip(input, lower, upper)`) -/

theorem gclip_eq (a lo hi : ℝ) : gclip a lo hi = min (max a lo) hi := by
  have h1 : gmax a lo = max a lo := by
    unfold gmax; split_ifs with h
    · exact (max_eq_right h.le).symm
    · exact (max_eq_left (not_lt.mp h)).symm
  have h2 : ∀ b, gmin b hi = min b hi := by
    intro b; unfold gmin; split_ifs with h
    · exact (min_eq_right h.le).symm
    · exact (min_eq_left (not_lt.mp h)).symm
  unfold gclip; rw [h1, h2]

theorem clamp_proj {lo hi : ℝ} (h : lo ≤ hi) (y : ℝ) : IsProjOn (Set.Icc lo hi) y (min (max y lo) hi) := by
  rw [isProjOn_iff]
  refine ⟨⟨le_min (le_max_right _ _) h, min_le_right _ _⟩, fun x hx => ?_⟩
  simp only [RCLike.inner_apply, conj_trivial]
  rcases le_total y lo with c1 | c1
  · rw [max_eq_right c1, min_eq_left h]
    exact mul_nonpos_of_nonneg_of_nonpos (sub_nonneg.mpr hx.1) (sub_nonpos.mpr c1)
  · rw [max_eq_left c1]
    rcases le_total y hi with c2 | c2
    · rw [min_eq_left c2, sub_self, mul_zero]
    · rw [min_eq_right c2]
      exact mul_nonpos_of_nonpos_of_nonneg (sub_nonpos.mpr hx.2) (sub_nonneg.mpr c2)

/-- **clip is the projection onto `[lo, hi]`** (scalar) -/
theorem box_proj_scalar {lo hi : ℝ} (h : lo ≤ hi) (y : ℝ) : IsProjOn (Set.Icc lo hi) y (boxOut y lo hi) := by
  unfold boxOut; rw [gclip_eq]
  exact clamp_proj h y

/-- **`BoxConstraint(shape, lower, upper)(α, y)`** with scalar or per-entry bounds is the nearest point
    of the box. -/
theorem box_proj {lo hi : ι → ℝ} (h : ∀ i, lo i ≤ hi i) (y : Vec ι ℝ) :
    IsProjOn {x : Vec ι ℝ | ∀ i, lo i ≤ x i ∧ x i ≤ hi i} y (vec fun i => boxOut (y i) (lo i) (hi i)) :=
  isProjOn_pi (C := fun i => Set.Icc (lo i) (hi i)) y _ fun i => box_proj_scalar (h i) (y i)

/-! ### l2 ball (`thresh.l2_proj`, `L2Proj`) -/

/-- the generated entry formula `mask*y + (1-mask)*(ε*y/(norm+mask))` -/
theorem l2projOut_eq (ε c n : ℝ) : l2projOut ε c n = if n < ε then c else ε / n * c := by
  unfold l2projOut
  split_ifs with h
  · simp
  · simp; ring

/-- **`l2_proj(ε, y)`** is the projection onto `{‖x‖₂ ≤ ε}`, including the boundary `‖y‖ = ε`. -/
theorem l2_proj_prox {ε : ℝ} (hε : 0 ≤ ε) (y : Vec ι ℝ) :
    IsProjOn {x : Vec ι ℝ | ‖x‖ ≤ ε} y (vec fun i => l2projOut ε (y i) ‖y‖) := by
  have e : (vec fun i => l2projOut ε (y i) ‖y‖) = if ‖y‖ < ε then y else (ε / ‖y‖) • y := by
    ext i
    simp only [l2projOut_eq]
    split_ifs <;> simp
  rw [e]; exact l2_ball_proj hε y

/-- complex arrays: the formula acts on real and imaginary parts with `norm = ‖y‖` -/
theorem l2_proj_prox_complex {ε : ℝ} (hε : 0 ≤ ε) (y : Vec ι ℂ) :
    IsProjOn {x : Vec ι ℂ | ‖x‖ ≤ ε} y
      (vec fun i => (⟨l2projOut ε (y i).re ‖y‖, l2projOut ε (y i).im ‖y‖⟩ : ℂ)) := by
  have e : (vec fun i => (⟨l2projOut ε (y i).re ‖y‖, l2projOut ε (y i).im ‖y‖⟩ : ℂ))
      = if ‖y‖ < ε then y else (ε / ‖y‖) • y := by
    ext i
    simp only [l2projOut_eq]
    split_ifs <;> apply Complex.ext <;> simp
  rw [e]; exact l2_ball_proj hε y

/-- **`L2Proj(shape, ε, y=b)`**: `l2_proj(ε, input - b) + b` is the projection onto the ball around `b`. -/
theorem l2proj_bias_prox {ε : ℝ} (hε : 0 ≤ ε) (y b : Vec ι ℝ) :
    IsProjOn {x : Vec ι ℝ | ‖x - b‖ ≤ ε} y
      (vec fun i => l2projBiasOut (b i)
        (l2projOut ε (l2projArgIn (y i) (b i)) ‖vec fun j => l2projArgIn (y j) (b j)‖)) := by
  have e1 : (vec fun j => l2projArgIn (y j) (b j)) = y - b := by ext j; simp [l2projArgIn]
  rw [e1]
  have e2 : (vec fun i => l2projBiasOut (b i) (l2projOut ε (l2projArgIn (y i) (b i)) ‖y - b‖))
      = (vec fun i => l2projOut ε ((y - b) i) ‖y - b‖) + b := by
    ext i; simp [l2projBiasOut, l2projArgIn]
  rw [e2]
  exact (l2_proj_prox hε (y - b)).add_bias

/-- projecting every block of a tuple onto its ball is the projection onto the product of balls (the fact behind
    `L2Proj(axes=…)`; the generated entry formula on the slices of an array is `l2_proj_axes_generated`,
    Props/C11More). -/
theorem l2_proj_axes {κ : Type} [Fintype κ] {E : Type} [NormedAddCommGroup E] [InnerProductSpace ℝ E]
    {ε : ℝ} (hε : 0 ≤ ε) (y : PiLp 2 (fun _ : κ => E)) :
    IsProjOn {x : PiLp 2 (fun _ : κ => E) | ∀ k, ‖x k‖ ≤ ε} y
      (WithLp.toLp 2 fun k => if ‖y k‖ < ε then y k else (ε / ‖y k‖) • y k) :=
  isProjOn_pi (C := fun _ => {x | ‖x‖ ≤ ε}) y _ fun k => l2_ball_proj hε (y k)

/-! ### l∞ ball (`thresh.linf_proj`, `LInfProj`): `y - soft(ε, y)` -/

/-- real entry: `linf_proj` is the clamp to `[-ε, ε]` -/
theorem linf_eq_clamp {ε : ℝ} (hε : 0 ≤ ε) (y : ℝ) :
    linfProjOut y (softThresh (linfProjArgLam ε) (linfProjArgIn y) |linfProjArgIn y|) = gclip y (-ε) ε := by
  unfold linfProjOut linfProjArgLam linfProjArgIn
  rw [softThresh_real, gclip_eq]
  -- both sides are the projection of `y` onto `[-ε, ε] = {|x| ≤ ε}`
  exact (clamp_proj (neg_le_self hε) y).eq
    ((sub_blockSoft_proj hε y).congr (Set.ext fun _ => abs_le.symm) fun _ => rfl)

/-- **`linf_proj(ε, y)`** (real arrays) is the projection onto `{‖x‖∞ ≤ ε}`. -/
theorem linf_proj_prox_real {ε : ℝ} (hε : 0 ≤ ε) (y : Vec ι ℝ) :
    IsProjOn {x : Vec ι ℝ | ∀ i, |x i| ≤ ε} y
      (vec fun i => linfProjOut (y i) (softThresh (linfProjArgLam ε) (linfProjArgIn (y i)) |linfProjArgIn (y i)|)) := by
  refine isProjOn_pi (C := fun _ => {x | ‖x‖ ≤ ε}) y _ fun i => ?_
  dsimp only
  unfold linfProjOut linfProjArgLam linfProjArgIn
  rw [softThresh_real]; exact sub_blockSoft_proj hε (y i)

/-- **`linf_proj(ε, y)`** (complex arrays): every entry's modulus is clamped to `ε`, the phase is kept;
    this is the projection onto `{max_i |x i| ≤ ε}`. -/
theorem linf_proj_prox_complex {ε : ℝ} (hε : 0 ≤ ε) (y : Vec ι ℂ) :
    IsProjOn {x : Vec ι ℂ | ∀ i, ‖x i‖ ≤ ε} y (vec fun i => y i - csoft ε (y i)) := by
  refine isProjOn_pi (C := fun _ => {x | ‖x‖ ≤ ε}) y _ fun i => ?_
  dsimp only
  rw [csoft_eq]; exact sub_blockSoft_proj hε (y i)

/-- modulus clamp: `|y - soft(ε,y)| = min(|y|, ε)` with the phase of `y` -/
theorem linf_complex_eq_clamp (ε : ℝ) (z : ℂ) :
    z - csoft ε z = if ‖z‖ < ε then z else ((ε / ‖z‖ : ℝ) : ℂ) * z := by
  rw [csoft_eq, sub_blockSoft_eq]
  split_ifs
  · rfl
  · rw [Complex.real_smul]

set_option linter.unusedTactic false in
set_option linter.unreachableTactic false in
/-- **`LInfProj(bias=b)`**: `(input - b) - soft(ε, input - b) + b` is the projection onto the l∞ ball around `b`. -/
theorem linf_bias_prox_real {ε : ℝ} (hε : 0 ≤ ε) (y b : Vec ι ℝ) :
    IsProjOn {x : Vec ι ℝ | ∀ i, |x i - b i| ≤ ε} y
      (vec fun i => linfProjBiasOut (y i) (b i)
        (softThresh (linfProjBiasArgLam ε) (linfProjBiasArgIn (y i) (b i)) |linfProjBiasArgIn (y i) (b i)|)) := by
  have e : (vec fun i => linfProjBiasOut (y i) (b i)
        (softThresh (linfProjBiasArgLam ε) (linfProjBiasArgIn (y i) (b i)) |linfProjBiasArgIn (y i) (b i)|))
      = (vec fun i => linfProjOut ((y - b) i)
          (softThresh (linfProjArgLam ε) (linfProjArgIn ((y - b) i)) |linfProjArgIn ((y - b) i)|)) + b := by
    -- robust to the order in which the bias is added back (`output + bias` / `bias + output`)
    ext i; simp [linfProjBiasOut, linfProjBiasArgIn, linfProjBiasArgLam, linfProjOut, linfProjArgIn, linfProjArgLam] <;> ring
  rw [e]
  exact (linf_proj_prox_real hε (y - b)).add_bias

/-- **`L2Reg(shape, λ, y=z, proxh=h)`**: the code calls `proxh(α/(1+λα), (input + λα z)/(1+λα))`
    (generated `l2regBiasArgAlpha`, `l2regBiasArgIn`).  If that inner call returns the minimiser for
    its step and point, the result is the minimiser of `½‖x-y‖² + α(λ/2‖x-z‖² + h x)`. -/
theorem l2reg_proxh {C : Set (Vec ι ℝ)} {h : Vec ι ℝ → ℝ} {α lamda : ℝ} (hα : 0 < α) (hl : 0 ≤ lamda)
    (y z p : Vec ι ℝ)
    (hp : IsProxOn C (fun x => l2regBiasArgAlpha lamda α * h x)
      (vec fun i => l2regBiasArgIn lamda α (y i) (z i)) p) :
    IsProxOn C (fun x => α * (lamda / 2 * ‖x - z‖ ^ 2 + h x)) y p := by
  apply l2reg_prox hα hl y z p
  have e : (vec fun i => l2regBiasArgIn lamda α (y i) (z i)) = (1 + lamda * α)⁻¹ • (y + (lamda * α) • z) := by
    ext i; simp [l2regBiasArgIn]; ring
  rw [← e]; exact hp

/-- without bias (`y=None`): `z = 0` -/
theorem l2reg_proxh_nobias {C : Set (Vec ι ℝ)} {h : Vec ι ℝ → ℝ} {α lamda : ℝ} (hα : 0 < α) (hl : 0 ≤ lamda)
    (y p : Vec ι ℝ)
    (hp : IsProxOn C (fun x => l2regArgAlpha lamda α * h x) (vec fun i => l2regArgIn lamda α (y i)) p) :
    IsProxOn C (fun x => α * (lamda / 2 * ‖x‖ ^ 2 + h x)) y p := by
  have := l2reg_prox (h := h) hα hl y 0 p (by
    have e : (vec fun i => l2regArgIn lamda α (y i)) = (1 + lamda * α)⁻¹ • (y + (lamda * α) • (0 : Vec ι ℝ)) := by
      ext i; simp [l2regArgIn]; ring
    rw [← e]; exact hp)
  exact this.congr rfl fun x => by rw [sub_zero]

/-- **`L2Reg(shape, λ, y=z)`** without `proxh`: `(input + λα z)/(1+λα)` minimises `½‖x-y‖² + αλ/2‖x-z‖²`. -/
theorem l2reg_prox_bias {α lamda : ℝ} (hα : 0 < α) (hl : 0 ≤ lamda) (y z : Vec ι ℝ) :
    IsProxOn Set.univ (fun x : Vec ι ℝ => α * (lamda / 2 * ‖x - z‖ ^ 2)) y
      (vec fun i => l2regBiasOut lamda α (y i) (z i)) := by
  have e : (vec fun i => l2regBiasOut lamda α (y i) (z i)) = (1 + lamda * α)⁻¹ • (y + (lamda * α) • z) := by
    ext i; simp [l2regBiasOut]; ring
  have := l2reg_prox (C := Set.univ) (h := fun _ => (0 : ℝ)) hα hl y z _
    ((isProjOn_self (Set.mem_univ ((1 + lamda * α)⁻¹ • (y + (lamda * α) • z)))).congr rfl fun _ => mul_zero _)
  rw [e]
  exact this.congr rfl fun x => by simp only [add_zero]

/-- **`L2Reg(shape, λ)`**: `input/(1+λα)` minimises `½‖x-y‖² + αλ/2‖x‖²`. -/
theorem l2reg_prox_plain {α lamda : ℝ} (hα : 0 < α) (hl : 0 ≤ lamda) (y : Vec ι ℝ) :
    IsProxOn Set.univ (fun x : Vec ι ℝ => α * (lamda / 2 * ‖x‖ ^ 2)) y (vec fun i => l2regOut lamda α (y i)) := by
  have e : (vec fun i => l2regOut lamda α (y i)) = vec fun i => l2regBiasOut lamda α (y i) ((0 : Vec ι ℝ) i) := by
    ext i; simp [l2regOut, l2regBiasOut]
  rw [e]
  exact (l2reg_prox_bias hα hl y 0).congr rfl fun x => by rw [sub_zero]

set_option linter.unusedTactic false in
set_option linter.unreachableTactic false in
/-- **`Conj(P)(α, x) = x - α·P(1/α, x/α)`** (generated `conjArgAlpha`, `conjArgIn`, `conjOut`): if the inner
    call returns `prox_{g/α}(x/α)` then the result is `prox_{α g*}(x)`, `g*` the Fenchel conjugate of
    `g` (`IsConjOn`; extended-valued: `g* = gs` on `D`, `+∞` outside). -/
theorem conj_moreau {C D : Set (Vec ι ℝ)} {g gs : Vec ι ℝ → ℝ} (hc : IsConjOn C g D gs) {α : ℝ} (hα : 0 < α)
    (x p : Vec ι ℝ)
    (hp : IsProxOn C (fun u => conjArgAlpha α * g u) (vec fun i => conjArgIn α (x i)) p) :
    IsProxOn D (fun q => α * gs q) x (vec fun i => conjOut α (x i) (p i)) := by
  have e1 : (vec fun i => conjArgIn α (x i)) = (1 / α) • x := by
    ext i; simp [conjArgIn]; ring
  have e2 : (vec fun i => conjOut α (x i) (p i)) = x - α • p := by
    ext i; simp [conjOut] <;> ring   -- `alpha * inner` / `inner * alpha`
  rw [e2]
  apply moreau hc hα x p
  rw [← e1]; exact hp

/-- the abstract identity in any real inner product space (complex arrays, matrices, stacked vectors) -/
theorem conj_moreau_abstract {E : Type*} [NormedAddCommGroup E] [InnerProductSpace ℝ E]
    {C D : Set E} {g gs : E → ℝ} (hc : IsConjOn C g D gs) {α : ℝ} (hα : 0 < α) (x p : E)
    (hp : IsProxOn C (fun u => (1 / α) * g u) ((1 / α) • x) p) :
    IsProxOn D (fun q => α * gs q) x (x - α • p) := moreau hc hα x p hp

/-- **`Stack([P₁, P₂])`**: the concatenation of the two minimisers minimises the separable sum. -/
theorem stack_separable₂ {E₁ E₂ : Type*} [NormedAddCommGroup E₁] [NormedAddCommGroup E₂]
    {C₁ : Set E₁} {C₂ : Set E₂} {F₁ : E₁ → ℝ} {F₂ : E₂ → ℝ} (y p : WithLp 2 (E₁ × E₂))
    (h1 : IsProxOn C₁ F₁ y.fst p.fst) (h2 : IsProxOn C₂ F₂ y.snd p.snd) :
    IsProxOn {x : WithLp 2 (E₁ × E₂) | x.fst ∈ C₁ ∧ x.snd ∈ C₂} (fun x => F₁ x.fst + F₂ x.snd) y p :=
  isProxOn_prod y p h1 h2

/-- **`Stack(proxs)`**, any number of blocks (also: every elementwise prox). -/
theorem stack_separable {κ : Type*} [Fintype κ] {β : κ → Type*} [∀ k, NormedAddCommGroup (β k)]
    {C : ∀ k, Set (β k)} {F : ∀ k, β k → ℝ} (y p : PiLp 2 β) (h : ∀ k, IsProxOn (C k) (F k) (y k) (p k)) :
    IsProxOn {x : PiLp 2 β | ∀ k, x k ∈ C k} (fun x => ∑ k, F k (x k)) y p :=
  isProxOn_pi y p h

/-- **`UnitaryTransform(P, A)(α, y) = Aᴴ P(α, A y)`** (generated `unitaryProx`): for `A` unitary
    (`AᴴA = AAᴴ = I`) and `P(α, ·)` the prox of `α g`, the result is the prox of `α g∘A`. -/
theorem unitary_transform_prox {E F' : Type} [NormedAddCommGroup E] [InnerProductSpace ℝ E]
    [NormedAddCommGroup F'] [InnerProductSpace ℝ F']
    (A : E →ₗ[ℝ] F') (AH : F' →ₗ[ℝ] E) (hadj : ∀ u v, ⟪A u, v⟫_ℝ = ⟪u, AH v⟫_ℝ)
    (hAHA : ∀ u, AH (A u) = u) (hAAH : ∀ v, A (AH v) = v)
    {C : Set F'} {g : F' → ℝ} (P : ℝ → F' → F') (hP : ∀ a, 0 < a → ∀ u, IsProxOn C (fun x => a * g x) u (P a u))
    {α : ℝ} (hα : 0 < α) (y : E) :
    IsProxOn {x | A x ∈ C} (fun x => α * g (A x)) y (unitaryProx A AH P α y) :=
  unitary_transform A AH hadj hAHA hAAH y (P α (A y)) (hP α hα (A y))

/-! ### l1 ball (`thresh.l1_proj`, `L1Proj`): KKT certificate -/

/-- KKT for the l1-ball projection: the prox of `θ‖·‖₁` sits on the level set `‖·‖₁ = ε` -/
theorem l1_proj_kkt {E : Type} [NormedAddCommGroup E] [InnerProductSpace ℝ E] {θ ε : ℝ} (hθ : 0 ≤ θ) (y : Vec ι E)
    (hsum : ∑ i, max (‖y i‖ - θ) 0 = ε) :
    IsProjOn {x : Vec ι E | ∑ i, ‖x i‖ ≤ ε} y (vec fun i => blockSoft θ (y i)) := by
  apply proj_of_prox_on_level (N := fun x : Vec ι E => ∑ i, ‖x i‖) hθ
    ((weighted_l1_prox (fun _ => hθ) y).congr rfl fun x => by rw [Finset.mul_sum])
  rw [← hsum]
  exact Finset.sum_congr rfl fun i _ => norm_blockSoft hθ (y i)

/-- **KKT for the l1-ball projection** (real arrays): if `θ ≥ 0` and `Σ (|y i| - θ)₊ = ε` then
    `soft_thresh(θ, y)` is the projection of `y` onto `{‖x‖₁ ≤ ε}`.  (Duchi's sort/cumsum search
    returns such a `θ`: `duchi_theta` / `l1_proj_duchi_real` in `Props/C11Duchi.lean`.) -/
theorem l1_proj_kkt_real {θ ε : ℝ} (hθ : 0 ≤ θ) (y : Vec ι ℝ) (hsum : ∑ i, max (|y i| - θ) 0 = ε) :
    IsProjOn {x : Vec ι ℝ | ∑ i, |x i| ≤ ε} y (vec fun i => softThresh θ (y i) |y i|) := by
  simp only [softThresh_real]
  exact l1_proj_kkt hθ y hsum

theorem l1_proj_kkt_complex {θ ε : ℝ} (hθ : 0 ≤ θ) (y : Vec ι ℂ) (hsum : ∑ i, max (‖y i‖ - θ) 0 = ε) :
    IsProjOn {x : Vec ι ℂ | ∑ i, ‖x i‖ ≤ ε} y (vec fun i => csoft θ (y i)) := by
  simp only [csoft_eq]
  exact l1_proj_kkt hθ y hsum

/-- a feasible `y` (the early-return path `‖y‖₁ < ε`) is its own projection -/
theorem l1_proj_feasible {ε : ℝ} (y : Vec ι ℝ) (h : ∑ i, |y i| ≤ ε) :
    IsProjOn {x : Vec ι ℝ | ∑ i, |x i| ≤ ε} y y := isProjOn_self h

/-! ### hard threshold (`thresh._hard_thresh`; not wrapped by a Prox class) -/

/-- `hard_thresh(λ, y)` is *a* global minimiser of the (non-convex) `½(x-y)² + (λ²/2)·[x ≠ 0]`
    (at `|y| = λ` both `0` and `y` are minimisers; the code returns `0`). -/
theorem hard_thresh_minimiser {lam : ℝ} (hl : 0 ≤ lam) (y x : ℝ) :
    (hardThresh lam y |y| - y) ^ 2 / 2 + lam ^ 2 / 2 * (if hardThresh lam y |y| = 0 then 0 else 1)
      ≤ (x - y) ^ 2 / 2 + lam ^ 2 / 2 * (if x = 0 then 0 else 1) := by
  -- a non-zero `x` pays at least `λ²/2`, `x = 0` pays `y²/2`; the kernel picks the smaller of the two
  have hx : min (y ^ 2) (lam ^ 2) / 2 ≤ (x - y) ^ 2 / 2 + lam ^ 2 / 2 * (if x = 0 then 0 else 1) := by
    split_ifs with hx
    · rw [hx, zero_sub, neg_sq, mul_zero, add_zero]
      exact div_le_div_of_nonneg_right (min_le_left _ _) zero_le_two
    · rw [mul_one]
      exact (div_le_div_of_nonneg_right (min_le_right _ _) zero_le_two).trans (le_add_of_nonneg_left (by positivity))
  refine le_trans (le_of_eq ?_) hx
  unfold hardThresh
  by_cases h1 : |y| > lam
  · have hy : y ≠ 0 := fun h0 => by rw [h0, abs_zero] at h1; linarith
    rw [if_pos h1, if_neg hy, sub_self, min_eq_right (by rw [← sq_abs y]; exact pow_le_pow_left₀ hl h1.le 2)]
    ring
  · rw [if_neg h1, if_pos rfl,
      min_eq_left (by rw [← sq_abs y]; exact pow_le_pow_left₀ (abs_nonneg y) (not_lt.mp h1) 2)]
    ring

example {E : Type*} [NormedAddCommGroup E] [InnerProductSpace ℝ E] :
    IsConjOn (Set.univ : Set E) (fun x => ‖x‖ ^ 2 / 2) Set.univ (fun q => ‖q‖ ^ 2 / 2) := isConjOn_half_sq

example : IsProxOn Set.univ (fun x : ℝ => 1 * |x|) 3 (softThresh 1 3 |3|) := soft_thresh_prox_real zero_le_one 3
example : softThresh (1 : ℝ) 3 |3| = 2 := by
  rw [softThresh_component 1 3 |3| (by norm_num)]; norm_num
example : boxOut (5 : ℝ) 0 2 = 2 := by unfold boxOut; rw [gclip_eq]; norm_num
example : l2projOut (1 : ℝ) 3 5 = 3 / 5 := by rw [l2projOut_eq]; norm_num

end SigpyVerif.C11
