import SigpyVerif.Props.C06
import SigpyVerif.Lemmas.C06Nd
/-
  C06 in two dimensions: `nufft_adjoint` is exactly the adjoint of `nufft` on images `N₁ × N₂`, oversampled grid
  `L₁ × L₂`, `M` points — every stage fact discharged, the per-axis facts composed.  FFT / IFFT over both axes are
  DEFINED as the Kronecker product of C05's per-axis centred DFT matrices (not derived from C05's multi-axis model).
  Remaining assumptions: the apodisation weights are real and the kernel is real-valued.  The kernel enters as
  `wt : Rat → ℝ` applied to the PRODUCT rational weight of `Gen.interp2`; that this covers separable real kernels
  (Kaiser–Bessel), through the encoding `Kenc` / `tagParam`, is Props/C06Kernel.lean.
-/
namespace SigpyVerif.C06
open SigpyVerif Matrix ComplexConjugate
open scoped InnerProductSpace

section concrete2d

/-- multi-index of grid sample `(a, b)` as the kernels and `util.resize` see it: `[batch = 0, a, b]` -/
def ix2 (L1 L2 : ℕ) : Fin L1 × Fin L2 → List Int := fun p => [0, ((p.1 : ℕ) : ℤ), ((p.2 : ℕ) : ℤ)]
/-- multi-index of point `j`: `[batch = 0, j]` -/
def jx1 (M : ℕ) : Fin M → List Int := fun j => [0, ((j : ℕ) : ℤ)]

theorem ix2_inj (L1 L2 : ℕ) : Function.Injective (ix2 L1 L2) := by
  intro p q h
  simpa only [ix2, List.cons.injEq, true_and, and_true, Int.natCast_inj, ← Fin.ext_iff, ← Prod.ext_iff] using h

theorem jx1_inj (M : ℕ) : Function.Injective (jx1 M) := fun _ _ h => idx_inj h

def shape3 (a b c : ℤ) : ℤ → ℤ := fun k => if k = 0 then a else if k = 1 then b else c

noncomputable def apodLinG {ι : Type} [Fintype ι] [DecidableEq ι] (a : ι → ℝ) :
    EuclideanSpace ℂ ι →ₗ[ℂ] EuclideanSpace ℂ ι :=
  Matrix.toEuclideanLin (Matrix.diagonal fun n => ((a n : ℝ) : ℂ))

theorem apodG_selfadjoint {ι : Type} [Fintype ι] [DecidableEq ι] (a : ι → ℝ) (u v : EuclideanSpace ℂ ι) :
    ⟪apodLinG a u, v⟫_ℂ = ⟪u, apodLinG a v⟫_ℂ := by
  refine inner_toEuclideanLin_of_conjTranspose ?_ u v
  rw [Matrix.diagonal_conjTranspose]
  exact congrArg _ (funext fun n => Complex.conj_ofReal (a n))

/-- `util.resize` between `[1, i₁, i₂]` and `[1, o₁, o₂]` (C09's N-d model, default shifts) -/
noncomputable def resizeLin2 (i1 i2 o1 o2 : ℕ) :
    EuclideanSpace ℂ (Fin i1 × Fin i2) →ₗ[ℂ] EuclideanSpace ℂ (Fin o1 × Fin o2) :=
  Matrix.toEuclideanLin (resizeMatNd [1, (i1 : ℤ), (i2 : ℤ)] [1, (o1 : ℤ), (o2 : ℤ)] (ix2 i1 i2) (ix2 o1 o2))

theorem resize2_adjoint (i1 i2 o1 o2 : ℕ) (u : EuclideanSpace ℂ (Fin i1 × Fin i2))
    (v : EuclideanSpace ℂ (Fin o1 × Fin o2)) :
    ⟪resizeLin2 i1 i2 o1 o2 u, v⟫_ℂ = ⟪u, resizeLin2 o1 o2 i1 i2 v⟫_ℂ :=
  inner_toEuclideanLin_of_conjTranspose (resizeMatNd_conjTranspose _ _ _ _) u v

theorem resizeMatNd_ix2 (i1 i2 o1 o2 : ℕ) :
    resizeMatNd [1, (i1 : ℤ), (i2 : ℤ)] [1, (o1 : ℤ), (o2 : ℤ)] (ix2 i1 i2) (ix2 o1 o2) =
      kroneckerMap (· * ·) (resizeMat i1 o1) (resizeMat i2 o2) := by
  rw [← resizeMatNd_single i2 o2, ← resizeMatNd_cons]
  exact resizeMatNd_dummy _ _ _ _

-- non-vacuity of the N-d resize matrix: 2×3 → 3×4, sample (1,1) lands on (1+ (3/2 - 2/2), 1 + (4/2 - 3/2)) = (1, 2)
example : resizeMatNd [1, 2, 3] [1, 3, 4] (ix2 2 3) (ix2 3 4) (1, 2) (1, 1) = 1 := by
  unfold resizeMatNd
  simp only [of_apply]
  rw [if_pos]
  decide

/-- `fft(·, axes=(-2,-1), norm=None)`: Kronecker product of the per-axis centred DFT matrices -/
noncomputable def ufftLin2 (L1 L2 : ℕ) : EuclideanSpace ℂ (Fin L1 × Fin L2) →ₗ[ℂ] EuclideanSpace ℂ (Fin L1 × Fin L2) :=
  Matrix.toEuclideanLin (kroneckerMap (· * ·) (C05.dftMatrix (fftRoot L1) L1 true 1) (C05.dftMatrix (fftRoot L2) L2 true 1))

/-- `ifft(·, axes=(-2,-1), norm=None)`: numpy's `1/L` on each axis -/
noncomputable def uifftLin2 (L1 L2 : ℕ) : EuclideanSpace ℂ (Fin L1 × Fin L2) →ₗ[ℂ] EuclideanSpace ℂ (Fin L1 × Fin L2) :=
  Matrix.toEuclideanLin (kroneckerMap (· * ·) (C05.dftMatrix (fftRoot L1)⁻¹ L1 true (1 / L1))
    (C05.dftMatrix (fftRoot L2)⁻¹ L2 true (1 / L2)))

theorem ufft2_adjoint (L1 L2 : ℕ) (h1 : 0 < L1) (h2 : 0 < L2) (u v : EuclideanSpace ℂ (Fin L1 × Fin L2)) :
    ⟪ufftLin2 L1 L2 u, v⟫_ℂ = ⟪u, ((((L1 : ℤ) * (L2 : ℤ) : ℤ) : ℝ) : ℂ) • uifftLin2 L1 L2 v⟫_ℂ := by
  have hc : ((((L1 : ℤ) * (L2 : ℤ) : ℤ) : ℝ) : ℂ) = (L1 : ℂ) * (L2 : ℂ) := by push_cast; rfl
  rw [hc]
  exact inner_toEuclideanLin_of_conjTranspose_smul
    (conjTranspose_kronecker_smul (dftMatrix_conjTranspose_one (fftRoot_primitive L1 h1) true)
      (dftMatrix_conjTranspose_one (fftRoot_primitive L2 h2) true)) u v

noncomputable def interpLin2 (K : Rat → Rat → Rat) (wt : Rat → ℝ) (L1 L2 M : ℕ) (coord : Int → Int → Rat)
    (width param : Int → Rat) : EuclideanSpace ℂ (Fin L1 × Fin L2) →ₗ[ℂ] EuclideanSpace ℂ (Fin M) :=
  updLinG (cw wt (Gen.interp2 K (shape2 1 M) (shape3 1 L1 L2) (shape2 M 2) coord width param)) (ix2 L1 L2) (jx1 M)

noncomputable def gridLin2 (K : Rat → Rat → Rat) (wt : Rat → ℝ) (L1 L2 M : ℕ) (coord : Int → Int → Rat)
    (width param : Int → Rat) : EuclideanSpace ℂ (Fin M) →ₗ[ℂ] EuclideanSpace ℂ (Fin L1 × Fin L2) :=
  updLinG (cw wt (Gen.grid2 K (shape3 1 L1 L2) (shape2 1 M) (shape2 M 2) coord width param)) (jx1 M) (ix2 L1 L2)

theorem interp2_adjoint (K : Rat → Rat → Rat) (wt : Rat → ℝ) (L1 L2 M : ℕ) (h1 : 0 < L1) (h2 : 0 < L2)
    (coord : Int → Int → Rat) (width param : Int → Rat) (u : EuclideanSpace ℂ (Fin L1 × Fin L2))
    (v : EuclideanSpace ℂ (Fin M)) :
    ⟪interpLin2 K wt L1 L2 M coord width param u, v⟫_ℂ = ⟪u, gridLin2 K wt L1 L2 M coord width param v⟫_ℂ := by
  unfold interpLin2 gridLin2
  rw [C07.grid2_eq_transpose_interp2]
  refine updLinG_cw_adjoint wt _ (ix2_inj L1 L2) (jx1_inj M) (fun w hw => ?_) u v
  obtain ⟨j, iy, ix, b, hj0, hj1, -, -, hb0, hb1, rfl⟩ := (C07.interp2_mem ..).mp hw
  obtain rfl : b = 0 := le_antisymm (Int.lt_add_one_iff.mp hb1) hb0
  obtain ⟨sj, rfl⟩ := exists_fin_cast (n := M) hj0 hj1
  obtain ⟨sy, hy⟩ := exists_fin_pyMod h1 iy
  obtain ⟨sx, hx⟩ := exists_fin_pyMod h2 ix
  exact ⟨⟨sj, rfl⟩, ⟨(sy, sx), by simp only [ix2, hy, hx]; rfl⟩⟩

/-- image axis lengths as `shape[-2]`, `shape[-1]` -/
def imgShape2 (N1 N2 : ℤ) : ℤ → ℤ := fun k => if k = -2 then N1 else N2

/-- `nufft` on two transform axes from the concrete stages, with the code's constants (`ndim = 2`) -/
noncomputable def nufft2 (os : Rat) (N1 N2 L1 L2 M : ℕ) (a : Fin N1 × Fin N2 → ℝ) (K : Rat → Rat → Rat) (wt : Rat → ℝ)
    (c : Int → Int → Rat) (W : Rat) (param : Int → Rat) (x : EuclideanSpace ℂ (Fin N1 × Fin N2)) :
    EuclideanSpace ℂ (Fin M) :=
  fwd (apodLinG a) (resizeLin2 N1 N2 L1 L2) (ufftLin2 L1 L2)
    (interpLin2 K wt L1 L2 M (fun j k => Gen.scaleCoord os (imgShape2 N1 N2 k) (c j k)) (fun _ => W) param)
    (Gen.nufftFwdDiv Real.sqrt ((N1 : ℤ) * (N2 : ℤ))) (Gen.nufftFwdWidthDiv Real.sqrt (W : ℝ) 2) x

noncomputable def nufftAdjoint2 (os : Rat) (N1 N2 L1 L2 M : ℕ) (a : Fin N1 × Fin N2 → ℝ) (K : Rat → Rat → Rat)
    (wt : Rat → ℝ) (c : Int → Int → Rat) (W : Rat) (param : Int → Rat) (y : EuclideanSpace ℂ (Fin M)) :
    EuclideanSpace ℂ (Fin N1 × Fin N2) :=
  adj (apodLinG a) (resizeLin2 L1 L2 N1 N2) (uifftLin2 L1 L2)
    (gridLin2 K wt L1 L2 M (fun j k => Gen.scaleCoord os (imgShape2 N1 N2 k) (c j k)) (fun _ => W) param)
    (Gen.nufftAdjMul Real.sqrt ((L1 : ℤ) * (L2 : ℤ)) ((N1 : ℤ) * (N2 : ℤ))) (Gen.nufftAdjWidthDiv Real.sqrt (W : ℝ) 2) y

/-- **`nufft_adjoint` is exactly the adjoint of `nufft` on two transform axes, no stage fact assumed**
    (see the file header; the only assumptions are real apodisation weights `a` and a real-valued kernel `wt`). -/
theorem nufft_adjoint_is_adjoint_2d (os : Rat) (N1 N2 L1 L2 M : ℕ) (h1 : 0 < L1) (h2 : 0 < L2)
    (a : Fin N1 × Fin N2 → ℝ) (K : Rat → Rat → Rat) (wt : Rat → ℝ) (c : Int → Int → Rat) (W : Rat)
    (param : Int → Rat) (x : EuclideanSpace ℂ (Fin N1 × Fin N2)) (y : EuclideanSpace ℂ (Fin M)) :
    ⟪nufft2 os N1 N2 L1 L2 M a K wt c W param x, y⟫_ℂ = ⟪x, nufftAdjoint2 os N1 N2 L1 L2 M a K wt c W param y⟫_ℂ :=
  nufft_adjoint_is_adjoint_euclidean _ _ _ _ _ _ _ ((L1 : ℤ) * (L2 : ℤ)) ((N1 : ℤ) * (N2 : ℤ)) (W : ℝ) 2
    (apodG_selfadjoint a) (resize2_adjoint N1 N2 L1 L2) (ufft2_adjoint L1 L2 h1 h2)
    (interp2_adjoint K wt L1 L2 M h1 h2 _ _ _) x y

end concrete2d

end SigpyVerif.C06
