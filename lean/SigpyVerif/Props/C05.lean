import SigpyVerif.Model.C05
import SigpyVerif.Lemmas.Py
import SigpyVerif.Lemmas.C05
import SigpyVerif.Props.C09
/-
  C05 — fft/ifft are the centred unitary DFT and mutually inverse.

  Part 1 (integers): the table the model computes THROUGH the generated pipeline
  (`Gen.fftcSteps = resize → ifftshift → fftn → fftshift`, regenerated from sigpy/fourier.py on every
  run) is, per axis, the exponent `(k - o/2)·(j - i/2) mod o` on the inputs that survive the centre
  pad/crop — the origin sits at index `n//2` for odd and even `n` alike; uncentred it is `k·j mod n`.
  Part 2 (ℂ, Mathlib): the matrix `s·ω^{exponent}` that table denotes is unitary for `s² = 1/n`
  (geometric sum of a primitive root), the conjugate-root matrix is its conjugate transpose and its
  inverse (`ifft ∘ fft = id = fft ∘ ifft`, norm preserved, `IFFT = FFTᴴ`, `FFT.N = I`), for
  `norm=None` the `1/n` of `ifftn` undoes `fftn`; Kronecker products of unitaries are unitary
  (several axes; untransformed axes contribute the identity).
  The N-dimensional statements (n-fold Kronecker product over an arbitrary axes subset, negative axis
  spellings, centred `oshape` = `F_{N-d} ∘ resize`, and the link from the executable table to the
  complex matrix) are in `Props/C05Nd.lean`.
  Validated by correspondence rather than proved: that numpy's `fftn/ifftn/roll` satisfy the contract
  written in `Model/C05.lean`, and floating-point rounding.
-/
namespace SigpyVerif.C05
open SigpyVerif Matrix Finset ComplexConjugate

/-- the pipeline shape the centred theorems are about -/
def centredPipe (inverse : Bool) : Pipe := ⟨[.resize, .ifftshift], inverse, true, [.fftshift]⟩
def plainPipe (inverse : Bool) : Pipe := ⟨[], inverse, true, []⟩

/-- The step lists extracted from `_fftc/_ifftc/fft/ifft` are exactly: resize first, then ifftshift,
    the (inverse) transform with `norm` passed on, then fftshift; uncentred: the bare transform. A swapped
    shift, a dropped `norm=`, a resize after the transform … change `Gen.*` and break this theorem. -/
theorem pipelines_are_centred :
    mkPipe Gen.fftcSteps = some (centredPipe false) ∧ mkPipe Gen.ifftcSteps = some (centredPipe true) ∧
    mkPipe Gen.fftUncSteps = some (plainPipe false) ∧ mkPipe Gen.ifftUncSteps = some (plainPipe true) := by
  decide +kernel

/-- `util._normalize_axes` maps a valid axis (negative or not) to the same axis in `0 … ndim-1`. -/
theorem normAxis_spec (a nd : Int) (h1 : -nd ≤ a) (h2 : a < nd) :
    Gen.normAxis a nd = (if a < 0 then a + nd else a) ∧ 0 ≤ Gen.normAxis a nd ∧ Gen.normAxis a nd < nd := by
  have hnd : 0 < nd := by omega
  unfold Gen.normAxis
  rw [pyMod_of_pos _ hnd]
  -- robust to the spellings `a % ndim`, `(a + ndim) % ndim`, `(ndim + a) % ndim` in the source
  try simp only [Int.add_emod_right, Int.add_emod_left]
  split_ifs with h
  · have : a % nd = a + nd := by
      rw [← Int.add_emod_right]; exact Int.emod_eq_of_lt (by omega) (by omega)
    omega
  · have : a % nd = a := Int.emod_eq_of_lt (by omega) (by omega)
    omega

/-- the two readings of numpy.roll used by the model (where an element lands / where an output
    reads from) are inverse to each other -/
theorem rollDst_rollSrc (n s j : Int) (hn : 0 < n) (h0 : 0 ≤ j) (h1 : j < n) :
    C09.rollSrc n s (rollDst n s j) = j ∧ rollDst n s (C09.rollSrc n s j) = j := by
  unfold C09.rollSrc rollDst
  simp only [pyMod_of_pos _ hn]
  constructor
  · rw [Int.emod_sub_emod]
    have : j + s - s = j := by ring
    rw [this]; exact Int.emod_eq_of_lt h0 h1
  · rw [Int.emod_add_emod]
    have : j - s + s = j := by ring
    rw [this]; exact Int.emod_eq_of_lt h0 h1

/-- `ifftshift → DFT → fftshift` on one axis of ANY length `n ≥ 1` (odd or even) is the DFT with the
    origin at index `n/2` (floor): entry `(k, j)` has exponent `(k - n/2)(j - n/2) mod n`. -/
theorem fftc_exponent (n k j : Int) (hn : 0 < n) :
    axisExp n true k j = ((k - n / 2) * (j - n / 2)) % n := by
  unfold axisExp C09.rollSrc rollDst fftshiftAmt ifftshiftAmt
  simp only [if_true, pyMod_of_pos _ hn, pyDiv_of_pos _ (show (0 : Int) < 2 by decide)]
  rw [← Int.mul_emod]
  rfl

/-- `center=False`: origin at index 0 -/
theorem fft_uncentred_exponent (n k j : Int) (hn : 0 < n) : axisExp n false k j = (k * j) % n := by
  unfold axisExp; simp [pyMod_of_pos _ hn]

/-- the DFT matrix is symmetric (needed for IFFT = FFTᴴ) -/
theorem axisExp_symm (n : Int) (c : Bool) (k j : Int) : axisExp n c k j = axisExp n c j k := by
  unfold axisExp C09.rollSrc rollDst fftshiftAmt ifftshiftAmt
  cases c
  · simp [Int.mul_comm]
  · simp only [if_true, Int.sub_eq_add_neg]
    rw [Int.mul_comm]

/-- where `util.resize` (default shifts) puts input index `j`: at `j - i/2 + o/2` when that is inside
    the output, nowhere (cropped) otherwise -/
theorem resize_dst (i o j : Int) (hj : 0 ≤ j ∧ j < i) :
    C09.resizeSrc1 o i (Gen.resizeOshiftDefault i o) (Gen.resizeIshiftDefault i o) j =
      if 0 ≤ j - i / 2 + o / 2 ∧ j - i / 2 + o / 2 < o then some (j - i / 2 + o / 2) else none := by
  -- the transposed copy is the default copy from length `o` to length `i`
  rw [← C09.resize_default_swap o i, C09.resize_default_swap i o]
  split_ifs with h
  · exact (C09.resize_default_aligns o i j _).mpr (by omega)
  · refine Option.eq_none_iff_forall_ne_some.mpr fun m hm => h ?_
    have := (C09.resize_default_aligns o i j m).mp hm
    omega

/-- the centred pipeline on one axis: `resize` places `j` (or crops it), then the shifts act -/
theorem centred_axisIdx (inv tr : Bool) (i o k j : Int) :
    axisIdx (centredPipe inv) tr i o k j =
      (C09.resizeSrc1 o i (Gen.resizeOshiftDefault i o) (Gen.resizeIshiftDefault i o) j).map fun m =>
        (if tr then C09.rollSrc o (fftshiftAmt o) k else k,
          if tr then rollDst o (ifftshiftAmt o) m else m, o) := by
  have e : axisIdx (centredPipe inv) tr i o k j =
      match ((C09.resizeSrc1 o i (Gen.resizeOshiftDefault i o) (Gen.resizeIshiftDefault i o) j).map
          (·, o)).bind fun s => some (if tr then rollDst s.2 (ifftshiftAmt s.2) s.1 else s.1, s.2),
        (some (if tr then C09.rollSrc o (fftshiftAmt o) k else k, o) : Option (Int × Int)) with
      | some (m, _), some (p, _) => some (p, m, o)
      | _, _ => none := rfl
  rw [e]
  cases C09.resizeSrc1 o i (Gen.resizeOshiftDefault i o) (Gen.resizeIshiftDefault i o) j <;> rfl

/-- One transformed axis of the generated centred pipeline with input length `i`, output length `o`:
    input index `j` takes part iff it survives the centre pad/crop (`0 ≤ j - i/2 + o/2 < o`), and then
    output `k` reads transform bin `(k - o/2) mod o` while `j` sits at position `(j - i/2) mod o`. -/
theorem centred_axis_table (inv : Bool) (i o k j : Int) (ho : 0 < o) (hj : 0 ≤ j ∧ j < i) :
    axisIdx (centredPipe inv) true i o k j =
      if 0 ≤ j - i / 2 + o / 2 ∧ j - i / 2 + o / 2 < o then
        some ((k - o / 2) % o, (j - i / 2) % o, o) else none := by
  rw [centred_axisIdx, resize_dst i o j hj]
  by_cases h : 0 ≤ j - i / 2 + o / 2 ∧ j - i / 2 + o / 2 < o
  · simp only [if_pos h, Option.map_some, if_true, C09.rollSrc, rollDst, fftshiftAmt, ifftshiftAmt,
      pyMod_of_pos _ ho, pyDiv_two, add_neg_cancel_right]
  · simp only [if_neg h, Option.map_none]

/-- sign convention: `fft` has kernel `e^{-2πi p m/n}`, `ifft` the conjugate -/
theorem signedExp_spec (inv : Bool) (p m n : Int) (hn : 0 < n) :
    signedExp inv p m n = ((if inv then 1 else -1) * (p * m)) % n := by
  unfold signedExp
  simp only [pyMod_of_pos _ hn]
  rw [Int.mul_emod, Int.emod_emod_of_dvd _ (dvd_refl n), ← Int.mul_emod]

/-- Full per-axis statement for `fft(x, oshape)` / `ifft(x, oshape)` centred: the entry is zero when
    the input index is cropped, else its phase is `∓(k - o/2)(j - i/2)/o` turns — the input's centre `i//2` is
    the origin on the input side, the output's centre `o//2` on the output side — and its squared
    magnitude the scale table (`norm` is honoured because the pipeline passes it on). -/
theorem centred_axis_entry (inv ortho : Bool) (i o k j : Int) (ho : 0 < o) (hj : 0 ≤ j ∧ j < i) :
    axisEntry (centredPipe inv) ortho true i o k j =
      if 0 ≤ j - i / 2 + o / 2 ∧ j - i / 2 + o / 2 < o then
        some (((((if inv then 1 else -1) * ((k - o / 2) * (j - i / 2))) % o : Int) : Rat) / (o : Rat),
              scale2 inv ortho o)
      else none := by
  unfold axisEntry
  rw [centred_axis_table inv i o k j ho hj]
  have key : signedExp inv ((k - o / 2) % o) ((j - i / 2) % o) o =
      ((if inv then 1 else -1) * ((k - o / 2) * (j - i / 2))) % o := by
    rw [signedExp_spec _ _ _ _ ho]
    have : ((k - o / 2) % o * ((j - i / 2) % o)) % o = ((k - o / 2) * (j - i / 2)) % o :=
      (Int.mul_emod _ _ _).symm
    rw [Int.mul_emod, this, ← Int.mul_emod]
  by_cases h : 0 ≤ j - i / 2 + o / 2 ∧ j - i / 2 + o / 2 < o
  · rw [if_pos h, if_pos h]
    simp only [if_true, centredPipe, Bool.and_true, key]
  · rw [if_neg h, if_neg h]

/-- an axis that is not transformed is only centre-padded/cropped: entry 1 exactly on the aligned pairs -/
theorem centred_axis_identity (inv ortho : Bool) (i o k j : Int) (hk : 0 ≤ k ∧ k < o) (hj : 0 ≤ j ∧ j < i) :
    axisEntry (centredPipe inv) ortho false i o k j = if j - i / 2 = k - o / 2 then some (0, 1) else none := by
  rw [axisEntry, centred_axisIdx, resize_dst i o j hj]
  by_cases h : 0 ≤ j - i / 2 + o / 2 ∧ j - i / 2 + o / 2 < o
  · simp only [if_pos h, Option.map_some, Bool.false_eq_true, if_false]
    exact if_congr (by omega) rfl rfl
  · simp only [if_neg h, Option.map_none]
    rw [if_neg (by omega)]

/-- `center=False`: no index is moved -/
theorem uncentred_axis_table (inv tr : Bool) (i o k j : Int) :
    axisIdx (plainPipe inv) tr i o k j = some (k, j, i) := rfl

/-- squared scales: `ortho` → `1/n` both ways; `None` → `1` forward, `1/n²` inverse -/
theorem scale2_table (n : Int) :
    scale2 false true n = 1 / (n : Rat) ∧ scale2 true true n = 1 / (n : Rat) ∧
    scale2 false false n = 1 ∧ scale2 true false n = 1 / ((n : Rat) * (n : Rat)) := ⟨rfl, rfl, rfl, rfl⟩

/-- a complex input keeps its precision -/
theorem outDtype_complex (inv : Bool) :
    outDtype inv .complex64 = .complex64 ∧ outDtype inv .complex128 = .complex128 := ⟨rfl, rfl⟩

example : axisIdx (centredPipe false) true 3 3 0 0 = some (2, 2, 3) := by decide +kernel
example : axisIdx (centredPipe false) true 3 4 1 0 = some (3, 3, 4) := by decide +kernel
example : axisIdx (centredPipe false) true 7 4 1 0 = none := by decide +kernel


/-- the documented origin: `n//2` when centred, `0` otherwise -/
def centre (n : ℤ) (center : Bool) : ℤ := if center then n / 2 else 0

theorem axisExp_eq (n k j : ℤ) (hn : 0 < n) (c : Bool) :
    axisExp n c k j = ((k - centre n c) * (j - centre n c)) % n := by
  cases c
  · simp [centre, fft_uncentred_exponent n k j hn]
  · simp [centre, fftc_exponent n k j hn]

/-- the matrix the model's per-axis table denotes: entry `(k, j)` is `s · ω^{axisExp n center k j}`;
    `fft` is `ω = exp(-2πi/n)`, `ifft` is `ω = exp(2πi/n)` (`signedExp`), `s² = scale2`. -/
noncomputable def dftMatrix (ω : ℂ) (n : ℕ) (center : Bool) (s : ℝ) : Matrix (Fin n) (Fin n) ℂ :=
  Matrix.of fun k j => (s : ℂ) * ω ^ axisExp (n : ℤ) center ((k : ℕ) : ℤ) ((j : ℕ) : ℤ)

theorem zpow_axisExp {ω : ℂ} {n : ℕ} (hω : IsPrimitiveRoot ω n) (hn : 0 < n) (c : Bool) (k j : ℤ) :
    ω ^ axisExp (n : ℤ) c k j = ω ^ ((k - centre n c) * (j - centre n c)) := by
  rw [axisExp_eq _ _ _ (by exact_mod_cast hn), zpow_emod_of_pow_eq_one hω.pow_eq_one (hω.ne_zero (by omega))]

theorem conj_root {ω : ℂ} {n : ℕ} (hω : IsPrimitiveRoot ω n) (hn : 0 < n) : conj ω = ω⁻¹ :=
  (Complex.inv_eq_conj (hω.norm'_eq_one (by omega))).symm

/-- columns of the (centred or uncentred) DFT table are orthogonal with squared length `n` -/
theorem dft_orthogonality {ω : ℂ} {n : ℕ} (hω : IsPrimitiveRoot ω n) (center : Bool) (j j' : Fin n) :
    ∑ k : Fin n, conj (ω ^ axisExp (n : ℤ) center ((k : ℕ) : ℤ) ((j : ℕ) : ℤ)) *
        ω ^ axisExp (n : ℤ) center ((k : ℕ) : ℤ) ((j' : ℕ) : ℤ) = if j = j' then (n : ℂ) else 0 := by
  have hn : 0 < n := Nat.pos_of_ne_zero (fun h => by subst h; exact j.elim0)
  simp only [zpow_axisExp hω hn, map_zpow₀, conj_root hω hn, Fin.ext_iff]
  rw [← char_orthogonality hω hn (centre n center) j j' j.2 j'.2, Finset.sum_range]

/-- `ifft`'s matrix (conjugate root, same scale) is the conjugate transpose of `fft`'s: IFFT = FFTᴴ -/
theorem idftMatrix_eq_conjTranspose {ω : ℂ} {n : ℕ} (hω : IsPrimitiveRoot ω n) (center : Bool) (s : ℝ) :
    dftMatrix ω⁻¹ n center s = (dftMatrix ω n center s)ᴴ := by
  ext j k
  have hn : 0 < n := Nat.pos_of_ne_zero (fun h => by subst h; exact j.elim0)
  simp only [dftMatrix, of_apply, conjTranspose_apply, star_mul', RCLike.star_def, Complex.conj_ofReal,
    map_zpow₀, conj_root hω hn]
  rw [axisExp_symm]

/-- general product: the transform with the conjugate root and scale `t` undoes the transform with
    scale `s` whenever `t·s·n = 1` -/
theorem dft_mul_general {ω : ℂ} {n : ℕ} (hω : IsPrimitiveRoot ω n) (center : Bool) (s t : ℝ)
    (h : t * s * n = 1) : dftMatrix ω⁻¹ n center t * dftMatrix ω n center s = 1 := by
  ext j j'
  have hn : 0 < n := Nat.pos_of_ne_zero (fun h => by subst h; exact j.elim0)
  rw [idftMatrix_eq_conjTranspose hω]
  simp only [mul_apply, conjTranspose_apply, dftMatrix, of_apply, star_mul', RCLike.star_def, Complex.conj_ofReal]
  have : ∀ k : Fin n, (t : ℂ) * conj (ω ^ axisExp (n : ℤ) center ((k : ℕ) : ℤ) ((j : ℕ) : ℤ)) *
      ((s : ℂ) * ω ^ axisExp (n : ℤ) center ((k : ℕ) : ℤ) ((j' : ℕ) : ℤ)) =
      ((t * s : ℝ) : ℂ) * (conj (ω ^ axisExp (n : ℤ) center ((k : ℕ) : ℤ) ((j : ℕ) : ℤ)) *
        ω ^ axisExp (n : ℤ) center ((k : ℕ) : ℤ) ((j' : ℕ) : ℤ)) := by
    intro k; rw [Complex.ofReal_mul]; exact mul_mul_mul_comm ..
  simp only [this, ← Finset.mul_sum, dft_orthogonality hω center j j', one_apply]
  split_ifs with hjj
  · rw [← Complex.ofReal_natCast, ← Complex.ofReal_mul, h, Complex.ofReal_one]
  · exact mul_zero _

/-- orthonormal scaling (`s² = 1/n`): FᴴF = I — `FFT.N = Identity` -/
theorem dftMatrix_unitary {ω : ℂ} {n : ℕ} (hω : IsPrimitiveRoot ω n) (center : Bool) (s : ℝ)
    (h : s * s * n = 1) : (dftMatrix ω n center s)ᴴ * dftMatrix ω n center s = 1 := by
  rw [← idftMatrix_eq_conjTranspose hω]; exact dft_mul_general hω center s s h

/-- `ifft(fft(x)) = x` with orthonormal scaling -/
theorem ifft_fft_id {ω : ℂ} {n : ℕ} (hω : IsPrimitiveRoot ω n) (center : Bool) (s : ℝ)
    (h : s * s * n = 1) (x : Fin n → ℂ) :
    (dftMatrix ω⁻¹ n center s).mulVec ((dftMatrix ω n center s).mulVec x) = x := by
  rw [mulVec_mulVec, dft_mul_general hω center s s h, one_mulVec]

/-- `fft(ifft(x)) = x` with orthonormal scaling -/
theorem fft_ifft_id {ω : ℂ} {n : ℕ} (hω : IsPrimitiveRoot ω n) (center : Bool) (s : ℝ)
    (h : s * s * n = 1) (x : Fin n → ℂ) :
    (dftMatrix ω n center s).mulVec ((dftMatrix ω⁻¹ n center s).mulVec x) = x := by
  rw [mulVec_mulVec, mul_eq_one_comm.mp (dft_mul_general hω center s s h), one_mulVec]

/-- `‖fft(x)‖² = ‖x‖²` with orthonormal scaling -/
theorem fft_norm_preserved {ω : ℂ} {n : ℕ} (hω : IsPrimitiveRoot ω n) (center : Bool) (s : ℝ)
    (h : s * s * n = 1) (x : Fin n → ℂ) :
    star ((dftMatrix ω n center s).mulVec x) ⬝ᵥ (dftMatrix ω n center s).mulVec x = star x ⬝ᵥ x := by
  rw [star_mulVec, dotProduct_mulVec, vecMul_vecMul, dftMatrix_unitary hω center s h, vecMul_one]

/-- `norm=None`: `ifft` (scale `1/n`) undoes `fft` (scale 1) -/
theorem backward_scaling_inverse {ω : ℂ} {n : ℕ} (hω : IsPrimitiveRoot ω n) (hn : 0 < n) (center : Bool) :
    dftMatrix ω⁻¹ n center (1 / n) * dftMatrix ω n center 1 = 1 := by
  apply dft_mul_general hω
  have : (n : ℝ) ≠ 0 := by exact_mod_cast hn.ne'
  field_simp

/-- a Kronecker product of two unitaries is unitary (any number of factors: `piKron_unitary`,
    Lemmas/C05Nd.lean) -/
theorem fft_separable_unitary {m n : Type*} [Fintype m] [Fintype n] [DecidableEq m] [DecidableEq n]
    (A : Matrix m m ℂ) (B : Matrix n n ℂ) (hA : Aᴴ * A = 1) (hB : Bᴴ * B = 1) :
    (kroneckerMap (· * ·) A B)ᴴ * kroneckerMap (· * ·) A B = 1 := by
  rw [conjTranspose_kronecker, ← mul_kronecker_mul, hA, hB, one_kronecker_one]

/-- an untransformed axis contributes the identity, which is unitary -/
theorem identity_axis_unitary {n : Type*} [Fintype n] [DecidableEq n] : (1 : Matrix n n ℂ)ᴴ * 1 = 1 := by simp


/-- the model's signed exponent denotes the plain DFT kernel: `ω₀^{signedExp}` is `(ω₀^{±1})^{p·m}`
    (`-` for `fftn`, `+` for `ifftn`), for any `n`-th root of unity `ω₀` -/
theorem signedExp_denote {ω₀ : ℂ} {n : ℕ} (hω : IsPrimitiveRoot ω₀ n) (hn : 0 < n) (inv : Bool) (p m : ℤ) :
    ω₀ ^ signedExp inv p m (n : ℤ) = (if inv then ω₀ else ω₀⁻¹) ^ (p * m) := by
  rw [signedExp_spec _ _ _ _ (by exact_mod_cast hn),
    zpow_emod_of_pow_eq_one hω.pow_eq_one (hω.ne_zero (by omega))]
  cases inv <;> simp [inv_zpow']

/-- the defining equation of `entryGo` on non-empty lists: one more axis multiplies the squared magnitude
    and adds the phase -/
theorem entry_separable (P : Pipe) (ortho : Bool) (axes : List Int) (d : Nat) (i o k j : Int) (is os ks js : List Int) :
    entryGo P ortho axes d (i :: is) (o :: os) (k :: ks) (j :: js) =
      match axisEntry P ortho (axes.contains (d : Int)) i o k j, entryGo P ortho axes (d + 1) is os ks js with
      | some (ph, mg), some (ph', mg') => some (frac (ph + ph'), mg * mg')
      | _, _ => none := rfl

/-- adding phases modulo one turn is multiplying the unit complex numbers they denote -/
theorem phase_add (a b : ℚ) :
    Complex.exp (2 * Real.pi * Complex.I * ((frac (a + b) : ℚ) : ℂ)) =
      Complex.exp (2 * Real.pi * Complex.I * (a : ℂ)) * Complex.exp (2 * Real.pi * Complex.I * (b : ℂ)) := by
  rw [← Complex.exp_add]
  have : (2 * Real.pi * Complex.I * ((frac (a + b) : ℚ) : ℂ)) =
      (2 * Real.pi * Complex.I * (a : ℂ) + 2 * Real.pi * Complex.I * (b : ℂ)) +
        ((-(a + b).floor : ℤ) : ℂ) * (2 * Real.pi * Complex.I) := by
    unfold frac; push_cast; ring
  rw [this, Complex.exp_add, Complex.exp_int_mul_two_pi_mul_I, mul_one]


/- the hypotheses `IsPrimitiveRoot ω n` and `s * s * n = 1` are satisfiable -/
example (n : ℕ) (hn : n ≠ 0) : IsPrimitiveRoot (Complex.exp (2 * Real.pi * Complex.I / n)) n :=
  Complex.isPrimitiveRoot_exp n hn
example (n : ℕ) (hn : n ≠ 0) : IsPrimitiveRoot (Complex.exp (2 * Real.pi * Complex.I / n))⁻¹ n :=
  (Complex.isPrimitiveRoot_exp n hn).inv
example (n : ℕ) (hn : 0 < n) : (1 / Real.sqrt n) * (1 / Real.sqrt n) * n = 1 := by
  have h : (0 : ℝ) < n := by exact_mod_cast hn
  rw [div_mul_div_comm, one_mul, Real.mul_self_sqrt h.le, one_div_mul_cancel h.ne']

end SigpyVerif.C05
