/-
  C14, part "end to end": the GENERATED set-ups of `LinearLeastSquares` (Gen/C14Setup.lean) joined with the solver
  theorems of C12 (`ConjugateGradient`, the GENERATED machine `Gen.C12.init/update/done`) and C13 (`GradientMethod`,
  `PrimalDualHybridGradient`, machines sequencing the GENERATED `Gen.C13.*` formulas).  Real or complex data
  (`𝕜 = ℝ` or `ℂ`, class `ReInner`, Props/C14Cplx.lean).

  CG route (`cg_route_reaches_minimiser`): exact arithmetic, `λ > 0` or `A` injective.  Semi-definite consistent case
  (`λ = 0`, `A` not injective): C12's theorems need `HPD` and say nothing directly; what holds is
  `cg_route_psd_partial`.
  GradientMethod route (`gm_route_rate`): `max_eig` is assumed to bound the Rayleigh quotient of the operator the set-up
  handed to `MaxEig`; `ista_descent_relaxed` is what survives when it under-estimates (Props/C14Power.lean).
  PDHG route (`pdhg_route_fejer_noG_partial`): PARTIAL.  Without `G`, `λ > 0`, default `tau`: the step-related
  hypotheses of C13's `pdhg_fejer_monotone` are discharged.  Still hypotheses: the generated primal prox tree is the
  variational prox of `g + λ/2‖·-z‖²`, and a KKT point is a saddle point.  Not covered: `λ = 0` without `G`
  (`gamma_dual = 1`: accelerated, outside C13's theorem) and the set-up with `G`.
-/
import SigpyVerif.Props.C14Cplx
import SigpyVerif.Props.C12
import SigpyVerif.Props.C13

namespace SigpyVerif.C14
open SigpyVerif.Gen.C14
open RCLike
open scoped RealInnerProductSpace

set_option linter.unusedSectionVars false
set_option linter.unusedVariables false

section
variable {𝕜 : Type} [RCLike 𝕜]
variable {E F : Type}
  [NormedAddCommGroup E] [InnerProductSpace 𝕜 E] [InnerProductSpace ℝ E] [IsScalarTower ℝ 𝕜 E] [ReInner 𝕜 E]
  [NormedAddCommGroup F] [InnerProductSpace 𝕜 F] [InnerProductSpace ℝ F] [IsScalarTower ℝ 𝕜 F] [ReInner 𝕜 F]

/-- the system operator `AᴴA + λI` as a `𝕜`-linear map -/
def cgSysK (A : E →ₗ[𝕜] F) (AH : F →ₗ[𝕜] E) (lam : ℝ) : E →ₗ[𝕜] E := AH ∘ₗ A + (lam : 𝕜) • LinearMap.id

theorem cgSysK_apply (A : E →ₗ[𝕜] F) (AH : F →ₗ[𝕜] E) (lam : ℝ) (v : E) :
    cgSysK A AH lam v = AH (A v) + lam • v := by
  rw [real_smul_eq (𝕜 := 𝕜)]; rfl

/-- the operator the GENERATED set-up hands to `ConjugateGradient` IS `cgSysK` -/
theorem cgSysK_eq (A : E →ₗ[𝕜] F) (AH : F →ₗ[𝕜] E) (y : F) (lam : ℝ) (z : Option E) :
    (cgArgs A AH y lam z).sys = ⇑(cgSysK A AH lam) := by
  funext x
  rw [cgArgs_sys_rc, cgSysK_apply]

theorem cgSysK_symm (A : E →ₗ[𝕜] F) (AH : F →ₗ[𝕜] E) (hA : IsAdjK A AH) (lam : ℝ) (u v : E) :
    inner 𝕜 (cgSysK A AH lam u) v = inner 𝕜 u (cgSysK A AH lam v) := by
  have h1 : inner 𝕜 (AH (A u)) v = inner 𝕜 (A u) (A v) := by
    rw [← inner_conj_symm, ← hA v (A u), inner_conj_symm]
  have h2 : inner 𝕜 u (AH (A v)) = inner 𝕜 (A u) (A v) := (hA u (A v)).symm
  simp only [cgSysK, LinearMap.add_apply, LinearMap.comp_apply, LinearMap.smul_apply, LinearMap.id_apply,
    inner_add_left, inner_add_right, inner_smul_left, inner_smul_right, RCLike.conj_ofReal, h1, h2]

theorem cgSysK_quad (A : E →ₗ[𝕜] F) (AH : F →ₗ[𝕜] E) (hA : IsAdjK A AH) (lam : ℝ) (v : E) :
    re (inner 𝕜 v (cgSysK A AH lam v)) = ‖A v‖ ^ 2 + lam * ‖v‖ ^ 2 := by
  rw [← ReInner.re_inner (𝕜 := 𝕜), cgSysK_apply]
  exact hessian_quad (A.restrictScalars ℝ) (AH.restrictScalars ℝ) (isAdj_restrict A AH hA) lam v

theorem cgSysK_psd (A : E →ₗ[𝕜] F) (AH : F →ₗ[𝕜] E) (hA : IsAdjK A AH) (lam : ℝ) (hl : 0 ≤ lam) (v : E) :
    0 ≤ re (inner 𝕜 v (cgSysK A AH lam v)) := by
  rw [cgSysK_quad A AH hA]; exact add_nonneg (sq_nonneg _) (mul_nonneg hl (sq_nonneg _))

theorem pd_of_reg_or_inj (A : E →ₗ[𝕜] F) (lam : ℝ) (hl : 0 ≤ lam) (hpd : 0 < lam ∨ Function.Injective A)
    (h : E) (hh : h ≠ 0) : 0 < ‖A h‖ ^ 2 + lam * ‖h‖ ^ 2 := by
  rcases hpd with hp | hinj
  · exact add_pos_of_nonneg_of_pos (sq_nonneg _) (mul_pos hp (pow_pos (norm_pos_iff.mpr hh) 2))
  · exact add_pos_of_pos_of_nonneg (pow_pos (norm_pos_iff.mpr ((map_ne_zero_iff A hinj).mpr hh)) 2)
      (mul_nonneg hl (sq_nonneg _))

/-- Hermitian positive definite (the hypothesis `HPD` of C12's theorems) when `λ > 0` or `A` is injective -/
theorem cgSysK_hpd (A : E →ₗ[𝕜] F) (AH : F →ₗ[𝕜] E) (hA : IsAdjK A AH) (lam : ℝ) (hl : 0 ≤ lam)
    (hpd : 0 < lam ∨ Function.Injective A) : C12.HPD (cgSysK A AH lam) :=
  ⟨cgSysK_symm A AH hA lam, fun v hv => by rw [cgSysK_quad A AH hA]; exact pd_of_reg_or_inj A lam hl hpd v hv⟩

/-- the `not_positive_definite` flag stays `False` while the updates are regular -/
theorem cg_npd_false_of_regular (T P : E →ₗ[𝕜] E) (b x0 : E) (M : ℤ) (k : ℕ)
    (h : ∀ j < k, 0 < C12.pAp T P b x0 M j) : (C12.st T P b x0 M k).npd = false :=
  C12.npd_false_of_regular T P b x0 M k h

/-- **CG route, end to end** (real or complex data, exact arithmetic).  `λ ≥ 0` and (`λ > 0` or `A` injective); finite
    dimension `n`; budget `max_iter > n`; no preconditioner (`P=None`, what `LinearLeastSquares` passes by default); any
    start vector.  The GENERATED `ConjugateGradient` machine (`C12.run` = `Gen.C12.init/update`) run on the GENERATED system
    (`cgArgs … .sys`, `.rhs`) reaches after some `K ≤ n` updates the UNIQUE minimiser of `½‖Ax-y‖² + λ/2‖x-z‖²`;
    `done()` (any `tol ≥ 0`) is then true, and with `tol = 0` it was false before: `while not done(): update()` performs
    exactly `K` updates and returns the minimiser. -/
theorem cg_route_reaches_minimiser [FiniteDimensional 𝕜 E] (A : E →ₗ[𝕜] F) (AH : F →ₗ[𝕜] E) (hA : IsAdjK A AH)
    (y : F) (lam : ℝ) (hl : 0 ≤ lam) (hpd : 0 < lam ∨ Function.Injective A) (z : Option E) (x0 : E) (M : ℤ)
    (hM : (Module.finrank 𝕜 E : ℤ) ≤ M - 1) :
    ∃ K ≤ Module.finrank 𝕜 E,
      (∀ x', x' ≠ (C12.run (C12.ipOps 𝕜) (cgArgs A AH y lam z).sys none (cgArgs A AH y lam z).rhs x0 M K).x →
        1 / 2 * ‖A (C12.run (C12.ipOps 𝕜) (cgArgs A AH y lam z).sys none (cgArgs A AH y lam z).rhs x0 M K).x - y‖ ^ 2
          + lam / 2 * ‖(C12.run (C12.ipOps 𝕜) (cgArgs A AH y lam z).sys none (cgArgs A AH y lam z).rhs x0 M K).x - zOf z‖ ^ 2
        < 1 / 2 * ‖A x' - y‖ ^ 2 + lam / 2 * ‖x' - zOf z‖ ^ 2) ∧
      (∀ tol : ℝ, 0 ≤ tol → C12.done (C12.ipOps 𝕜) M tol
        (C12.run (C12.ipOps 𝕜) (cgArgs A AH y lam z).sys none (cgArgs A AH y lam z).rhs x0 M K) = true) ∧
      (∀ j < K, C12.done (C12.ipOps 𝕜) M 0
        (C12.run (C12.ipOps 𝕜) (cgArgs A AH y lam z).sys none (cgArgs A AH y lam z).rhs x0 M j) = false) := by
  obtain ⟨K, hKn, hsol, hdone, hnot⟩ := C12.cg_run_solves (cgSysK A AH lam) (cgArgs A AH y lam z).rhs x0 M
    (cgSysK_hpd A AH hA lam hl hpd) hM
  rw [cgSysK_eq A AH y lam z]
  refine ⟨K, hKn, fun x' hne => ?_, hdone, hnot⟩
  refine cg_unique_minimiser_rc A AH hA y lam z _ (pd_of_reg_or_inj A lam hl hpd) ?_ x' hne
  rw [cgSysK_eq A AH y lam z]; exact hsol

/-- **semi-definite case** (`λ = 0`, `A` not injective; PARTIAL — C12's theorems need `HPD` and do not apply): for
    `λ ≥ 0` every solution of the generated system — in particular whatever CG converges to when the system is
    consistent — is a global (not necessarily unique) minimiser of the documented objective; the curvature `pAp` the
    solver tests is `‖A p‖² + λ‖p‖² ≥ 0`, so with `λ = 0` a breakdown `pAp ≤ 0` happens exactly for `p ∈ ker A`. -/
theorem cg_route_psd_partial (A : E →ₗ[𝕜] F) (AH : F →ₗ[𝕜] E) (hA : IsAdjK A AH) (y : F) (lam : ℝ) (hl : 0 ≤ lam)
    (z : Option E) :
    (∀ x, (cgArgs A AH y lam z).sys x = (cgArgs A AH y lam z).rhs →
      ∀ x', 1 / 2 * ‖A x - y‖ ^ 2 + lam / 2 * ‖x - zOf z‖ ^ 2 ≤ 1 / 2 * ‖A x' - y‖ ^ 2 + lam / 2 * ‖x' - zOf z‖ ^ 2) ∧
    (∀ p : E, (C12.ipOps 𝕜 (E := E)).rdot p ((cgArgs A AH y lam z).sys p) = ‖A p‖ ^ 2 + lam * ‖p‖ ^ 2) ∧
    (lam = 0 → ∀ p : E, (C12.ipOps 𝕜 (E := E)).nonpos ((C12.ipOps 𝕜 (E := E)).rdot p ((cgArgs A AH y lam z).sys p)) = true ↔ A p = 0) := by
  have hq : ∀ p : E, (C12.ipOps 𝕜 (E := E)).rdot p ((cgArgs A AH y lam z).sys p) = ‖A p‖ ^ 2 + lam * ‖p‖ ^ 2 := by
    intro p
    rw [cgSysK_eq A AH y lam z]
    exact cgSysK_quad A AH hA lam p
  refine ⟨fun x hx => (cg_normal_eq_rc A AH hA y lam hl z x).mp hx, hq, ?_⟩
  intro h0 p
  rw [hq p, h0]
  simp only [C12.ipOps, zero_mul, add_zero, decide_eq_true_eq]
  constructor
  · intro h
    have : ‖A p‖ ^ 2 = 0 := le_antisymm h (sq_nonneg _)
    exact norm_eq_zero.mp (pow_eq_zero_iff two_ne_zero |>.mp this)
  · intro h; rw [h, norm_zero]; norm_num

/-- **GradientMethod route, end to end** (real or complex data).  `alpha=None`: the set-up runs `MaxEig` on
    `AᴴA + λI` and takes `alpha = 1/max_eig`.  If `max_eig` bounds the Rayleigh quotient of the operator the GENERATED
    set-up handed to `MaxEig`, then for the iterates of `GradientMethod` (C13's machine over the GENERATED update
    formulas) driven by the GENERATED `gradf` and `alpha`, with `proxg` the prox of `g` (or `None`, `g = 0`), and EVERY
    comparison point `w` (e.g. a minimiser), `F(x) = ½‖Ax-y‖² + g(x) + λ/2‖x-z‖²`:
      `accelerate=False`: `F(x_k) - F(w) ≤ ‖x₀-w‖² / (2 alpha k)`   (`k ≥ 1`),
      `accelerate=True` (the default): `F(x_{k+1}) - F(w) ≤ 2‖x₀-w‖² / (alpha (k+2)²)`. -/
theorem gm_route_rate (A : E →ₗ[𝕜] F) (AH : F →ₗ[𝕜] E) (hA : IsAdjK A AH) (y : F) (lam : ℝ) (hl : 0 ≤ lam)
    (z : Option E) (me : ℝ) (hme : 0 ≤ me)
    (hR : ∀ f, (gmArgs A AH y lam z none me).eig = .primal f → ∀ h, re (inner 𝕜 h (f h)) ≤ me * ‖h‖ ^ 2)
    (g : E → ℝ) (proxg : Option (ℝ → E → E)) (hg : C13.ProxOpt g proxg) (x0 w : E) :
    let a := gmArgs A AH y lam z none me
    let Fo := fun x : E => 1 / 2 * ‖A x - y‖ ^ 2 + g x + lam / 2 * ‖x - zOf z‖ ^ 2
    (∀ k : ℕ, 0 < k →
      Fo (C13.gmRun Real.sqrt a.gradf proxg a.alpha false x0 k).x - Fo w ≤ ‖x0 - w‖ ^ 2 / (2 * a.alpha * k)) ∧
    (∀ k : ℕ,
      Fo (C13.gmRun Real.sqrt a.gradf proxg a.alpha true x0 (k + 1)).x - Fo w
        ≤ 2 * ‖x0 - w‖ ^ 2 / (a.alpha * ((k : ℝ) + 2) ^ 2)) := by
  intro a Fo
  have hAr := isAdj_restrict A AH hA
  obtain ⟨hα, hL, hdesc⟩ := default_steps_gm (A.restrictScalars ℝ) (AH.restrictScalars ℝ) hAr y lam z me hme
    (fun f hf h => by rw [ReInner.re_inner (𝕜 := 𝕜)]; exact hR f hf h)
  have hconv : C13.ConvexGrad (smooth (A.restrictScalars ℝ) y lam (zOf z)) a.gradf :=
    gm_convex_grad (A.restrictScalars ℝ) (AH.restrictScalars ℝ) hAr y lam hl z none me
  have hFo : ∀ x, Fo x = smooth (A.restrictScalars ℝ) y lam (zOf z) x + g x := fun x => add_right_comm _ _ _
  refine ⟨fun k hk => ?_, fun k => ?_⟩
  · rw [hFo, hFo]
    exact C13.ista_rate Real.sqrt _ g a.gradf proxg a.alpha me hα hL hconv hdesc hg x0 w k hk
  · rw [hFo, hFo]
    exact C13.fista_rate _ g a.gradf proxg a.alpha me hα hL hconv hdesc hg x0 w k

end

/-- (i) both gammas positive: the step-size block of `PrimalDualHybridGradient._update` takes its `else` branch -/
theorem pdStep_both_pos {E F : Type} [NormedAddCommGroup E] [InnerProductSpace ℝ E] [NormedAddCommGroup F]
    [InnerProductSpace ℝ F] (K : E → F) (KH : F → E) (pfc : ℝ → F → F) (pg : ℝ → E → E) (γp γd θ0 : ℝ)
    (hp : 0 < γp) (hd : 0 < γd) (s : C13.PDState ℝ E F ℝ ℝ) :
    C13.pdStep Real.sqrt K KH pfc pg γp γd θ0 s = C13.pdStep Real.sqrt K KH pfc pg 0 0 θ0 s := by
  have e : (C13.pdRescale Real.sqrt γp γd θ0 s.tau s.sigma s.tau_min s.sigma_min : C13.Rescale ℝ ℝ ℝ)
      = C13.pdRescale Real.sqrt 0 0 θ0 s.tau s.sigma s.tau_min s.sigma_min := by
    simp [C13.pdRescale, hp.ne', hd.ne']
  simp only [C13.pdStep, e]

/-- from the optimality form of a prox (`IsProxOf`) to the variational form of C13 -/
theorem proxOf_of_isProxOf {H : Type} [NormedAddCommGroup H] [InnerProductSpace ℝ H] {g : H → ℝ} {p : ℝ → H → H}
    {dg : H → Set H} (hp : IsProxOf p dg) (hsub : ∀ x w, w ∈ dg x → ∀ q, g x + ⟪w, q - x⟫ ≤ g q) :
    C13.ProxOf g p :=
  fun α v hα q => hsub _ _ ((hp α hα v _).mp rfl) q

/-- (ii) the dual prox of the generated set-up is the proximal map (variational form of C13) of the conjugate data term -/
theorem proxfc_data_proxOf {F : Type} [NormedAddCommGroup F] [InnerProductSpace ℝ F] (y : F) :
    C13.ProxOf (fDataConj y) ((PD.l2reg (1 : ℝ) (some (-y))).eval (fun _ v => v)) := by
  refine proxOf_of_isProxOf (proxfc_data_is_prox y) fun x w hw q => ?_
  rw [Set.mem_singleton_iff.mp hw, inner_sub_right, real_inner_comm q, real_inner_comm x]
  -- Fenchel–Young at `(q, x + y)`, with equality at `(x, x + y)`
  linear_combination (data_conj_biconj y q (x + y)).1 - (data_conj_biconj y x x).2.1

theorem opnorm_of_step_cond {E F : Type} [NormedAddCommGroup E] [NormedAddCommGroup F] (K : E → F) (τ σ : ℝ)
    (hτσ : 0 < τ * σ) (h : ∀ x, τ * σ * ‖K x‖ ^ 2 ≤ ‖x‖ ^ 2) :
    ∃ L, (∀ x, ‖K x‖ ≤ L * ‖x‖) ∧ τ * σ * L ^ 2 ≤ 1 := by
  refine ⟨Real.sqrt (1 / (τ * σ)), fun x => ?_, ?_⟩
  · refine (pow_le_pow_iff_left₀ (norm_nonneg _) (by positivity) two_ne_zero).mp ?_
    rw [mul_pow, Real.sq_sqrt (by positivity), one_div, inv_mul_eq_div, le_div_iff₀ hτσ, mul_comm]
    exact h x
  · rw [Real.sq_sqrt (by positivity), mul_one_div_cancel hτσ.ne']

section
variable {𝕜 : Type} [RCLike 𝕜]
variable {E F : Type}
  [NormedAddCommGroup E] [InnerProductSpace 𝕜 E] [InnerProductSpace ℝ E] [IsScalarTower ℝ 𝕜 E] [ReInner 𝕜 E]
  [NormedAddCommGroup F] [InnerProductSpace 𝕜 F] [InnerProductSpace ℝ F] [IsScalarTower ℝ 𝕜 F] [ReInner 𝕜 F]

/-- **PDHG route (PARTIAL).**  Without `G`, `λ > 0`, `tau=None` (default `tau = 1/max_eig`, `sigma` given positive or
    defaulted to 1), `max_eig` a Rayleigh bound of the operator the GENERATED set-up handed to `MaxEig`.  Then every
    step-related hypothesis of C13's `pdhg_fejer_monotone` holds for the generated set-up: the solver's step-size block
    takes the constant branch (`gamma_primal = λ > 0` and `gamma_dual = 1 > 0`), `tau, sigma > 0`, `tau·sigma·‖A‖² ≤ 1`, the
    generated dual prox is the proximal map of the conjugate data term; HENCE the coupled distance of the iterates of
    `PrimalDualHybridGradient` (C13's machine) to any saddle point never increases.
    PARTIAL: that the generated primal prox tree is the proximal map (variational form) of `g' = g + λ/2‖·-z‖²` and that a
    KKT point of the documented objective (`pdhg_fixed_point_kkt_noG_rc`) is a saddle point of `(g', f*)` are still
    hypotheses (`hg`, `hs`). -/
theorem pdhg_route_fejer_noG_partial (A : E →ₗ[𝕜] F) (AH : F →ₗ[𝕜] E) (hA : IsAdjK A AH) (y : F) (lam : ℝ)
    (hl : 0 < lam) (z : Option E) (hasProxg : Bool) (sigma : Option ℝ) (hσ : ∀ s, sigma = some s → 0 < s)
    (me : ℝ) (hme : 0 < me)
    (hR : ∀ f, (pdhgArgsNoG A AH y lam z hasProxg none sigma me).eig = .primal f →
      ∀ x, re (inner 𝕜 x (f x)) ≤ me * ‖x‖ ^ 2)
    (user : ℝ → E → E) (g' : E → ℝ)
    (hg : C13.ProxOf g' ((pdhgArgsNoG A AH y lam z hasProxg none sigma me).proxg.eval user))
    (xs : E) (us : F) (hs : C13.IsSaddle g' (fDataConj y) A AH xs us)
    (s : C13.PDState ℝ E F ℝ ℝ) (h1 : s.tau = (pdhgArgsNoG A AH y lam z hasProxg none sigma me).tau)
    (h2 : s.sigma = (pdhgArgsNoG A AH y lam z hasProxg none sigma me).sigma) :
    let su := pdhgArgsNoG A AH y lam z hasProxg none sigma me
    let step := C13.pdStep Real.sqrt su.K su.KH (su.proxfc.eval (fun _ v => v)) (su.proxg.eval user)
      su.gammaP su.gammaD 1
    C13.coupled su.K s.tau s.sigma ((step s).x - xs) ((step (step s)).u - us)
      ≤ C13.coupled su.K s.tau s.sigma (s.x - xs) ((step s).u - us) := by
  intro su step
  have hAr := isAdj_restrict A AH hA
  obtain ⟨hτ, hσ', hK⟩ : 0 < s.tau ∧ 0 < s.sigma ∧ ∀ x, s.tau * s.sigma * ‖su.K x‖ ^ 2 ≤ ‖x‖ ^ 2 := by
    rw [h1, h2]
    exact default_steps_pdhg_primal_noG (A.restrictScalars ℝ) (AH.restrictScalars ℝ) hAr y lam z hasProxg sigma hσ me
      hme (fun f hf x => by rw [ReInner.re_inner (𝕜 := 𝕜)]; exact hR f hf x)
  obtain ⟨hfc, -, -, hgp, hgd⟩ : su.proxfc = .l2reg 1 (some (-y)) ∧ (∀ x, su.K x = A x) ∧ (∀ u, su.KH u = AH u) ∧
      su.gammaP = (if 0 < lam then lam else 0) ∧ su.gammaD = 1 :=
    pdhgArgs_parts_noG (A.restrictScalars ℝ) (AH.restrictScalars ℝ) y lam z hasProxg none sigma me
  obtain ⟨Lop, hAop, hstep⟩ := opnorm_of_step_cond _ s.tau s.sigma (mul_pos hτ hσ') hK
  have key := C13.pdhg_fejer_monotone g' (fDataConj y) (su.proxg.eval user)
    ((PD.l2reg (1 : ℝ) (some (-y))).eval (fun _ v => v)) (A.restrictScalars ℝ) (⇑AH) hAr hg (proxfc_data_proxOf y)
    Lop hAop s hτ hσ' hstep xs us hs
  -- both gammas are positive, so the generated set-up runs the constant-step branch the theorem is about
  have hstepeq : ∀ t, step t = C13.pdStep Real.sqrt su.K su.KH (su.proxfc.eval fun _ v => v) (su.proxg.eval user)
      0 0 1 t := fun t =>
    pdStep_both_pos _ _ _ _ _ _ 1 (by rw [hgp, if_pos hl]; exact hl) (by rw [hgd]; exact one_pos) t
  simp only [hstepeq, hfc]
  exact key

end

/-- **relaxed descent.**  C13's `ista_descent` needs `α·L ≤ 1`.  With the power-method under-estimate,
    `α = 1/max_eig` may exceed `1/L`; one un-accelerated `GradientMethod.update()` still never increases the composite
    objective as long as `α·L ≤ 2` (`max_eig ≥ λmax/2`).  (The RATE theorems `ista_rate` / `fista_rate` do need `α·L ≤ 1`.) -/
theorem ista_descent_relaxed {E : Type} [NormedAddCommGroup E] [InnerProductSpace ℝ E]
    (sq : ℝ → ℝ) (f g : E → ℝ) (gf : E → E) (proxg : Option (ℝ → E → E)) (α L : ℝ)
    (hα : 0 < α) (hL : α * L ≤ 2) (hd : C13.Descent f gf L) (hg : C13.ProxOpt g proxg) (s : C13.GMState ℝ E) :
    f (C13.gmStep sq gf proxg α false s).x + g (C13.gmStep sq gf proxg α false s).x ≤ f s.x + g s.x := by
  -- `C13.ista_decrease`: `(2 - αL)‖x⁺ - x‖² ≤ 2α (F x - F x⁺)` for any step `α > 0`
  have h := (mul_nonneg (sub_nonneg.mpr hL) (sq_nonneg _)).trans (C13.ista_decrease sq f g gf proxg α L hα hd hg s)
  exact sub_nonneg.mp (nonneg_of_mul_nonneg_right h (by positivity))

end SigpyVerif.C14
